/-
C03 — benchfmt/internal/bytesconv/decimal.go, the rounding step of the multiprecision slow path:
`shouldRoundUp` and `RoundedInteger`. (The rest of decimal.go — `set`, the shift tables,
`floatBits`' scaling loop — is mirrored in Model/Num/DecSlow.lean.)

A `decimal` is its used digits `d[:nd]` (ASCII, most significant first), the position `dp` of
the decimal point (value = 0.d₁d₂…dₙ · 10^dp) and the `trunc` flag. `uint64` arithmetic is `Nat`
with an explicit `% 2^64`.

Core Lean only.
-/
import Model.Spec.NumText

namespace Num

structure Dec where
  d : Bytes
  dp : Int
  trunc : Bool
  deriving Repr, DecidableEq

/-- `shouldRoundUp(a, nd)` -/
def shouldRoundUp (a : Dec) (nd : Int) : Bool :=
  if nd < 0 || nd ≥ (a.d.length : Int) then false
  else
    let k := nd.toNat
    let c := a.d.getD k 48
    if c == 53 && k + 1 == a.d.length then
      -- exactly halfway - round to even
      if a.trunc then true
      else k > 0 && (a.d.getD (k - 1) 48 - 48) % 2 != 0
    else c ≥ 53

/-- first loop of `RoundedInteger`: `n = n*10 + d[i]-'0'` over the digits before the point -/
def riDigits : Bytes → Nat → Nat
  | [], n => n
  | c :: cs, n => riDigits cs (((n * 10) % 2 ^ 64 + (c - 48).toNat) % 2 ^ 64)

/-- second loop: `n *= 10` for the missing digits -/
def riPad : Nat → Nat → Nat
  | 0, n => n
  | k + 1, n => riPad k ((n * 10) % 2 ^ 64)

/-- `a.RoundedInteger()` -/
def roundedInteger (a : Dec) : Nat :=
  if a.dp > 20 then 0xFFFFFFFFFFFFFFFF
  else
    let k := a.dp.toNat
    let n := riDigits (a.d.take k) 0
    let n := riPad (k - a.d.length) n
    if shouldRoundUp a a.dp then (n + 1) % 2 ^ 64 else n

end Num
