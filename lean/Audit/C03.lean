import Proofs.C03
import Proofs.Facts.C03
#print axioms C03.atof_fast_no_overflow
#print axioms C03.atof_fast_correct
#print axioms C03.atoi_fast_correct
#print axioms C03.parseUint_correct
#print axioms C03.parseInt_correct
#print axioms C03.parseInt_bounds
#print axioms C03.atoi_correct
#print axioms C03.special_correct
#print axioms C03.readFloat_value_partial
#print axioms C03.expLoop_exact
#print axioms C03.pow10_table_exact
#print axioms C03.exact_path_correct_partial
#print axioms C03.errors_become_syntax_errors
#print axioms C03.mantLoop_inv
#print axioms C03.parseFloatSpec_digits
#print axioms C03.ofInt_eq_ofDecimal
#print axioms C03.exact_path_correct
#print axioms C03.readFloat_value
#print axioms C03.readFloat_language
#print axioms C03.hex_path_correct
#print axioms F64.roundMag_congr
#print axioms C03.roundMag_inf_iff
#print axioms C03.nearQ_of_stick
#print axioms C03.rfTail_spec
#print axioms C03.underscoreLoop_eq
#print axioms C03.parseFloat_correct
#print axioms C03.reader_atof_correct
#print axioms C03.parseFloat_clamped_correct
#print axioms C03.parseFloat_mirror_clamped_correct
#print axioms C03.expLoop_clamp_correct
#print axioms C03.clamp_agree
#print axioms C03.clamp_sat
#print axioms C03.clamp_witness
#print axioms C03.spTail_gap
#print axioms C03.slowPath_spec
#print axioms C03.atofHex_correct
#print axioms C03.roundedInteger_correct
#print axioms C03.shift_correct
#print axioms C03.floatBits_correct
#print axioms C03.cheat_digits
#print axioms C03.decSet_correct
#print axioms C03.slowPath_mirror_correct
#print axioms C03.parseFloat_mirror_correct
#print axioms C03.reader_atof_mirror_correct
#print axioms C03.reader_atof_mirror_correct_ext
#print axioms C03.parseFloat_mirror_correct_partial
#print axioms C03.shift_floor_correct
#print axioms C03.shift_follows_correct
#print axioms C03.roundedInteger_trunc_correct
#print axioms C03.floatBits_correct_trunc
#print axioms C03.decSet_trunc_correct
#print axioms C03.setLoop_invT
#print axioms C03.follows_of_floor
#print axioms C03.bnd_grid
#print axioms C03.follows_step
#print axioms C03.floatBits_follows
#print axioms C03.Facts.pow10_table_agrees
#print axioms C03.Facts.leftcheats_agree
#print axioms C03.Facts.powtab_agrees
#print axioms C03.Facts.float_bits_scaling_agrees
#print axioms C03.Facts.float_bits_exits_pinned
#print axioms C03.Facts.float64info_agrees
#print axioms C03.Facts.mantissa_cap_agrees
#print axioms C03.Facts.exp_clamp_agrees
#print axioms C03.Facts.decimal_buffer_agrees
#print axioms C03.Facts.special_agrees
#print axioms C03.Facts.exact_path_agrees
#print axioms C03.Facts.exact_formulas_pinned
#print axioms C03.Facts.atoi_fast_path_agrees
#print axioms C03.Facts.uint_cutoffs_agree
#print axioms C03.Facts.atof_guard_agrees
#print axioms C03.Facts.atoi_conds_pinned
