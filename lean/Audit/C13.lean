import Proofs.C13
import Proofs.Facts.C13
#print axioms C13.new_sample_sorted
#print axioms C13.exact_summary_spec
#print axioms C13.nothing_summary_spec
#print axioms C13.alpha_carried
#print axioms C13.delta_shown_iff
#print axioms C13.format_delta_cases
#print axioms C13.delta_value
#print axioms C13.pct_range_cases
#print axioms C13.comparison_string_cases
#print axioms C13.utest_minp_table
#print axioms C13.two_sided_combination_symmetric
#print axioms C13.p_range
#print axioms C13.p_symmetric
#print axioms C13.p_perm_invariant
#print axioms C13.p_mono_invariant
#print axioms C13.p_scale_invariant
#print axioms C13.median_overflow_witness
#print axioms C13.median_index_table
#print axioms C13.modeScan_spec
#print axioms C13.quantileHalf_eq
#print axioms C13.pPerm_eq
#print axioms C13.pPerm_perm
#print axioms C13.pPerm_swap
#print axioms C13.float_order
#print axioms C13.new_sample_f64
#print axioms C13.exact_summary_f64
#print axioms C13.nothing_summary_f64_odd
#print axioms C13.nothing_summary_f64_even
#print axioms C13.midpoint_f64
#print axioms C13.roundQ_err
#print axioms C13.compare_p_swap
#print axioms C13.combine_symmetric
#print axioms C13.fmin_comm
#print axioms F64.lt_iff_okey
#print axioms F64.eq_iff_okey
#print axioms C13.lt_iff_sval
#print axioms C13.eq_iff_sval
#print axioms C13.interp_zero
#print axioms C13.summary_shape
#print axioms C13.Facts.utest_minp_agrees
#print axioms C13.Facts.utest_samples_agrees
#print axioms C13.Facts.median_samples_agrees
#print axioms C13.Facts.median_quantile_agrees
#print axioms C13.Facts.compare_warn_cond_agrees
#print axioms C13.Facts.compare_few_cond_agrees
#print axioms C13.Facts.compare_constants_agree
#print axioms C13.median_samples_above_spec
#print axioms C13.new_sample_order_independent
#print axioms C13.sortLe_iff_tkey
