import Proofs.C01
import Proofs.Facts.C01
#print axioms C01.writer_state_tracks_config
#print axioms C01.writer_state_tracks_config_history
#print axioms C01.writer_reader_inv
#print axioms C01.roundtrip_history
#print axioms C01.roundtrip_lines
#print axioms C01.internal_never_file
#print axioms C01.reader_results_WF
#print axioms C01.roundtrip_text
#print axioms C01.config_block_lines
#print axioms C01.internal_key_lines
#print axioms C01.internal_delete_line_harmless
#print axioms C01.writeFileConfig_spec
#print axioms C01.history_lines
#print axioms C01.history_clean
#print axioms Spec.Format.tokenOK_iff
#print axioms Spec.Format.keyOK_iff
#print axioms C01.fmtInt_token
#print axioms C01.fmtNumSpec_good
#print axioms C01.numOKFor_of_check
#print axioms C01.roundtrip_history_spec_numbers
#print axioms C01.roundtrip_text_spec_numbers
#print axioms C01.roundtrip_history_limited
#print axioms C01.Facts.config_lines_agree
#print axioms C01.Facts.unit_line_agrees
#print axioms C01.Facts.bench_line_agrees
#print axioms C01.Facts.writer_shape_pinned
#print axioms C01.Facts.written_value_agrees
#print axioms C01.shortest_decimal_exists_17
#print axioms C01.reads_back_spec
#print axioms C01.reads_back_reader
#print axioms C01.parseIntSpec_fmtInt
#print axioms C01.numGood_go
#print axioms C01.roundtrip_history_go
#print axioms C01.roundtrip_text_go
