/-
C02 — Reader follows the format's line and scoping rules on every input.
Property theorems (helpers are in Proofs/Lemmas/C02*.lean).
-/
import Model.Fmt.Reader
import Model.Fmt.Files
import Model.Spec.Format
import Proofs.Lemmas.C02Store
import Proofs.Lemmas.C02Spec
import Proofs.Lemmas.C02Files
import Proofs.Lemmas.C02Reader
import Proofs.Lemmas.C02Queue
import Proofs.Lemmas.C02Shift
import Proofs.Lemmas.C02Grammar
import Proofs.Lemmas.C02Limit

namespace C02
open Fmt Spec.Format

/-- One store operation against one map operation: the invariant is kept and the denoted map
changes as the abstract map does. -/
theorem store_step {s : Store} (h : s.Inv) {m : CMap} (hm : ∀ k, s.toMap k = m.get k)
    (op : StoreOp) :
    (s.apply op).Inv ∧ ∀ k, (s.apply op).toMap k = (CMap.applyOp m op).get k :=
  have r := Store.Refines.apply ⟨h, hm⟩ op
  ⟨r.inv, r.map⟩

/-- **store_refines_map.** Starting from any store that satisfies the invariant (in particular
the zero `Result`, or a store `Reset` has just wiped — whatever its stale slots hold), every
sequence of `key: value` lines, `SetConfig` calls and deletions leaves a store that
* denotes exactly the map obtained by folding the same operations over an abstract map,
* has pairwise distinct keys in `arr[0..len)` (= `Config` as callers see it),
* has an index that is exactly the inverse of `arr[0..len)` (`Store.Inv.idx`), within capacity,
* and whose `Config` list, read as a map, is that same map. -/
theorem store_refines_map (s0 : Store) (h0 : s0.Inv) (m0 : CMap) (hm : ∀ k, s0.toMap k = m0.get k)
    (ops : List StoreOp) :
    let s := ops.foldl Store.apply s0
    let m := ops.foldl CMap.applyOp m0
    s.Inv ∧ (∀ k, s.toMap k = m.get k) ∧ (s.live.map Cfg.key).Nodup ∧
      (∀ k, cfgGet s.live k = m.get k) := by
  have h := Store.Refines.foldl ⟨h0, hm⟩ ops
  exact ⟨h.inv, h.map, Store.live_keys_nodup h.inv, fun k => (Store.cfgGet_live h.inv k).trans (h.map k)⟩

/-- The store of a fresh `Result` denotes the empty map. -/
theorem store_refines_map_from_empty (ops : List StoreOp) :
    let s := ops.foldl Store.apply Store.empty
    s.Inv ∧ ∀ k, cfgGet s.live k = (ops.foldl CMap.applyOp []).get k := by
  have h := store_refines_map Store.empty Store.inv_empty [] (fun _ => rfl) ops
  exact ⟨h.1, h.2.2.2⟩

/-- **Stale slots are inert.** Two stores that satisfy the invariant and denote the same map —
however different their stale slots `arr[len..]`, their capacities and even the order of their
live slots — denote the same map after any sequence of operations. -/
theorem store_independent_of_stale_slots (s1 s2 : Store) (h1 : s1.Inv) (h2 : s2.Inv)
    (heq : ∀ k, s1.toMap k = s2.toMap k) (ops : List StoreOp) :
    ∀ k, (ops.foldl Store.apply s1).toMap k = (ops.foldl Store.apply s2).toMap k := by
  -- run both against one abstract map: the live list of `s1`
  have r1 := h1.refines_live
  have r2 : s2.Refines _ := ⟨h2, fun k => (heq k).symm.trans (r1.map k)⟩
  exact fun k => ((r1.foldl ops).map k).trans ((r2.foldl ops).map k).symm

/-- Non-vacuity: a set → delete → re-set history on three keys with slot reuse; the model's
`Config` is `[c↦3, b↦4]` in slot order and the stale slot still holds `b`'s old entry. -/
example :
    let ops := [StoreOp.setFile [97] [49], .setFile [98] [50], .setFile [99] [51], .setFile [97] [],
                .setFile [98] [], .setFile [98] [52]]
    let s := ops.foldl Store.apply Store.empty
    s.live = [⟨[99], [51], true⟩, ⟨[98], [52], true⟩] ∧ s.arr.length = 3 := by
  decide

/-- **files_labels.** With `es` the entries of the path list (split at `=` when labels are
allowed) and `labs` the labels the specification assigns:
0. `Files.init` assigns exactly `labs` (and an empty list with stdin allowed is the single input
   stdin, labelled `-`);
1. a labelled entry keeps its label;
2. an unlabelled path that occurs once keeps its name;
3. the occurrences of an unlabelled path `p` that occurs several times are labelled
   `p#0, p#1, …` in order (`same (es.take j) p` is the number of earlier occurrences);
4. provided no unlabelled path is literally `q#n` for a duplicated `q` (`NoClash`; the excluded
   shape is known finding N4), the labels of any two unlabelled entries are different. -/
theorem files_labels (paths : List Bytes) (allowStdin allowLabels : Bool) :
    let es := paths.map (splitEntry allowLabels)
    let labs := labels paths allowLabels
    (¬ (allowStdin = true ∧ paths = []) →
        (Files.init paths allowStdin allowLabels).map (·.label) = labs) ∧
    (Files.init [] true allowLabels).map (·.label) = [[45]] ∧
    (∀ (j : Nat) l p, es[j]? = some (some l, p) → labs[j]? = some l) ∧
    (∀ (j : Nat) p, es[j]? = some (none, p) → same es p = 1 → labs[j]? = some p) ∧
    (∀ (j : Nat) p, es[j]? = some (none, p) → same es p ≠ 1 →
        labs[j]? = some (p ++ [35] ++ decimal (same (es.take j) p))) ∧
    (NoClash es → ∀ (i j : Nat) p q, i < j → es[i]? = some (none, p) → es[j]? = some (none, q) →
        labs[i]? ≠ labs[j]?) := by
  refine ⟨init_labels paths allowStdin allowLabels, by rw [init_implicit_stdin]; rfl, ?_, ?_, ?_, ?_⟩
  · intro j l p h
    simp only [labels]
    rw [labelsFrom_getElem? _ [] _ j _ h]; rfl
  · intro j p h h1
    simp only [labels]
    rw [labelsFrom_getElem? _ [] _ j _ h]
    simp [labelOf, h1]
  · intro j p h h1
    have hb : (same (paths.map (splitEntry allowLabels)) p == 1) = false := by simpa using h1
    simp only [labels]
    rw [labelsFrom_getElem? _ [] _ j _ h]
    simp [labelOf, hb]
  · intro hnc i j p q hij hi hj
    exact labels_distinct _ hnc i j hij p q hi hj

/-- Non-vacuity of `NoClash`, and the reason for it: `a b a` satisfies it and gets the pairwise
distinct labels `a#0 b a#1`; `a a a#0` (N4) does not, and its first and third labels coincide. -/
example : labels [[97], [98], [97]] false = [[97, 35, 48], [98], [97, 35, 49]] := by decide
example : labels [[97], [97], [97, 35, 48]] false = [[97, 35, 48], [97, 35, 49], [97, 35, 48]] := by
  decide

/-- **splitField_is_first_piece.** For every byte string (valid UTF-8 or not) `splitField` —
ASCII bit-mask fast path, `DecodeRune` slow path — returns the runes before the first
white-space rune and the text from the first non-space rune after it. -/
theorem splitField_is_first_piece (uc : UC) (x : Bytes) :
    splitField uc x =
      (enc ((runes x).takeWhile (fun r => !isSp uc r)),
       enc ((afterSp uc (runes x)).dropWhile (isSp uc))) :=
  splitField_spec uc x

/-- **fields_are_pieces.** The fields the `for { f, line = splitField(line) … }` loops of
`parseBenchmarkLine` and `parseUnitLine` see are exactly the non-empty pieces between
white-space runes after the first piece (`firstAndFields`). -/
theorem fields_are_pieces (uc : UC) (x : Bytes) :
    ((splitField uc x).1, fields uc (splitField uc x).2) =
      ((firstAndFields uc x).1, (firstAndFields uc x).2.2) := by
  rw [firstAndFields_eq, fields_after_split, splitField_spec]

/-- **line_grammar.** On every byte string the model's line parsers are the declarative
grammar of `Model/Spec/Format.lean`: key/value lines, benchmark lines (all error exits, the
announcement skip), unit lines (which lines, which fields, which records and metadata). -/
theorem line_grammar (O : Oracles) (line : Bytes) :
    parseKeyValueLine O.uc line = kvLine O.uc line ∧
    parseBenchmarkLine O line = benchLine O line ∧
    (isUnitLine O.uc line).map (fields O.uc) = unitLine O.uc line ∧
    (∀ fn n units rest,
      ((parseUnitLine O fn n units rest).1, (parseUnitLine O fn n units rest).2.map ofRecNoResult) =
        unitRecs O fn n units (fields O.uc rest)) :=
  ⟨(kvLine_eq O.uc line).symm, (benchLine_eq O line).symm, (unitLine_eq O.uc line).symm,
   fun fn n units rest => (unitRecs_eq O fn n units rest).symm⟩

/-- No over-long forms: a non-ASCII lead byte never decodes to an ASCII rune (so `:` and the
ASCII blanks are recognised only as themselves). -/
theorem nonascii_never_ascii (c : UInt8) (rest : Bytes) (h : ¬ c < 0x80) :
    0x80 ≤ (decodeRune (c :: rest)).1 :=
  decodeRune_nonascii c rest h

/-- **reader_refines_spec.** For every text, every file name and every instantiation of the
parameters (Unicode tables, number parsers, unit tidying), the records the model reader
delivers are the specification's records, line for line and in order, up to reading each
result's `Config` list as a map; every `Config` list has pairwise distinct keys (so it *is* a
map); and the unit metadata accumulated at the end is the specification's. Hence: 1-based line
numbers, the latest value per key, removal of keys set to the empty value, positioned errors,
and nothing from ignored lines.
The specification shares no parsing code with the model: its single-line grammar is the
declarative one of `Model/Spec/Format.lean` (`line_grammar` bridges the two). -/
theorem reader_refines_spec (O : Oracles) (fileName text : Bytes) :
    (readAll O fileName text).map Rec.abs = (Spec.Format.read O fileName [] [] text).1.map SRec.abs ∧
    (∀ r, Rec.result r ∈ readAll O fileName text → (r.config.map Cfg.key).Nodup) ∧
    (finalState O (RState.zero.reset fileName []) (splitLines text)).units =
      (Spec.Format.read O fileName [] [] text).2 := by
  obtain ⟨h1, h2⟩ := reset_readLines_refines O RState.zero fileName [] (splitLines text)
  rw [Spec.Format.read, ← lines_eq]
  exact ⟨h1, readLines_nodup O (splitLines text) _ _ (reset_linked RState.zero fileName []), h2⟩

/-- **ignored_lines_inert.** Inserting a line that the format ignores (blank, foreign text,
a bare `Benchmark<name>` announcement, a would-be key with upper case or blanks, …) anywhere
in the input changes nothing but line numbers: the records before it are untouched, the
records after it are the same records with their line number increased by one — same names,
values, configuration (slot order included), errors, unit metadata. Read from right to left
this is deletion. Holds from every reader state, hence at any position of any file. -/
theorem ignored_lines_inert (O : Oracles) (st : RState) (before after : List Bytes) (l : Bytes)
    (h : classify O l = .ignored) :
    readLines O st (before ++ after) =
      readLines O st before ++ readLines O (finalState O st before) after ∧
    readLines O st (before ++ l :: after) =
      readLines O st before ++ (readLines O (finalState O st before) after).map (Rec.bump 1) := by
  refine ⟨readLines_append O before after st, ?_⟩
  rw [readLines_append]
  congr 1
  simp only [readLines, scanLine_ignored O _ l h, List.nil_append]
  exact readLines_sim O 1 after ⟨rfl, rfl, rfl, rfl⟩

/-- Non-vacuity: a blank line, `PASS`, `BenchmarkFoo` alone and `Key: v` are ignored lines
(for every choice of parameters that agrees with ASCII). -/
example : ∀ l ∈ [[], [80, 65, 83, 83], benchmarkPrefix ++ [70, 111, 111], [75, 101, 121, 58, 32, 118]],
    classify ⟨UC.ascii, fun _ => .error .syntax, fun _ => .error .syntax, fun v u => (v, u)⟩ l = .ignored := by
  decide

/-- **scan_iterates.** `Scan`/`Result` with the `q`/`qPos` queue is an iterator over
`readLines`: with `pending r` = the unread part of the queue followed by the records of the
unread lines, a successful `Scan` delivers the head of `pending` and leaves its tail, and `Scan`
reports false exactly when nothing is pending. No fuel: `fill` recurses on the line list. -/
theorem scan_iterates (O : Oracles) (r : Reader) :
    ((r.scan O).2 = true →
        (r.scan O).1.result = (Reader.pending O r).head? ∧
        Reader.pending O (r.scan O).1 = (Reader.pending O r).tail ∧ Reader.pending O r ≠ []) ∧
    ((r.scan O).2 = false → Reader.pending O r = []) := by
  unfold Reader.scan
  by_cases hq : r.qPos + 1 < r.q.length
  · simp only [hq, ↓reduceIte, Reader.pending, Reader.result]
    have hd : r.q.drop (r.qPos + 1) = r.q[r.qPos + 1] :: r.q.drop (r.qPos + 1 + 1) :=
      List.drop_eq_getElem_cons hq
    refine ⟨fun _ => ⟨?_, ?_, ?_⟩, fun h => by simp at h⟩
    · rw [hd]; simp [List.getElem?_eq_getElem hq]
    · rw [hd]; rfl
    · rw [hd]; exact List.cons_ne_nil _ _
  · simp only [hq, ↓reduceIte, Reader.pending, Reader.result]
    have hd : r.q.drop (r.qPos + 1) = [] := List.drop_eq_nil_of_le (by omega)
    have hf := fill_spec O r.lines r.st
    rw [hd, List.nil_append, ← hf]
    cases hq2 : (fill O r.st r.lines).2.2 with
    | nil =>
      have := fill_empty O r.lines r.st hq2
      simp [this, readLines]
    | cons a q => simp

/-- The queue model started on a text has exactly `readAll` pending. -/
theorem pending_new (O : Oracles) (fileName text : Bytes) :
    Reader.pending O (Reader.new text fileName) = readAll O fileName text := rfl

/-- **reset_is_fresh.** `Reset` at ANY moment — before the first `Scan`, between the records of one
multi-record line, after a fatal error — leaves nothing of the old input in the queue: no record
is available before the next `Scan`, and what is pending is exactly the records of the new
input read from the reset state (whose configuration is the labels alone by `reset_linked`, and
whose only inheritance is the unit metadata of the lines already read). -/
theorem reset_is_fresh (O : Oracles) (r : Reader) (text fileName : Bytes) (kvs : List (Bytes × Bytes)) :
    (r.reset text fileName kvs).result = none ∧
    Reader.pending O (r.reset text fileName kvs) =
      readLines O (r.st.reset fileName kvs) (splitLines text) ∧
    (r.st.reset fileName kvs).units = r.st.units := by
  refine ⟨rfl, ?_, rfl⟩
  simp [Reader.pending, Reader.reset]

/-- **Termination.** Every function of the model is accepted by Lean as structurally recursive
on the remaining bytes / fields / lines (no `partial`, no well-founded recursion), so the model
reader terminates on every input. The one fuel parameter (in `fields`, bounded by the length of
the line plus one) is never exhausted: any larger fuel gives the same fields. -/
theorem fields_fuel_sufficient (uc : UC) (x : Bytes) (n : Nat) (h : x.length < n) :
    fieldsN uc n x = fields uc x :=
  fieldsN_fuel uc n (x.length + 1) x h (Nat.lt_succ_self _)

/-- **files_no_leak** (and **units_carry**). Whatever state the reused reader is in when a
sequence of inputs starts — live configuration, stale slots, line counter, file name left by
earlier files — the records of the sequence are the specification's: every file is read as if
on its own, under its own label, from an empty configuration; the one thing handed from file to
file (and the only way `st` enters the right-hand side) is the unit metadata `st.units`.
An input that cannot be opened ends both runs at the same point. -/
theorem files_no_leak (O : Oracles) (fs : FS) (inputs : List Input) :
    ∀ (st : RState) (stdin : Bytes),
      let out := Files.runFrom O fs st stdin inputs
      let sp := readFiles O fs st.units stdin (inputs.map fun i => (i.label, i.path, i.isStdin))
      out.recs.map Rec.abs = sp.recs.map SRec.abs ∧ out.failed = sp.failed ∧
        out.st.units = sp.units := by
  induction inputs with
  | nil => intro st stdin; exact ⟨rfl, rfl, rfl⟩
  | cons inp rest ih =>
    intro st stdin
    simp only [Files.runFrom, readFiles, List.map_cons]
    cases hc : (if inp.isStdin = true then some stdin else fs.open inp.path) with
    | none => exact ⟨rfl, rfl, rfl⟩
    | some text =>
      simp only
      obtain ⟨h1, h2⟩ := reset_readLines_refines O st inp.path [(dotFile, inp.label)] (splitLines text)
      have := ih (finalState O (st.reset inp.path [(dotFile, inp.label)]) (splitLines text))
        (if inp.isStdin = true then [] else stdin)
      rw [h2] at this
      obtain ⟨g1, g2, g3⟩ := this
      rw [Spec.Format.read, ← lines_eq]
      refine ⟨?_, g2, g3⟩
      simp only [List.map_append]
      rw [h1, g1]
      rfl

/-- The inputs `Files.init` produces are the inputs of the specification (labels by
`files_labels`), so a whole `Files` run refines `readFiles` on the specification's inputs. -/
theorem files_refine_spec (O : Oracles) (fs : FS) (paths : List Bytes) (allowStdin allowLabels : Bool) :
    let out := Files.run O fs paths allowStdin allowLabels
    let sp := readFiles O fs [] fs.stdin
      ((Files.init paths allowStdin allowLabels).map fun i => (i.label, i.path, i.isStdin))
    out.recs.map Rec.abs = sp.recs.map SRec.abs ∧ out.failed = sp.failed ∧ out.st.units = sp.units :=
  files_no_leak O fs _ RState.zero fs.stdin

/-- **units_carry.** Unit metadata, once set, is never changed or dropped: not by any later
line, and not by `Reset` (which wipes the configuration). -/
theorem units_carry (O : Oracles) (st : RState) (l : Bytes) (fn : Bytes) (kvs : List (Bytes × Bytes)) :
    (∃ more, (scanLine O st l).1.units = st.units ++ more) ∧ (st.reset fn kvs).units = st.units := by
  refine ⟨?_, rfl⟩
  rcases scanLine_cases O l with ⟨_, e⟩ | ⟨rest, _, _, e⟩ | ⟨k, v, _, _, _, e⟩ | ⟨_, _, _, e⟩
  · rw [e st]; exact ⟨[], (List.append_nil _).symm⟩
  · rw [e st]; exact (parseUnitLine_shape O _ _ _ _).1
  · rw [e st]; exact ⟨[], (List.append_nil _).symm⟩
  · rw [e st]; exact ⟨[], (List.append_nil _).symm⟩

/-- **reader_refines_spec_limited.** With `bufio.Scanner`'s token limit modelled
(`Model/Fmt/ReaderLimit.lean`): for EVERY text — over-long lines included — the model reader
delivers the specification's records for the lines before the first line of 65536 bytes or more,
then stops with the specification's fatal error `file:lines-read: bufio.Scanner: token too long`;
without such a line there is no error. There is no precondition on line lengths. -/
theorem reader_refines_spec_limited (O : Oracles) (fileName text : Bytes) :
    (readAllLim O fileName text).1.map Rec.abs = (readLimited O fileName [] [] text).1.map SRec.abs ∧
    (readAllLim O fileName text).2 = (readLimited O fileName [] [] text).2.2 ∧
    (finalState O (RState.zero.reset fileName []) (splitLinesLim text).1).units =
      (readLimited O fileName [] [] text).2.1 := by
  obtain ⟨h1, h2⟩ := reset_readLines_refines O RState.zero fileName [] (splitLinesLim text).1
  unfold readAllLim readLimited
  rw [← splitLinesLim_eq]
  exact ⟨h1, rfl, h2⟩

/-- **limit_inactive.** If no line reaches 65536 bytes the limited reader is the unlimited one
of `reader_refines_spec`: same records, no error. -/
theorem limit_inactive (O : Oracles) (fileName text : Bytes)
    (h : ∀ p ∈ rawPieces text, p.length < lineLimit) :
    readAllLim O fileName text = (readAll O fileName text, none) := by
  unfold readAllLim readAll
  rw [splitLinesLim_short text h]
  rfl

/-- The boundary in small: with a limit of `maxToken` bytes a run of `maxToken - 1` bytes is a
line and a run of `maxToken` bytes is not (the correspondence run exercises 65534…65537-byte
lines against the real `bufio.Scanner`). -/
theorem limit_boundary (x : Bytes) :
    (x.length < maxToken → (∀ c ∈ x, c ≠ 10) → splitLinesLim (x ++ [10]) = ([dropCR x], false)) ∧
    (maxToken ≤ x.length → (∀ c ∈ x, c ≠ 10) → splitLinesLim (x ++ [10]) = ([], true)) := by
  have key : (∀ c ∈ x, c ≠ 10) → splitLinesLim (x ++ [10]) = limited [x] := fun hn => by
    rw [splitLinesLim, splitLinesLimAux_eq, rawFrom_line x hn]; rfl
  constructor
  · intro hl hn
    rw [key hn, limited_cons_short x [] (by show ¬ maxToken ≤ x.length; omega)]
    rfl
  · intro hl hn
    rw [key hn, limited_cons_long x [] hl]

/-- **files_no_leak_limited.** `files_no_leak` with the limit: a file with an over-long line ends
the whole run after the records before that line (no later file is opened), in the model exactly
as in the specification; otherwise files follow one another as before. -/
theorem files_no_leak_limited (O : Oracles) (fs : FS) (inputs : List Input) :
    ∀ (st : RState) (stdin : Bytes),
      let out := Files.runFromLim O fs st stdin inputs
      let sp := readFilesLimited O fs st.units stdin (inputs.map fun i => (i.label, i.path, i.isStdin))
      out.recs.map Rec.abs = sp.recs.map SRec.abs ∧ out.failed = sp.failed ∧ out.ioErr = sp.ioErr ∧
        out.st.units = sp.units := by
  induction inputs with
  | nil => intro st stdin; exact ⟨rfl, rfl, rfl, rfl⟩
  | cons inp rest ih =>
    intro st stdin
    simp only [Files.runFromLim, readFilesLimited, List.map_cons]
    cases hc : (if inp.isStdin = true then some stdin else fs.open inp.path) with
    | none => exact ⟨rfl, rfl, rfl, rfl⟩
    | some text =>
      simp only
      obtain ⟨h1, h2⟩ :=
        reset_readLines_refines O st inp.path [(dotFile, inp.label)] (splitLinesLim text).1
      simp only [readLimited]
      rw [← splitLinesLim_eq]
      by_cases hlong : (splitLinesLim text).2 = true
      · simp only [hlong, ↓reduceIte]
        exact ⟨h1, trivial, rfl, h2⟩
      · simp only [hlong, Bool.false_eq_true, ↓reduceIte]
        have := ih (finalState O (st.reset inp.path [(dotFile, inp.label)]) (splitLinesLim text).1)
          (if inp.isStdin = true then [] else stdin)
        rw [h2] at this
        obtain ⟨g1, g2, g3, g4⟩ := this
        refine ⟨?_, g2, g3, g4⟩
        simp only [List.map_append]
        rw [h1, g1]
        rfl

end C02
