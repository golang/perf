/-
C06 — filters keep exactly the measurements their boolean meaning denotes: the property theorems,
with the small definitions (`mapPayload`, `rxTerm`, `valMeaning`, example data) and helpers they need.

Vocabulary: `walk re e = .ok f` — NewFilter accepted the tree `e` and compiled it to the
closure `f` (`re` is the regexp oracle); `filterMatch f res` — `Filter.Match`;
`filterApply f res` — `Filter.Apply`; `denote re res i e` — ⟦e⟧ res i (Model/Spec/FilterSem);
`filterOfText cx text` — `parse.ParseFilter(text)` through the C07 parser model;
`newFilterText cx re text` — `benchproc.NewFilter(text)` end to end.
All statements hold for every tree / every text of the stated form, every result and every
measurement count (any number of mask words).
-/

import Proofs.Lemmas.C06Walk
import Proofs.Lemmas.C06Match
import Proofs.Lemmas.C06Proj
import Proofs.Lemmas.C06Deriv
import Proofs.Lemmas.C06Heap
import Proofs.Lemmas.C06Convert
import Proofs.Lemmas.C06ReMatch
import Proofs.Lemmas.Shared.Bytes

namespace C06
open Proc.FilterEval Spec.FilterSem Proc.Extract Proc.Tok Proc.FilterText Proc.FilterHeap C07

/-- the spec's auxiliary recursions are the ordinary quantifiers over the operand list:
⟦AND es⟧ = ∀ e ∈ es, ⟦e⟧ ; ⟦OR es⟧ = ∃ e ∈ es, ⟦e⟧ (so `*` is true and `-*` false). -/
theorem denote_and_or (re : ReOracle) (res : Res) (i : Nat) (es : List Filter) :
    denote re res i (.and es) = es.all (denote re res i ·) ∧
    denote re res i (.or es) = es.any (denote re res i ·) := by
  simp only [denote]
  exact ⟨denoteAll_eq_all re res i es, denoteAny_eq_any re res i es⟩

/-- **eval_test**: measurement `i` is matched iff the expression is true at `i`. -/
theorem eval_test (re : ReOracle) (e : Filter) (f : FilterFn) (res : Res) (i : Nat)
    (h : walk re e = .ok f) (hi : i < res.values.length) :
    (filterMatch f res).test i = denote re res i e :=
  (walk_sound re res e f h).2 i hi

/-- `Test` outside `0 ≤ i < n` is false (also for negative arguments). -/
theorem test_out_of_range (f : FilterFn) (res : Res) (i : Int)
    (hi : i < 0 ∨ (res.values.length : Int) ≤ i) : (filterMatch f res).testInt i = false := by
  unfold Match.testInt
  split
  · rfl
  · exact test_of_ge (by simp [filterMatch]; omega)

/-- **all_iff** (at least one measurement): `All()` iff the expression holds at every measurement. -/
theorem all_iff (re : ReOracle) (e : Filter) (f : FilterFn) (res : Res)
    (h : walk re e = .ok f) (hn : 0 < res.values.length) :
    (filterMatch f res).all = true ↔ ∀ i, i < res.values.length → denote re res i e = true :=
  (walk_sound re res e f h).all_iff hn

/-- **any_iff** (at least one measurement): `Any()` iff the expression holds at some measurement. -/
theorem any_iff (re : ReOracle) (e : Filter) (f : FilterFn) (res : Res)
    (h : walk re e = .ok f) (hn : 0 < res.values.length) :
    (filterMatch f res).any = true ↔ ∃ i, i < res.values.length ∧ denote re res i e = true :=
  (walk_sound re res e f h).any_iff hn

/-- boundary, no measurements: `All`/`Any` show the whole-result boolean for a nil mask; a
non-nil (empty) mask gives `All = true`, `Any = false`. -/
theorem all_any_zero (re : ReOracle) (e : Filter) (f : FilterFn) (res : Res)
    (h : walk re e = .ok f) (hn : res.values.length = 0) :
    (filterMatch f res).all = (match (f res).1 with | none => (f res).2 | some _ => true) ∧
    (filterMatch f res).any = (match (f res).1 with | none => (f res).2 | some _ => false) := by
  exact all_any_of_zero (filterMatch f res) (walk_sound re res e f h).1 hn

/-- **apply_spec**: `Filter.Apply` keeps precisely the measurements at which the expression
holds, in their original order, leaves name and configuration alone, and (for at least one
measurement) returns whether any measurement remains (= `Any()`). -/
theorem apply_spec (re : ReOracle) (e : Filter) (f : FilterFn) (res : Res) (h : walk re e = .ok f) :
    (filterApply f res).1.values = kept re e res ∧
    (filterApply f res).1.name = res.name ∧ (filterApply f res).1.config = res.config ∧
    (0 < res.values.length → (filterApply f res).2 = !(kept re e res).isEmpty) ∧
    (0 < res.values.length → (filterApply f res).2 = (filterMatch f res).any) :=
  (walk_sound re res e f h).apply

/-- **apply_zero** (boundary): with no measurements nothing is kept and the flag is `All()`,
which is `true` whenever the mask is non-nil (e.g. any expression whose first decisive operand is
a `.unit` term) — "none remain" is then reported as `true`. -/
theorem apply_zero (f : FilterFn) (res : Res) (hn : res.values.length = 0) :
    (filterApply f res).1.values = [] ∧ (filterApply f res).2 = (filterMatch f res).all := by
  have := apply_of_zero (filterMatch f res) res.values rfl hn
  simp [filterApply, this]

theorem denoteAll_local (re : ReOracle) (res res' : Res) (i j : Nat)
    (hn : res.name = res'.name) (hc : res.config = res'.config) (hv : res.values[i]? = res'.values[j]?) :
    ∀ es, denoteAll re res i es = denoteAll re res' j es :=
  fun es => (denoteList_congr (termHolds_local re res res' i j hn hc hv) es).1
theorem denoteAny_local (re : ReOracle) (res res' : Res) (i j : Nat)
    (hn : res.name = res'.name) (hc : res.config = res'.config) (hv : res.values[i]? = res'.values[j]?) :
    ∀ es, denoteAny re res i es = denoteAny re res' j es :=
  fun es => (denoteList_congr (termHolds_local re res res' i j hn hc hv) es).2

/-- **apply_idempotent**: filtering an already filtered result with the same filter keeps every
remaining measurement (`Filter.Apply` twice = once, for the values). -/
theorem apply_idempotent (re : ReOracle) (e : Filter) (f : FilterFn) (res : Res) (h : walk re e = .ok f) :
    (filterApply f (filterApply f res).1).1.values = (filterApply f res).1.values := by
  obtain ⟨hv1, hn1, hc1, _, _⟩ := apply_spec re e f res h
  obtain ⟨hv2, _, _, _, _⟩ := apply_spec re e f (filterApply f res).1 h
  rw [hv2]
  refine keepIdx_all fun j hj => ?_
  -- the j-th remaining measurement comes from a position i of `res` at which `e` holds
  have hm : (filterApply f res).1.values[j] ∈ kept re e res := by rw [← hv1]; exact List.getElem_mem hj
  obtain ⟨i, hi, hd⟩ := mem_keepIdx.mp hm
  rw [← denote_local re res _ i j hn1.symm hc1.symm (by rw [hi, List.getElem?_eq_getElem hj])]
  exact hd

/-- a result that differs only in the numbers of its measurements -/
def mapPayload (g : Nat → Nat) (res : Res) : Res :=
  { res with values := res.values.map fun v => { v with payload := g v.payload } }

theorem termHolds_mapPayload (re : ReOracle) (g : Nat → Nat) (res : Res) (i : Nat) (key : Bytes) (mt : Matcher) :
    termHolds re (mapPayload g res) i key mt = termHolds re res i key mt := by
  simp only [termHolds, mapPayload, keyValue, Res.view, List.getElem?_map]
  cases res.values[i]? <;> simp

theorem denote_mapPayload (re : ReOracle) (g : Nat → Nat) (res : Res) (i : Nat) :
    ∀ e, denote re (mapPayload g res) i e = denote re res i e :=
  denote_congr (termHolds_mapPayload re g res i)
theorem denoteAll_mapPayload (re : ReOracle) (g : Nat → Nat) (res : Res) (i : Nat) :
    ∀ es, denoteAll re (mapPayload g res) i es = denoteAll re res i es :=
  fun es => (denoteList_congr (termHolds_mapPayload re g res i) es).1
theorem denoteAny_mapPayload (re : ReOracle) (g : Nat → Nat) (res : Res) (i : Nat) :
    ∀ es, denoteAny re (mapPayload g res) i es = denoteAny re res i es :=
  fun es => (denoteList_congr (termHolds_mapPayload re g res i) es).2

/-- **match_pure**: `Filter.Match` is a function of the name, the configuration and the units
only — it yields a `Match` and no new result (in the model `filterMatch` does not return a `Res`;
only `filterApply` does), and its answers do not depend on the measured numbers. -/
theorem match_pure (re : ReOracle) (e : Filter) (f : FilterFn) (res : Res) (g : Nat → Nat) (i : Nat)
    (h : walk re e = .ok f) :
    (filterMatch f (mapPayload g res)).test i = (filterMatch f res).test i := by
  have hl : (mapPayload g res).values.length = res.values.length := by simp [mapPayload]
  by_cases hi : i < res.values.length
  · rw [eval_test re e f _ i h (by rw [hl]; exact hi), eval_test re e f res i h hi, denote_mapPayload]
  · rw [test_of_ge (Nat.le_trans (Nat.le_of_eq hl) (Nat.le_of_not_lt hi)), test_of_ge (Nat.le_of_not_lt hi)]

/-- **value_list_sugar** (tree level): the tree the parser builds for `k:(a OR b …)` holds iff the
key's value is one of the listed words. -/
theorem value_list_sugar (re : ReOracle) (res : Res) (i : Nat) (key : Bytes) (off : Nat) (vs : List Bytes)
    (hk : key ≠ dotUnit) :
    denote re res i (.or (vs.map fun v => .mtch key off (.lit v))) = decide (keyValue key res ∈ vs) := by
  rw [(denote_and_or re res i _).2, List.any_map]
  exact any_termHolds_lit re res i key hk vs

/-- **fixed_projection_filter**: after `Parse` calls that carry fixed value lists, measurement `i`
of a result is matched iff every such field's *projected* value (for `.fullname`: the name with the
individually projected keys removed, commit 55c413e) is in its list and the caller's expression
holds at `i`. -/
theorem fixed_projection_filter (re : ReOracle) (e : Filter) (f : FilterFn) (excl : List Bytes)
    (projs : List (List ProjField)) (res : Res) (i : Nat)
    (h : walk re e = .ok f) (hi : i < res.values.length) :
    (filterMatch (parseAll excl projs f) res).test i =
      (projs.flatten.all (inFixed excl · res) && denote re res i e) :=
  ((walk_sound re res e f h).parseAll excl projs).2 i hi

/-- **rejected_parse_leaves_filter**: a `Parse` call that rejects one of its fields — also one
that comes AFTER a field with a fixed value list in the same expression — returns the error and
leaves the caller's filter exactly as it was. -/
theorem rejected_parse_leaves_filter (excl : List Bytes) (fields : List ProjField) (user : FilterFn) (err : ProjErr)
    (h : checkFields fields = .error err) : parseCall excl fields user = (user, some err) :=
  parseCall_rejected excl fields user err h

/-- **fixed_projection_history**: after any history of `Parse` calls on one filter, accepted and
rejected ones in any interleaving, measurement `i` is matched iff every fixed field of the
ACCEPTED expressions has its projected value in its list and the caller's expression holds at `i`;
rejected expressions contribute nothing. -/
theorem fixed_projection_history (re : ReOracle) (e : Filter) (f : FilterFn) (excl : List Bytes)
    (projs : List (List ProjField)) (res : Res) (i : Nat)
    (h : walk re e = .ok f) (hi : i < res.values.length) :
    (filterMatch (parseHistory excl projs f) res).test i =
      ((acceptedOf projs).flatten.all (inFixed excl · res) && denote re res i e) := by
  rw [parseHistory_eq]
  exact fixed_projection_filter re e f excl (acceptedOf projs) res i h hi

/-- a result whose projected value is missing from some fixed list is removed entirely -/
theorem fixed_projection_removes (re : ReOracle) (e : Filter) (f : FilterFn) (excl : List Bytes)
    (projs : List (List ProjField)) (res : Res) (h : walk re e = .ok f)
    (hout : projs.flatten.all (inFixed excl · res) = false) :
    (filterApply (parseAll excl projs f) res).1.values = [] ∧
    (0 < res.values.length → (filterApply (parseAll excl projs f) res).2 = false) := by
  obtain ⟨hv, _, _, hf, _⟩ := (((walk_sound re res e f h).parseAll excl projs).congr (Q := fun _ => false)
    fun i _ => by rw [hout]; rfl).apply
  have hk : keepIdx (fun _ => false) res.values = [] := keepIdx_none fun _ _ => rfl
  exact ⟨by rw [hv, hk], fun hn => by rw [hf hn, hk]; rfl⟩

/-- a result whose projected values are all listed is filtered by the caller's expression alone -/
theorem fixed_projection_keeps (re : ReOracle) (e : Filter) (f : FilterFn) (excl : List Bytes)
    (projs : List (List ProjField)) (res : Res) (h : walk re e = .ok f)
    (hin : projs.flatten.all (inFixed excl · res) = true) :
    (filterApply (parseAll excl projs f) res).1.values = kept re e res ∧
    (0 < res.values.length → (filterApply (parseAll excl projs f) res).2 = !(kept re e res).isEmpty) := by
  obtain ⟨hv, _, _, hf, _⟩ := (((walk_sound re res e f h).parseAll excl projs).congr (Q := fun i => denote re res i e)
    fun i _ => by rw [hin]; rfl).apply
  exact ⟨hv, hf⟩

/-! ### non-vacuity: the hypotheses are satisfiable and the statements bite on results that
cross one and two mask words, with mask and boolean operands mixed under a negation -/

def exUnitA : Bytes := [97]
def exUnitB : Bytes := [98]
/-- n measurements, unit "a" at positions divisible by 3 or equal to 32/64, otherwise "b" rescaled from "a" at multiples of 5 -/
def exRes (n : Nat) : Res :=
  { name := [70, 111, 111], config := [],
    values := (List.range n).map fun i =>
      { unit := if i % 3 == 0 || i == 32 || i == 64 then exUnitA else exUnitB,
        origUnit := if i % 5 == 0 then exUnitA else [], payload := i } }
def exRe : ReOracle := fun _ _ => false
/-- `-(.unit:a OR -.name:Foo) .unit:b` : mixes mask and boolean operands under a negation -/
def exExpr : Filter :=
  .and [.not (.or [.mtch dotUnit 0 (.lit exUnitA), .not (.mtch dotName 0 (.lit [70, 111, 111]))]),
        .mtch dotUnit 0 (.lit exUnitB)]

def exMatch (n : Nat) : Option Match :=
  match walk exRe exExpr with
  | .ok f => some (filterMatch f (exRes n))
  | .error _ => none

def exCheck (n : Nat) (ones zeros : List Nat) (all any : Bool) : Bool :=
  match exMatch n with
  | some m => ones.all (m.test ·) && zeros.all (!m.test ·) && m.all == all && m.any == any
  | none => false

example : exCheck 65 [1, 31, 34, 62] [0, 3, 5, 32, 33, 63, 64, 65, 66] false true = true := by decide +kernel
example : exCheck 33 [1, 31] [0, 3, 5, 32, 33] false true = true := by decide +kernel

example : (match walk exRe exExpr with | .ok _ => true | .error _ => false) = true := by decide +kernel

/-- example (code after commit 55c413e): `.fullname@(Foo Bar)` together with `/size`; the result
`Foo/size=1` projects to `Foo`, is in the list and is kept (its unprojected name is not). -/
def exProjs : List (List ProjField) :=
  [[{ key := dotFullname, fixed := some [[70, 111, 111], [66, 97, 114]] }],
   [{ key := Bytes.ofString "/size", fixed := none }]]
def exResF12 : Res := { name := Bytes.ofString "Foo/size=1", config := [], values := [⟨exUnitA, [], 0⟩] }

example : exProjs.flatten.all (inFixed (fullnameKeysOf exProjs) · exResF12) = true := by decide +kernel
example : projValue (fullnameKeysOf exProjs) dotFullname exResF12 = [70, 111, 111] := by decide +kernel
example : decide (exResF12.name ∈ [[70, 111, 111], [66, 97, 114]]) = false := by decide +kernel

/-- **litre_spec**: the Lean matcher used by the S layer for regexp terms of the form
`^?literal$?` (also `\\A…\\z`, `(?:literal)`, escaped punctuation) says: the value is
`p ++ literal ++ s` with `p` empty under a start anchor and `s` empty under an end anchor —
"is exactly", "starts with", "ends with", "contains". -/
theorem litre_spec (r : Spec.LitRegexp.LitRe) (v : Bytes) :
    r.matches v = true ↔
      ∃ p s, v = p ++ r.lit ++ s ∧ (r.anchS = true → p = []) ∧ (r.anchE = true → s = []) := by
  obtain ⟨a, l, z⟩ := r
  cases a <;> cases z <;> simp only [Spec.LitRegexp.LitRe.matches]
  · rw [Bytes.contains_iff]
    constructor
    · rintro ⟨p, s, h⟩; exact ⟨p, s, h.symm, by simp, by simp⟩
    · rintro ⟨p, s, h, _, _⟩; exact ⟨p, s, h.symm⟩
  · rw [Spec.LitRegexp.hasSuffix, Bytes.hasPrefix_iff, List.reverse_prefix]
    constructor
    · rintro ⟨p, h⟩; exact ⟨p, [], by simp [h], by simp, by simp⟩
    · rintro ⟨p, s, h, _, hs⟩; exact ⟨p, by rw [h, hs trivial]; simp⟩
  · rw [Bytes.hasPrefix_iff]
    constructor
    · rintro ⟨s, h⟩; exact ⟨[], s, by simp [h], by simp, by simp⟩
    · rintro ⟨p, s, h, hp, _⟩; exact ⟨s, by rw [h, hp trivial]; simp⟩
  · simp only [beq_iff_eq]
    constructor
    · rintro rfl; exact ⟨[], [], by simp, by simp, by simp⟩
    · rintro ⟨p, s, h, hp, hs⟩; rw [h, hp trivial, hs trivial]; simp

/-- **heap_match_refines**: in the heap model (masks are cells updated in place, closures hand
addresses around) `Filter.Match` returns a `Match` that, read right after the call, is the `Match`
of the functional model — so every theorem above also describes the in-place evaluator. -/
theorem heap_match_refines (re : ReOracle) (e : Filter) (f : FilterFn) (res : Res) (h : Heap)
    (hw : walk re e = .ok f) :
    (matchH re e res h).1.read (matchH re e res h).2 = filterMatch f res := by
  obtain ⟨r1, r2⟩ := refE re res e f hw h
  simp only [matchH, HMatch.read, filterMatch]
  rw [r1, r2]

/-- **match_no_alias**: two successive `Match` calls (any filters, any results) on any heap.
(1) cells that existed before a call are never written (`Ext`): masks the caller already holds,
including the `Match` of the first call, keep their contents through the second call;
(2) the mask a call returns was allocated by that call (its address is beyond the old heap);
hence (3) the two returned masks are different cells, and (4) the first `Match` reads the same
before and after the second call. A compiled filter keeps no mask between calls: the evaluator's
only inputs are the tree, the result and the heap. -/
theorem match_no_alias (re : ReOracle) (e1 e2 : Filter) (res1 res2 : Res) (h0 : Heap) :
    Ext h0 (matchH re e1 res1 h0).2 ∧
    Ext (matchH re e1 res1 h0).2 (matchH re e2 res2 (matchH re e1 res1 h0).2).2 ∧
    (∀ a, (matchH re e1 res1 h0).1.addr = some a → h0.length ≤ a ∧ a < (matchH re e1 res1 h0).2.length) ∧
    (∀ a1 a2, (matchH re e1 res1 h0).1.addr = some a1 →
      (matchH re e2 res2 (matchH re e1 res1 h0).2).1.addr = some a2 → a1 < a2) ∧
    (matchH re e1 res1 h0).1.read (matchH re e2 res2 (matchH re e1 res1 h0).2).2 =
      (matchH re e1 res1 h0).1.read (matchH re e1 res1 h0).2 := by
  obtain ⟨x1, f1⟩ := frameE re res1 e1 h0
  obtain ⟨x2, f2⟩ := frameE re res2 e2 (evalH re res1 e1 h0).2
  refine ⟨ext_iff_prefix.mpr x1, ext_iff_prefix.mpr x2, f1, ?_, ?_⟩
  · exact fun a1 a2 h1 h2 => Nat.lt_of_lt_of_le (f1 a1 h1).2 (f2 a2 h2).1
  · simp only [matchH, HMatch.read]
    cases ha : (evalH re res1 e1 h0).1.1 with
    | none => rfl
    | some a =>
      have := (f1 a ha).2
      simp only [Option.map_some]
      rw [cell_of_prefix x2 a this]

/-- **eval_test_text**: if the parser model accepts the text with tree `t` and NewFilter compiles
it, measurement `i` is matched iff ⟦t⟧ holds at `i`. -/
theorem eval_test_text (cx : Ctx) (re : ReOracle) (text : Bytes) (t : Filter) (f : FilterFn) (res : Res) (i : Nat)
    (_hp : filterOfText cx text = .ok t) (hw : walk re t = .ok f) (hi : i < res.values.length) :
    (filterMatch f res).test i = denote re res i t :=
  eval_test re t f res i hw hi

/-- the same through `newFilterText` (= `benchproc.NewFilter` on the text) -/
theorem newFilterText_test (cx : Ctx) (re : ReOracle) (text : Bytes) (f : FilterFn)
    (h : newFilterText cx re text = .ok f) :
    ∃ t, filterOfText cx text = .ok t ∧ walk re t = .ok f ∧
      ∀ res i, i < res.values.length → (filterMatch f res).test i = denote re res i t := by
  unfold newFilterText at h
  cases ht : filterOfText cx text with
  | error e => simp [ht] at h
  | ok t =>
    simp only [ht] at h
    cases hw : walk re t with
    | error e => simp [hw] at h
    | ok g =>
      simp only [hw] at h
      cases h
      exact ⟨t, rfl, hw, fun res i hi => eval_test re t f res i hw hi⟩

/-- **text_accepted_converts**: whatever text the parser model accepts has a tree in the evaluator's
vocabulary (`filterOfText` never fails with `badTree`: C07's `parseFilter_tree`). -/
theorem text_accepted_converts (cx : Ctx) (q : Bytes) (t : Proc.ParseFilter.Filter)
    (h : Proc.ParseFilter.parseFilter cx q = .ok t) : ∃ t', filterOfText cx q = .ok t' ∧ toTree t = some t' := by
  obtain ⟨t', ht⟩ := toTree_of_WF (C07.parseFilter_tree h fun _ _ => trivial)
  exact ⟨t', by unfold filterOfText; rw [h]; simp only [ht], ht⟩

/-- **newFilter_models_agree**: the composed model `newFilterText` (parser model, `toTree`, `walk`)
accepts a text exactly when C07's model of `benchproc.NewFilter` accepts it, for every text. -/
theorem newFilter_models_agree (cx : Ctx) (re : ReOracle) (q : Bytes) :
    isOk (newFilterText cx re q) = isOk (Proc.ParseFilter.newFilter cx q) := by
  cases hp : Proc.ParseFilter.parseFilter cx q with
  | error e =>
    have h1 : filterOfText cx q = .error (.syntax e) := by unfold filterOfText; rw [hp]
    unfold newFilterText Proc.ParseFilter.newFilter
    rw [h1, hp]; rfl
  | ok t =>
    obtain ⟨t', ht', htt⟩ := text_accepted_converts cx q t hp
    have hnf : isOk (Proc.ParseFilter.newFilter cx q) = (Proc.ParseFilter.checkFilter t).isNone := by
      unfold Proc.ParseFilter.newFilter
      rw [hp]
      cases hc : Proc.ParseFilter.checkFilter t <;> simp only [hc] <;> rfl
    rw [hnf, ← walk_ok_iff re t t' htt]
    unfold newFilterText
    rw [ht']
    cases hw : walk re t' <;> simp only [hw] <;> rfl

/-- **text_semantics**: every well-formed expression — terms `k:v`, value
lists `k:(a OR b …)`, `*`, `-x`, parentheses, juxtaposition / `AND`, `OR`, over bare words that
satisfy C07's bare-word conditions, quoted literals or `/regexp/` values (`okV`) — is accepted by the parser model, and the
tree it builds denotes the ordinary boolean meaning `semE` of the expression. -/
theorem text_semantics (cx : Ctx) (E : List (List (Bool × S))) (hne : E ≠ []) (hok : okE cx E) :
    ∃ t, filterOfText cx (renderE E) = .ok t ∧ ∀ re res i, denote re res i t = semE re res i E := by
  obtain ⟨t, ht, t', htt, hd⟩ := parseFilter_render cx E hne hok
  refine ⟨t', ?_, hd⟩
  unfold filterOfText
  rw [ht]
  simp only [htt]

theorem text_semantics_term (cx : Ctx) (s : S) (hok : okS cx s) :
    ∃ t, filterOfText cx (render s) = .ok t ∧ ∀ re res i, denote re res i t = sem re res i s := by
  obtain ⟨t, ht, hd⟩ := text_semantics cx [[(false, s)]] (by simp)
    (by simp only [okE, okT]; exact ⟨by simp, ⟨hok, trivial⟩, trivial⟩)
  rw [renderE_single, renderA_single] at ht
  exact ⟨t, ht, fun re res i => by rw [hd]; simp [semE, semT]⟩

/-- `Test(i)` of the filter compiled from the TEXT of a well-formed expression is the boolean
meaning of the text (`text_semantics` with `newFilterText_test`). -/
theorem text_filter_test (cx : Ctx) (re : ReOracle) (E : List (List (Bool × S))) (hne : E ≠ []) (hok : okE cx E)
    (f : FilterFn) (h : newFilterText cx re (renderE E) = .ok f) (res : Res) (i : Nat) (hi : i < res.values.length) :
    (filterMatch f res).test i = semE re res i E := by
  obtain ⟨t, ht, hd⟩ := text_semantics cx E hne hok
  obtain ⟨t', ht', _, htest⟩ := newFilterText_test cx re _ f h
  rw [ht] at ht'; cases ht'
  rw [htest res i hi, hd]

/-- a word / a regular expression as a value of the surface syntax -/
def SV.word (txt val : Bytes) : SV := { re := false, txt := txt, val := val }
def SV.regex (src : Bytes) : SV := { re := true, txt := cSlash :: (src ++ [cSlash]), val := src }

theorem okV_word {cx : Ctx} {k : UInt8} {txt val : Bytes} (h : Word cx true k txt val) : okV cx (SV.word txt val) :=
  ⟨k, Val.word h, by rcases h.kind with rfl | rfl <;> rfl⟩

theorem okV_regex {cx : Ctx} {src : Bytes} (h : RegexOK cx src) : okV cx (SV.regex src) :=
  ⟨kR, Val.regex src h, rfl⟩

/-- **value_list_sugar_text**: for a key word `k` and words a₁ … aₙ (bare under C07's conditions,
or quoted literals) the text `k:(a₁ OR … OR aₙ)` is accepted and means "the key's value is one of
a₁ … aₙ" (for `.unit`: some aᵢ matches measurement i's unit). (Lists that also contain regular
expressions: `text_semantics`.) -/
theorem value_list_sugar_text (cx : Ctx) {k1 : UInt8} {kt kv : Bytes} (hk : Word cx false k1 kt kv)
    (ws : List (Bytes × Bytes)) (hne : ws ≠ []) (hw : ∀ p, p ∈ ws → ∃ k, Word cx true k p.1 p.2) :
    ∃ t, filterOfText cx (kt ++ cColon :: cLP :: (renderVs (ws.map fun p => SV.word p.1 p.2) ++ [cRP])) = .ok t ∧
      ∀ re res i,
        denote re res i t = ws.any (fun p => termHolds re res i kv (.lit p.2)) ∧
        (kv ≠ dotUnit → denote re res i t = decide (keyValue kv res ∈ ws.map (·.2))) := by
  have hokv : ∀ v, v ∈ ws.map (fun p => SV.word p.1 p.2) → okV cx v := by
    intro v hv
    obtain ⟨p, hp, rfl⟩ := List.mem_map.mp hv
    obtain ⟨k, hk'⟩ := hw p hp
    exact okV_word hk'
  obtain ⟨t, ht, hd⟩ := text_semantics_term cx (.list kt kv (ws.map fun p => SV.word p.1 p.2))
    (by rw [okS]; exact ⟨⟨k1, hk⟩, by simpa using hne, hokv⟩)
  rw [render] at ht
  refine ⟨t, ht, fun re res i => ?_⟩
  have h1 : denote re res i t = ws.any (fun p => termHolds re res i kv (.lit p.2)) := by
    rw [hd]; simp [sem, List.any_map, SV.matcher, SV.word, Function.comp_def]
  exact ⟨h1, fun hne' => by rw [h1, ← any_termHolds_lit re res i kv hne', List.any_map]; rfl⟩

/-- **juxtaposition_is_and**: well-formed terms written one after the other, separated by a space
or by ` AND `, are accepted and mean the conjunction of the terms. -/
theorem juxtaposition_is_and (cx : Ctx) (items : List (Bool × S)) (hne : items ≠ []) (hok : okT cx items) :
    ∃ t, filterOfText cx (renderA items) = .ok t ∧
      ∀ re res i, denote re res i t = items.all (fun p => sem re res i p.2) := by
  obtain ⟨t, ht, hd⟩ := text_semantics cx [items] (by simp) (by simp only [okE]; exact ⟨hne, hok, trivial⟩)
  rw [renderE_single] at ht
  exact ⟨t, ht, fun re res i => by rw [hd]; simp [semE, semT_eq_all]⟩

/-- **or_is_or**: juxtapositions separated by ` OR ` mean their disjunction. -/
theorem or_is_or (cx : Ctx) (E : List (List (Bool × S))) (hne : E ≠ []) (hok : okE cx E) :
    ∃ t, filterOfText cx (renderE E) = .ok t ∧
      ∀ re res i, denote re res i t = E.any (fun a => a.all (fun p => sem re res i p.2)) := by
  obtain ⟨t, ht, hd⟩ := text_semantics cx E hne hok
  exact ⟨t, ht, fun re res i => by rw [hd, semE_eq_any]⟩

/-- **minus_is_not**: `-x` is accepted and means the negation of `x`. -/
theorem minus_is_not (cx : Ctx) (m : S) (hok : okS cx m) :
    ∃ t, filterOfText cx (cDash :: render m) = .ok t ∧ ∀ re res i, denote re res i t = !sem re res i m := by
  obtain ⟨t, ht, hd⟩ := text_semantics_term cx (.neg m) (by rw [okS]; exact hok)
  rw [render] at ht
  exact ⟨t, ht, fun re res i => by rw [hd, sem]⟩

/-- **star_is_true**: `*` is accepted and true of every measurement; `-*` is false. -/
theorem star_is_true (cx : Ctx) :
    (∃ t, filterOfText cx [cStar] = .ok t ∧ ∀ re res i, denote re res i t = true) ∧
    (∃ t, filterOfText cx [cDash, cStar] = .ok t ∧ ∀ re res i, denote re res i t = false) := by
  constructor
  · obtain ⟨t, ht, hd⟩ := text_semantics_term cx .star (by simp [okS])
    rw [render] at ht
    exact ⟨t, ht, fun re res i => by rw [hd, sem]⟩
  · obtain ⟨t, ht, hd⟩ := minus_is_not cx .star (by simp [okS])
    rw [render] at ht
    exact ⟨t, ht, fun re res i => by rw [hd]; simp [sem]⟩

def cx0 : Ctx := { n := 0, compileOK := fun _ => true, isSpaceHi := fun _ => false }

def bUnit : Bytes := [46, 117, 110, 105, 116]          -- .unit
def bNsOp : Bytes := [110, 115, 47, 111, 112]          -- ns/op
def bBop : Bytes := [66, 47, 111, 112]                 -- B/op
def bGoos : Bytes := [103, 111, 111, 115]              -- goos
def bLinux : Bytes := [108, 105, 110, 117, 120]        -- linux

theorem w_unit : Word cx0 false kW bUnit bUnit :=
  Word.bare 46 _ ⟨by decide, by decide, fun _ => by decide, by decide +kernel⟩ (by decide) (by decide)
theorem w_nsop : Word cx0 true kW bNsOp bNsOp :=
  Word.bare 110 _ ⟨by decide, by decide, fun _ => by decide, by decide +kernel⟩ (by decide) (by decide)
theorem w_goos : Word cx0 false kW bGoos bGoos :=
  Word.bare 103 _ ⟨by decide, by decide, fun _ => by decide, by decide +kernel⟩ (by decide) (by decide)
theorem w_linux : Word cx0 true kW bLinux bLinux :=
  Word.bare 108 _ ⟨by decide, by decide, fun _ => by decide, by decide +kernel⟩ (by decide) (by decide)
theorem w_bop : Word cx0 true kQ (cQuote :: (bBop ++ [cQuote])) bBop :=
  Word.quoted bBop bBop
    (Items.plain (by decide) (by decide) (Items.plain (by decide) (by decide)
      (Items.plain (by decide) (by decide) (Items.plain (by decide) (by decide) Items.nil))))
    (by decide +kernel)

/-- `.unit:(ns/op OR "B/op") AND -goos:linux *` -/
def exE : List (List (Bool × S)) :=
  [[(false, .list bUnit bUnit [SV.word bNsOp bNsOp, SV.word (cQuote :: (bBop ++ [cQuote])) bBop]),
    (true, .neg (.term bGoos bGoos (SV.word bLinux bLinux))),
    (false, .star)]]

theorem exE_ok : okE cx0 exE := by
  simp only [exE, okE, okT, okS]
  refine ⟨by simp, ⟨⟨⟨_, w_unit⟩, by simp, ?_⟩, ⟨⟨_, w_goos⟩, okV_word w_linux⟩, trivial, trivial⟩, trivial⟩
  intro p hp
  simp only [List.mem_cons, List.not_mem_nil, or_false] at hp
  rcases hp with rfl | rfl
  · exact okV_word w_nsop
  · exact okV_word w_bop

example : renderE exE = Bytes.ofString ".unit:(ns/op OR \"B/op\") AND -goos:linux *" := by decide +kernel

/-- `text_semantics` applies to this text -/
example : ∃ t, filterOfText cx0 (renderE exE) = .ok t ∧ ∀ re res i, denote re res i t = semE re res i exE :=
  text_semantics cx0 exE (by simp [exE]) exE_ok

/-- the parser model really evaluates the text of `exE` (kernel computation, end to end from the text):
on `Foo`, goos=darwin, units [ns/op, B/op, x] the filter matches 1 1 0 -/
example :
    (match newFilterText cx0 (fun _ _ => false) (Bytes.ofString ".unit:(ns/op OR \"B/op\") AND -goos:linux *") with
     | .ok f =>
       let m := filterMatch f { name := [70, 111, 111], config := [(bGoos, [100])],
                                 values := [⟨bNsOp, [], 0⟩, ⟨bBop, [], 1⟩, ⟨[120], [], 2⟩] }
       m.test 0 && m.test 1 && !m.test 2
     | .error _ => false) = true := by decide +kernel

/-- what the term `key:/src/` means at measurement `i` when `rx src v` says whether the regular
expression `src` matches `v` (what Go's regexp decides; a parameter) -/
def rxTerm (rx : Bytes → Bytes → Bool) (res : Res) (i : Nat) (kv src : Bytes) : Bool :=
  if kv = dotUnit then
    match res.values[i]? with
    | some v => rx src v.unit || (decide (v.origUnit ≠ []) && rx src v.origUnit)
    | none => false
  else rx src (keyValue kv res)

/-- the meaning of a value of the surface syntax under `rx` -/
def valMeaning (rx : Bytes → Bytes → Bool) (res : Res) (i : Nat) (kv : Bytes) (v : SV) : Bool :=
  if v.re then rxTerm rx res i kv v.val else termHolds (fun _ _ => false) res i kv (.lit v.val)

theorem termHolds_lit_oracle (re re' : ReOracle) (res : Res) (i : Nat) (kv val : Bytes) :
    termHolds re res i kv (.lit val) = termHolds re' res i kv (.lit val) := by
  simp [termHolds, valueHolds]

theorem matcher_meaning (rx : Bytes → Bytes → Bool) (res : Res) (i : Nat) (kv : Bytes) (v : SV) :
    termHolds (oracleOf rx) res i kv v.matcher = valMeaning rx res i kv v := by
  unfold valMeaning SV.matcher
  cases v.re
  · simp only [Bool.false_eq_true, if_false]; exact termHolds_lit_oracle _ _ res i kv v.val
  · simp only [if_true, termHolds, valueHolds, oracleOf_reId, rxTerm]
    by_cases hk : kv = dotUnit
    · simp only [hk, if_true]
      cases res.values[i]? with
      | none => rfl
      | some w => rfl
    · simp [hk]

theorem sem_term_rx (rx : Bytes → Bytes → Bool) (res : Res) (i : Nat) (kt kv : Bytes) (v : SV) :
    sem (oracleOf rx) res i (.term kt kv v) = valMeaning rx res i kv v := by
  rw [sem, matcher_meaning]

theorem sem_list_rx (rx : Bytes → Bytes → Bool) (res : Res) (i : Nat) (kt kv : Bytes) (vs : List SV) :
    sem (oracleOf rx) res i (.list kt kv vs) = vs.any (valMeaning rx res i kv) := by
  rw [sem]; congr 1; funext p; exact matcher_meaning rx res i kv p

/-- **text_semantics_rx**: every well-formed expression, including regular-expression values
`/src/` in single terms and at every position of a value list, under `-`, juxtaposition/`AND`,
`OR` and parentheses, where `src` scans to the top level (brackets, parentheses, escapes as in
`regexpParseUntil`) and compiles — is accepted by the parser model, and for EVERY matcher `rx`
the tree denotes the ordinary boolean meaning of the expression with `rx` at the regexp leaves
(`sem_term_rx`, `sem_list_rx` spell the leaves out). -/
theorem text_semantics_rx (cx : Ctx) (E : List (List (Bool × S))) (hne : E ≠ []) (hok : okE cx E) :
    ∃ t, filterOfText cx (renderE E) = .ok t ∧
      ∀ (rx : Bytes → Bytes → Bool) res i, denote (oracleOf rx) res i t = semE (oracleOf rx) res i E := by
  obtain ⟨t, ht, hd⟩ := text_semantics cx E hne hok
  exact ⟨t, ht, fun rx res i => hd (oracleOf rx) res i⟩

/-- **regex_term_text**: `key:/src/` is accepted and means "`rx src` matches the key's value"
(for `.unit`: measurement i's unit or written unit). -/
theorem regex_term_text (cx : Ctx) {k1 : UInt8} {kt kv : Bytes} (hk : Word cx false k1 kt kv)
    (src : Bytes) (hre : RegexOK cx src) :
    ∃ t, filterOfText cx (kt ++ cColon :: cSlash :: (src ++ [cSlash])) = .ok t ∧
      ∀ (rx : Bytes → Bytes → Bool) res i, denote (oracleOf rx) res i t = rxTerm rx res i kv src := by
  obtain ⟨t, ht, hd⟩ := text_semantics_term cx (.term kt kv (SV.regex src)) (by rw [okS]; exact ⟨⟨k1, hk⟩, okV_regex hre⟩)
  rw [render] at ht
  refine ⟨t, ht, fun rx res i => ?_⟩
  rw [hd, sem_term_rx]
  simp [valMeaning, SV.regex]

/-- **rxLit_spec**: for a source of the literal sub-language the matcher `rxLit` says: the value is
`p ++ literal ++ s`, `p` empty under a start anchor, `s` empty under an end anchor. -/
theorem rxLit_spec (src : Bytes) (r : Spec.LitRegexp.LitRe) (h : Spec.LitRegexp.parse src = some r) (v : Bytes) :
    rxLit src v = true ↔
      ∃ p s, v = p ++ r.lit ++ s ∧ (r.anchS = true → p = []) ∧ (r.anchE = true → s = []) := by
  simp only [rxLit, h]; exact litre_spec r v

/-- **text_semantics_litre**: with the specification-level matcher `rxLit` in place of Go's regexp
the whole chain text → tree → meaning is parameter-free. -/
theorem text_semantics_litre (cx : Ctx) (E : List (List (Bool × S))) (hne : E ≠ []) (hok : okE cx E) :
    ∃ t, filterOfText cx (renderE E) = .ok t ∧
      ∀ res i, denote (oracleOf rxLit) res i t = semE (oracleOf rxLit) res i E := by
  obtain ⟨t, ht, hd⟩ := text_semantics_rx cx E hne hok
  exact ⟨t, ht, fun res i => hd rxLit res i⟩

theorem regexOK_anchored (cx : Ctx) (lit : Bytes) (h : PlainLit lit)
    (hc : cx.compileOK (94 :: (lit ++ [36])) = true) : RegexOK cx (94 :: (lit ++ [36])) := by
  refine ⟨reState_plain _ ?_, hc⟩
  intro c hcm
  simp only [List.mem_cons, List.mem_append, List.not_mem_nil, or_false] at hcm
  rcases hcm with rfl | hl | rfl
  · decide
  · obtain ⟨h1, _, h3⟩ := h c hl
    refine ⟨h3, ?_, ?_, ?_, ?_, ?_⟩ <;> (intro e; subst e; exact absurd h1 (by decide))
  · decide

/-- **anchored_literal_text**: for a key word (not `.unit`) and a plain literal, the text
`key:/^literal$/` is accepted (given that Go compiles the expression) and, with regular
expressions decided by the specification matcher, holds iff the key's value IS the literal —
and `Test(i)` of the filter compiled from that text says exactly that (not merely
"contains the literal"). -/
theorem anchored_literal_text (cx : Ctx) {k1 : UInt8} {kt kv : Bytes} (hk : Word cx false k1 kt kv)
    (hkv : kv ≠ dotUnit) (lit : Bytes) (hp : PlainLit lit) (hc : cx.compileOK (94 :: (lit ++ [36])) = true) :
    ∃ t, filterOfText cx (kt ++ cColon :: cSlash :: ((94 :: (lit ++ [36])) ++ [cSlash])) = .ok t ∧
      (∀ res i, denote (oracleOf rxLit) res i t = decide (keyValue kv res = lit)) ∧
      (∀ f, walk (oracleOf rxLit) t = .ok f → ∀ res i, i < res.values.length →
        (filterMatch f res).test i = decide (keyValue kv res = lit)) := by
  obtain ⟨t, ht, hd⟩ := regex_term_text cx hk _ (regexOK_anchored cx lit hp hc)
  have hm : ∀ res i, denote (oracleOf rxLit) res i t = decide (keyValue kv res = lit) := by
    intro res i
    rw [hd rxLit res i]
    simp only [rxTerm, hkv, if_false, rxLit_anchored lit hp]
  exact ⟨t, ht, hm, fun f hw res i hi => by rw [eval_test _ t f res i hw hi, hm]⟩

/-- non-vacuity: `goos:/^linux$/` -/
example : PlainLit bLinux := by
  intro c hc
  simp only [bLinux, List.mem_cons, List.not_mem_nil, or_false] at hc
  rcases hc with rfl | rfl | rfl | rfl | rfl <;> decide

example :
    (match newFilterText cx0 (oracleOf rxLit) (Bytes.ofString "goos:/^linux$/ OR -.unit:(/^B\\/op$/ OR x)") with
     | .ok f =>
       let m := filterMatch f { name := [70], config := [(bGoos, Bytes.ofString "alinux")],
                                 values := [⟨bBop, [], 0⟩, ⟨Bytes.ofString "MB/op", [], 1⟩, ⟨[120], [], 2⟩] }
       !m.test 0 && m.test 1 && !m.test 2
     | .error _ => false) = true := by decide +kernel

end C06
