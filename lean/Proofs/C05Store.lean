/-
C05 composed with C02's slot store: what a plain-key extractor returns after ANY history of
`key: value` lines, `SetConfig` calls and deletions (property theorems only; helpers in
`Proofs/Lemmas/C05Store.lean`).
-/
import Proofs.C05
import Proofs.C02
import Proofs.Lemmas.C05Store

namespace C05
open Bytes Fmt Spec.Format Proc.Extract Proc.CfgHist

/-- **config_key_after_history** — start from a fresh `Result`; apply any sequence of file
configuration lines (`key: value`, `key:`), `SetConfig` calls and deletions. A plain key then
extracts exactly the value the same operations leave in an abstract finite map (empty when the
key is absent): stale slots, slot reuse and the lazily built index have no influence. -/
theorem config_key_after_history (name key : Bytes) (ops : List StoreOp)
    (hne : key ≠ []) (hs : key.head? ≠ some Fmt.Name.slash)
    (h1 : key ≠ dotConfig) (h2 : key ≠ dotUnit) (h3 : key ≠ dotName) (h4 : key ≠ dotFullname) :
    extract key (viewOf name (ops.foldl Store.apply Store.empty))
      = .ok ((((ops.foldl CMap.applyOp []).get key).map (·.1)).getD []) := by
  rw [extract_plain key _ hne hs h1 h2 h3 h4, extractConfig_view,
    (C02.store_refines_map_from_empty ops).2 key]

/-- **config_key_indexed** — the lookup Go actually performs (`ConfigIndex` through the position
index, then `Config[pos].Value`) agrees with the scan over `Config` in every state reachable from
a fresh `Result`, so the extractor may be modelled by either. -/
theorem config_key_indexed (name key : Bytes) (ops : List StoreOp) :
    extractConfigIndexed (ops.foldl Store.apply Store.empty) key
      = extractConfig (viewOf name (ops.foldl Store.apply Store.empty)) key :=
  extractConfigIndexed_eq name _ (C02.store_refines_map_from_empty ops).1 key

/-- **config_after_api_history** — configuration built through the API. Take ANY history of
`SetConfig` calls (an empty value deletes) on the current result, `Clone` calls (the clone becomes
current) and returns to the previously current result. For EVERY result ever created in that
history — originals edited after being cloned and clones edited afterwards alike — a plain key
extracts exactly what the same history leaves in a finite map per result: results do not share
state, and slot reuse, swap-deletion and the lazily rebuilt index of a clone are invisible. The
lookup is the one Go performs (`ConfigIndex`, then `Config[pos].Value`). -/
theorem config_after_api_history (ops : List HOp) :
    (ops.foldl stepStore initStore).all.length = (ops.foldl stepMap initMap).all.length ∧
    ∀ i k, lookupStore ((ops.foldl stepStore initStore).all.getD i Store.empty) k
         = lookupMap ((ops.foldl stepMap initMap).all.getD i []) k := by
  have h := hist_rel ops
  refine ⟨h.len, fun i k => ?_⟩
  have hm : ∀ m : CMap, lookupMap m k = ((m.get k).map (·.1)).getD [] := fun m => by
    unfold lookupMap; cases m.get k <;> rfl
  rw [hm, ← (h.all i).2 k]
  exact extractConfigIndexed_toMap _ k

/-- … and the extractor for a plain key (`extract`, C05's model of `newExtractor`) returns that
value on every result of the history. -/
theorem config_key_after_api_history (name key : Bytes) (ops : List HOp) (i : Nat)
    (hne : key ≠ []) (hs : key.head? ≠ some Fmt.Name.slash)
    (h1 : key ≠ dotConfig) (h2 : key ≠ dotUnit) (h3 : key ≠ dotName) (h4 : key ≠ dotFullname) :
    extract key (viewOf name ((ops.foldl stepStore initStore).all.getD i Store.empty))
      = .ok (lookupMap ((ops.foldl stepMap initMap).all.getD i []) key) := by
  rw [extract_plain key _ hne hs h1 h2 h3 h4, ← extractConfigIndexed_eq name _ ((hist_rel ops).all i).1 key]
  exact congrArg _ ((config_after_api_history ops).2 i key)

/-- non-vacuity: set k on the original, clone, overwrite k in the clone, go back and delete k in
the original: the original has no k, the clone has the new value -/
example : ([HOp.set [107] [49], .clone, .set [107] [50], .back, .set [107] []].foldl stepStore initStore).all.map
    (lookupStore · [107]) = [[], [50]] := by rfl

/-- non-vacuity: set k, set a, overwrite k, delete a — k extracts the last value, a nothing -/
example : extract [107] (viewOf [70] ([StoreOp.setFile [107] [49], .setInternal [97] [50],
    .setFile [107] [51], .delete [97]].foldl Store.apply Store.empty)) = .ok [51] := by rfl
example : extract [97] (viewOf [70] ([StoreOp.setFile [107] [49], .setInternal [97] [50],
    .setFile [107] [51], .delete [97]].foldl Store.apply Store.empty)) = .ok [] := by rfl

end C05
