/-
C13 — summaries and comparisons honour their statistical contracts (benchmath).
The property theorems, the `Rat` instance of the value arithmetic with two evaluated summaries, and
the median-overflow witness; helper lemmas are in Proofs/Lemmas/C13*.lean.
-/
import Model.Math.Sample
import Model.Math.Exact
import Model.Math.Nothing
import Model.Math.Normal
import Model.Math.Render
import Model.Spec.MathSpec
import Proofs.Lemmas.C13Exact
import Proofs.Lemmas.C13Nothing
import Proofs.Lemmas.C13Perm
import Proofs.Lemmas.C13FinF
import Proofs.Lemmas.C13Mid
import Proofs.Lemmas.Shared.List

namespace C13
open Math

/-- **new_sample_sorted** — `NewSample` keeps exactly the given measurements (as a multiset), in
ascending order, and stores the thresholds. -/
theorem new_sample_sorted {α : Type} [LinearOrder α] [Val α] [LawfulVal α] (vals : List α) (t : Thresholds) :
    (newSample vals t).values.Pairwise (· ≤ ·) ∧ (newSample vals t).values.Perm vals ∧
    (newSample vals t).thresholds = t :=
  ⟨sortVals_pairwise vals, sortVals_perm vals, rfl⟩

/-- **exact_summary_spec** — on a sorted non-empty sample the exact model's centre is a most
frequent value, the smallest such; Lo and Hi are the minimum and the maximum; the confidence is
1; a warning is raised exactly when two values differ. -/
theorem exact_summary_spec {α : Type} [LinearOrder α] [Val α] [LawfulVal α] (s : Sample α)
    (hne : s.values ≠ []) (hs : s.values.Pairwise (· ≤ ·)) :
    ∃ r, Exact.summary s = some r ∧
      r.center ∈ s.values ∧
      (∀ x, s.values.count x ≤ s.values.count r.center) ∧
      (∀ x, s.values.count x = s.values.count r.center → r.center ≤ x) ∧
      (∃ lo ∈ s.values, r.lo = .fin lo ∧ ∀ x ∈ s.values, lo ≤ x) ∧
      (∃ hi ∈ s.values, r.hi = .fin hi ∧ ∀ x ∈ s.values, x ≤ hi) ∧
      r.confidence = F64.one ∧
      (r.warnings ≠ [] ↔ ∃ x ∈ s.values, ∃ y ∈ s.values, x ≠ y) := by
  obtain ⟨vals, t⟩ := s
  cases vals with
  | nil => exact absurd rfl hne
  | cons v0 rest =>
    simp only at hs
    have c1 : [v0].count v0 = 1 := List.count_singleton_self
    have spec := modeScan_spec rest [v0] v0 1 v0 1 hs (fun x hx => (List.mem_singleton.mp hx).le)
      (List.mem_singleton_self v0) c1.symm ⟨c1.symm, Nat.le_refl 1, fun x => List.count_le_length,
        fun x hx => (List.mem_singleton.mp (List.count_pos_iff.mp (by omega))).ge⟩
    simp only [List.singleton_append] at spec
    obtain ⟨h1, h2, h3, h4⟩ := spec
    have hcm : (Exact.modeScan v0 1 v0 1 rest).1 ∈ v0 :: rest := List.count_pos_iff.mp (h1 ▸ h2)
    refine ⟨_, rfl, hcm, fun x => h1 ▸ h3 x, fun x hx => h4 x (h1 ▸ hx), ?_, ?_, rfl, ?_⟩
    · exact ⟨v0, List.mem_cons_self, rfl, fun x hx => (List.mem_cons.mp hx).elim
        (fun h => h.ge) ((List.pairwise_cons.mp hs).1 x)⟩
    · exact ⟨rest.getLastD v0, List.getLastD_mem_cons, rfl, le_getLastD rest v0 hs⟩
    · -- no warning ↔ the mode accounts for all values ↔ all values are equal to it
      have hlen : (Exact.modeScan v0 1 v0 1 rest).2 = (v0 :: rest).length ↔
          ∀ x ∈ v0 :: rest, (Exact.modeScan v0 1 v0 1 rest).1 = x := by
        rw [h1]; exact List.count_eq_length
      simp only [ne_eq, ite_eq_right_iff, bne_iff_ne, reduceCtorEq, imp_false, not_not, hlen]
      constructor
      · intro h
        by_contra hall
        exact h fun x hx => by_contra fun hne => hall ⟨_, hcm, x, hx, hne⟩
      · rintro ⟨x, hx, y, hy, hxy⟩ hall
        exact hxy ((hall x hx).symm.trans (hall y hy))

/-- **nothing_summary_spec** — for a sorted sample of 1..70 values in exact arithmetic and ANY
result (LoOrder, HiOrder, confidence) of the external `QuantileCI` whose band contains the
middle (LoOrder ≤ ⌈n/2⌉ and ⌊n/2⌋ + 1 ≤ HiOrder — for even n the upper end must reach the
upper middle value, which is what `QuantileCI` returns; ⌈n/2⌉ ≤ HiOrder alone is not enough):
the summary exists (no index panic), its centre is the sample median, Lo / Hi are values of the
sample or −∞ / +∞, Lo ≤ centre ≤ Hi, the reported confidence is the external one, and a warning
is present exactly when an end is infinite. -/
theorem nothing_summary_spec {K : Type} [Field K] [LinearOrder K] [IsStrictOrderedRing K] [Val K] [LawfulInterp K]
    (s : Sample K) (conf : F64.Bits) (ci : Nothing.QCI) (tab : List (Nat × Nat))
    (hs : s.values.Pairwise (· ≤ ·)) (h1 : 1 ≤ s.values.length) (h70 : s.values.length ≤ 70)
    (hlo : ci.loOrder ≤ (s.values.length + 1) / 2) (hhi : s.values.length / 2 + 1 ≤ ci.hiOrder) :
    ∃ r, Nothing.summary s conf ci tab = some r ∧
      r.center = medianSpec s.values ∧
      (r.lo = .negInf ∨ ∃ a ∈ s.values, r.lo = .fin a) ∧
      (r.hi = .posInf ∨ ∃ a ∈ s.values, r.hi = .fin a) ∧
      Ext.le r.lo (.fin r.center) ∧ Ext.le (.fin r.center) r.hi ∧
      r.confidence = ci.confidence ∧
      (r.warnings ≠ [] ↔ (r.lo = .negInf ∨ r.hi = .posInf)) := by
  obtain ⟨i, j, a, b, ha, hb, hi, hj, ham, hmb⟩ := median_bounds s.values hs h1
  obtain ⟨r, hr, hcen, hl, hh, hconf, hw⟩ := summary_between (r := (· ≤ ·)) le_refl (fun _ _ _ => le_trans)
    s conf ci tab hs _ a b (quantileHalf_eq s.values h1 h70) ha hb ham hmb (hlo.trans hi)
    ((Nat.succ_le_succ hj).trans hhi)
  refine ⟨r, hr, hcen, hl.imp_right fun ⟨a, ha, hra, _⟩ => ⟨a, ha, hra⟩,
    hh.imp_right fun ⟨a, ha, hra, _⟩ => ⟨a, ha, hra⟩, ?_, ?_, hconf, hw⟩
  · rcases hl with h | ⟨a, _, h, hle⟩ <;> rw [h, hcen]
    · trivial
    · exact hle
  · rcases hh with h | ⟨a, _, h, hle⟩ <;> rw [h, hcen]
    · trivial
    · exact hle

/-- **median_samples_above_spec** — the size named by the "need >= N samples" warning
(`medianSamplesAbove`, F25): it exceeds the size at hand, lies in 2..50, has a finite interval
according to the external QuantileCI data (0 < LoOrder, HiOrder ≤ N), and no smaller size above the
one at hand (and ≥ 2) has; "> 50" is answered only when no such size exists in the table. -/
theorem median_samples_above_spec (tab : List (Nat × Nat)) (have_ : Nat) :
    (∀ n, Nothing.medianSamplesAbove tab have_ = (.ge, n) →
      have_ < n ∧ 2 ≤ n ∧ n ≤ 50 ∧
      (∃ lo hi, (tab.take 49)[n - 2]? = some (lo, hi) ∧ 0 < lo ∧ hi ≤ n) ∧
      (∀ m lo hi, have_ < m → 2 ≤ m → m < n → (tab.take 49)[m - 2]? = some (lo, hi) → ¬ (0 < lo ∧ hi ≤ m))) ∧
    (∀ n, Nothing.medianSamplesAbove tab have_ = (.gt, n) → n = 50 ∧
      ∀ m lo hi, have_ < m → 2 ≤ m → (tab.take 49)[m - 2]? = some (lo, hi) → ¬ (0 < lo ∧ hi ≤ m)) := by
  unfold Nothing.medianSamplesAbove
  -- row m of the table is the entry ((lo, hi), m) of the indexed list the search runs over
  have hrow : ∀ m lo hi, 2 ≤ m → (tab.take 49)[m - 2]? = some (lo, hi) →
      ((lo, hi), m) ∈ (tab.take 49).zipIdx 2 := fun m lo hi hm hget =>
    List.mk_mem_zipIdx_iff_le_and_getElem?_sub.mpr ⟨hm, hget⟩
  constructor
  · intro n h
    split at h
    · rename_i e he
      obtain rfl : e.2 = n := (Prod.mk.inj h).2
      obtain ⟨hp, i, hi, hget, hbefore⟩ := List.find?_eq_some_iff_getElem.mp he
      simp only [Bool.and_eq_true, decide_eq_true_eq] at hp
      obtain ⟨h2, hrow_e⟩ := List.mk_mem_zipIdx_iff_le_and_getElem?_sub.mp (hget ▸ List.getElem_mem hi)
      have hlen : e.2 - 2 < 49 := lt_of_lt_of_le (List.getElem?_eq_some_iff.mp hrow_e).1 (by simp)
      have hi2 : e.2 = 2 + i := by rw [← hget, List.getElem_zipIdx]
      refine ⟨hp.1.1, h2, by omega, ⟨e.1.1, e.1.2, hrow_e, hp.1.2, hp.2⟩, ?_⟩
      intro m lo hi' hm1 hm2 hm3 hget2 hfin
      obtain ⟨j, hj, hjm⟩ := List.getElem_of_mem (hrow m lo hi' hm2 hget2)
      have hjm2 : 2 + j = m := by simpa using congrArg Prod.snd hjm
      have := hbefore j (by omega)
      rw [hjm] at this
      simp [hm1, hfin.1, hfin.2] at this
    · cases h
  · intro n h
    split at h
    · cases h
    · rename_i hnone
      refine ⟨(Prod.mk.inj h).2.symm, fun m lo hi' hm1 hm2 hget2 hfin => ?_⟩
      have := List.find?_eq_none.mp hnone _ (hrow m lo hi' hm2 hget2)
      simp [hm1, hfin.1, hfin.2] at this

/-- **alpha_carried** — both models that perform a test return the threshold the FIRST sample was
created with, whatever the external test reports (error or p-value). -/
theorem alpha_carried {α : Type} [Val α] (s1 s2 : Sample α) :
    (∀ u, (Nothing.compare s1 s2 u).alpha = s1.thresholds.compareAlpha) ∧
    (∀ w, (Normal.compare s1 s2 w).alpha = s1.thresholds.compareAlpha) := by
  constructor
  · intro u
    unfold Nothing.compare
    split
    · rfl
    · cases u.differs <;> rfl
  · intro w
    unfold Normal.compare
    cases w <;> rfl

/-- **delta_shown_iff** — `FormatDelta` prints "~" exactly when `P > Alpha` in float64 (so a
difference is shown exactly when p does not exceed the threshold; a NaN p or threshold shows it). -/
theorem delta_shown_iff (c : Comparison) (old new : F64.Bits) :
    Render.formatDelta c old new ≠ "~" ↔ F64.lt c.alpha c.p = false := by
  unfold Render.formatDelta
  by_cases h : F64.lt c.alpha c.p = true
  · simp [h]
  · have h' : F64.lt c.alpha c.p = false := by simpa using h
    simp only [h', Bool.false_eq_true, if_false, iff_true]
    split
    · decide
    · split
      · decide
      · exact Shared.append_pct_ne_tilde _

/-- **format_delta_cases** — the documented table of `FormatDelta`, in order of precedence. -/
theorem format_delta_cases (c : Comparison) (old new : F64.Bits) :
    (F64.lt c.alpha c.p = true → Render.formatDelta c old new = "~") ∧
    (F64.lt c.alpha c.p = false → F64.eq old new = true → Render.formatDelta c old new = "0.00%") ∧
    (F64.lt c.alpha c.p = false → F64.eq old new = false → F64.eq old F64.posZero = true →
        Render.formatDelta c old new = "?") ∧
    (F64.lt c.alpha c.p = false → F64.eq old new = false → F64.eq old F64.posZero = false →
        Render.formatDelta c old new = Render.sprintfF true (Render.deltaValue old new) 2 ++ "%") := by
  unfold Render.formatDelta
  refine ⟨?_, ?_, ?_, ?_⟩ <;> intros <;> simp [*]

/-- **delta_value** — in the regular case the number printed is `((new/old) − 1)·100` evaluated
in float64 (division, subtraction, multiplication each correctly rounded), formatted by
strconv 'f' with two decimals and an explicit sign. -/
theorem delta_value (c : Comparison) (old new : F64.Bits)
    (hp : F64.lt c.alpha c.p = false) (hne : F64.eq old new = false) (h0 : F64.eq old F64.posZero = false)
    (hfin : F64.isInf (Render.deltaValue old new) = false) :
    Render.deltaValue old new = F64.mul (F64.sub (F64.div new old) F64.one) hundred ∧
    Render.formatDelta c old new =
      (if F64.signBit (Render.deltaValue old new) then "" else "+") ++
        F64.fmtFixed (Render.deltaValue old new) 2 ++ "%" := by
  refine ⟨rfl, ?_⟩
  rw [(format_delta_cases c old new).2.2.2 hp hne h0]
  unfold Render.sprintfF
  by_cases hs : F64.signBit (Render.deltaValue old new) = true <;> simp [hs, hfin]

/-- **pct_range_cases** — the documented table of `PctRangeString`, in order of precedence:
"∞" when an end is infinite; "?" when the signs of the ends differ from the centre's; "0%" when
the centre is 0; else 100·max(hi/c − 1, 1 − lo/c) with no decimals. -/
theorem pct_range_cases (s : FSummary) :
    ((F64.isInf s.lo || F64.isInf s.hi) = true → Render.pctRangeString s = "∞") ∧
    ((F64.isInf s.lo || F64.isInf s.hi) = false →
        (!F64.eq (Render.sign s.center) (Render.sign s.lo) || !F64.eq (Render.sign s.center) (Render.sign s.hi)) = true →
        Render.pctRangeString s = "?") ∧
    ((F64.isInf s.lo || F64.isInf s.hi) = false →
        (!F64.eq (Render.sign s.center) (Render.sign s.lo) || !F64.eq (Render.sign s.center) (Render.sign s.hi)) = false →
        F64.eq s.center F64.posZero = true → Render.pctRangeString s = "0%") ∧
    ((F64.isInf s.lo || F64.isInf s.hi) = false →
        (!F64.eq (Render.sign s.center) (Render.sign s.lo) || !F64.eq (Render.sign s.center) (Render.sign s.hi)) = false →
        F64.eq s.center F64.posZero = false →
        Render.pctRangeString s =
          Render.sprintfF false (F64.mul hundred (fmax (F64.sub (F64.div s.hi s.center) F64.one)
            (F64.sub F64.one (F64.div s.lo s.center)))) 0 ++ "%") := by
  unfold Render.pctRangeString Render.pctValue
  refine ⟨?_, ?_, ?_, ?_⟩ <;> intros <;> simp_all

/-- **comparison_string_cases** — "p=0.PPP " is omitted exactly when P == 0; sizes print as "n=N"
when equal and "n=N1+N2" otherwise. -/
theorem comparison_string_cases (c : Comparison) :
    Render.comparisonString c =
      (if F64.eq c.p F64.posZero then "" else "p=" ++ Render.sprintfF false c.p 3 ++ " ") ++
      (if c.n1 = c.n2 then "n=" ++ toString c.n1 else "n=" ++ toString c.n1 ++ "+" ++ toString c.n2) := by
  unfold Render.comparisonString
  have e : (" " ++ "n=" : String) = " n=" := by decide
  have sp : ∀ x : String, " n=" ++ x = " " ++ ("n=" ++ x) := fun x => by
    rw [← String.append_assoc, e]
  by_cases h : F64.eq c.p F64.posZero = true <;> by_cases h2 : c.n1 = c.n2 <;>
    simp [h, h2, String.append_assoc] <;> exact sp _

/-- **utest_minp_table** — the model's copy of `uTestMinP[1..9]` (bit-compared with the table of
the Go code on every run) is 2/C(2n,n) correctly rounded to float64. -/
theorem utest_minp_table :
    Nothing.uTestMinP = (List.range 9).map fun k => Spec.MathSpec.minPF (k + 1) := by
  decide +kernel

open Spec.MathSpec in
/-- **two_sided_combination_symmetric** — min(1, 2·min(a, b)), the way
`AssumeNothing.Compare` forms the two-sided p-value from the two one-sided ones, is symmetric in
(a, b) and lies in [0,1] whenever a, b ≥ 0. -/
theorem two_sided_combination_symmetric (a b : Rat) :
    combine2 a b = combine2 b a ∧ (0 ≤ a → 0 ≤ b → 0 ≤ combine2 a b ∧ combine2 a b ≤ 1) :=
  ⟨combine2_comm a b, combine2_range a b⟩

open Spec.MathSpec in
/-- **p_range** — the exact permutation p-value lies in [0,1]. -/
theorem p_range {α : Type} [LinearOrder α] (x1 x2 : List α) : 0 ≤ pPerm x1 x2 ∧ pPerm x1 x2 ≤ 1 :=
  combine2_range _ _ (div_nonneg (Nat.cast_nonneg _) (Nat.cast_nonneg _))
    (div_nonneg (Nat.cast_nonneg _) (Nat.cast_nonneg _))

open Spec.MathSpec in
/-- **p_symmetric** — exchanging the two samples does not change the exact permutation p-value
(ties included): the lower tail of one problem is the upper tail of the other. -/
theorem p_symmetric {α : Type} [LinearOrder α] (x1 x2 : List α) : pPerm x1 x2 = pPerm x2 x1 :=
  pPerm_swap x1 x2

open Spec.MathSpec in
/-- **p_perm_invariant** — reordering each sample does not change the exact permutation p-value. -/
theorem p_perm_invariant {α : Type} [LinearOrder α] {x1 y1 x2 y2 : List α}
    (h1 : x1.Perm y1) (h2 : x2.Perm y2) : pPerm x1 x2 = pPerm y1 y2 :=
  pPerm_perm h1 h2

open Spec.MathSpec in
/-- **p_mono_invariant** — the exact permutation p-value only depends on the order type of the
pooled sample: any strictly increasing map of the values leaves it unchanged (this also
justifies the oracle's use of dense ranks). -/
theorem p_mono_invariant {α β : Type} [LinearOrder α] [LinearOrder β] (f : α → β) (hf : StrictMono f)
    (x1 x2 : List α) : pPerm (x1.map f) (x2.map f) = pPerm x1 x2 :=
  pPerm_map f hf x1 x2

open Spec.MathSpec in
/-- **p_scale_invariant** — a common positive rescaling of both samples does not change the exact
permutation p-value (any ordered field). -/
theorem p_scale_invariant {K : Type} [Field K] [LinearOrder K] [IsStrictOrderedRing K] (c : K) (hc : 0 < c)
    (x1 x2 : List K) : pPerm (x1.map (c * ·)) (x2.map (c * ·)) = pPerm x1 x2 :=
  pPerm_map _ (fun _ _ h => mul_lt_mul_of_pos_left h hc) x1 x2

open F64 in
/-- **float_order** — restricted to finite values, `F64.lt` is the strict order and `F64.eq` the
equality of the exact rational values `sval` (= ±mant·2^expo; both zeros have value 0): a strict
total order, proved from the bit patterns for all signs. `LawfulVal FinF` packages this. -/
theorem float_order (a b : Bits) (ha : isFinite a = true) (hb : isFinite b = true) :
    (F64.lt a b = true ↔ sval a < sval b) ∧ (F64.eq a b = true ↔ sval a = sval b) ∧
    (F64.lt a b = true ∨ F64.eq a b = true ∨ F64.lt b a = true) :=
  ⟨lt_iff_sval a b ha hb, eq_iff_sval a b ha hb, by
    rw [lt_iff_sval a b ha hb, eq_iff_sval a b ha hb, lt_iff_sval b a hb ha]
    exact lt_trichotomy _ _⟩

open F64 in
/-- **new_sample_order_independent** — for NaN-free float64 measurements the sample
`NewSample` builds depends only on the measurements as a multiset, not on their arrival order:
bit for bit, the two zeros included (−0 is placed before +0; only bit-identical values tie). Hence
every summary and comparison computed from it is invariant under reordering, sign of zero included. -/
theorem new_sample_order_independent (v1 v2 : List Bits) (t : Thresholds)
    (hn : ∀ v ∈ v1, isNaN v = false) (h : v1.Perm v2) : newSample v1 t = newSample v2 t := by
  show (⟨sortVals v1, t⟩ : Sample Bits) = ⟨sortVals v2, t⟩
  rw [sortVals_perm_eq hn h]

/-- the zeros: both arrival orders of {+0, −0} give the sample [−0, +0] -/
example : (newSample (α := F64.Bits) [F64.posZero, F64.negZero] ⟨0⟩).values =
          (newSample (α := F64.Bits) [F64.negZero, F64.posZero] ⟨0⟩).values :=
  congrArg Sample.values (new_sample_order_independent [F64.posZero, F64.negZero] [F64.negZero, F64.posZero] ⟨0⟩
    (by decide) (List.Perm.swap _ _ _))

open F64 in
/-- **new_sample_f64** — `NewSample` on finite float64 measurements: the same measurements, in
ascending order of their exact values. -/
theorem new_sample_f64 (vals : List Bits) (t : Thresholds) (hc : ∀ v ∈ vals, Canon v) :
    (newSample vals t).values.Perm vals ∧
    (newSample vals t).values.Pairwise (fun a b => sval a ≤ sval b) := by
  obtain ⟨l, rfl⟩ := lift_vals vals hc
  show (sortVals (α := Bits) (l.map FinF.val)).Perm _ ∧ (sortVals (α := Bits) (l.map FinF.val)).Pairwise _
  rw [sortVals_map FinF.val (fun _ _ => rfl)]
  exact ⟨(sortVals_perm l).map _, List.pairwise_map.mpr (sortVals_pairwise l)⟩

open F64 in
/-- **exact_summary_f64** — `exact_summary_spec` for float64 samples (the model instance the driver
runs): on a non-empty sample of finite values sorted by value, the centre is a value of maximal
multiplicity and no value of the same multiplicity is smaller; Lo / Hi are the smallest / largest
value; confidence 1; a warning is raised exactly when two values differ. (−0 is identified with +0:
`Canon` asks for the canonical zero, as the observables do.) -/
theorem exact_summary_f64 (vals : List Bits) (t : Thresholds) (hc : ∀ v ∈ vals, Canon v) (hne : vals ≠ [])
    (hs : vals.Pairwise (fun a b => sval a ≤ sval b)) :
    ∃ r, Exact.summary (⟨vals, t⟩ : Sample Bits) = some r ∧
      r.center ∈ vals ∧
      (∀ x, vals.count x ≤ vals.count r.center) ∧
      (∀ x ∈ vals, vals.count x = vals.count r.center → sval r.center ≤ sval x) ∧
      (∃ lo ∈ vals, r.lo = .fin lo ∧ ∀ x ∈ vals, sval lo ≤ sval x) ∧
      (∃ hi ∈ vals, r.hi = .fin hi ∧ ∀ x ∈ vals, sval x ≤ sval hi) ∧
      r.confidence = F64.one ∧
      (r.warnings ≠ [] ↔ ∃ x ∈ vals, ∃ y ∈ vals, x ≠ y) := by
  obtain ⟨l, rfl⟩ := lift_vals vals hc
  obtain ⟨r, hr, hmem, hmax, hmin, ⟨lo, hlo, hlo1, hlo2⟩, ⟨hi, hhi, hhi1, hhi2⟩, hconf, hw⟩ :=
    exact_summary_spec (⟨l, t⟩ : Sample FinF) (fun h => hne (by rw [show l = [] from h]; rfl))
      (have := List.pairwise_map.mp hs; this)
  obtain ⟨r', hr', hc', hl', hh', hcf', hw'⟩ := summary_val l t r hr
  have cnt : ∀ x : FinF, (l.map FinF.val).count x.val = l.count x :=
    List.count_map_of_injective l FinF.val FinF.val_injective
  refine ⟨r', hr', hc' ▸ List.mem_map_of_mem hmem, fun x => ?_, List.forall_mem_map.2 fun y _ hcount => ?_,
    ⟨lo.val, List.mem_map_of_mem hlo, hl' lo hlo1, List.forall_mem_map.2 hlo2⟩,
    ⟨hi.val, List.mem_map_of_mem hhi, hh' hi hhi1, List.forall_mem_map.2 hhi2⟩, hcf'.trans hconf, ?_⟩
  · rw [hc', cnt]
    by_cases hx : x ∈ l.map FinF.val
    · obtain ⟨y, _, rfl⟩ := List.mem_map.mp hx
      rw [cnt]; exact hmax y
    · rw [List.count_eq_zero.mpr hx]; exact Nat.zero_le _
  · rw [hc', cnt, cnt] at hcount
    rw [hc']
    exact hmin y hcount
  · rw [show r'.warnings ≠ [] ↔ r.warnings ≠ [] from not_congr hw', hw]
    simp only [List.mem_map, exists_exists_and_eq_and, FinF.val_injective.ne_iff]

open F64 in
/-- **nothing_summary_f64_odd** — `AssumeNothing.Summary` on float64 samples of odd size n ≤ 69
(finite values, sorted), for any external QuantileCI result whose band contains the middle: unless
the difference of the middle value and its upper neighbour overflows (class X1), the centre is the
middle VALUE OF THE SAMPLE bit-exactly (`a + 0·(b − a) = a` in float64), Lo / Hi are sample values
or ∓∞ with Lo ≤ centre ≤ Hi in exact value, the confidence is the external one, and a warning is
raised exactly when an end is infinite. -/
theorem nothing_summary_f64_odd (vals : List Bits) (t : Thresholds) (conf : Bits) (ci : Nothing.QCI)
    (tab : List (Nat × Nat)) (hc : ∀ v ∈ vals, Canon v)
    (hs : vals.Pairwise (fun a b => sval a ≤ sval b))
    (h1 : 1 ≤ vals.length) (h70 : vals.length ≤ 70) (hodd : vals.length % 2 = 1)
    (hfin : ∀ a b, vals[vals.length / 2]? = some a → vals[vals.length / 2 + 1]? = some b →
      isFinite (F64.sub b a) = true)
    (hlo : ci.loOrder ≤ (vals.length + 1) / 2) (hhi : vals.length / 2 + 1 ≤ ci.hiOrder) :
    ∃ r c, Nothing.summary (⟨vals, t⟩ : Sample Bits) conf ci tab = some r ∧
      vals[vals.length / 2]? = some c ∧ r.center = c ∧
      (r.lo = .negInf ∨ ∃ a ∈ vals, r.lo = .fin a ∧ sval a ≤ sval c) ∧
      (r.hi = .posInf ∨ ∃ a ∈ vals, r.hi = .fin a ∧ sval c ≤ sval a) ∧
      r.confidence = ci.confidence ∧
      (r.warnings ≠ [] ↔ (r.lo = .negInf ∨ r.hi = .posInf)) := by
  have hmid : vals.length / 2 < vals.length := by omega
  have hcq := List.getElem?_eq_getElem hmid
  have hq : Nothing.quantileHalf vals = some vals[vals.length / 2] := by
    rcases Nat.lt_or_ge vals.length 2 with hn | h2
    · obtain ⟨x, rfl⟩ := List.length_eq_one_iff.mp (by omega : vals.length = 1)
      simp [quantileHalf_single]
    · -- the position selects the middle value and its upper neighbour, with fraction 0
      have hup : vals.length / 2 + 1 < vals.length := by omega
      have ca := hc _ (List.getElem_mem hmid)
      rw [quantileHalf_interp vals h2 h70 (by omega : _ = vals.length / 2 + 1) _ _ hcq
        (List.getElem?_eq_getElem hup), if_pos hodd, interp_zero _ _ ca.1 ca.2 (hfin _ _ hcq (List.getElem?_eq_getElem hup))]
  obtain ⟨r, hr, hcen, hl, hh, hconf, hw⟩ := summary_between (r := fun a b => sval a ≤ sval b) (fun _ => le_refl _)
    (fun _ _ _ => le_trans) ⟨vals, t⟩ conf ci tab hs _ _ _ hq hcq hcq (le_refl _) (le_refl _) (by omega) hhi
  exact ⟨r, _, hr, hcq, hcen, hl, hh, hconf, hw⟩

open F64 in
/-- **nothing_summary_f64_even** — `AssumeNothing.Summary` on float64 samples of even size n ≤ 70
(finite values, sorted), any external QuantileCI result whose band contains the middle, and b − a
finite for the two middle values a ≤ b (not in class X1): the centre
`a + 0.5*(b − a)`, evaluated in float64 with three roundings, is finite, lies in [a, b] by exact
value — hence Lo ≤ centre ≤ Hi — and is within max(|a|,|b|)·2⁻⁵¹ + 2⁻¹⁰⁷³ of the exact midpoint
(a + b)/2 (`midpoint_f64`); Lo is −∞ or a sample value, Hi is +∞ or a sample value; confidence and
warning as for odd n. -/
theorem nothing_summary_f64_even (vals : List Bits) (t : Thresholds) (conf : Bits) (ci : Nothing.QCI)
    (tab : List (Nat × Nat)) (hc : ∀ v ∈ vals, Canon v)
    (hs : vals.Pairwise (fun a b => sval a ≤ sval b))
    (h2 : 2 ≤ vals.length) (h70 : vals.length ≤ 70) (heven : vals.length % 2 = 0)
    (hfin : ∀ a b, vals[vals.length / 2 - 1]? = some a → vals[vals.length / 2]? = some b →
      isFinite (F64.sub b a) = true)
    (hlo : ci.loOrder ≤ (vals.length + 1) / 2) (hhi : vals.length / 2 + 1 ≤ ci.hiOrder) :
    ∃ r a b, Nothing.summary (⟨vals, t⟩ : Sample Bits) conf ci tab = some r ∧
      vals[vals.length / 2 - 1]? = some a ∧ vals[vals.length / 2]? = some b ∧
      r.center = F64.add a (F64.mul half (F64.sub b a)) ∧ isFinite r.center = true ∧
      sval a ≤ sval r.center ∧ sval r.center ≤ sval b ∧
      |sval r.center - (sval a + sval b) / 2| ≤ max |sval a| |sval b| / 2 ^ 51 + 4 * tinyQ ∧
      (r.lo = .negInf ∨ ∃ x ∈ vals, r.lo = .fin x ∧ sval x ≤ sval r.center) ∧
      (r.hi = .posInf ∨ ∃ x ∈ vals, r.hi = .fin x ∧ sval r.center ≤ sval x) ∧
      r.confidence = ci.confidence ∧
      (r.warnings ≠ [] ↔ (r.lo = .negInf ∨ r.hi = .posInf)) := by
  have h1 : vals.length / 2 - 1 < vals.length := by omega
  have h2' : vals.length / 2 < vals.length := by omega
  have ha := List.getElem?_eq_getElem h1
  have hb := List.getElem?_eq_getElem h2'
  have hq : Nothing.quantileHalf vals = some (F64.add vals[vals.length / 2 - 1]
      (F64.mul half (F64.sub vals[vals.length / 2] vals[vals.length / 2 - 1]))) := by
    rw [quantileHalf_interp vals h2 h70 (by omega : _ = vals.length / 2) _ _ ha hb, if_neg (by omega)]
    rfl
  obtain ⟨m1, m2, m3, m4⟩ := midpoint_f64 vals[vals.length / 2 - 1] vals[vals.length / 2]
    (hc _ (List.getElem_mem h1)).1 (hc _ (List.getElem_mem h2')).1
    (pairwise_getElem?_le (r := fun a b => sval a ≤ sval b) (fun _ => le_refl _) hs (by omega) ha hb)
    (hfin _ _ ha hb)
  obtain ⟨r, hr, hcen, hl, hh, hconf, hw⟩ := summary_between (r := fun a b => sval a ≤ sval b) (fun _ => le_refl _)
    (fun _ _ _ => le_trans) ⟨vals, t⟩ conf ci tab hs _ _ _ hq
    ha hb m2 m3 (by omega) hhi
  rw [← hcen] at m1 m2 m3 m4 hl hh
  exact ⟨r, _, _, hr, ha, hb, hcen, m1, m2, m3, m4, hl, hh, hconf, hw⟩

/-- **compare_p_swap** — `math.Min(1, 2*math.Min(l1.P, l2.P))` as the model evaluates it is symmetric
in the two one-sided results, for all bit patterns (`combine_symmetric`, `fmin_comm`); consequently
exchanging the samples (which exchanges the two one-sided calls) leaves the p-value of
`AssumeNothing.Compare` unchanged whenever both one-sided tests return a result (`ha`, `hb`); the
two-sided results `pd`, `pd'` of the two calls may differ. -/
theorem compare_p_swap {α : Type} [Val α] (s1 s2 : Sample α) (a b : TestResult) (pd pd' : F64.Bits)
    (ha : ∃ p, a = .ok p) (hb : ∃ p, b = .ok p) :
    (Nothing.compare s1 s2 ⟨.ok pd, a, b⟩).p = (Nothing.compare s2 s1 ⟨.ok pd', b, a⟩).p := by
  obtain ⟨pa, rfl⟩ := ha
  obtain ⟨pb, rfl⟩ := hb
  unfold Nothing.compare
  rw [Bool.or_comm (Nothing.hasNaN s2.values)]
  split
  · rfl
  · simp only [Nothing.combine, fmin_comm pa pb]

/-- exact rational arithmetic is an instance of `LawfulInterp` (hence of `LawfulVal`): the
hypotheses of `exact_summary_spec` and `nothing_summary_spec` are satisfiable. -/
instance ratVal : Val Rat where
  lt a b := decide (a < b)
  eq a b := decide (a = b)
  interp a b f := a + fracOf Rat f * (b - a)

instance : LawfulInterp Rat where
  lt_iff a b := by simp [Val.lt]
  eq_iff a b := by simp [Val.eq]
  before_irrefl _ := rfl
  interp_eq _ _ _ := rfl

/-- a sorted sample with ties: the exact model's centre is the smaller of the two modes, the
range warning is raised -/
example : ∃ r, Exact.summary (⟨[1, 2, 2, 3, 3], ⟨0⟩⟩ : Sample Rat) = some r ∧ r.center = 2 ∧ r.warnings ≠ [] := by
  obtain ⟨r, hr, hmem, hmax, hmin, _, _, _, hw⟩ :=
    exact_summary_spec (⟨[1, 2, 2, 3, 3], ⟨0⟩⟩ : Sample Rat) (by decide) (by decide)
  refine ⟨r, hr, ?_, hw.mpr ⟨1, by decide, 2, by decide, by decide⟩⟩
  -- r.center is a most frequent value and the smallest such: 2
  have h2 := hmax 2
  simp only [List.mem_cons, List.not_mem_nil, or_false] at hmem
  rcases hmem with h | h | h | h | h <;> rw [h] at h2 hmin ⊢
  · exact absurd h2 (by decide)
  · exact absurd (hmin 2 (by decide)) (by decide)
  · exact absurd (hmin 2 (by decide)) (by decide)

/-- the hypotheses of `nothing_summary_spec` on a concrete sample and QuantileCI result
(n = 4, orders 1 and 4): the median is the midpoint 3, bracketed by the ends -/
example : ∃ r, Nothing.summary (⟨[1, 2, 4, 8], ⟨0⟩⟩ : Sample Rat) 0 ⟨1, 4, 0⟩ [] = some r ∧ r.center = 3 := by
  obtain ⟨r, hr, hc, _⟩ := nothing_summary_spec (⟨[1, 2, 4, 8], ⟨0⟩⟩ : Sample Rat) 0 ⟨1, 4, 0⟩ []
    (by decide) (by decide) (by decide) (by decide) (by decide)
  refine ⟨r, hr, ?_⟩
  rw [hc]; simp [medianSpec]; norm_num

/-- **median_overflow_witness** (finding X1, notes/C13.md) — in float64 the interpolation
`a + frac·(b − a)` of moremath's `Quantile` overflows when b − a exceeds MaxFloat64: the median
of the finite sample {−MaxFloat64, +MaxFloat64} is +Inf, and that of
{−MaxFloat64, −MaxFloat64, +MaxFloat64} is NaN (0·Inf). float64 is therefore not an instance of
`LawfulInterp`; `nothing_summary_spec` speaks about exact arithmetic, the correspondence and the
search layer about float64 within the magnitudes of the generators. -/
theorem median_overflow_witness :
    Nothing.quantileHalf (α := F64.Bits) [0xFFEFFFFFFFFFFFFF, 0x7FEFFFFFFFFFFFFF] = some F64.posInf ∧
    (Nothing.quantileHalf (α := F64.Bits) [0xFFEFFFFFFFFFFFFF, 0xFFEFFFFFFFFFFFFF, 0x7FEFFFFFFFFFFFFF]).map F64.isNaN
      = some true := by
  decide +kernel

end C13
