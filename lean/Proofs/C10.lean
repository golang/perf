/-
C10 — scaled numbers keep at least three significant digits, correctly rounded.
The kernel-evaluated boundary table and the theorems on it (helper lemmas:
Proofs/Lemmas/F64Round.lean); their lifting to every finite non-zero float64 is in
Proofs/Lemmas/C10Lift.lean.
-/
import Model.Unit.ScaleBounds
import Model.Unit.Parse
import Proofs.Lemmas.F64Round

namespace C10
open F64 Unit.Scale

/-- **fmtFixed_half_ulp** — the integer k whose digits `strconv 'f'` prints with p decimals
satisfies |k/10^p − x| ≤ ½·10^-p for the exact value x = n/d of the float:
`2·|k·d − n·10^p| ≤ d`. Holds for every float64 bit pattern (the n/d of non-finite patterns is
unused by `fmtFixed`). -/
theorem fmtFixed_half_ulp (b : Bits) (p : Nat) :
    2 * ((fixedScaled b p : Int) * ((toFrac (mant b) (expo b)).2 : Nat)
          - ((toFrac (mant b) (expo b)).1 * 10 ^ p : Nat)).natAbs ≤ (toFrac (mant b) (expo b)).2 := by
  unfold fixedScaled
  exact rne_half_unit _ _ (toFrac_snd_pos _ _)

/-- **fmtFixed_mono** — printing is monotone in the exact value: if value(a) ≤ value(b)
(both taken as magnitudes n/d) then the printed integers are ordered. -/
theorem fmtFixed_mono (a b : Bits) (p : Nat)
    (h : (toFrac (mant a) (expo a)).1 * (toFrac (mant b) (expo b)).2
          ≤ (toFrac (mant b) (expo b)).1 * (toFrac (mant a) (expo a)).2) :
    fixedScaled a p ≤ fixedScaled b p := by
  unfold fixedScaled
  apply rne_mono_rat _ _ _ _ (toFrac_snd_pos _ _) (toFrac_snd_pos _ _)
  calc (toFrac (mant a) (expo a)).1 * 10 ^ p * (toFrac (mant b) (expo b)).2
      = (toFrac (mant a) (expo a)).1 * (toFrac (mant b) (expo b)).2 * 10 ^ p := by
        rw [Nat.mul_assoc, Nat.mul_comm (10 ^ p), ← Nat.mul_assoc]
    _ ≤ (toFrac (mant b) (expo b)).1 * (toFrac (mant a) (expo a)).2 * 10 ^ p := Nat.mul_le_mul_right _ h
    _ = (toFrac (mant b) (expo b)).1 * 10 ^ p * (toFrac (mant a) (expo a)).2 := by
        rw [Nat.mul_assoc, Nat.mul_comm _ (10 ^ p), ← Nat.mul_assoc]

/-- **boundary_table** — for every row of both prefix tables (built from the constants
re-extracted from benchunit/scale.go) and each of its thresholds t: `t` prints with the coarser
precision as ≥ 100.0 / 10.00 / 1.000 and `pred t` prints with the finer precision (or the next
smaller prefix) as < 100.00 / 10.000 / 1000.0 (1024.0 for IEC); likewise for the sub-prefix
precision thresholds. Kernel evaluation of the finite table (no axioms). -/
theorem boundary_table : boundaryOK = true := by decide +kernel

/-- **classOf_spec** — a unit is binary exactly when B, MB or bytes occurs as a numerator token. -/
theorem classOf_spec (u : Bytes) :
    Unit.Parse.classOf u = .binary ↔
      ∃ t ∈ Unit.Parse.tokens u, Unit.Parse.isBytesTok t.tok = true ∧ t.denom = false := by
  unfold Unit.Parse.classOf
  constructor
  · intro h
    split at h
    · rename_i hany
      rw [List.any_eq_true] at hany
      obtain ⟨t, ht, hp⟩ := hany
      exact ⟨t, ht, by simpa using hp⟩
    · cases h
  · rintro ⟨t, ht, h1, h2⟩
    have : (Unit.Parse.tokens u).any (fun t => Unit.Parse.isBytesTok t.tok && !t.denom) = true := by
      rw [List.any_eq_true]; exact ⟨t, ht, by simp [h1, h2]⟩
    simp [this]

end C10
