/-
C20 — uploads are all-or-nothing under faults; upload ids are never reused.
Property theorems about the model `Model/Storage/Upload.lean` (processUpload, indexFile, db.Upload,
id allocation, and db.ReplaceUpload: the histories `runOps`, of which `runHistory` is the part without it)
and `Model/Storage/IdAlloc.lean` (concurrent allocation).
-/
import Proofs.Lemmas.C20Base
import Proofs.Lemmas.C20Alloc
import Proofs.Lemmas.C20Files
import Proofs.Lemmas.C20Render
import Proofs.Lemmas.C20Replace
import Proofs.Lemmas.Shared.Bytes

namespace C20
open Storage.Upload Storage.IdAlloc

/-- Every state reached from the empty system by any history of requests (successful or failed,
with or without faults) satisfies the invariant: records and files belong to existing Uploads rows,
rows of a day are numbered 1..n, no row twice. -/
theorem reachable_wf (hist : List (Env × Req)) : WfSys (runHistory hist {}) :=
  runHistory_eq_runOps hist {} ▸ runOps_wf _ {} WfSys.empty (replacesExisting_uploads hist {})

/-- **single_fault_atomic** (post-state part). For every history of earlier requests, every request
and every way it ends in an error — whatever the fault was and wherever it struck — afterwards
(i) the index is unchanged, no record is queryable under the id the failed upload was given and the
    listing does not show it,
(ii) the file being written when the failure happened is not in the store,
(iii) the files of earlier uploads are all still there and anything new in the store carries the failed
    upload's own (fresh) id. -/
theorem single_fault_atomic (hist : List (Env × Req)) (env : Env) (req : Req) (e : Err)
    (h : (processUpload env req (runHistory hist {})).resp = .error e) :
    FailedPost (runHistory hist {}) (processUpload env req (runHistory hist {})) :=
  failed_post env req _ (reachable_wf hist).core e h

/-- **fault_is_reported** (the "if any step fails" part of the property). Every fault of the property's
list is answered with an error (so that `single_fault_atomic` applies), for any state `s`:
* the part stream ends with an error (body cut in a part header or between parts), or some part is
  not acceptable: its reader failed (body cut inside a file), it is a form field other than `commit`
  (unknown field, client Abort), or it is a file without any benchmark line;
* no file part at all;
* a file-store fault (create / write / close, once or persistent) at any of the calls a fault-free
  run of the request makes (`opsOf`: per file NewWriter, header lines + separator, one Write per read,
  Close). -/
theorem fault_is_reported (env : Env) (req : Req) (s : Sys)
    (hf : req.endErr = true ∨ (∃ p ∈ req.parts, ¬ partOk p) ∨ (∀ p ∈ req.parts, ∃ name, p = Part.field name) ∨
      (∃ ft, req.fault = some ft ∧ ft.k < opsOf env req.parts)) :
    ∃ e, (processUpload env req s).resp = .error e := by
  have h := processUpload_end env req s
  generalize processUpload env req s = o at h ⊢
  cases h with
  | rejected e | aborted e => exact ⟨e, rfl⟩
  | committed hp hE htx =>
    exfalso
    rcases hf with hf | ⟨p, hp', hnot⟩ | hf | ⟨ft, hft, hk⟩
    · rw [hE] at hf; cases hf
    · exact hnot ((hp.ok rfl).1 p hp')
    · rw [hp.only_fields hf] at htx; cases htx
    · have := (hp.ok rfl).2 ft.k (Nat.zero_le _) (by simpa using hk)
      rw [hft, failsAt_self] at this
      cases this

/-- the two halves together: any listed fault after any history leaves the post-state of
`single_fault_atomic` -/
theorem single_fault_atomic_full (hist : List (Env × Req)) (env : Env) (req : Req)
    (hf : req.endErr = true ∨ (∃ p ∈ req.parts, ¬ partOk p) ∨ (∀ p ∈ req.parts, ∃ name, p = Part.field name) ∨
      (∃ ft, req.fault = some ft ∧ ft.k < opsOf env req.parts)) :
    FailedPost (runHistory hist {}) (processUpload env req (runHistory hist {})) := by
  obtain ⟨e, he⟩ := fault_is_reported env req (runHistory hist {}) hf
  exact single_fault_atomic hist env req e he

/-- non-trivial instance of the hypothesis: a write fault at the separator line of a one-file upload -/
example : (match (processUpload ⟨20260930, [], []⟩
    ⟨[Part.file [97] (Bytes.ofString "BenchmarkA 1 2 ns/op\n") false [21]], false, some ⟨5, false, false⟩⟩ {}).resp with
      | .error Err.fs => true
      | _ => false) = true := by decide +kernel

/-- `success_complete` after any history of upload requests and reindex operations -/
theorem success_complete_ops (ops : List HOp) (env : Env) (req : Req) (k : UKey) (fids : List Path)
    (h : (processUpload env req (runOps ops {})).resp = .ok (k, fids)) :
    ((processUpload env req (runOps ops {})).sys.db.queryUpload k).map (·.2) = partsLines req.parts ∧
    k ∉ (runOps ops {}).db.uploads ∧
    (∀ x ∈ expectedFiles env k req.parts 0,
      (processUpload env req (runOps ops {})).sys.fs.filter (fun e => e.1 == x.1) = [x]) ∧
    fids = (expectedFiles env k req.parts 0).map Prod.fst := by
  have h1 := success_records env req _ (runOps_core ops {} WfSys.empty.core) k fids h
  have h2 := success_files env req _ k fids h
  exact ⟨h1.1, h1.2, h2.1, h2.2⟩

/-- **success_complete**. After any history, a successful upload with id `k`:
* index: the query `upload:<id>` returns exactly the benchmark lines of all its files — every one,
  once, in file order; the id is new;
* store: for every file part (index `i` counted over all parts) the store holds exactly one entry
  named `uploads/<id>/<i>.txt`, and its bytes are `fileBytes` = the server's metadata header (keys
  sorted, see `stored_file_format`), a blank line, the uploaded bytes;
* the file ids of the response are exactly these names. -/
theorem success_complete (hist : List (Env × Req)) (env : Env) (req : Req) (k : UKey) (fids : List Path)
    (h : (processUpload env req (runHistory hist {})).resp = .ok (k, fids)) :
    ((processUpload env req (runHistory hist {})).sys.db.queryUpload k).map (·.2) = partsLines req.parts ∧
    k ∉ (runHistory hist {}).db.uploads ∧
    (∀ x ∈ expectedFiles env k req.parts 0,
      (processUpload env req (runHistory hist {})).sys.fs.filter (fun e => e.1 == x.1) = [x]) ∧
    fids = (expectedFiles env k req.parts 0).map Prod.fst := by
  rw [runHistory_eq_runOps] at h ⊢
  exact success_complete_ops _ env req k fids h

/-- the stored bytes: `by: <user>` (if a user is known), `upload: <id>`, `upload-file: <name>` (if the
part has a file name), `upload-part: <id>/<i>`, `upload-time: <time>`, an empty line, the content -/
theorem stored_file_format (env : Env) (k : UKey) (i : Nat) (fname content : Bytes) :
    fileBytes env k i fname content =
      (if env.user.isEmpty then [] else headerLine (kBy, env.user)) ++ headerLine (kUp, renderId k) ++
      (if fname.isEmpty then [] else headerLine (kFile, fname)) ++ headerLine (kPart, partId k i) ++
      headerLine (kTime, env.time) ++ [10] ++ content := by
  simp only [fileBytes, header_sorted, List.map_append, List.flatten_append, apply_ite (List.map headerLine),
    apply_ite List.flatten, List.map_nil, List.map_cons, List.flatten_nil, List.flatten_cons, List.append_nil,
    List.append_assoc]

/-- a non-trivial instance: one file `a`, no user -/
example : fileBytes ⟨20260930, [], Bytes.ofString "T"⟩ ⟨20260930, 3⟩ 0 [97] (Bytes.ofString "BenchmarkA 1 2 ns/op\n") =
    Bytes.ofString "upload: 20260930.3\nupload-file: a\nupload-part: 20260930.3/0\nupload-time: T\n\nBenchmarkA 1 2 ns/op\n" := by
  simp only [Bytes.ofString_eq]
  decide +kernel

/-- a successful upload leaves everything of earlier uploads in place as well -/
theorem success_keeps_earlier (hist : List (Env × Req)) (env : Env) (req : Req) :
    (∀ row ∈ (runHistory hist {}).db.records, row ∈ (processUpload env req (runHistory hist {})).sys.db.records) := by
  intro row hrow
  have h := processUpload_end env req (runHistory hist {})
  generalize processUpload env req (runHistory hist {}) = o at h ⊢
  cases h with
  | rejected | aborted => exact hrow
  | committed => exact List.mem_append_left _ hrow

/-- **ids_format_monotone**. Along any history the id STRINGS handed out (also to uploads that failed
afterwards: their Uploads row persists) are pairwise different — never reused —, within one day the
sequence numbers strictly increase in creation order and start at 1, every id is still a row at the
end, and every string has the form `<digits>.<digits>` (`renderId_shape`; eight digits for a
four-digit year). -/
theorem ids_format_monotone (hist : List (Env × Req)) :
    ((allocs hist {}).map renderId).Nodup ∧
    (allocs hist {}).Pairwise (fun a b => a.day = b.day → a.seq < b.seq) ∧
    (∀ k ∈ allocs hist {}, 1 ≤ k.seq ∧ k ∈ (runHistory hist {}).db.uploads) := by
  have h := allocs_spec hist {} WfSys.empty
  refine ⟨?_, h.1, fun k hk => ⟨(h.2 k hk).1, (h.2 k hk).2.2⟩⟩
  unfold List.Nodup
  rw [List.pairwise_map]
  -- equal strings are equal ids, and an id is not numbered after itself
  refine h.1.imp fun hab he => ?_
  cases renderId_injective he
  exact Nat.lt_irrefl _ (hab rfl)

/-- shape of an id string: decimal day, a dot, decimal sequence number; digits only, neither part
empty; the day of a four-digit year has eight digits; different rows have different strings -/
theorem renderId_shape (k : UKey) :
    renderId k = natBytes k.day ++ [46] ++ natBytes k.seq ∧
    (∀ c ∈ natBytes k.day ++ natBytes k.seq, 48 ≤ c.toNat ∧ c.toNat ≤ 57) ∧
    natBytes k.day ≠ [] ∧ natBytes k.seq ≠ [] ∧
    (10000000 ≤ k.day → k.day < 100000000 → (natBytes k.day).length = 8) ∧
    (∀ k', renderId k = renderId k' → k = k') := by
  refine ⟨rfl, ?_, natBytes_ne_nil _, natBytes_ne_nil _, natBytes_day_length _, fun k' h => renderId_injective h⟩
  intro c hc
  rcases List.mem_append.mp hc with h | h
  · exact natBytes_digits _ c h
  · exact natBytes_digits _ c h

/-- the id given to a request carries the day of the request -/
theorem id_has_request_day (env : Env) (req : Req) (s : Sys) (k : UKey)
    (h : (processUpload env req s).alloc = some k) : k.day = env.day :=
  allocId_day (alloc_eq_some h)

example : renderId ⟨20260929, 12⟩ = Bytes.ofString "20260929.12" := by decide +kernel

/-- `single_fault_atomic` after ANY history of upload requests and reindex operations (of existing
or never-created ids, committed or aborted) -/
theorem single_fault_atomic_ops (ops : List HOp) (env : Env) (req : Req) (e : Err)
    (h : (processUpload env req (runOps ops {})).resp = .error e) :
    FailedPost (runOps ops {}) (processUpload env req (runOps ops {})) :=
  failed_post env req _ (runOps_core ops {} WfSys.empty.core) e h

/-- what a reindex does: other uploads' records stay (in order); the replaced upload has exactly the
new benchmark lines if the replacement was committed, and none otherwise — the old records are
deleted outside the transaction, so an aborted reindex leaves the upload empty -/
theorem replace_upload_effect (k : UKey) (rs : List Res) (commit : Bool) (db : DB) :
    (replaceUpload k rs commit db).records.filter (fun r => !(r.up == k)) = db.records.filter (fun r => !(r.up == k)) ∧
    ((replaceUpload k rs commit db).queryUpload k).map (·.2) =
      (match ({ id := k } : Tx).insertRecords rs with
       | none => []
       | some t1 => if commit && (t1.flush).isSome then rs.map (·.line) else []) := by
  obtain ⟨new, h1, h2, _, h4⟩ := replace_shape k rs commit db
  refine ⟨?_, ?_⟩
  · rw [h1, List.filter_append, List.filter_filter]
    have : new.filter (fun r => !(r.up == k)) = [] := by
      rw [List.filter_eq_nil_iff]; intro row hr; simp [h2 row hr]
    simp [this]
  · exact (queryUpload_append k h1 (by intro row hr; simp at hr; exact hr.2) h2).trans h4

/-- an id is never handed out twice, in any state whatsoever (the primary-key check of NewUpload) -/
theorem id_never_reused (env : Env) (req : Req) (s : Sys) (k : UKey)
    (h : (processUpload env req s).alloc = some k) : k ∉ s.db.uploads :=
  allocId_fresh (alloc_eq_some h)

/-- after a history in which every reindex names an existing upload, a new id is numbered from 1 and
larger than every id of its day -/
theorem ids_monotone_after_reindex (ops : List HOp) (hex : ReplacesExisting ops {}) (env : Env) (req : Req) (k : UKey)
    (h : (processUpload env req (runOps ops {})).alloc = some k) :
    1 ≤ k.seq ∧ ∀ k' ∈ (runOps ops {}).db.uploads, k'.day = k.day → k'.seq < k.seq := by
  have hgt := allocId_gt (runOps_wf ops {} WfSys.empty hex).contig (alloc_eq_some h)
  exact ⟨hgt.1, hgt.2.1⟩

/-- the hypothesis of `ids_monotone_after_reindex` is needed: a reindex of a never-created id
`20260928.5`, an upload on the next day, then the clock back on the 28th: the new id is `20260928.1`
(fresh, but smaller than the row the reindex left behind) -/
example :
    let good : Req := ⟨[Part.file [97] (Bytes.ofString "BenchmarkA 1 2 ns/op\n") false [21]], false, none⟩
    (processUpload ⟨20260928, [], []⟩ good
      (runOps [HOp.replace ⟨20260928, 5⟩ [] false, HOp.upload ⟨20260929, [], []⟩ good] {})).alloc
      = some ⟨20260928, 1⟩ := by decide +kernel

/-- **ids_unique_all_interleavings**. Any number of concurrent id transactions (one day each), any
schedule of their atomic steps read-last / insert / commit, any set of steps refused by the database:
the ids returned to callers are pairwise different, each is a committed row, none existed before,
and the table never holds an id twice. -/
theorem ids_unique_all_interleavings (rows0 : List UKey) (h0 : rows0.Nodup) (days : List Nat)
    (sched : List (Nat × Bool)) :
    let s := run sched (init rows0 days)
    (returned s.txns).Nodup ∧ s.rows.Nodup ∧ (∀ k ∈ returned s.txns, k ∈ s.rows ∧ k ∉ rows0) ∧
      (∀ k ∈ rows0, k ∈ s.rows) := by
  have inv := run_inv rows0 sched _ (init_inv rows0 days h0)
  exact ⟨inv.ret_nodup, (List.nodup_append.mp inv.nodup).1, inv.ret_rows, inv.grow⟩

/-- a non-trivial instance: two transactions of the same day racing on an empty table;
both read "no row", both want `day.1`; only one can commit it -/
example : (returned (run [(0, true), (1, true), (0, true), (1, true), (0, true), (1, true)]
    (init [] [20260929, 20260929])).txns) = [⟨20260929, 1⟩] := by decide

end C20
