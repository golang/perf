/-
C03 — numbers are read as correctly rounded float64 values and exact integers.
Property theorems; their helper lemmas live in Proofs/Lemmas/C03*.lean.

Model:  Model/Num/FastPath.lean, Atoi.lean, Atof.lean  (reader.go `atof`, bytesconv atoi.go, atof.go),
        Decimal.lean, DecSlow.lean  (decimal.go, the mirrored slow path)
Spec:   Model/Spec/NumText.lean  (`parseFloatSpec`, `parseIntSpec`)
-/
import Proofs.Lemmas.C03Int
import Proofs.Lemmas.C03MantLoop
import Proofs.Lemmas.C03Special
import Proofs.Lemmas.C03ExactPath
import Proofs.Lemmas.C03Recognise
import Proofs.Lemmas.C03Hex
import Proofs.Lemmas.C03Total
import Proofs.Lemmas.C03FBParts
import Proofs.Lemmas.C03Mirror
import Proofs.Lemmas.C03Clamp
import Proofs.C03Witness
import Model.Fmt.Reader

namespace C03
open Num Spec.NumText

/-- the same loop over unbounded integers (no `int64` wrap) -/
def atofLoopIdeal : Bytes → Int → Option Int
  | [], val => some val
  | ch :: rest, val =>
    if ch - 48 ≥ 10 then none
    else if val > atofGuard then none
    else atofLoopIdeal rest (val * 10 + ((ch - 48).toNat : Int))

/-- **atof_fast_no_overflow** — under the guard `val > (MaxInt64-10)/10 → fail` the `int64`
accumulation never wraps: the loop over `int64` and the loop over ℤ are the same function
(for every input and every reachable accumulator). -/
theorem atof_fast_no_overflow (x : Bytes) : ∀ n : Nat, (n : Int) ≤ maxInt64 →
    atofLoop x n = atofLoopIdeal x n := by
  induction x with
  | nil => intro n _; rfl
  | cons c x ih =>
    intro n hn
    unfold atofLoop atofLoopIdeal
    simp only []
    by_cases hd : c - 48 ≥ 10
    · simp [hd]
    · by_cases hg : (n : Int) > atofGuard
      · simp [hd, hg]
      · simp only [hd, hg, if_false]
        obtain ⟨_, hv, hw, hle⟩ := atof_step n c hd hg
        rw [hv, hw]
        exact ih _ hle

theorem maxInt64_lt_threshold : (9223372036854775807 : Nat) < overflowThreshold := by decide +kernel

/-- **atof_fast_correct** — whenever the reader's integer fast path returns (on a non-empty
field: `parseBenchmarkLine` never passes an empty one), the float it returns is the
specification's value for that text: the exact integer, rounded once. -/
theorem atof_fast_correct (x : Bytes) (hne : x ≠ []) (v : Int) (h : atofLoop x 0 = some v) :
    (readerAtof x).toExcept = parseFloatSpec x := by
  obtain ⟨hall, hv, hmax⟩ := atofLoop_spec x 0 v (by decide) h
  rw [← valOf_eq] at hv
  have hlt : valOf 10 x < overflowThreshold := by
    have : valOf 10 x ≤ 9223372036854775807 := by unfold maxInt64 at hmax; omega
    exact Nat.lt_of_le_of_lt this maxInt64_lt_threshold
  rw [parseFloatSpec_digits x hne hall hlt]
  unfold readerAtof
  rw [h]
  simp only [FloatRes.toExcept]
  rw [hv, ofInt_eq_ofDecimal]

example : atofLoop [49, 50, 51] 0 = some 123 := by decide +kernel
/-- the guard fires exactly where it must: 9223372036854775799 passes, the next integer fails -/
example : atofLoop (Bytes.ofString "9223372036854775799") 0 = some 9223372036854775799 := by decide +kernel
example : atofLoop (Bytes.ofString "9223372036854775800") 0 = none := by decide +kernel

/-- **atoi_fast_correct** — on every input that takes `Atoi`'s fast path (1–18 bytes) the result
(value or syntax error) is exactly the specification's; the `int` accumulator cannot wrap. -/
theorem atoi_fast_correct (s : Bytes) (h : atoiFastApplies s = true) :
    (atoiFast s).toExcept = parseIntSpec s := atoiFast_eq_spec s h

/-- **parseUint_correct** — `ParseUint(s, 10, 64)` returns n with no error iff s is a non-empty
digit string whose value n = Σ dᵢ·10ⁱ is ≤ MaxUint64; a digit string with a larger value yields
(MaxUint64, range error); everything else is rejected. Never a wrapped value. -/
theorem parseUint_correct (s : Bytes) :
    (s ≠ [] ∧ s.all isDec = true ∧ valOf 10 s ≤ maxUint64 → parseUint s = ⟨valOf 10 s, none⟩) ∧
    (s ≠ [] ∧ s.all isDec = true ∧ valOf 10 s > maxUint64 → parseUint s = ⟨maxUint64, some .range⟩) ∧
    (s = [] ∨ s.all isDec = false → (parseUint s).err ≠ none) ∧
    ((parseUint s).err = none → s ≠ [] ∧ s.all isDec = true ∧ (parseUint s).val = valOf 10 s ∧ valOf 10 s ≤ maxUint64) := by
  refine ⟨?_, ?_, parseUint_reject s, ?_⟩
  · rintro ⟨hne, hall, hle⟩; rw [parseUint_digits s hne hall]; simp [hle]
  · rintro ⟨hne, hall, hgt⟩; rw [parseUint_digits s hne hall]
    have : ¬ valOf 10 s ≤ maxUint64 := by omega
    simp [this]
  · intro h
    by_cases hbad : s = [] ∨ s.all isDec = false
    · exact absurd h (parseUint_reject s hbad)
    · simp only [not_or, Bool.not_eq_false] at hbad
      have hu := parseUint_digits s hbad.1 hbad.2
      by_cases hle : valOf 10 s ≤ maxUint64
      · rw [hu]; simp [hle, hbad.1, hbad.2]
      · rw [hu] at h; simp [hle] at h

/-- **parseInt_correct** — `ParseInt(s, 10, 0)` agrees with the specification: same value when
the specification accepts, an error whenever it rejects. -/
theorem parseInt_correct (s : Bytes) :
    (∀ v, parseIntSpec s = .ok v → parseInt s = ⟨v, none⟩) ∧
    (∀ e, parseIntSpec s = .error e → (parseInt s).err ≠ none) := by
  by_cases hne : s = []
  · subst hne
    refine ⟨fun v h => ?_, fun e _ => by simp [parseInt]⟩
    simp [parseIntSpec, splitSign] at h
  · rw [parseIntSpec_eq, parseInt_eq_body s hne]
    exact parseIntBody_spec _ _

/-- **parseInt_bounds** — a value returned without error lies in the `int64` range and is the
exact integer the text denotes. -/
theorem parseInt_bounds (s : Bytes) (h : (parseInt s).err = none) :
    -(2 ^ 63 : Int) ≤ (parseInt s).val ∧ (parseInt s).val ≤ 2 ^ 63 - 1 ∧
    parseIntSpec s = .ok (parseInt s).val := by
  have hs := IntRes.sound (parseInt_correct s) h
  have hb := specIntBody_bounds _ _ _ (by rw [← parseIntSpec_eq]; exact hs)
  exact ⟨hb.1, hb.2, hs⟩

/-- **atoi_correct** — `bytesconv.Atoi` as a whole (fast path or `ParseInt`): exactly the
specified integer when the specification accepts, an error otherwise. -/
theorem atoi_correct (s : Bytes) :
    (∀ v, parseIntSpec s = .ok v → atoi s = ⟨v, none⟩) ∧
    (∀ e, parseIntSpec s = .error e → (atoi s).err ≠ none) := by
  unfold atoi
  by_cases hf : atoiFastApplies s = true
  · simp only [hf, if_true]
    have h := atoi_fast_correct s hf
    exact h ▸ Refines.toExcept _
  · simp only [hf, Bool.false_eq_true, if_false]
    exact parseInt_correct s

example : atoi (Bytes.ofString "-9223372036854775808") = ⟨-9223372036854775808, none⟩ := by decide +kernel
example : (atoi (Bytes.ofString "9223372036854775808")).err = some .range := by decide +kernel

/-- **special_correct** — `special(s)` (the `inf`/`infinity`/`nan` recogniser of atof.go, a switch
on the first byte followed by `equalIgnoreCase`) returns exactly what the specification's table
of spellings says, for every byte string: same accepted set (any letter case, optional sign on
the infinities, none on NaN, nothing longer or shorter) and same values. -/
theorem special_correct (s : Bytes) : special s = specialSpec s := special_eq_spec s

/-- **readFloat_value_partial** — the mantissa loop of `readFloat` (19/16-digit cap, `trunc`,
leading-zero skipping, `dp` bookkeeping, underscores skipped, `uint64` accumulation) against the
exact reference evaluation `refMant` (all digits as one unbounded integer M, F digits after the
point; the text denotes M / B^F, B = 10 or 16). For every text and whatever the loop returns:

* the `uint64` mantissa never wraps (`mant < 2^64`, indeed `< B^ndMant`);
* when `trunc` is false, `mant · B^(nd − ndMant) = M` — the dropped digits were all zeros;
* the decimal-point bookkeeping is exact: with `dp' = dp` if a point was seen, else `nd`,
  `dp' − ndMant = (nd − ndMant) − F`, hence  mant · B^(dp' − ndMant) = M / B^F,
  which is the `exp = dp − ndMant` that `readFloat` returns (×4 for hex, plus the exponent literal). -/
theorem readFloat_value_partial (hex : Bool) (s : Bytes) (st : MS) (rest : Bytes)
    (h : mantLoop hex s {} = some (st, rest)) :
    st.mant < 2 ^ 64 ∧
    (st.trunc = false → (refMant hex s 0 0 false).1 = st.mant * baseOf hex ^ (st.nd - st.ndMant)) ∧
    ((if st.sawdot then st.dp else (st.nd : Int)) - st.ndMant
        = ((st.nd - st.ndMant : Nat) : Int) - ((refMant hex s 0 0 false).2 : Nat)) := by
  obtain ⟨a, b, c⟩ := mant_value hex s st rest h
  refine ⟨a, b, ?_⟩
  cases hs : st.sawdot <;> simpa [hs] using c

/-- 21 digits: the dropped 20th digit 0 does not set `trunc`, the dropped 21st digit 5 does -/
example : (mantLoop false (Bytes.ofString "12345678901234567890.5") {}).map (fun p => (p.1.mant, p.1.nd, p.1.trunc))
    = some (1234567890123456789, 21, true) := by decide +kernel
example : refMant false (Bytes.ofString "0.0_25") 0 0 false = (25, 3) := by decide +kernel

/-- the exponent digit loop returns the exact exponent whenever that is below the clamp 10000 -/
theorem expLoop_exact (ds : Bytes) (hd : ds.all isDec = true) : ∀ e, valFrom e ds < 10000 →
    expLoop ds e = (valFrom e ds, []) := by
  intro e hlt
  rw [expLoop_digits ds hd e, clampFrom_exact ds hd e hlt]

/-- **expLoop_clamp_correct** — what the clamp `if e < 10000 { e = e*10 + digit }` of the exponent
digit loop (shared by `readFloat` and `decimal.set`) really does: an exponent literal below
100000 is read EXACTLY (the test looks at the value accumulated so far, so a fifth digit is still
taken); of a longer literal the loop keeps the first five significant digits — a number c with
10000 ≤ c ≤ 99999 and 10·c ≤ literal. -/
theorem expLoop_clamp_correct (ds : Bytes) (hd : ds.all isDec = true) :
    expLoop ds 0 = (clampFrom 0 ds, []) ∧
    (valOf 10 ds < 100000 → clampFrom 0 ds = valOf 10 ds) ∧
    (100000 ≤ valOf 10 ds → 10000 ≤ clampFrom 0 ds ∧ clampFrom 0 ds ≤ 99999 ∧ 10 * clampFrom 0 ds ≤ valOf 10 ds) := by
  obtain ⟨c1, c2⟩ := clampFrom_spec ds hd 0 (by decide)
  rw [← valOf_eq] at c1 c2
  exact ⟨expLoop_digits ds hd 0, c1, c2⟩

/-- **readFloat_value** — for every byte string s on which `underscoreOK` holds
(the only texts `ParseFloat` hands to `readFloat`):

* accepted language: `readFloat s` reports `ok` exactly when the specification's recogniser
  (`Spec.NumText.recognise`: sign, `0x` prefix, underscore rule, mantissa with optional point,
  `e`/`p` exponent, mandatory `p` for hex) accepts s;
* when both accept: same sign, same `hex` flag, the `uint64` mantissa did not wrap, and — when
  `trunc` is false — (mantissa, exp) denote the same number as the specification's exact
  (M, E): M = mantissa·B^j and exp = E + bits·j, where j is the number of trailing zero digits
  the 19/16-digit cap dropped (B = 10, bits = 1; hex: B = 16, bits = 4), plus `expGapS s`: what
  the clamp of the exponent digit loop adds — 0 for every exponent literal below 100000
  (`expGapS_zero`), clamped literal − literal beyond (`readFloat` stops accumulating at 10000:
  "it doesn't matter if it's not the exact number", which is true only while the mantissa text
  cannot compensate it, see `parseFloat_correct`). A zero mantissa reports exp = 0. -/
theorem readFloat_value (s : Bytes) (hu : underscoreOK s = true) :
    (recognise s = none → (readFloat s).ok = false) ∧
    (∀ p, recognise s = some p → Agrees (readFloat s) p (expGapS s)) :=
  (readFloat_recognise s).2 hu

/-- **readFloat_language** — and a text rejected by `underscoreOK` (hence by `ParseFloat`) is not
in the specification's language either. Together with `readFloat_value` and `special_correct`:
`ParseFloat` and `parseFloatSpec` accept exactly the same byte strings. -/
theorem readFloat_language (s : Bytes) (hu : underscoreOK s = false) : recognise s = none :=
  (readFloat_recognise s).1 hu

example : Agrees (readFloat (Bytes.ofString "-1_2.50e+3")) ⟨true, false, 1250, 1⟩ 0 := by
  refine ⟨by decide +kernel, by decide +kernel, by decide +kernel, by decide +kernel,
    fun _ => ⟨0, by decide +kernel, fun _ => by decide +kernel⟩, fun h => ?_⟩
  have : (readFloat (Bytes.ofString "-1_2.50e+3")).trunc = false := by decide +kernel
  rw [this] at h; cases h

/-- **pow10_table_exact** — every entry `float64pow10[k]`, k = 0 … 22, is a finite float whose
exact value n/d is 10^k (sign +, n = 10^k·d), and `1e15` likewise. Kernel
evaluation of the 23 entries. (The harness additionally compares the model's table with the
one compiled into bytesconv, bit for bit, on every run.) -/
theorem pow10_table_exact :
    (∀ k, k < pow10TableLen → F64.isFinite (float64pow10 k) = true ∧
        (F64.toRatParts (float64pow10 k)).1 = false ∧
        (F64.toRatParts (float64pow10 k)).2.1 = 10 ^ k * (F64.toRatParts (float64pow10 k)).2.2) ∧
    (F64.toRatParts f1e15).1 = false ∧ (F64.toRatParts f1e15).2.1 = 10 ^ 15 * (F64.toRatParts f1e15).2.2 := by
  decide +kernel

/-- 10^23 is NOT exactly representable — the table cannot be extended (cf. mutation M3 in notes/C03.md) -/
example : (F64.toRatParts (F64.ofDecimal false 1 23)).2.1 ≠ 10 ^ 23 * (F64.toRatParts (F64.ofDecimal false 1 23)).2.2 := by decide +kernel

/-- **exact_path_correct_partial** — the control structure of `atof64exact`: it answers only
when the mantissa is below 2^52 (`mantissa>>mantbits == 0`), and then with the integer itself
(exp = 0), ONE float multiplication by a table entry (0 < exp ≤ 22), or ONE float division by a
table entry (−22 ≤ exp < 0); for 22 < exp ≤ 37 one extra multiplication by 10^(exp−22) guarded by
the `|f| ≤ 1e15` test. `F64.mul`/`F64.div` are by definition `roundRat` of the exact
product/quotient, and by `pow10_table_exact` the table operand is exactly 10^|exp|. -/
theorem exact_path_correct_partial (m : Nat) (exp : Int) (neg : Bool) :
    (m >>> 52 ≠ 0 → atof64exact m exp neg = none) ∧
    (m >>> 52 = 0 → exp = 0 → atof64exact m exp neg = some (if neg then F64.neg (F64.ofInt m) else F64.ofInt m)) ∧
    (m >>> 52 = 0 → 0 < exp → exp ≤ 22 →
        atof64exact m exp neg =
          let f := if neg then F64.neg (F64.ofInt m) else F64.ofInt m
          if F64.lt f1e15 f || F64.lt f (F64.neg f1e15) then none
          else some (F64.mul f (float64pow10 exp.toNat))) ∧
    (m >>> 52 = 0 → exp < 0 → -22 ≤ exp →
        atof64exact m exp neg =
          some (F64.div (if neg then F64.neg (F64.ofInt m) else F64.ofInt m) (float64pow10 (-exp).toNat))) ∧
    (exp > 37 ∨ exp < -22 → atof64exact m exp neg = none) := by
  unfold atof64exact
  refine ⟨?_, ?_, ?_, ?_, ?_⟩
  · intro h; simp [h]
  · intro h he; subst he; simp [h]
  · intro h h0 h22
    have e0 : (exp == 0) = false := by simp; omega
    have e1 : ¬ (exp > 22) := by omega
    simp [h, e0, h0, e1]
    omega
  · intro h h0 h22
    have e0 : (exp == 0) = false := by simp; omega
    have e1 : ¬ (exp > 0) := by omega
    simp [h, e0, e1, h0, h22]
  · intro h
    by_cases hm : m >>> 52 = 0
    · have e0 : (exp == 0) = false := by simp; omega
      rcases h with h | h
      · have e1 : ¬ (exp ≤ 37) := by omega
        have e2 : ¬ (exp < 0) := by omega
        simp [hm, e0, e1, e2]
      · have e1 : ¬ (exp > 0) := by omega
        have e2 : ¬ (-22 ≤ exp) := by omega
        simp [hm, e0, e1, e2]
    · simp [hm]

/-- **exact_path_correct** — whenever `atof64exact` answers, its answer is the correctly rounded
value of mantissa·10^exp (`F64.ofDecimal`), for EVERY mantissa, exponent and sign: the guards
(mantissa < 2^52; exp = 0, 0 < exp ≤ 22, 22 < exp ≤ 37 with the 10^(exp−22) pre-scale and the
`|f| ≤ 1e15` test, −22 ≤ exp < 0) make `float64(mantissa)` exact, the pre-scaled product an exact
integer ≤ 10^15, the table operand exact (`pow10_table_exact`), so the ONE final `F64.mul` /
`F64.div` rounds the same rational the specification rounds (`F64.roundMag_congr`: rounding
depends only on the value). Mantissa 0 gives ±0 on every branch. -/
theorem exact_path_correct (m : Nat) (exp : Int) (neg : Bool) (v : F64.Bits)
    (h : atof64exact m exp neg = some v) : v = F64.ofDecimal neg m exp :=
  atof64exact_correct m exp neg v h

/-- kernel-evaluated instances of the single rounding: 2^52−1 scaled by 10^22 / 10^−22,
a three-digit decimal, a tie-prone quotient -/
example : atof64exact 999999999999999 22 false = some (F64.ofDecimal false 999999999999999 22) := by decide +kernel
example : atof64exact 4503599627370495 22 false = none := by decide +kernel
example : atof64exact 4503599627370495 (-22) true = some (F64.ofDecimal true 4503599627370495 (-22)) := by decide +kernel
example : atof64exact 123 (-2) false = some (F64.ofDecimal false 123 (-2)) := by decide +kernel
example : atof64exact 1 37 false = some (F64.ofDecimal false 1 37) := by decide +kernel
example : atof64exact 2 37 false = none := by decide +kernel
example : atof64exact 1 38 false = none := by decide +kernel
example : atof64exact 9 30 false = some (F64.ofDecimal false 9 30) := by decide +kernel

/-- **hex_path_correct** — `atofHex(mantissa, exp, neg, trunc = false)` is the specification of a
hex literal, for EVERY `uint64` mantissa, every exponent and sign: the normalising left shift,
the right shift with sticky bit, the denormalising shift, "round using two bottom bits"
(proved to be round-half-even of the exact value, `nearQ_of_stick`), the carry to 2^53, the
denormal exponent, overflow, and the assembly of the bits together compute
`F64.ofBinary neg mantissa exp` (ONE rounding of mantissa·2^exp); the range error is reported
exactly when |value| ≥ 2^1024 − 2^970 (`roundMag_inf_iff`: the specification's range rule is
"the rounding saturates"), and then the value is ±Inf. The three `for` loops are run on fuel
64 in the model; that the fuel suffices is part of the proof (`normUp_spec`, `normDown_spec`,
`denorm_spec`). `trunc = true` (more than 16 hex digits with a non-zero dropped digit) is
covered by `atofHex_trunc_correct` and enters `parseFloat_correct`. -/
theorem hex_path_correct (m : Nat) (e : Int) (neg : Bool) (hm : m < 2 ^ 64) :
    (atofHex m e neg false).toExcept = Parsed.eval { neg := neg, hex := true, mant := m, exp := e } ∧
    ((atofHex m e neg false).err = some .range → (atofHex m e neg false).val = F64.inf neg) :=
  atofHex_spec m e neg hm

/-- kernel-evaluated instances of `atofHex`: a tie rounding to even in
both directions, the largest finite value, overflow, the smallest subnormal, underflow of a tie -/
example : atofHex 0x10000000000001 (-4) false false = ⟨F64.ofBinary false 0x10000000000001 (-4), none⟩ := by decide +kernel
example : atofHex 0x30000000000003 (-4) false false = ⟨F64.ofBinary false 0x30000000000003 (-4), none⟩ := by decide +kernel
example : atofHex 0x1fffffffffffff 971 false false = ⟨0x7FEFFFFFFFFFFFFF, none⟩ := by decide +kernel
example : atofHex 0x3fffffffffffff 970 true false = ⟨F64.negInf, some .range⟩ := by decide +kernel
example : atofHex 1 (-1074) false false = ⟨1, none⟩ := by decide +kernel
example : atofHex 1 (-1075) false false = ⟨0, none⟩ := by decide +kernel
example : atofHex 3 (-1075) false false = ⟨2, none⟩ := by decide +kernel
example : atofHex 1 (-1075) false true = ⟨1, none⟩ := by decide +kernel

/-- **parseFloat_correct** — the model of `bytesconv.ParseFloat(s, 64)` (underscore check →
special values → `readFloat` → hex path / exact path / slow path) returns exactly what
`parseFloatSpec` says — the same float bit for bit, or the same error — for every byte string

* outside the class of finding N3 (more than 800 significant digits before the point),
* whose exponent literal is below 100000 (then the clamp `e < 10000` of the exponent digit loop has
  not dropped a digit, `expLoop_clamp_correct`), OR whose mantissa text is `Moderate`: at most
  9669 significant digits before the point and 9691 after it (hex: 2231 and 2244). Then the
  clamped exponent still drives the value to ±0 / ±Inf + range error exactly as the exact one
  (`clamp_agree`; the bounds are sharp). Outside both — e.g. `0x0.` + 2499 zeros + `1p100000`,
  2 511 bytes, true value 2^90000 — the real code (and strconv) return a finite wrong value:
  finding candidate, see notes/C03.md and `clamp_witness`.

The slow path of this model IS the specification (the mirrored one is `parseFloat_mirror_correct`);
proved for it: the two "obvious overflow/underflow" exits of `floatBits` agree with the range rule
and with the rounding of a tiny value to ±0 (`slowPath_spec`). -/
theorem parseFloat_correct (s : Bytes) (hN3 : inClassN3 s = false) (hlit : expLit s < 100000 ∨ Moderate s) :
    (parseFloat s).toExcept = parseFloatSpec s := by
  rw [parseFloat_eq_clamped s hN3, parseFloatSpecG_agree s hlit]

/-- **parseFloat_clamped_correct** — with NO condition on the exponent: `ParseFloat` returns what
the specification says for the same numeral with its exponent literal clamped the way the code
clamps it (`expGapS`; outside N3 this is the only deviation from `parseFloatSpec`). -/
theorem parseFloat_clamped_correct (s : Bytes) (hN3 : inClassN3 s = false) :
    (parseFloat s).toExcept = parseFloatSpecG (expGapS s) s :=
  parseFloat_eq_clamped s hN3

/-- **reader_atof_correct** — the same for the reader's `atof` (integer fast path, else
`ParseFloat`) on every non-empty field. -/
theorem reader_atof_correct (x : Bytes) (hne : x ≠ []) (hN3 : inClassN3 x = false)
    (hlit : expLit x < 100000 ∨ Moderate x) :
    (readerAtof x).toExcept = parseFloatSpec x := by
  cases h : atofLoop x 0 with
  | some v => exact atof_fast_correct x hne v h
  | none =>
    unfold readerAtof
    rw [h]
    exact parseFloat_correct x hN3 hlit

example : (parseFloat (Bytes.ofString "0x1.8p1")).toExcept = parseFloatSpec (Bytes.ofString "0x1.8p1") :=
  parseFloat_correct _ (by decide +kernel) (Or.inl (by decide +kernel))

/-- a hex literal with 20 digits (truncated mantissa) and a tie broken by the dropped digit -/
example : (parseFloat (Bytes.ofString "0x1.00000000000008000001p0")).toExcept
    = parseFloatSpec (Bytes.ofString "0x1.00000000000008000001p0") :=
  parseFloat_correct _ (by decide +kernel) (Or.inl (by decide +kernel))

/-- **roundedInteger_correct** — decimal.go `RoundedInteger` with `shouldRoundUp` (the last step of
`floatBits`: after the decimal has been scaled so that its integer part is the 53-bit mantissa,
"extract integer part, rounded appropriately") is round-half-even of the decimal's exact value:
for a trimmed, untruncated decimal 0.d₁…dₙ·10^dp with 0 ≤ dp ≤ 19 the result is the exact
integer when there is no fraction and `F64.rne digits 10^(n−dp)` otherwise — the very
round-half-even `F64.roundMag` (hence the specification) is built from. The model
(Model/Num/Decimal.lean) is tied to the real `RoundedInteger`/`shouldRoundUp` by `kind=rint`
correspondence cases (export hook `VerifRoundedInteger`). -/
theorem roundedInteger_correct (a : Dec) (hd : a.d.all isDec = true) (htrim : a.d.getLast? ≠ some 48)
    (h0 : 0 ≤ a.dp) (h19 : a.dp ≤ 19) (ht : a.trunc = false) :
    roundedInteger a =
      if a.d.length ≤ a.dp.toNat then valOf 10 a.d * 10 ^ (a.dp.toNat - a.d.length)
      else F64.rne (valOf 10 a.d) (10 ^ (a.d.length - a.dp.toNat)) := by
  have hn := ri_near a hd (fun _ => htrim) h19
  rw [ht] at hn
  rw [← F64.rne_eq_of_near _ _ _ (decFrac_snd_pos _ _) hn]
  unfold decFrac
  by_cases hle : a.d.length ≤ a.dp.toNat
  · rw [if_pos hle, if_pos (by omega), F64.rne_one, show (a.dp - (a.d.length : Int)).toNat = a.dp.toNat - a.d.length by omega]
  · rw [if_neg hle, if_neg (by omega), show (-(a.dp - (a.d.length : Int))).toNat = a.d.length - a.dp.toNat by omega]

/-- 2.5 → 2, 3.5 → 4, 2.51 → 3, 0.5 → 0, 1.5 → 2 -/
example : roundedInteger ⟨Bytes.ofString "25", 1, false⟩ = 2 ∧ roundedInteger ⟨Bytes.ofString "35", 1, false⟩ = 4 ∧
    roundedInteger ⟨Bytes.ofString "251", 1, false⟩ = 3 ∧ roundedInteger ⟨Bytes.ofString "5", 0, false⟩ = 0 ∧
    roundedInteger ⟨Bytes.ofString "15", 1, false⟩ = 2 ∧ roundedInteger ⟨Bytes.ofString "25", 1, true⟩ = 3 := by
  decide +kernel

/-! ## the decimal slow path, mirrored (Model/Num/DecSlow.lean) -/

/-- **shift_correct** — `decimal.Shift(k)` (`leftShift`/`rightShift` in steps of at most 60 bits,
with the `leftcheats` table) multiplies the decimal's exact value by 2^k, for k of either sign,
whenever it drops no non-zero digit (`trunc` stays false): value(d') = value(d)·2^k, and d' is
again well-formed (digits only, ≤ 800, no leading zero), non-zero, trimmed, same sign. Includes
`cheat_digits`: the cheat table predicts the number of digits of N·2^k exactly (cutoff = digits
of 5^k, compared lexicographically = comparison of decimal fractions), so every digit lands
where Go writes it. -/
theorem shift_correct (a : Dc) (k : Int) (hk : k ≠ 0) (hk1 : -6000 ≤ k) (hk2 : k ≤ 6000) (hwf : WF a)
    (hne : a.d ≠ []) (ht : a.trunc = false) (ht' : (a.shift k).trunc = false) :
    dval (a.shift k) = dval a * (2 : ℚ) ^ k ∧ WF (a.shift k) ∧ (a.shift k).d ≠ [] ∧ Trimmed (a.shift k) ∧
    (a.shift k).neg = a.neg := by
  obtain ⟨step, s, n, hs, rfl, hn1, e, hstep⟩ := shift_cases a hne k hk
  rw [e] at ht' ⊢
  obtain ⟨b1, b2, b4, b5, _⟩ := shiftBy_exact step (fun n => (2 : ℚ) ^ (s * n))
    (fun m n => by rw [← zpow_add₀ two_ne_zero, Nat.cast_add, mul_add]) hstep 100 a n hn1
    (by rcases hs with rfl | rfl <;> omega) ⟨hwf, hne⟩ ht'
  exact ⟨b1, b2.toWF, b2.ne, b4, b5⟩

/-- **floatBits_correct'** — `decimal.floatBits` returns the correctly rounded float64 of the
decimal's exact value (one `roundMag` with the range rule — what the specification computes),
for every well-formed decimal on whose run no non-zero digit had to be dropped from the
800-digit buffer (`trunc` false at the end; since `trunc` is sticky this is a property of the
run that the model reports and the harness observes on the real code). Scaling loops with
`powtab` (value·2^exp invariant, termination within the fuel, value ends in [1/2, 1)), denormal
shift, 53-bit shift, `RoundedInteger` = `rne`, rounding carry, denormal exponent, both overflow
exits, the `dp > 310` / `dp < -330` shortcuts, assembly of the bits. -/
theorem floatBits_correct' (d0 : Dc) (hwf : WF d0) (ht0 : d0.trunc = false) (hfin : (floatBits d0).trunc = false) :
    (floatBits d0).toExcept =
      if d0.d = [] then .ok (F64.zero d0.neg)
      else evalFrac d0.neg (decFrac (valOf 10 d0.d) (d0.dp - d0.d.length)).1 (decFrac (valOf 10 d0.d) (d0.dp - d0.d.length)).2 :=
  floatBits_correct d0 hwf ht0 hfin

/-- **decSet_correct** — `decimal.set` (atof.go) against the specification's recogniser, for texts
that passed `underscoreOK`: it fails exactly when the recogniser rejects the text or sees a hex
literal; otherwise (mantissa of at most 800 significant digits, exponent literal below the
clamp) it builds a well-formed, untruncated decimal with the numeral's sign and exact value
(or the empty decimal for a zero mantissa). -/
theorem decSet_correct (s : Bytes) (hu : underscoreOK s = true) :
    (recognise s = none → decSet s = none) ∧
    (∀ p, recognise s = some p → p.hex = true → decSet s = none) ∧
    (∀ p, recognise s = some p → p.hex = false → p.mant < 10 ^ 800 →
      ∃ d, decSet s = some d ∧ WF d ∧ d.trunc = false ∧ d.neg = p.neg ∧ (p.mant = 0 → d.d = []) ∧
        (p.mant ≠ 0 → d.d ≠ [] ∧ dval d = valueOf (clampP p (expGapS s)))) := by
  obtain ⟨k1, k2, k3⟩ := decSet_full s hu
  refine ⟨k1, k2, fun p h hh hM => ?_⟩
  obtain ⟨d, e1, e2, e3, e4, e5, e7⟩ := k3 p h hh (Or.inr hM)
  exact ⟨d, e1, e2, e7 hM, e3, fun h0 => (e4 h0).1, fun h0 => ⟨(e5 h0).1, (e5 h0).2.eq_of_trunc (e7 hM)⟩⟩

/-- **shift_floor_correct** — what ONE buffer-limited shift does (`rightShift` / `leftShift`, at
most 60 bits) when digits fall off the 800-digit buffer: the result is the exact quotient/product
cut to the buffer — `value(d') ≤ value(d)·2^±k < value(d') + 10^(dp' − 800)` — and `trunc` is
set exactly when the step was inexact (unchanged otherwise). -/
theorem shift_floor_correct (a : Dc) (k : Nat) (hk1 : 1 ≤ k) (hk : k ≤ 60) (hwf : WF a) (hne : a.d ≠ []) :
    StepRes a (rightShift a k) (1 / (2 : ℚ) ^ k) ∧ StepRes a (leftShift a k) ((2 : ℚ) ^ k) :=
  ⟨rightShift_floor a k hk ⟨hwf, hne⟩, leftShift_floor a k hk1 hk ⟨hwf, hne⟩⟩

/-- **shift_follows_correct** — a truncating shift keeps FOLLOWING the true value: the decimal
stays at or below it (equal as long as `trunc` is false, strictly below once it is true), and
no dyadic point `I·2^q` (I ≤ 2^55, q ≥ −1075 in the input's frame: every float64, every midpoint
between neighbours, every power of two the loops compare with) ever comes to lie between the
decimal and the true value. (The decimal may drift several units of the 800th digit below the
true value over several shifts; what is exact is the ORDER against those points, which have at
most ~770 significant digits next to a decimal of comparable size.) -/
theorem shift_follows_correct (a : Dc) (k : Int) (hk : k ≠ 0) (hk1 : -120 ≤ k) (hk2 : k ≤ 120) (hwf : WF a)
    (hne : a.d ≠ []) (V : ℚ) (K : Int) (h : Follows a V K) (hdp : a.dp ≤ 700)
    (hmag : (0 ≤ K ∧ 0 ≤ K + k) ∨ (1 / (2 : ℚ) ^ 1062 ≤ dval a ∧ 1 / (2 : ℚ) ^ 1062 ≤ dval a * (2 : ℚ) ^ k)) :
    ShiftOut a (a.shift k) V K k :=
  shift_follows a k hk hk1 hk2 ⟨hwf, hne⟩ V K h hdp hmag

/-- **roundedInteger_trunc_correct** — `RoundedInteger` on a decimal that follows `W` (so with
`trunc` set it lies strictly below `W`, with no half-integer in between) returns the
round-half-even of `W` itself: with `trunc` the code rounds an exact-looking half UP, which is
right because the true value is strictly above it. -/
theorem roundedInteger_trunc_correct (d3 : Dc) (hwf : WF d3) (htrim : Trimmed d3) (hdp : d3.dp ≤ 19)
    (W : ℚ) (K3 : Int) (hK : K3 ≤ 1074) (hf : Follows d3 W K3) (hWlt : W < (2 : ℚ) ^ 53)
    (wn wd : Nat) (hwd : 0 < wd) (hW : (wn : ℚ) / wd = W) :
    roundedInteger { d := d3.d, dp := d3.dp, trunc := d3.trunc } = F64.rne wn wd :=
  (F64.rne_eq_of_nearQ wn wd _ hwd (hW ▸ roundedInteger_follow d3 hwf htrim hdp W K3 hK hf hWlt)).symm

/-- **floatBits_correct_trunc** — `decimal.floatBits` returns the correctly rounded float64 of
the decimal's exact value with the range rule on EVERY run, truncating or not
(`floatBits_correct'` without its condition on the run). -/
theorem floatBits_correct_trunc (d0 : Dc) (hwf : WF d0) (ht0 : d0.trunc = false) :
    (floatBits d0).toExcept =
      if d0.d = [] then .ok (F64.zero d0.neg)
      else evalFrac d0.neg (decFrac (valOf 10 d0.d) (d0.dp - d0.d.length)).1 (decFrac (valOf 10 d0.d) (d0.dp - d0.d.length)).2 :=
  floatBits_correct_all d0 hwf ht0

/-- **decSet_trunc_correct** — `decimal.set` on ANY recognised decimal text outside the class of
finding N3 (at most 800 significant digits before the point, any number after it): the decimal
it builds is the text's value cut to the 800-digit buffer — `value(d) ≤ V < value(d) +
10^(dp − 800)` — with `trunc` set exactly when a non-zero digit was cut. -/
theorem decSet_trunc_correct (s : Bytes) (hu : underscoreOK s = true) :
    ∀ p, recognise s = some p → p.hex = false → (mantDigits s).1.length ≤ 800 →
      ∃ d, decSet s = some d ∧ WF d ∧ d.neg = p.neg ∧ (p.mant = 0 → d.d = [] ∧ d.trunc = false) ∧
        (p.mant ≠ 0 → d.d ≠ [] ∧ dval d ≤ valueOf (clampP p (expGapS s)) ∧
          valueOf (clampP p (expGapS s)) < dval d + (10 : ℚ) ^ (d.dp - 800) ∧
          (d.trunc = false → dval d = valueOf (clampP p (expGapS s))) ∧
          (d.trunc = true → dval d < valueOf (clampP p (expGapS s)))) := by
  intro p h hh hI
  obtain ⟨d, e1, e2, e3, e4, e5, _⟩ := (decSet_full s hu).2.2 p h hh (Or.inl hI)
  exact ⟨d, e1, e2, e3, e4, fun h0 => ⟨(e5 h0).1, (e5 h0).2.le, (e5 h0).2.lt, (e5 h0).2.eq_of_trunc, (e5 h0).2.lt_of_trunc⟩⟩

/-- **slowPath_mirror_correct** — the mirrored multiprecision slow path `d.set(s); d.floatBits()`
computes what the specification says (recogniser verdict; correctly rounded value; range rule)
on every run, truncating or not, for every text outside the class of finding N3. -/
theorem slowPath_mirror_correct (s : Bytes) (hu : underscoreOK s = true)
    (hN3 : inClassN3 s = false) :
    (slowPathMirror s).toExcept =
      match recognise s with
      | none => .error .syntax
      | some p => if p.hex then .error .syntax else (clampP p (expGapS s)).eval :=
  slowPathMirror_all s hu hN3

/-- **parseFloat_mirror_correct** — the FULLY MIRRORED model of `bytesconv.ParseFloat(s, 64)`, with
no specification inside (underscore check, special values, `readFloat`, `atofHex`,
`atof64exact`, `decimal.set`, `Shift`/`leftShift`/`rightShift` with the cheat table,
`floatBits`, `RoundedInteger`), equals `parseFloatSpec` — same bits or same error — for EVERY
byte string outside the class of finding N3 whose exponent literal is below 100000 or whose
mantissa text is `Moderate`: the same two hypotheses as `parseFloat_correct`. No condition on the
run (the shifts may overflow the 800-digit buffer and set `trunc`), none on the number of digits
(`set` itself may truncate).
The driver runs this model next to the real `ParseFloat` on every case (`pfm=`), so the
correspondence ties it bit for bit. -/
theorem parseFloat_mirror_correct (s : Bytes) (hlit : expLit s < 100000 ∨ Moderate s) (hN3 : inClassN3 s = false) :
    (parseFloatMirror s).toExcept = parseFloatSpec s := by
  rw [parseFloatMirror_clamped s hN3, parseFloatSpecG_agree s hlit]

/-- … and with no condition on the exponent: the mirrored parser = the specification of the
numeral with its exponent literal clamped -/
theorem parseFloat_mirror_clamped_correct (s : Bytes) (hN3 : inClassN3 s = false) :
    (parseFloatMirror s).toExcept = parseFloatSpecG (expGapS s) s :=
  parseFloatMirror_clamped s hN3

/-- the special case of `parseFloat_mirror_correct` for an exponent literal below 100000, a
mantissa of at most 800 significant digits and a run that never sets `trunc` (`NoTrunc`) -/
theorem parseFloat_mirror_correct_partial (s : Bytes) (hlit : expLit s < 100000)
    (hmant : ∀ p, recognise s = some p → p.mant < 10 ^ 800) (hnt : NoTrunc s) :
    (parseFloatMirror s).toExcept = parseFloatSpec s :=
  parseFloatMirror_full s hlit hmant

/-- … and the reader's `atof` on top of it -/
theorem reader_atof_mirror_correct_ext (x : Bytes) (hne : x ≠ []) (hlit : expLit x < 100000 ∨ Moderate x)
    (hN3 : inClassN3 x = false) :
    (readerAtofMirror x).toExcept = parseFloatSpec x := by
  cases h : atofLoop x 0 with
  | some v =>
    have := atof_fast_correct x hne v h
    unfold readerAtof at this; rw [h] at this
    unfold readerAtofMirror; rw [h]; exact this
  | none =>
    unfold readerAtofMirror
    rw [h]
    exact parseFloat_mirror_correct x hlit hN3

/-- the special case of an exponent literal below the clamp 10000 -/
theorem reader_atof_mirror_correct (x : Bytes) (hne : x ≠ []) (hlit : expLit x < 10000)
    (hN3 : inClassN3 x = false) :
    (readerAtofMirror x).toExcept = parseFloatSpec x :=
  reader_atof_mirror_correct_ext x hne (Or.inl (by omega)) hN3

/-! ## number errors become per-line syntax errors (reader.go:265-293) -/

def liftErr : NumErr → Fmt.NumErr
  | .syntax => .syntax
  | .range => .range

def liftI (r : IntRes) : Except Fmt.NumErr Int :=
  match r.err with
  | none => .ok r.val
  | some e => .error (liftErr e)

def liftF (r : FloatRes) : Except Fmt.NumErr UInt64 :=
  match r.err with
  | none => .ok r.val
  | some e => .error (liftErr e)

/-- the reader model of C02 (Model/Fmt/Reader.lean) with its number oracles instantiated by
this property's models of `bytesconv.Atoi` and of the reader's `atof` -/
def oracles (uc : Fmt.UC) (tidy : UInt64 → Bytes → UInt64 × Bytes) : Fmt.Oracles :=
  { uc, tidy, atoi := fun b => liftI (atoi b), atof := fun b => liftF (readerAtof b) }

/-- some measurement field (positions 0, 2, 4, … of the value/unit list) fails to parse -/
inductive BadValue : List Bytes → Prop
  | here (f : Bytes) (fs : List Bytes) : (readerAtof f).err ≠ none → BadValue (f :: fs)
  | later (f u : Bytes) (fs : List Bytes) : BadValue fs → BadValue (f :: u :: fs)

theorem parseValues_bad (O : Fmt.Oracles) (hO : O.atof = fun b => liftF (readerAtof b))
    (fs : List Bytes) (hb : BadValue fs) : ∀ acc, ∃ m, Fmt.parseValues O fs acc = .error m := by
  induction hb with
  | here f fs hf =>
    intro acc
    unfold Fmt.parseValues
    rw [hO]
    simp only [liftF]
    cases he : (readerAtof f).err with
    | none => exact absurd he hf
    | some e => exact ⟨_, rfl⟩
  | later f u fs _ ih =>
    intro acc
    unfold Fmt.parseValues
    cases ha : O.atof f with
    | error e => exact ⟨_, rfl⟩
    | ok v => simp only []; exact ih _

/-- **errors_become_syntax_errors** — if the iteration count or any measurement of a
`Benchmark…` line is rejected by the number parsers (syntax or range `NumError`), the line
delivers no `Result`: `Scan` queues either nothing (the "name is the whole line" skip, which
happens before any number is looked at) or exactly one `SyntaxError` record carrying the
reader's file name and the line's number. -/
theorem errors_become_syntax_errors (uc : Fmt.UC) (tidy : UInt64 → Bytes → UInt64 × Bytes)
    (st : Fmt.RState) (line : Bytes) (f : Bytes) (fs : List Bytes)
    (hpre : Bytes.hasPrefix line Fmt.benchmarkPrefix = true)
    (hfields : Fmt.fields uc (Fmt.splitField uc (line.drop 9)).2 = f :: fs)
    (hbad : (atoi f).err ≠ none ∨ BadValue fs) :
    (Fmt.scanLine (oracles uc tidy) st line).2 = [] ∨
    ∃ m, (Fmt.scanLine (oracles uc tidy) st line).2 = [.err ⟨st.fileName, st.line + 1, m⟩] := by
  unfold Fmt.scanLine
  simp only [hpre, if_true]
  have key : Fmt.parseBenchmarkLine (oracles uc tidy) line = .skip ∨
      ∃ m, Fmt.parseBenchmarkLine (oracles uc tidy) line = .err m := by
    unfold Fmt.parseBenchmarkLine
    simp only []
    split
    · exact Or.inl rfl
    · right
      have hf : Fmt.fields (oracles uc tidy).uc (Fmt.splitField (oracles uc tidy).uc (List.drop 9 line)).2 = f :: fs := hfields
      rw [hf]
      simp only []
      cases ha : (oracles uc tidy).atoi f with
      | error e => exact ⟨_, rfl⟩
      | ok it =>
        simp only []
        rcases hbad with hb | hb
        · exfalso
          simp only [oracles, liftI] at ha
          cases he : (atoi f).err with
          | none => exact hb he
          | some e => rw [he] at ha; cases ha
        · obtain ⟨m, hm⟩ := parseValues_bad (oracles uc tidy) rfl fs hb []
          rw [hm]; exact ⟨_, rfl⟩
  rcases key with h | ⟨m, h⟩
  · rw [h]; exact Or.inl rfl
  · rw [h]; exact Or.inr ⟨m, rfl⟩

/-- the messages are the reader's: `"parsing iteration count: " + err.Err.Error()` -/
example : Fmt.NumErr.msg "parsing iteration count: " (liftErr .range)
    = Bytes.ofString "parsing iteration count: value out of range" := by decide +kernel

end C03
