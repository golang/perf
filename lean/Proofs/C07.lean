/-
C07 — any string is expressible in expression syntax; bad expressions fail cleanly.
All statements quantify over every byte string, every oracle (`cx.compileOK`, `cx.isSpaceHi`),
every state of the error tracker and both tokenizer modes.
-/
import Proofs.Lemmas.C07Bare
import Proofs.Lemmas.C07GoQuote
import Proofs.Lemmas.C07Proj

namespace C07
open Proc.Tok Proc.ParseFilter

/-- **quoted_word_scan**: for every body made of items (a byte other than `"` and `\`, or `\`
followed by any byte) the end-quote scan stops exactly at the closing quote: the token is the
unquoted body, the remaining input is `rest`; the only possible failure is `strconv.Unquote`'s
own verdict on the literal. -/
theorem quoted_word_scan (cx : Ctx) (m : Bool) {body : Bytes} (h : Items body) (rest : Bytes) (e : ErrSt) :
    next cx m (cQuote :: (body ++ cQuote :: rest)) e =
      match unquote (cQuote :: (body ++ [cQuote])) with
      | some w => mkTok cx (cQuote :: (body ++ cQuote :: rest)) kQ w rest e
      | none => tokError cx (cQuote :: (body ++ cQuote :: rest)) .badEscape e :=
  next_items cx m h rest e

/-- a body ending in an escaped backslash (the quoted-word scan of the code after commit 2efbfeb handles it) is made of items -/
example : Items [120, cBsl, cBsl] :=
  Items.plain (by decide) (by decide) (Items.esc Items.nil)

/-- **quote_expressible**: every byte string `s` has a double-quoted Go literal (`hexQuote s`,
each byte written `\xHH`) that tokenizes, in key and in value position and whatever follows, to
exactly one quoted-word token carrying `s` (by the scan and the model of strconv.Unquote). -/
theorem quote_expressible (cx : Ctx) (m : Bool) (s rest : Bytes) (e : ErrSt) :
    next cx m (hexQuote s ++ rest) e = mkTok cx (hexQuote s ++ rest) kQ s rest e :=
  next_literal cx m (esc_hex s).items (esc_hex s).unquote rest e

/-- if the body of `strconv.Quote s` consists of items and unquotes back to `s`, then
`strconv.Quote s` tokenizes to exactly one quoted word carrying `s`.  `go_quote_expressible`
discharges both hypotheses by `esc_quoteBody`. -/
theorem quote_expressible_of_roundtrip (cx : Ctx) (m : Bool) (isPrint : Nat → Bool) (s rest : Bytes) (e : ErrSt)
    (hItems : Items (quoteBody isPrint (s.length + 1) s))
    (hRound : unquote (goQuote isPrint s) = some s) :
    next cx m (goQuote isPrint s ++ rest) e = mkTok cx (goQuote isPrint s ++ rest) kQ s rest e :=
  next_literal cx m hItems hRound rest e

/-- non-vacuity of the hypotheses for a string with quote, backslash, newline and a non-UTF-8 byte -/
example : Items (quoteBody (fun r => 0x20 ≤ r && r < 0x7f) 6 [34, 92, 10, 0xff, 97]) ∧
    unquote (goQuote (fun r => 0x20 ≤ r && r < 0x7f) [34, 92, 10, 0xff, 97]) = some [34, 92, 10, 0xff, 97] := by
  constructor
  · exact Items.esc (Items.esc (Items.esc (Items.esc (Items.plain (by decide) (by decide)
      (Items.plain (by decide) (by decide) (Items.plain (by decide) (by decide) Items.nil))))))
  · decide +kernel

/-- **go_quote_expressible** (the real `strconv.Quote`): for EVERY byte string `s`,
`strconv.Quote(s)` — modelled rune by rune as in the Go source: `\"` `\\` always escaped, printable
runes copied, `\a \b \f \n \r \t \v`, `\xHH` for other control characters and for bytes that are
not valid UTF-8, `\uHHHH` / `\UHHHHHHHH` for other non-printable runes — tokenizes, in key and value
position and whatever follows, to exactly one quoted-word token carrying `s`.  `strconv.IsPrint` is
an arbitrary parameter; the only fact used about it is that the newline is not printable
(a raw newline is the one byte `strconv.Unquote` refuses inside double quotes). -/
theorem go_quote_expressible (cx : Ctx) (m : Bool) (isPrint : Nat → Bool) (h10 : isPrint 10 = false)
    (s rest : Bytes) (e : ErrSt) :
    next cx m (goQuote isPrint s ++ rest) e = mkTok cx (goQuote isPrint s ++ rest) kQ s rest e :=
  quote_expressible_of_roundtrip cx m isPrint s rest e (esc_quoteBody isPrint h10 _ s (Nat.le_succ _)).items (unquote_goQuote isPrint h10 s)

/-- `strconv.Unquote(strconv.Quote(s)) = s` for the models -/
theorem go_quote_roundtrip (isPrint : Nat → Bool) (h10 : isPrint 10 = false) (s : Bytes) :
    unquote (goQuote isPrint s) = some s := unquote_goQuote isPrint h10 s

/-- **quoted_term_denotes**: for ANY key `k` and ANY value `v` (all byte strings) the filter
`strconv.Quote(k) + ":" + strconv.Quote(v)` parses, and its tree is the single literal match of key
`k` against value `v` — the expression denotes exactly those strings. -/
theorem quoted_term_denotes (cx : Ctx) (isPrint : Nat → Bool) (h10 : isPrint 10 = false) (k v : Bytes)
    (hn : cx.n = (goQuote isPrint k ++ cColon :: goQuote isPrint v).length) :
    parseFilter cx (goQuote isPrint k ++ cColon :: goQuote isPrint v) = .ok (.lit k v 0) := by
  have hoff : offOf cx (goQuote isPrint k ++ cColon :: goQuote isPrint v) = 0 := by simp [offOf, hn]
  have tk : ∀ m s rest, Tk cx m (goQuote isPrint s ++ rest) kQ s (goQuote isPrint s ++ rest) rest := fun m s rest =>
    Tk.here (fun e => go_quote_expressible cx m isPrint h10 s rest e) (by simp [goQuote]; omega)
  -- the derivation: one term `key : value`, then the end of the text
  have d := Parses.last (.andExpr (Parses.term (o := 0) (k := kQ) rfl (tk false k _) (Tk.op cx false cColon _ (by decide)) rfl
    (by simpa using tk true v [])) (.stop (Tk.nil cx false) rfl)) (Tk.nil cx false) rfl
  rw [hoff] at d
  exact (parseFilter_ok_iff cx _ _).mpr ⟨_, [], d, atEnd_nil cx, rfl⟩

/-- **bare_word_ok**: a non-empty word `c :: t` none of whose runes is white space
or one of `( ) : @ ,`, not starting with `-`, `*` or `"` (nor, in value position, with `/`), and
different from `AND` and `OR`, followed by ANY delimiter as the code has it — end of text, or a
rune `r` with `unicode.IsSpace(r) || isOp(r)` (`Delim`) — tokenizes to itself and leaves exactly
the delimiter and what follows.  The only fact used about the white-space oracle: U+FFFD is not
white space (so a delimiter cannot begin with a UTF-8 continuation byte). -/
theorem bare_word_ok (cx : Ctx) (m : Bool) (c : UInt8) (t rest : Bytes) (e : ErrSt)
    (hFFFD : cx.isSpaceHi runeError = false)
    (hop : isStartOpB c = false) (hq : c ≠ cQuote) (hsl : m = true → c ≠ cSlash)
    (hr : allRunes (fun r => !stopRune cx r) (t.length + 1) (c :: t) = true)
    (hA : c :: t ≠ wAND) (hO : c :: t ≠ wOR) (hd : Delim cx rest) :
    next cx m (c :: t ++ rest) e = mkTok cx (c :: t ++ rest) kW (c :: t) rest e := by
  rw [next_bare cx m c t rest e hop hq hsl _ (Nat.le_refl _) (Nat.le_succ _) hr hd (delim_notCont cx hFFFD hd),
    if_neg (by simpa using hA), if_neg (by simpa using hO)]

/-- instances of `Delim`: end of text, an ASCII blank, an operator, a tab -/
example (cx : Ctx) : Delim cx [] ∧ Delim cx (0x20 :: [97]) ∧ Delim cx (cColon :: [97]) ∧ Delim cx (9 :: []) :=
  ⟨Or.inl rfl, Or.inr (by simp [stopRune, decodeRune, isSpaceRune]), Or.inr (by simp [stopRune, decodeRune, isSpaceRune, isOpR, cColon]),
   Or.inr (by simp [stopRune, decodeRune, isSpaceRune])⟩

example : allRunes (fun r => !stopRune ⟨0, fun _ => true, fun _ => false⟩ r) 4 [0xC3, 0xA9, 45, 42] = true := by
  decide +kernel

theorem parse_total_filter (cx : Ctx) (q : Bytes) (e : ErrSt) (f : Nat) (hf : fuelFor q ≤ f) :
    exprF cx f q e = exprF cx (fuelFor q) q e := by
  have h1 : 5 * q.length + 4 < f := by unfold fuelFor at hf; omega
  have h2 : 5 * q.length + 4 < fuelFor q := by unfold fuelFor; omega
  generalize fuelFor q = F at h2 ⊢
  exact (parser_fuel cx f).1 F q e h1 h2

/-- **parse_total**: the models are total functions (structural recursion on fuel), and the fuel
handed out is never exhausted: from the amounts used by `parseFilter` / `parseProjection` / `next`
and by the inner loops upwards, the result does not depend on the fuel. -/
theorem parse_total (cx : Ctx) (q : Bytes) (e : ErrSt) :
    (∀ f, fuelFor q ≤ f → exprF cx f q e = exprF cx (fuelFor q) q e) ∧
    (∀ n fs, q.length < n → Proc.ParseProj.projLoop cx n fs q e = Proc.ParseProj.projLoop cx (q.length + 1) fs q e) ∧
    (∀ m f, q.length < f → nextF cx m f q e = next cx m q e) ∧
    (∀ off key f terms, q.length < f → listLoop cx off key f terms q e = listLoop cx off key (q.length + 1) terms q e) ∧
    (∀ n fld, q.length < n → Proc.ParseProj.fixedLoop cx n fld q e = Proc.ParseProj.fixedLoop cx (q.length + 1) fld q e) :=
  ⟨fun f hf => parse_total_filter cx q e f hf,
   fun n fs h => projLoop_fuel cx n _ fs q e h (Nat.lt_succ_self _),
   fun m f h => nextF_fuel cx m f q e h,
   fun off key f terms h => listLoop_fuel cx off key f _ terms q e h (Nat.lt_succ_self _),
   fun n fld h => fixedLoop_fuel cx n _ fld q e h (Nat.lt_succ_self _)⟩

/-- **error_offset_in_range**: a syntax error of `ParseFilter` / `ParseProjection` is positioned
inside the text: `0 ≤ off ≤ len`. -/
theorem error_offset_in_range (cx : Ctx) (q : Bytes) (err : Err) (hn : cx.n = q.length) :
    (parseFilter cx q = .error err → 0 ≤ err.off ∧ err.off ≤ q.length) ∧
    (Proc.ParseProj.parseProjection cx q = .error err → 0 ≤ err.off ∧ err.off ≤ q.length) :=
  ⟨fun h => hn ▸ parseFilter_error_inR (Nat.le_of_eq hn.symm) h, fun h => hn ▸ parseProjection_error_inR (Nat.le_of_eq hn.symm) h⟩

/-- **semantic_error_offset_in_range**: the errors of `NewFilter` and of
`(*ProjectionParser).Parse` — syntax errors and the semantic rejections (`.config` in a filter,
empty key, unknown order, fixed order on `.config`, `.unit` in a projection), which report the
`Off` / `KeyOff` / `OrderOff` stored in the parse tree — are positioned inside the text.
The one stored offset that can lie beyond the text, `OrderOff = KeyOff + len(key)` of a field
without `@` whose quoted key holds invalid UTF-8 (each bad byte becomes the 3-byte U+FFFD), belongs
to order `first`, which no rejection reports (`FieldOK`). -/
theorem semantic_error_offset_in_range (cx : Ctx) (q : Bytes) (err : Err) (hn : cx.n = q.length) :
    (newFilter cx q = .error err → 0 ≤ err.off ∧ err.off ≤ q.length) ∧
    (Proc.ParseProj.parse cx q = .error err → 0 ≤ err.off ∧ err.off ≤ q.length) := by
  have hq : q.length ≤ cx.n := Nat.le_of_eq hn.symm
  constructor
  · intro h
    rcases (newFilter_error_iff cx q err).mp h with hp | ⟨t, hp, hc⟩
    · exact (error_offset_in_range cx q err hn).1 hp
    · exact hn ▸ checkFilter_inR cx (parseFilter_tree hp fun c hc => inR_offOf cx (Nat.le_trans hc hq)) hc
  · intro h
    rcases (parse_error_iff cx q err).mp h with hp | ⟨fs, hp, hc⟩
    · exact (error_offset_in_range cx q err hn).2 hp
    · obtain ⟨_, _, _, ok⟩ := parseProjection_ok hp
      exact hn ▸ checkFields_inR cx (ok hq) hc

/-- the corner noted above is real: a quoted key of two invalid bytes (4 source bytes) unquotes to
6 bytes, so the stored `OrderOff` is 6 > 4 = len — with order `first` -/
example : (match Proc.ParseProj.parseProjection ⟨4, fun _ => true, fun _ => false⟩ [34, 0x80, 0x80, 34] with
    | .ok [f] => f.key == [0xEF, 0xBF, 0xBD, 0xEF, 0xBF, 0xBD] && f.order == oFirst && decide (f.orderOff = 6)
    | _ => false) = true := by decide +kernel

/-! Each rejection is stated where the construct is recognised (for every remaining input, error
tracker and fuel ≥ 1): the tracker is non-empty afterwards.  `error_is_final` turns a non-empty
tracker into the verdict of the whole parse. -/

/-- once an error is recorded it is never lost or replaced, and the parse fails with it -/
theorem error_is_final (cx : Ctx) (q : Bytes) (x : Err) :
    (∀ m, (next cx m q (some x)).err = some x) ∧
    (∀ f, (matchF cx f q (some x)).err = some x ∧ (exprF cx f q (some x)).err = some x) ∧
    ((exprF cx (fuelFor q) q none).err = some x → parseFilter cx q = .error x) ∧
    (Proc.ParseProj.parseField cx q (some x)).err = some x := by
  refine ⟨?_, ?_, ?_, ?_⟩
  · intro m; exact (next_ok cx m q (some x)).err.some
  · intro f
    exact ⟨((parser_post cx f).M q (some x)).1.sticky rfl, ((parser_post cx f).E q (some x)).sticky rfl⟩
  · intro h
    rw [parseFilter_error_end, h, endCheck_some]
  · exact (parseField_post cx q (some x)).1.sticky rfl

/-- **unterminated_quote_rejected**: a quoted word whose scan finds no closing quote records an
error (and yields the EOF token), in key and value position. -/
theorem unterminated_quote_rejected (cx : Ctx) (m : Bool) (r : Bytes) (e : ErrSt) (h : scanQuote r = none) :
    (next cx m (cQuote :: r) e).err.isSome ∧ (next cx m (cQuote :: r) e).tok.kind = 0 := by
  rw [next_quote, h]
  exact ⟨recErr_isSome _ _ _ _, rfl⟩

example : scanQuote [120, cBsl, cQuote] = none := by decide

/-- **unterminated_regexp_rejected**: in value position, `/` with no closing `/` at the top level
(outside brackets and parentheses, not escaped) records an error. -/
theorem unterminated_regexp_rejected (cx : Ctx) (r : Bytes) (e : ErrSt) (h : reScan r 0 0 = none) :
    (next cx true (cSlash :: r) e).err.isSome ∧ (next cx true (cSlash :: r) e).tok.kind = 0 := by
  rw [next_regexp, h]
  exact ⟨recErr_isSome _ _ _ _, rfl⟩

example : reScan [91, cSlash, 97] 0 0 = none := by decide

/-- **missing_colon_rejected**: a term whose key is not followed by `:`, or whose `:` is not
followed by a value or a parenthesised list, records an error. -/
theorem missing_colon_rejected (cx : Ctx) (f : Nat) (q : Bytes) (e : ErrSt)
    (hw : isWord (next cx false q e).tok.kind = true)
    (h : (next cx false (next cx false q e).rest (next cx false q e).err).tok.kind ≠ cColon ∨
      (let v := next cx true (next cx false (next cx false q e).rest (next cx false q e).err).rest
          (next cx false (next cx false q e).rest (next cx false q e).err).err
       isValue v.tok.kind = false ∧ v.tok.kind ≠ cLP)) :
    (matchF cx (f + 1) q e).err.isSome := by
  obtain ⟨k1, k2, k3⟩ := isWord_kinds hw
  simp only [matchF, k1, k2, k3, hw]
  rcases h with h | ⟨hv1, hv2⟩
  · simp [h, perr, recErr_isSome]
  · by_cases hc : (next cx false (next cx false q e).rest (next cx false q e).err).tok.kind = cColon
    · simp [hc, hv1, hv2, perr, recErr_isSome]
    · simp [hc, perr, recErr_isSome]

/-- **empty_fixed_list_rejected**: `key @ ( )` records an error. -/
theorem empty_fixed_list_rejected (cx : Ctx) (q : Bytes) (e : ErrSt)
    (hk : Proc.ParseProj.isWord (next cx false q e).tok.kind = true)
    (hat : (next cx false (next cx false q e).rest (next cx false q e).err).tok.kind = cAt)
    (hlp : (next cx false (next cx false (next cx false q e).rest (next cx false q e).err).rest
      (next cx false (next cx false q e).rest (next cx false q e).err).err).tok.kind = cLP)
    (hrp : (next cx false (next cx false (next cx false (next cx false q e).rest (next cx false q e).err).rest
      (next cx false (next cx false q e).rest (next cx false q e).err).err).rest
      (next cx false (next cx false (next cx false q e).rest (next cx false q e).err).rest
      (next cx false (next cx false q e).rest (next cx false q e).err).err).err).tok.kind = cRP) :
    (Proc.ParseProj.parseField cx q e).err.isSome := by
  have w1 : Proc.ParseProj.isWord cLP = false := by decide
  have w2 : Proc.ParseProj.isWord cRP = false := by decide
  simp only [Proc.ParseProj.parseField, hk, hat, hlp, w1, Proc.ParseProj.fixedLoop, hrp, w2]
  simp [recErr_isSome]

open Proc.ParseProj in
/-- **unknown_order_rejected**: an order name other than `alpha`, `num`, `first` (and the internal
`fixed` with a non-empty list) makes `makeProjection` fail with "unknown order"; so does the
literal name `fixed` (147e6a6). -/
theorem unknown_order_rejected (f : Field)
    (h : (f.order ≠ oFixed ∧ f.order ≠ oFirst ∧ f.order ≠ oAlpha ∧ f.order ≠ oNum) ∨
      (f.order = oFixed ∧ f.fixed = [])) :
    checkField f = some ⟨f.orderOff, .unknownOrder⟩ := by
  rcases h with ⟨h1, h2, h3, h4⟩ | ⟨h1, h2⟩
  · simp [checkField, h1, h2, h3, h4]
  · simp [checkField, h1, h2]

open Proc.ParseProj in
/-- **unit_in_projection_rejected**: a projection with a field whose key is `.unit` is rejected. -/
theorem unit_in_projection_rejected (cx : Ctx) (q : Bytes) (fs : List Field) (f : Field)
    (hp : parseProjection cx q = .ok fs) (hm : f ∈ fs) (hk : f.key = kUnit) :
    ∃ err, parse cx q = .error err := by
  have : checkFields fs ≠ none := fun h0 =>
    checkField_unit hk (List.findSome?_eq_none_iff.mp (checkFields_eq fs ▸ h0) f hm)
  cases hc : checkFields fs with
  | none => exact absurd hc this
  | some err => exact ⟨err, (parse_error_iff cx q err).mpr (Or.inr ⟨fs, hp, hc⟩)⟩

/-- a leaf with the given key occurs in the tree -/
inductive HasKey (key : Bytes) : Filter → Prop
  | lit (v : Bytes) (off : Int) : HasKey key (.lit key v off)
  | re (v : Bytes) (off : Int) : HasKey key (.re key v off)
  | op (o : Op) (es : List Filter) (x : Filter) : x ∈ es → HasKey key x → HasKey key (.op o es)

theorem hasKey_config_check {t : Filter} (hk : HasKey kConfig t) : checkFilter t ≠ none := by
  have d : (kConfig == kUnit) = false := by decide
  induction hk with
  | lit v off => simp [checkFilter, checkFilter.checkKey, d]
  | re v off => simp [checkFilter, checkFilter.checkKey, d]
  | op o es x hm _ ih =>
    rw [checkFilter, checkList_eq]
    exact fun h0 => ih (List.findSome?_eq_none_iff.mp h0 x hm)

/-- **config_in_filter_rejected**: a filter whose tree has a leaf with key `.config` (anywhere) is
rejected by `NewFilter`. -/
theorem config_in_filter_rejected (cx : Ctx) (q : Bytes) (t : Filter)
    (hp : parseFilter cx q = .ok t) (hk : HasKey kConfig t) :
    ∃ err, newFilter cx q = .error err := by
  have hne := hasKey_config_check hk
  cases hc : checkFilter t with
  | none => exact absurd hc hne
  | some err => exact ⟨err, (newFilter_error_iff cx q err).mpr (Or.inr ⟨t, hp, hc⟩)⟩

/-- if the very first token of a text is in error, both parsers reject the text -/
theorem first_token_error_rejects (cx : Ctx) (q : Bytes) (x : Err)
    (he : (next cx false q none).err = some x) (hk : (next cx false q none).tok.kind = 0) :
    parseFilter cx q = .error x ∧ Proc.ParseProj.parseProjection cx q = .error x := by
  constructor
  · apply (error_is_final cx q x).2.2.1
    have hfuel : fuelFor q = (5 * q.length + 2) + 4 := by unfold fuelFor; omega
    rw [hfuel]
    exact exprF_first_error cx q x he hk _
  · simp only [Proc.ParseProj.parseProjection, Proc.ParseProj.projLoop, hk]
    simp [he, endCheck_some]

/-- a text that begins with an unterminated quoted word is rejected as a filter and as a projection -/
theorem unterminated_quote_text_rejected (cx : Ctx) (r : Bytes) (h : scanQuote r = none) :
    ∃ x, parseFilter cx (cQuote :: r) = .error x ∧ Proc.ParseProj.parseProjection cx (cQuote :: r) = .error x := by
  obtain ⟨he, hk⟩ := unterminated_quote_rejected cx false r none h
  obtain ⟨x, hx⟩ := Option.isSome_iff_exists.mp he
  exact ⟨x, first_token_error_rejects cx _ x hx hk⟩

/-! Parentheses inside quoted words and regexps are not tokens, so balance is stated on the kinds of the
token stream `Lex` (Proofs/Lemmas/C07Lex.lean): tokens read with `next` in the mode the syntax prescribes
at that point (`stepF` for filters, `stepP` for projections), each error-free. -/

/-- **accepted_implies_balanced**: a text accepted by the filter parser (resp. the projection
parser) is, from its first byte to its end, an error-free token stream whose parentheses are
balanced (never more `)` than `(` so far, equal numbers at the end). -/
theorem accepted_implies_balanced (cx : Ctx) (q : Bytes) :
    (∀ t, parseFilter cx q = .ok t →
      ∃ ks qend, Lex cx stepF .K q ks .K qend ∧ AtEnd cx qend ∧ Balanced ks) ∧
    (∀ fs, Proc.ParseProj.parseProjection cx q = .ok fs →
      ∃ ks qend, Lex cx stepP .K q ks .K qend ∧ AtEnd cx qend ∧ Balanced ks) := by
  constructor
  · intro t h
    obtain ⟨ts, qend, d, hat, _⟩ := (parseFilter_ok_iff cx q t).mp h
    obtain ⟨ks, hlex, hseg⟩ := d.lex
    exact ⟨ks, qend, hlex, hat, hseg.balanced⟩
  · intro fs h
    obtain ⟨qend, ⟨ks, hlex, hseg⟩, hat, _⟩ := parseProjection_ok h
    exact ⟨ks, qend, hlex, hat, hseg.balanced⟩

example : Balanced [cLP, kW, cColon, kW, cRP] ∧ ¬ Balanced [cLP, cLP, cStar, cRP] ∧ ¬ Balanced [cRP, cLP] := by
  refine ⟨by unfold Balanced; decide, by unfold Balanced; decide, by unfold Balanced; decide⟩

/-- **reached_error_rejected**: if the token stream of a text reaches, error-free, a position
where the next token (in the mode the syntax prescribes there) is in error, the text is rejected
— whatever precedes or follows.  (Contrapositive of `accepted_implies_balanced` + determinism.) -/
theorem reached_error_rejected (cx : Ctx) (q p : Bytes) (ks : List UInt8) (st : St)
    (herr : (next cx st.mode p none).err ≠ none) :
    (Lex cx stepF .K q ks st p → ∃ err, parseFilter cx q = .error err) ∧
    (Lex cx stepP .K q ks st p → ∃ err, Proc.ParseProj.parseProjection cx q = .error err) := by
  constructor
  · intro hl
    cases hp : parseFilter cx q with
    | error err => exact ⟨err, rfl⟩
    | ok t =>
      obtain ⟨ks2, qend, hl2, hat, _⟩ := (accepted_implies_balanced cx q).1 t hp
      exact absurd (lex_det hl herr hl2 hat) id
  · intro hl
    cases hp : Proc.ParseProj.parseProjection cx q with
    | error err => exact ⟨err, rfl⟩
    | ok fs =>
      obtain ⟨ks2, qend, hl2, hat, _⟩ := (accepted_implies_balanced cx q).2 fs hp
      exact absurd (lex_det hl herr hl2 hat) id

/-- **unterminated_quote_anywhere_rejected**: wherever the token stream reaches a quoted word
without closing quote, the filter (resp. projection) is rejected. -/
theorem unterminated_quote_anywhere_rejected (cx : Ctx) (q r : Bytes) (ks : List UInt8) (st : St)
    (h : scanQuote r = none) :
    (Lex cx stepF .K q ks st (cQuote :: r) → ∃ err, parseFilter cx q = .error err) ∧
    (Lex cx stepP .K q ks st (cQuote :: r) → ∃ err, Proc.ParseProj.parseProjection cx q = .error err) :=
  reached_error_rejected cx q _ ks st (Option.isSome_iff_ne_none.mp (unterminated_quote_rejected cx st.mode r none h).1)

/-- **unterminated_regexp_anywhere_rejected**: wherever the token stream reaches, in value
position (after `:` or inside a value list), a `/` without top-level closing `/`, the filter is rejected. -/
theorem unterminated_regexp_anywhere_rejected (cx : Ctx) (q r : Bytes) (ks : List UInt8) (st : St)
    (hm : st.mode = true) (h : reScan r 0 0 = none) (hl : Lex cx stepF .K q ks st (cSlash :: r)) :
    ∃ err, parseFilter cx q = .error err := by
  refine (reached_error_rejected cx q (cSlash :: r) ks st ?_).1 hl
  rw [hm]
  exact Option.isSome_iff_ne_none.mp (unterminated_regexp_rejected cx r none h).1

/-- leading blanks do not matter for where the stream is -/
theorem same_space (cx : Ctx) (q : Bytes) : Same cx ((0x20 : UInt8) :: q) q :=
  fun m e => (next_space cx m q e).symm

/-- non-vacuity: in `a:b "c` the stream reaches the unterminated `"c` after three tokens -/
example : ∃ ks st, Lex ⟨7, fun _ => true, fun _ => false⟩ stepF .K [97, 58, 98, 0x20, 34, 99] ks st [34, 99] := by
  refine ⟨_, _, Lex.cons (by decide +kernel) (by decide +kernel) (Lex.cons (by decide +kernel) (by decide +kernel)
    (Lex.cons (by decide +kernel) (by decide +kernel) (Lex.nil ?_)))⟩
  generalize hX : TokR.rest _ = X
  have : X = [0x20, 34, 99] := by rw [← hX]; decide +kernel
  rw [this]
  exact same_space _ _

/-- **accepted_tree_wellformed**: the tree of an accepted filter contains no `nil` node (Go's nil
interface, which would make `NewFilter` panic) and every NOT node has exactly one operand (which
`NewFilter`'s `subs[0]` relies on). -/
theorem accepted_tree_wellformed (cx : Ctx) (q : Bytes) (t : Filter) (h : parseFilter cx q = .ok t) : WF t :=
  parseFilter_tree h fun _ _ => trivial

end C07
