/-
C12 — distributions, t-tests and descriptive statistics.  The property theorems, with a
few definitions and local helpers (helper lemmas: Proofs/Lemmas/C12*.lean).

All theorems but those of section `FloatPct` (float64, over `F64Interp` and `C12PercentileF64`) and `invcdf_stateless`
(any instance) are about the EXACT (ℚ) instance of the one program text in Model/Stats/*.lean; the
float64 instance of the same text is tied to the Go code bit for bit by the correspondence check.
Accuracy of the transcendental functions (lgamma, exp, log, erfc, pow, sqrt) and convergence of
the continued fraction within its iteration cap are NOT theorems; they are exercised numerically
by the search layer (see notes/C12.md).
-/
import Proofs.Lemmas.C12Descr
import Proofs.Lemmas.C12Dist
import Proofs.Lemmas.C12Pct
import Proofs.Lemmas.C12Bisect
import Proofs.Lemmas.C12Lentz
import Proofs.Lemmas.C12Weighted
import Proofs.Lemmas.C12PercentileF64
import Proofs.Lemmas.C12TTest

namespace C12
open Stats Stats.Descr

/-- **mean_incremental_exact** — the incremental loop of `stats.Mean` computes Σx/n. -/
theorem mean_incremental_exact (xs : List ℚ) (h : xs ≠ []) :
    mean xs = some (lsum xs / (xs.length : ℚ)) := by
  rw [mean, if_neg (mt List.isEmpty_iff.mp h)]
  exact congrArg some (meanLoop_zero xs h)

/-- **variance_exact** — Welford's loop in `stats.Variance` computes Σ(x − x̄)²/(n − 1). -/
theorem variance_exact (xs : List ℚ) (h : 2 ≤ xs.length) :
    variance xs =
      some (lsum (xs.map fun x => (x - lsum xs / xs.length) * (x - lsum xs / xs.length))
              / ((xs.length : ℚ) - 1)) := by
  have hne : xs ≠ [] := by rintro rfl; exact absurd h (by decide)
  rw [variance, if_neg (mt List.isEmpty_iff.mp hne), if_neg (by omega)]
  simp only [div_rat, ofNat_rat, Nat.cast_zero]
  rw [Nat.cast_pred (by omega), varLoop_zero xs hne]

example : variance [(1 : ℚ), 2, 3, 4] = some (5 / 3) := by decide +kernel

/-- **mean_between_bounds** — `Bounds` returns a lower and an upper bound of every element, and
the (exact) mean lies between them. -/
theorem mean_between_bounds (xs : List ℚ) (hne : xs ≠ []) :
    ∃ mn mx m, bounds xs = some (mn, mx) ∧ mean xs = some m ∧
      (∀ x ∈ xs, mn ≤ x ∧ x ≤ mx) ∧ mn ≤ m ∧ m ≤ mx := by
  cases xs with
  | nil => exact absurd rfl hne
  | cons x t =>
    obtain ⟨_, _, c⟩ := boundsLoop_spec (x :: t) x x
    have m := Shared.mean_between id (x :: t) hne _ _ c
    rw [List.map_id, ← lsum_eq_sum] at m
    exact ⟨_, _, _, rfl, mean_incremental_exact _ hne, c, m⟩

/-- **geomean_structure** — for positive data `GeoMean` is exp of the (exact) arithmetic mean of
the logs, whatever `log` and `exp` are. -/
theorem geomean_structure (log exp : ℚ → ℚ) (xs : List ℚ) (hne : xs ≠ []) (hpos : ∀ x ∈ xs, 0 < x) :
    geoMean log exp xs = some (exp (lsum (xs.map log) / (xs.length : ℚ))) := by
  rw [geoMean, if_neg (mt List.isEmpty_iff.mp hne), geoLoop_eq, if_pos hpos, ofNat_rat, Nat.cast_zero,
    meanLoop_zero _ (mt List.map_eq_nil_iff.mp hne), List.length_map]
  rfl

/-- a non-positive value makes `GeoMean` NaN -/
theorem geomean_nonpositive (log exp : ℚ → ℚ) (xs : List ℚ) (h : ∃ x ∈ xs, x ≤ 0) :
    geoMean log exp xs = none := by
  obtain ⟨x, hx, hx0⟩ := h
  unfold geoMean
  split
  · rfl
  · rw [geoLoop_eq, if_neg fun hp => (hp x hx).not_ge hx0]
    rfl

/-- **geomean_between_bounds** — for ANY monotone `log`, `exp` with exp(log x) = x on the
positives: min ≤ GeoMean ≤ max for bounds lo, hi of positive data; and GeoMean of a constant
positive sample is that constant, exactly. -/
theorem geomean_between_bounds (log exp : ℚ → ℚ)
    (hlog : ∀ u v, 0 < u → u ≤ v → log u ≤ log v) (hexp : ∀ u v, u ≤ v → exp u ≤ exp v)
    (hinv : ∀ u, 0 < u → exp (log u) = u)
    (xs : List ℚ) (hne : xs ≠ []) (lo hi : ℚ) (hlo : 0 < lo) (hb : ∀ x ∈ xs, lo ≤ x ∧ x ≤ hi) :
    ∃ g, geoMean log exp xs = some g ∧ lo ≤ g ∧ g ≤ hi ∧ (lo = hi → g = lo) := by
  have hpos : ∀ x ∈ xs, 0 < x := fun x hx => lt_of_lt_of_le hlo (hb x hx).1
  have hhi : 0 < hi := by
    obtain ⟨x, hx⟩ := List.exists_mem_of_ne_nil xs hne
    exact lt_of_lt_of_le (hpos x hx) (hb x hx).2
  obtain ⟨m1, m2⟩ := Shared.mean_between log xs hne (log lo) (log hi)
    fun x hx => ⟨hlog _ _ hlo (hb x hx).1, hlog _ _ (hpos x hx) (hb x hx).2⟩
  rw [← lsum_eq_sum] at m1 m2
  have g1 := hexp _ _ m1
  have g2 := hexp _ _ m2
  rw [hinv lo hlo] at g1
  rw [hinv hi hhi] at g2
  refine ⟨_, geomean_structure log exp xs hne hpos, g1, g2, ?_⟩
  rintro rfl
  exact le_antisymm g2 g1

/-- **wmean_exact** — the weighted incremental loops of `Sample.Mean` / `Sample.GeoMean` (code after
commit 20422ca: zero weights skipped) compute Σw·x/Σw resp. exp(Σw·log x/Σw) for non-negative weights, and
NaN exactly when the total weight is zero — in particular a leading zero weight is harmless. -/
theorem wmean_exact (xs : List (ℚ × ℚ)) (hw : ∀ p ∈ xs, 0 ≤ p.2) (log exp : ℚ → ℚ) :
    Weighted.wmean xs = (if wsumQ xs = 0 then none else some (wdotQ (fun x => x) xs / wsumQ xs)) ∧
    Weighted.wgeoMean log exp xs =
      (if wsumQ xs = 0 then none else some (exp (wdotQ log xs / wsumQ xs))) :=
  ⟨wmeanLoop_zero _ (fun m => m) xs hw, wmeanLoop_zero log exp xs hw⟩

example : Weighted.wmean [((1 : ℚ), (0 : ℚ)), (2, 1), (3, 1)] = some (5 / 2) := by decide +kernel

/-- value of `Sample.Percentile` on a non-empty sample flagged sorted -/
def pctVal (xs : List ℚ) (p : ℚ) : ℚ :=
  if p ≤ 0 then xs.getD 0 0 else if 1 ≤ p then xs.getD (xs.length - 1) 0 else posVal xs (posOf xs p)

theorem percentile_eq_pctVal (xs : List ℚ) (hne : xs ≠ []) (p : ℚ) :
    percentile xs true p = some (pctVal xs p) := by
  unfold pctVal
  rw [percentile, if_neg (mt List.isEmpty_iff.mp hne), sampleBounds_sorted xs 0 hne]
  simp only [le_rat, ofNat_rat, Nat.cast_zero, Nat.cast_one, Option.map_some, if_true]
  split
  · rfl
  · split
    · rfl
    · rw [interp_eq_posVal xs (le_of_not_ge ‹_›)]

theorem pctVal_eq_lerp {xs : List ℚ} (hne : xs ≠ []) (p : ℚ) :
    pctVal xs p = Lerp.lerp xs (posOf xs p - 1) := by
  have hl : 0 < xs.length := List.length_pos_iff.mpr hne
  unfold pctVal
  split
  · rw [lerp_posOf_of_nonpos xs ‹_›, Lerp.at'_of_lt hl]
  · split
    · rw [lerp_posOf_of_one_le xs hl ‹_›, Lerp.at'_of_lt (Nat.sub_lt hl Nat.one_pos)]
    · exact posVal_eq_lerp xs hl _

/-- **percentile_bounded** — on an ascending sample every percentile (any p, including the
clamped p ≤ 0 and p ≥ 1) lies between the minimum `xs[0]` and the maximum `xs[N−1]`. -/
theorem percentile_bounded (xs : List ℚ) (hs : SortedL xs) (hne : xs ≠ []) (p : ℚ) :
    xs.getD 0 0 ≤ pctVal xs p ∧ pctVal xs p ≤ xs.getD (xs.length - 1) 0 := by
  have hl : 0 < xs.length := List.length_pos_iff.mpr hne
  rw [pctVal_eq_lerp hne, ← Lerp.at'_of_lt hl, ← Lerp.at'_of_lt (Nat.sub_lt hl Nat.one_pos)]
  exact hs.lerp_ends _

/-- **percentile_mono** — on an ascending sample `Percentile` is monotone in p over the whole
real line (clamps included). -/
theorem percentile_mono (xs : List ℚ) (hs : SortedL xs) (hne : xs ≠ []) {p q : ℚ} (hpq : p ≤ q) :
    pctVal xs p ≤ pctVal xs q := by
  rw [pctVal_eq_lerp hne, pctVal_eq_lerp hne]
  exact hs.lerp_mono (sub_le_sub_right (posOf_mono xs hpq) 1)

/-- **percentile_interpolates** — R8: for 0 < p < 1 with position h = 1/3 + p(N+1/3) and
k = ⌊h⌋, 1 ≤ k < N, the value is the convex combination (1−f)·x_k + f·x_{k+1} (1-based order
statistics, f = h − k ∈ [0,1)) and lies between them; and the k-th order statistic is attained
exactly at p_k = (k − 1/3)/(N + 1/3). -/
theorem percentile_interpolates (xs : List ℚ) (hs : SortedL xs) (p : ℚ) (hp : 0 < p ∧ p < 1)
    (k : ℕ) (hk : (posOf xs p).floor = (k : ℤ)) (hk1 : 1 ≤ k) (hkN : k < xs.length) :
    pctVal xs p = (1 - (posOf xs p - k)) * xs.getD (k - 1) 0 + (posOf xs p - k) * xs.getD k 0 ∧
    0 ≤ posOf xs p - k ∧ posOf xs p - k < 1 ∧
    xs.getD (k - 1) 0 ≤ pctVal xs p ∧ pctVal xs p ≤ xs.getD k 0 := by
  obtain ⟨f0, f1⟩ := floor_frac (posOf xs p)
  rw [hk, Int.cast_natCast] at f0 f1
  obtain ⟨b1, b2⟩ := Lerp.between (hs (k - 1) k (Nat.sub_le _ _) hkN) f0 f1.le
  rw [pctVal, if_neg (not_le.mpr hp.1), if_neg (not_le.mpr hp.2), posVal_interior xs _ k hk hk1 hkN]
  exact ⟨by ring, f0, f1, b1, b2⟩

theorem percentile_at_order_statistic (xs : List ℚ) (k : ℕ) (hk1 : 1 ≤ k) (hkN : k < xs.length) :
    pctVal xs (((k : ℚ) - 1 / 3) / ((xs.length : ℚ) + 1 / 3)) = xs.getD (k - 1) 0 := by
  have hN : (0 : ℚ) < (xs.length : ℚ) + 1 / 3 := add_pos_of_nonneg_of_pos (Nat.cast_nonneg _) (by norm_num)
  have hpos : posOf xs (((k : ℚ) - 1 / 3) / ((xs.length : ℚ) + 1 / 3)) = k := by
    rw [posOf, div_mul_cancel₀ _ hN.ne', add_sub_cancel]
  rw [pctVal_eq_lerp (List.ne_nil_of_length_pos (by omega)), hpos, ← Nat.cast_pred hk1, Lerp.lerp_natCast,
    Lerp.at'_of_lt (by omega)]

/-- the sort used for unsorted samples yields an ascending permutation, so the statements above
apply to `Percentile` of ANY sample through `percentile xs false p = percentile (sortXs xs) true p`
(0 < p < 1) and the minimum/maximum are those of the sample -/
theorem sortXs_sorted_perm (xs : List ℚ) : SortedL (sortXs xs) ∧ (sortXs xs).Perm xs :=
  ⟨Lerp.sorted_of_pairwise ((List.pairwise_mergeSort (le := fun a b : ℚ => Arith.le a b)
      (fun a b c h1 h2 => (le_rat _ _).mpr (le_trans ((le_rat _ _).mp h1) ((le_rat _ _).mp h2)))
      (fun a b => by rw [Bool.or_eq_true, le_rat a b, le_rat b a]; exact le_total a b) xs).imp
        fun h => (le_rat _ _).mp h),
    List.mergeSort_perm _ _⟩

theorem percentile_unsorted (xs : List ℚ) (p : ℚ) (hp : 0 < p ∧ p < 1) :
    percentile xs false p = percentile (sortXs xs) true p := by
  have h0 : ¬ p ≤ 0 := not_le.mpr hp.1
  have h1 : ¬ 1 ≤ p := not_le.mpr hp.2
  have hl : (sortXs xs).isEmpty = xs.isEmpty := by
    rw [Bool.eq_iff_iff, List.isEmpty_iff_length_eq_zero, List.isEmpty_iff_length_eq_zero, sortXs,
      List.length_mergeSort]
  unfold percentile
  simp only [hl, le_rat, ofNat_rat, Nat.cast_zero, Nat.cast_one, h0, h1, if_false,
    Bool.false_eq_true, if_true]

section FloatPct
open F64

/-- **percentile_float_bounded** — float64 instance, any signs: for finite floats a ≤ b whose
difference `b - a` does not overflow (spread < MaxFloat64: the complement of finding N12c) and any
finite fraction 0 ≤ frac < 1, the value of `a + frac*(b - a)` as computed in float64 (three
round-to-nearest-even operations) satisfies a ≤ result ≤ b and is not NaN — also when `b - a` is
rounded UP: then frac ≤ 1 − 2^-53 pushes the rounded product onto the float below R(b−a), which is
≤ b − a (`F64.round_mul_le`). -/
theorem percentile_float_bounded (a b frac : Bits) (ha : isFinite a = true) (hb : isFinite b = true)
    (hab : sval a ≤ sval b) (hov : isFinite (sub b a) = true) (hfr : isFinite frac = true)
    (hf0 : 0 ≤ sval frac) (hf1 : sval frac < 1) :
    F64.le a (add a (mul frac (sub b a))) = true ∧ F64.le (add a (mul frac (sub b a))) b = true := by
  obtain ⟨h1, h2, h3⟩ := interp_bounded a b frac ha hb hab hov hfr hf0 hf1
  exact ⟨le_of_sval ha h3 h1, le_of_sval h3 hb h2⟩

/-- **percentile_float_sorted** — the float64 instance of `Sample.Percentile` on a sample flagged
sorted (ascending finite floats of any signs, adjacent differences not overflowing): for EVERY
float p the result is a number between the first and the last element (clamps p ≤ 0, p ≥ 1, NaN p
included). -/
theorem percentile_float_sorted (xs : List Stats.Fl) (hne : xs ≠ []) (hs : FloatSorted xs)
    (p : Stats.Fl) :
    ∃ v, Stats.Descr.percentile xs true p = some v ∧
      F64.le (xs.getD 0 ⟨posZero⟩).bits v.bits = true ∧
      F64.le v.bits (xs.getD (xs.length - 1) ⟨posZero⟩).bits = true := by
  have hl : 0 < xs.length := List.length_pos_iff.mpr hne
  have hl1 : xs.length - 1 < xs.length := Nat.sub_lt hl Nat.one_pos
  rw [Stats.Descr.percentile, if_neg (mt List.isEmpty_iff.mp hne),
    sampleBounds_sorted xs ⟨posZero⟩ hne]
  split
  · exact ⟨_, rfl, hs.le le_rfl hl, hs.le (Nat.zero_le _) hl1⟩
  · split
    · exact ⟨_, rfl, hs.le (Nat.zero_le _) hl1, hs.le le_rfl hl1⟩
    · exact ⟨_, rfl, percentile_float_within_min_max xs hl hs p⟩

/-- a non-trivial instance of the hypotheses: −3, 0.1, 10 -/
example : FloatSorted [⟨0xC008000000000000⟩, ⟨0x3FB999999999999A⟩, ⟨0x4024000000000000⟩] :=
  FloatSorted.of_fin _ (by decide +kernel) (by decide +kernel) (by decide +kernel)

/-- instances of the rounded-up case by kernel evaluation: `b - a`
rounds up, frac = 1 − 2^-53 (the largest float below 1), and the float64 result is still ≤ b -/
example :
    let a : Bits := 0x3fc24e7fc36a8b62; let b : Bits := 0x40057b8a009ecc70
    sub b a = 0x400456a2046823ba ∧
      (add a (mul 0x3FEFFFFFFFFFFFFF (sub b a))).toNat ≤ b.toNat ∧
      a.toNat ≤ (add a (mul 0x3FEFFFFFFFFFFFFF (sub b a))).toNat := by decide +kernel
example :
    let a : Bits := 0x3fee127eadf83d59; let b : Bits := 0x4000aabe178d478d
    (add a (mul 0x3FEFFFFFFFFFFFFF (sub b a))) = b := by decide +kernel

/-- **percentile_float_overflow** — the bound FAILS for finite data of both signs whose spread
exceeds the float64 range: for xs = [−MaxFloat64, +MaxFloat64] (flagged sorted) the model of
`Sample.Percentile(0.5)` returns +Inf, because `Xs[k] − Xs[k−1]` overflows.  (Replayed on the
real code: finding N12c in notes/C12.md.) -/
theorem percentile_float_overflow :
    (Stats.Descr.percentile [(⟨0xFFEFFFFFFFFFFFFF⟩ : Stats.Fl), ⟨0x7FEFFFFFFFFFFFFF⟩] true
        ⟨0x3FE0000000000000⟩).map (·.bits) = some posInf := by decide +kernel

end FloatPct

section TTest
open Stats.TTest

/-- **ttest_formulas (Welch)** — when no error is reported the statistic is
(x̄₁−x̄₂)/√(s₁²/n₁+s₂²/n₂) and the degrees of freedom are Welch–Satterthwaite's
(s₁²/n₁+s₂²/n₂)² / (s₁⁴/(n₁²(n₁−1)) + s₂⁴/(n₂²(n₂−1))), for every `sqrt`. -/
theorem ttest_formulas_welch (sqrt : ℚ → ℚ) (n1 m1 v1 n2 m2 v2 : ℚ)
    (hn : 1 < n1 ∧ 1 < n2) (hv : ¬ (v1 = 0 ∧ v2 = 0)) :
    welch sqrt n1 m1 v1 n2 m2 v2 =
      .ok ⟨(m1 - m2) / sqrt (v1 / n1 + v2 / n2),
           (v1 / n1 + v2 / n2) ^ 2 /
             (v1 ^ 2 / (n1 ^ 2 * (n1 - 1)) + v2 ^ 2 / (n2 ^ 2 * (n2 - 1)))⟩ := by
  rw [welch_eq, guarded_ok _ (not_or.mpr ⟨not_le.mpr hn.1, not_le.mpr hn.2⟩) hv,
    ← pow_two, ← pow_two, ← pow_two, div_pow, div_pow, div_div, div_div]

/-- **ttest_formulas (pooled)** — t = (x̄₁−x̄₂)/√(s_p²(1/n₁+1/n₂)) with
s_p² = ((n₁−1)s₁²+(n₂−1)s₂²)/(n₁+n₂−2) and ν = n₁+n₂−2. -/
theorem ttest_formulas_pooled (sqrt : ℚ → ℚ) (n1 m1 v1 n2 m2 v2 : ℚ)
    (hn : n1 ≠ 0 ∧ n2 ≠ 0) (hv : ¬ (v1 = 0 ∧ v2 = 0)) :
    pooled sqrt n1 m1 v1 n2 m2 v2 =
      .ok ⟨(m1 - m2) / sqrt (((n1 - 1) * v1 + (n2 - 1) * v2) / (n1 + n2 - 2) * (1 / n1 + 1 / n2)),
           n1 + n2 - 2⟩ := by
  rw [pooled_eq, guarded_ok _ (not_or.mpr hn) hv]

/-- **ttest_formulas (one sample)** — t = (x̄−μ₀)/(s/√n) with s = √(s²), ν = n−1
(for any `sqrt`). -/
theorem ttest_formulas_one (sqrt : ℚ → ℚ) (n m v μ0 : ℚ) (hn : n ≠ 0) (hv : v ≠ 0) :
    oneSample sqrt n m v μ0 = .ok ⟨(m - μ0) / (sqrt v / sqrt n), n - 1⟩ := by
  rw [oneSample_eq, guarded_ok _ hn hv, div_div_eq_mul_div]

/-- **ttest_formulas (paired)** — with d = x₁ − x₂ (elementwise), d̄ = Σd/n and
s_d = √(Σ(d−d̄)²/(n−1)): t = (d̄−μ₀)/(s_d/√n), ν = n−1. -/
theorem ttest_formulas_paired (sqrt : ℚ → ℚ) (x1 x2 : List ℚ) (μ0 : ℚ)
    (hl : x1.length = x2.length) (hn : 2 ≤ x1.length) :
    let d := List.zipWith (· - ·) x1 x2
    let n : ℚ := x1.length
    let dbar := lsum d / n
    let sd := sqrt (lsum (d.map fun x => (x - dbar) * (x - dbar)) / (n - 1))
    sd ≠ 0 →
    paired sqrt x1 x2 μ0 = .ok ⟨(dbar - μ0) / (sd / sqrt n), ((x1.length - 1 : ℕ) : ℚ)⟩ := by
  intro d n dbar sd hsd
  have hdl : d.length = x1.length := by rw [List.length_zipWith, ← hl, min_self]
  have hv := variance_exact d (by omega)
  have hm := mean_incremental_exact d (List.ne_nil_of_length_pos (by omega))
  rw [hdl] at hm hv
  rw [paired, if_neg (not_not.mpr hl), if_neg (by omega)]
  dsimp only
  rw [show List.zipWith Arith.sub x1 x2 = d from rfl, hv, hm]
  dsimp only
  rw [pairedCore_eq, guarded_ok _ not_false hsd, div_div_eq_mul_div]

/-- **ttest_tails** — the two-sided p-value is twice the upper tail of |t|, and the two one-sided
p-values add to 1, for ANY distribution function F. -/
theorem ttest_tails (F : ℚ → ℚ) (t : ℚ) :
    pvalue F t .differs = 2 * (1 - F |t|) ∧
    pvalue F t .less + pvalue F t .greater = 1 ∧
    pvalue F t .less = F t := by
  refine ⟨?_, ?_, rfl⟩
  · simp [pvalue, abs_rat]
  · simp [pvalue]

/-- **ttest_errors** — exactly the undersized and zero-variance inputs are reported as errors:
Welch needs more than one value per sample, the pooled and one-sample tests a non-empty sample,
the paired test equal lengths ≥ 2; a test whose variance(s) are all zero reports
`ErrZeroVariance`; every other input yields a result. -/
theorem ttest_errors (sqrt : ℚ → ℚ) (n1 m1 v1 n2 m2 v2 μ0 : ℚ) :
    (welch sqrt n1 m1 v1 n2 m2 v2 = .error .sampleSize ↔ (n1 ≤ 1 ∨ n2 ≤ 1)) ∧
    (welch sqrt n1 m1 v1 n2 m2 v2 = .error .zeroVariance ↔ (1 < n1 ∧ 1 < n2 ∧ v1 = 0 ∧ v2 = 0)) ∧
    (pooled sqrt n1 m1 v1 n2 m2 v2 = .error .sampleSize ↔ (n1 = 0 ∨ n2 = 0)) ∧
    (pooled sqrt n1 m1 v1 n2 m2 v2 = .error .zeroVariance ↔ (n1 ≠ 0 ∧ n2 ≠ 0 ∧ v1 = 0 ∧ v2 = 0)) ∧
    (oneSample sqrt n1 m1 v1 μ0 = .error .sampleSize ↔ n1 = 0) ∧
    (oneSample sqrt n1 m1 v1 μ0 = .error .zeroVariance ↔ (n1 ≠ 0 ∧ v1 = 0)) := by
  rw [welch_eq, pooled_eq, oneSample_eq]
  refine ⟨guarded_eq_sampleSize _ _ _, ?_, guarded_eq_sampleSize _ _ _, ?_, guarded_eq_sampleSize _ _ _,
    guarded_eq_zeroVariance _ _ _⟩
  · rw [guarded_eq_zeroVariance, not_or, not_le, not_le, and_assoc]
  · rw [guarded_eq_zeroVariance, not_or, and_assoc]

theorem ttest_errors_paired (sqrt : ℚ → ℚ) (x1 x2 : List ℚ) (μ0 : ℚ) :
    (paired sqrt x1 x2 μ0 = .error .mismatched ↔ x1.length ≠ x2.length) ∧
    (x1.length = x2.length → x1.length ≤ 1 → paired sqrt x1 x2 μ0 = .error .sampleSize) := by
  refine ⟨⟨fun h => ?_, fun h => by rw [paired, if_pos h]⟩,
    fun hl h2 => by rw [paired, if_neg (not_not.mpr hl), if_pos h2]⟩
  -- no other exit of the function reports a mismatch
  by_contra hc
  rw [paired, if_neg (not_not.mpr hc)] at h
  split at h
  · exact absurd h (by simp)
  · dsimp only at h
    split at h
    · rw [pairedCore_eq] at h
      exact guarded_ne_mismatched _ _ _ h
    · exact absurd h (by simp)

end TTest

section Dist
open Stats.Dists Stats.Beta

/-- **tcdf_reflection** — for x < 0 the model of `TDist.CDF` returns 1 − CDF(−x). -/
theorem tcdf_reflection (I : ℚ → ℚ → ℚ → ℚ) (ν x : ℚ) (hx : x < 0) :
    ∃ v, tcdf I ν (-x) = some v ∧ tcdf I ν x = some (1 - v) :=
  ⟨_, tcdf_eq I ν (-x), by rw [tcdf_eq, tcdfVal_neg, sub_sub_cancel]⟩

/-- **tcdf_range** — for ANY `I` with values in [0,1] (whatever lgamma/exp/log/the continued
fraction deliver) the t distribution function is defined everywhere, lies in [0,1], is ≥ ½ on the
right and ≤ ½ on the left of 0, and equals ½ at 0. -/
theorem tcdf_range (I : ℚ → ℚ → ℚ → ℚ) (hI : ∀ z a b, 0 ≤ I z a b ∧ I z a b ≤ 1) (ν x : ℚ) :
    ∃ v, tcdf I ν x = some v ∧ 0 ≤ v ∧ v ≤ 1 ∧ (0 ≤ x → 1 / 2 ≤ v) ∧ (x ≤ 0 → v ≤ 1 / 2) := by
  refine ⟨_, tcdf_eq I ν x, ?_⟩
  have half : (0 : ℚ) ≤ 1 / 2 := by norm_num
  unfold tcdfVal
  rcases lt_trichotomy x 0 with hx | rfl | hx
  · obtain ⟨h0, h1⟩ := tcdfPos_range I hI ν (-x)
    rw [if_neg hx.ne, if_neg hx.not_gt]
    exact ⟨sub_nonneg.mpr h1, sub_le_self _ (half.trans h0), fun h => absurd hx h.not_gt,
      fun _ => sub_le_comm.mp ((by norm_num : (1 : ℚ) - 1 / 2 = 1 / 2).trans_le h0)⟩
  · rw [if_pos rfl]
    exact ⟨half, by norm_num, fun _ => le_rfl, fun _ => le_rfl⟩
  · obtain ⟨h0, h1⟩ := tcdfPos_range I hI ν x
    rw [if_neg hx.ne', if_pos hx]
    exact ⟨half.trans h0, h1, fun _ => h0, fun h => absurd hx h.not_gt⟩

theorem tcdf_zero (I : ℚ → ℚ → ℚ → ℚ) (ν : ℚ) : tcdf I ν 0 = some (1 / 2) := by
  rw [tcdf_eq, tcdfVal, if_pos rfl]

/-- **tcdf_symmetric** — F(−x) = 1 − F(x) for every x, exactly, in the model. -/
theorem tcdf_symmetric (I : ℚ → ℚ → ℚ → ℚ) (ν x : ℚ) :
    ∃ v w, tcdf I ν x = some v ∧ tcdf I ν (-x) = some w ∧ v + w = 1 :=
  ⟨_, _, tcdf_eq I ν x, tcdf_eq I ν (-x), by rw [tcdfVal_neg, add_sub_cancel]⟩

/-- **ncdf_monotone_range_symmetric** — for ANY antitone, non-negative `erfc` with
erfc(−z) = 2 − erfc(z) (and σ, √2 > 0) the model of `NormalDist.CDF` is monotone, lies in [0,1]
and satisfies F(μ−t) = 1 − F(μ+t). -/
theorem ncdf_monotone_range_symmetric (erfc : ℚ → ℚ) (E : ErfcLike erfc) (s2 μ σ : ℚ)
    (hs : 0 < s2) (hσ : 0 < σ) :
    (∀ x y, x ≤ y → ncdf erfc s2 μ σ x ≤ ncdf erfc s2 μ σ y) ∧
    (∀ x, 0 ≤ ncdf erfc s2 μ σ x ∧ ncdf erfc s2 μ σ x ≤ 1) ∧
    (∀ t, ncdf erfc s2 μ σ (μ - t) = 1 - ncdf erfc s2 μ σ (μ + t)) := by
  have hd : 0 < σ * s2 := mul_pos hσ hs
  refine ⟨fun x y hxy => ?_, fun x => ?_, fun t => ?_⟩
  · rw [ncdf_eq, ncdf_eq]
    exact div_le_div_of_nonneg_right (E.anti _ _ (div_le_div_of_nonneg_right
      (neg_le_neg (sub_le_sub_right hxy μ)) hd.le)) two_pos.le
  · rw [ncdf_eq]
    exact ⟨div_nonneg (E.nonneg _) two_pos.le, (div_le_one two_pos).mpr (E.le_two _)⟩
  · rw [ncdf_eq, ncdf_eq, show -(μ - t - μ) / (σ * s2) = -(-(μ + t - μ) / (σ * s2)) by ring, E.refl]
    ring

/-- the hypotheses are satisfiable -/
example : ErfcLike (fun _ => 1) := ⟨fun _ _ _ => le_refl _, fun _ => by norm_num, fun _ => by norm_num⟩

/-- **betainc_switch_symmetric** — the two branches of `mathBetaInc` are I_x(a,b) and
1 − I_{1−x}(b,a) of the SAME continued fraction: for any `cf`, any prefactor with
bt(x,a,b) = bt(1−x,b,a), 0 ≤ x ≤ 1, and x not exactly on the switch point (a+1)/(a+b+2), the
values computed for (x,a,b) and (1−x,b,a) add to 1 (and one panics iff the other does). -/
theorem betainc_switch_symmetric (bt : ℚ → ℚ → ℚ → ℚ) (cf : ℚ → ℚ → ℚ → Option ℚ) (x a b : ℚ)
    (hbt : bt x a b = bt (1 - x) b a) (hx : 0 ≤ x ∧ x ≤ 1) (hab : a + b + 2 ≠ 0)
    (hsw : x ≠ (a + 1) / (a + b + 2)) :
    (∃ u, betaInc bt cf x a b = .val u ∧ betaInc bt cf (1 - x) b a = .val (1 - u)) ∨
    (betaInc bt cf x a b = .panic ∧ betaInc bt cf (1 - x) b a = .panic) := by
  have hthr := switch_threshold a b hab
  have hbtv : (if (0 : ℚ) < 1 - x ∧ 1 - x < 1 then bt (1 - x) b a else 0)
      = (if (0 : ℚ) < x ∧ x < 1 then bt x a b else 0) :=
    if_congr (by rw [sub_pos, sub_lt_self_iff, and_comm]) hbt.symm rfl
  rw [betaInc_eq bt cf x a b hx,
    betaInc_eq bt cf (1 - x) b a ⟨sub_nonneg.mpr hx.2, sub_le_self _ hx.1⟩, hbtv, sub_sub_cancel]
  -- off the switch point exactly one of x, 1 − x is below its threshold: both calls use one `cf`
  rcases lt_or_gt_of_ne hsw with hlt | hgt
  · rw [hthr, if_pos hlt, if_neg (mt (sub_lt_sub_iff_left _).mp hlt.not_gt)]
    cases cf x a b with
    | none => exact Or.inr ⟨rfl, rfl⟩
    | some v => exact Or.inl ⟨_, rfl, rfl⟩
  · rw [hthr, if_neg hgt.not_gt, if_pos ((sub_lt_sub_iff_left _).mpr hgt)]
    cases cf (1 - x) b a with
    | none => exact Or.inr ⟨rfl, rfl⟩
    | some v => exact Or.inl ⟨_, rfl, by rw [sub_sub_cancel]; rfl⟩

/-- **invcdf_brackets** — both bracketing loops of the generic `InvCDF` (any CDF, monotone or
not; 0 < xdelta), entered as the code enters them, can only return (loX, hiX) with
cdf(loX) < y ≤ cdf(hiX) and loX < hiX. -/
theorem invcdf_brackets (cdf : ℚ → ℚ) (y : ℚ) (fuel : ℕ) (x0 xd a b : ℚ) (hxd : 0 < xd) :
    (cdf x0 < y → bracketUp cdf y fuel x0 x0 (cdf x0) xd = some (a, b) →
      cdf a < y ∧ y ≤ cdf b ∧ a < b) ∧
    (y ≤ cdf x0 → bracketDown cdf y fuel x0 (cdf x0) x0 xd = some (a, b) →
      cdf a < y ∧ y ≤ cdf b ∧ a < b) :=
  ⟨fun h1 h2 => bracketUp_spec cdf y fuel x0 x0 xd a b hxd (Or.inl h1) h2,
   fun h1 h2 => bracketDown_spec cdf y fuel x0 x0 xd a b hxd (Or.inl h1) h2⟩

/-- **bisect_inverts** — `bisectBool` on the predicate `cdf(x) < y` over a bracket
cdf(lo) < y ≤ cdf(hi), lo < hi, returns (x1, x2) with lo ≤ x1 < x2 ≤ hi and cdf(x1) < y ≤ cdf(x2);
when the fuel covers log2((hi−lo)/xtol) halvings, x2 − x1 ≤ xtol; and for a MONOTONE cdf every z
with y ≤ cdf(z) lies above x1 — so x2, the value `InvCDF` returns, is within xtol of the smallest
point where the distribution function reaches y. -/
theorem bisect_inverts (cdf : ℚ → ℚ) (y lo hi xtol : ℚ) (fuel : ℕ)
    (hlh : lo < hi) (hlo : cdf lo < y) (hhi : y ≤ cdf hi) :
    ∃ x1 x2, bisectBool (fun x => Arith.lt (cdf x) y) lo hi xtol fuel = some (x1, x2) ∧
      lo ≤ x1 ∧ x1 < x2 ∧ x2 ≤ hi ∧ cdf x1 < y ∧ y ≤ cdf x2 ∧
      (hi - lo ≤ xtol * 2 ^ fuel → x2 - x1 ≤ xtol) ∧
      ((∀ u v, u ≤ v → cdf u ≤ cdf v) → ∀ z, y ≤ cdf z → x1 < z) := by
  have f1 : (fun x => Arith.lt (cdf x) y) lo = true := (lt_rat _ _).mpr hlo
  have f2 : (fun x => Arith.lt (cdf x) y) hi = false :=
    Bool.eq_false_iff.mpr (mt (lt_rat _ _).mp (not_lt.mpr hhi))
  obtain ⟨a, b, c, d, e, g⟩ :=
    bisectLoop_spec (fun x => Arith.lt (cdf x) y) xtol fuel lo hi true hlh f1 f2
  have d' := (lt_rat _ _).mp d
  have e' := not_lt.mp (mt (lt_rat _ _).mpr (Bool.eq_false_iff.mp e))
  refine ⟨_, _, ?_, a, b, c, d', e', g, fun hmono z hz =>
    lt_of_not_ge fun hc => absurd (hmono _ _ hc) (not_le.mpr (d'.trans_le hz))⟩
  unfold bisectBool
  rw [f1, f2]
  rfl

/-- **invcdf_inverts** — whenever the model of the generic `InvCDF` returns a finite value x for
0 < y < 1, then y ≤ cdf(x) and some x1 < x has cdf(x1) < y (for a monotone cdf: no point at or
below x1 reaches y). -/
theorem invcdf_inverts (cdf : ℚ → ℚ) (bl bh y x : ℚ) (fuel : ℕ) (hy : 0 < y ∧ y < 1)
    (h : invCDF cdf bl bh fuel y = .val x) :
    y ≤ cdf x ∧ ∃ x1, x1 < x ∧ cdf x1 < y := by
  obtain ⟨lo, hi, x1, h1, h2, h3, hb⟩ := invCDF_val cdf bl bh y x fuel hy h
  obtain ⟨x1', x2, hbis, _, h12, _, hx1, hx2, _, _⟩ := bisect_inverts cdf y lo hi (xtol : ℚ) fuel h3 h1 h2
  obtain ⟨rfl, rfl⟩ := Prod.mk.inj (Option.some.inj (hbis.symm.trans hb))
  exact ⟨hx2, x1', h12, hx1⟩

/-- **invcdf_stateless** — the model of a reused `InvCDF(dist)` closure has no state: the answer
to the k-th query is `invCDF` of that query alone, so two calls with the same p agree whatever was
asked in between (any two histories `pre`, `pre'`).  (In dist.go all variables of the closure body —
`x1, y1, xdelta, loX, …` — are declared inside the body; the correspondence check queries ONE real
closure 1500–3000 times and compares call k with this model and with a fresh closure.) -/
theorem invcdf_stateless {α : Type} [Stats.Arith α] (cdf : α → α) (bl bh : α) (fuel : ℕ) :
    (∀ (ps : List α) (k : ℕ) (hk : k < ps.length),
      (runClosure cdf bl bh fuel ps)[k]? = some (invCDF cdf bl bh fuel ps[k])) ∧
    (∀ (pre pre' : List α) (p : α),
      (runClosure cdf bl bh fuel (pre ++ [p])).getLast? = some (invCDF cdf bl bh fuel p) ∧
      (runClosure cdf bl bh fuel (pre ++ [p])).getLast? =
        (runClosure cdf bl bh fuel (pre' ++ [p])).getLast?) := by
  constructor
  · intro ps k hk
    simp [runClosure, hk]
  · intro pre pre' p
    simp [runClosure]

/-- **lentz_is_convergent** — as long as the tiny-value guard `raiseZero` does not fire, the state
of the modified Lentz iteration after the partial numerators e₁ … e_{k+1} is
c = A_{k+1}/A_k, d = B_k/B_{k+1}, h = A_{k+1}/B_{k+1}: h IS the (k+1)-th convergent of
1/(1 + e₁/(1 + e₂/(1 + …))), with A, B the standard Wallis recurrence and
e₁ = −(a+b)x/(a+1), e₂ₘ = m(b−m)x/((a+2m−1)(a+2m)), e₂ₘ₊₁ = −(a+m)(a+b+m)x/((a+2m)(a+2m+1)). -/
theorem lentz_is_convergent (x a b : ℚ) (hg0 : guardInit x a b) (k : ℕ)
    (hg : ∀ j, j < k → guardsOff x a b j) :
    (lstate x a b k).h = cfA (cfNum x a b) (k + 1) / cfB (cfNum x a b) (k + 1) ∧
    (lstate x a b k).c = cfA (cfNum x a b) (k + 1) / cfA (cfNum x a b) k ∧
    (lstate x a b k).d = cfB (cfNum x a b) k / cfB (cfNum x a b) (k + 1) := by
  have hi := lentz_inv x a b hg0 k hg
  exact ⟨eq_div_of_mul_eq hi.b1 hi.h, eq_div_of_mul_eq hi.a0 hi.c, eq_div_of_mul_eq hi.b1 hi.d⟩

/-- the partial numerators are the ones written in beta.go -/
theorem cfNum_formulas (x a b : ℚ) (m : ℕ) (hm : 1 ≤ m) :
    cfNum x a b 1 = -((a + b) * x / (a + 1)) ∧
    cfNum x a b (2 * m) = m * (b - m) * x / ((a + 2 * m - 1) * (a + 2 * m)) ∧
    cfNum x a b (2 * m + 1) = -(a + m) * (a + b + m) * x / ((a + 2 * m) * (a + 2 * m + 1)) := by
  refine ⟨if_pos rfl, ?_, ?_⟩
  · rw [cfNum_even]
    simp only [numEven, one_rat, two_rat, ofNat_rat, mul_rat, sub_rat, add_rat, div_rat]
  · rw [cfNum_odd x a b m hm]
    simp only [numOdd, one_rat, two_rat, ofNat_rat, mul_rat, neg_rat, add_rat, div_rat]

/-- **betacf_returns_convergent** — `betacf` returns exactly at the FIRST iteration m ≤ 200 whose
`hfac = d·c` passes the code's test `|hfac − 1| < 3e-14`, and returns that iteration's h; when the
guard never fired up to there, the value is the (2m+1)-th convergent and the tested quantity is the
ratio of the last two convergents. -/
theorem betacf_returns_convergent (x a b v : ℚ) (h : betacf x a b = some v) :
    ∃ m, 1 ≤ m ∧ m ≤ 200 ∧ v = (lstate x a b (2 * m)).h ∧ stopTest x a b m ∧
      (∀ m', 1 ≤ m' → m' < m → ¬ stopTest x a b m') ∧
      (guardInit x a b → (∀ j, j < 2 * m → guardsOff x a b j) →
        v = cfA (cfNum x a b) (2 * m + 1) / cfB (cfNum x a b) (2 * m + 1) ∧
        hfac x a b m = v / (cfA (cfNum x a b) (2 * m) / cfB (cfNum x a b) (2 * m))) := by
  rw [betacf_eq_find] at h
  obtain ⟨m, hm, h3⟩ := Option.map_eq_some_iff.mp h
  obtain ⟨h4, hr, h5⟩ := List.find?_range'_eq_some.mp hm
  obtain ⟨h1, h2⟩ := List.mem_range'_1.mp hr
  refine ⟨m, h1, Nat.le_of_lt_succ (by rwa [Nat.add_comm] at h2), h3.symm, of_decide_eq_true h4,
    fun m' a1 a2 => of_decide_eq_false ((Bool.not_eq_true' _).mp (h5 m' a1 a2)), fun hg0 hg => ?_⟩
  have h3 := h3.symm
  obtain ⟨hh, hc, hd⟩ := lentz_is_convergent x a b hg0 (2 * m) hg
  have hv := h3.trans hh
  exact ⟨hv, hv ▸ hfac_ratio x a b m h1 hc hd⟩

/-- **betacf_panic** — the panic "failed to converge" happens only when none of the 200
iterations passes the test. -/
theorem betacf_panic (x a b : ℚ) (h : betacf x a b = none) :
    ∀ m, 1 ≤ m → m ≤ 200 → ¬ stopTest x a b m :=
  fun m h1 h2 => of_decide_eq_false ((Bool.not_eq_true' _).mp
    (List.find?_range'_eq_none.mp (Option.map_eq_none_iff.mp ((betacf_eq_find x a b).symm.trans h))
      m h1 (Nat.lt_succ_of_le (by rwa [Nat.add_comm]))))

instance (z : ℚ) : Decidable (GuardOff z) := by unfold GuardOff; infer_instance

/-- the guard hypotheses are satisfiable (x = ½, a = 2, b = ½: first three numerators) -/
example : guardInit (1/2) 2 (1/2) ∧ guardsOff (1/2) 2 (1/2) 0 ∧ guardsOff (1/2) 2 (1/2) 1 := by
  unfold guardInit guardsOff
  decide +kernel

end Dist

end C12
