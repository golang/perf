/-
C01 — Benchmark records survive a write/read round trip. The reader is C02's MODEL reader
(`Model/Fmt/Reader.lean`: `readAll O fn text` is everything `NewReader(text, fn)` delivers); `Writer.writeAll P h`
are the lines the model writer prints for history `h`, `render` their bytes. Observations are compared through
`Obs.abs`: two `Config` lists that denote the same map are the same observation.
-/
import Model.Fmt.Writer
import Model.Spec.RoundTrip
import Proofs.Lemmas.C01Clean
import Proofs.Lemmas.C01ReaderWF
import Proofs.Lemmas.C01Num
import Proofs.Lemmas.C01GoFmt
import Proofs.Lemmas.F64Shortest

namespace C01
open Fmt Spec.RoundTrip Spec.FmtFloat

/-- some parameters, to instantiate statements that do not depend on them -/
def anyOracles : Oracles := ⟨UC.ascii, fun _ => .error .syntax, fun _ => .error .syntax, fun v u => (v, u)⟩

/-- **writer_state_tracks_config (one record).** From any writer state in which `order` lists
the keys of `fileConfig` once each, writing a result whose configuration keys are pairwise
distinct leaves `fileConfig` equal — as a map key ↦ (value, File) — to that configuration,
whichever of the three paths was taken (nothing to do / walk only / walk and new keys), and
keeps the state invariant. -/
theorem writer_state_tracks_config (P : WParams) (w : WState) (r : Res) (hw : WInv w)
    (hnd : (r.config.map Cfg.key).Nodup) :
    (∀ k, (Writer.write P w (.result r)).1.fileConfig.get k = cfgGet r.config k) ∧
    WInv (Writer.write P w (.result r)).1 :=
  have h := writeResult_state P w r hw hnd
  ⟨h.1, h.2.1⟩

theorem winv_stateAfter (P : WParams) : ∀ (h : List Rec) (w : WState), WInv w →
    (∀ r, Rec.result r ∈ h → (r.config.map Cfg.key).Nodup) → WInv (Writer.stateAfter P w h) := by
  intro h
  induction h with
  | nil => intro w hw _; exact hw
  | cons rec rest ih =>
    intro w hw hnd
    have hrest : ∀ r, Rec.result r ∈ rest → (r.config.map Cfg.key).Nodup :=
      fun r hr => hnd r (List.mem_cons_of_mem _ hr)
    cases rec with
    | err e => exact ih w hw hrest
    | unit u => exact ih w hw hrest
    | result r =>
      exact ih _ (writer_state_tracks_config P w r hw (hnd r List.mem_cons_self)).2 hrest

theorem stateAfter_append (P : WParams) : ∀ (h1 h2 : List Rec) (w : WState),
    Writer.stateAfter P w (h1 ++ h2) = Writer.stateAfter P (Writer.stateAfter P w h1) h2 := by
  intro h1
  induction h1 with
  | nil => intro h2 w; rfl
  | cons r rs ih => intro h2 w; simp only [List.cons_append, Writer.stateAfter]; exact ih h2 _

/-- **writer_state_tracks_config (histories).** After any history of records with pairwise
distinct keys — additions, changes, deletions, re-additions, file↔internal flips in any order —
that ends with result `r`, the writer's `fileConfig` is exactly `r`'s configuration. -/
theorem writer_state_tracks_config_history (P : WParams) (h : List Rec) (r : Res)
    (hnd : ∀ x, Rec.result x ∈ h ++ [.result r] → (x.config.map Cfg.key).Nodup) (k : Bytes) :
    (Writer.stateAfter P WState.new (h ++ [.result r])).fileConfig.get k = cfgGet r.config k := by
  rw [stateAfter_append]
  have hw := winv_stateAfter P h WState.new winv_new
    (fun x hx => hnd x (List.mem_append_left _ hx))
  simp only [Writer.stateAfter]
  exact (writer_state_tracks_config P _ r hw (hnd r (by simp))).1 k

theorem nodup_of_ok {O : Oracles} {res : Res} (h : recOKnoCR O (.result res) = true) :
    (res.config.map Cfg.key).Nodup :=
  (resOKnoCR_iff.1 h).1

theorem obs_abs_of_ok {O : Oracles} {r : Rec} (h : recOKnoCR O r = true) : Obs.abs (observe r) = aobsRec r :=
  obs_abs_rec r (fun _ e => nodup_of_ok (e ▸ h))

/-- the state of `NewReader` before the first line -/
def st0 (fn : Bytes) : RState := RState.zero.reset fn []

theorem st0_nodup (O : Oracles) (fn : Bytes) {ls : List Bytes} {r : Res}
    (hr : Rec.result r ∈ readLines O (st0 fn) ls) : (r.config.map Cfg.key).Nodup :=
  readLines_nodup O ls (st0 fn) [] (reset_linked _ fn []) r hr

theorem history_st0 (O : Oracles) (P : WParams) (fn : Bytes) (h : List Rec)
    (hnum : NumOKFor O P h) (hwf : WFnoCR O h = true) :
    (readLines O (st0 fn) (Writer.writeAll P h)).map aobsRec = (kept h).map aobsRec ∧
    Inv O (Writer.stateAfter P WState.new h) (finalState O (st0 fn) (Writer.writeAll P h)).store :=
  history_lines O P h WState.new (st0 fn) (inv_new O Store.empty) (wf_good hnum hwf).1 (wf_good hnum hwf).2
    (fun _ _ => rfl)

/-- **writer_reader_inv.** For every history `h` satisfying `WFnoCR` (hence for every prefix of
a history): when the model reader has consumed the lines the writer printed for `h`, its slot
store satisfies the store invariant of C02 and denotes exactly the FILE part of the writer's
`fileConfig` — reader's map = { k ↦ v | fileConfig k = (v, File = true) } — while `fileConfig`,
with both kinds of entries, is the configuration of the last result
(`writer_state_tracks_config_history`) and `order` lists its keys once each. The CR clause of
`WF` is not needed at the level of lines. -/
theorem writer_reader_inv (O : Oracles) (P : WParams) (fn : Bytes) (h : List Rec)
    (hnum : NumOKFor O P h) (hwf : WFnoCR O h = true) :
    let w := Writer.stateAfter P WState.new h
    let st := finalState O (st0 fn) (Writer.writeAll P h)
    WInv w ∧ st.store.Inv ∧ ∀ k, st.store.toMap k = fileOnly (w.fileConfig.get k) :=
  have hi := (history_st0 O P fn h hnum hwf).2
  ⟨hi.winv, hi.link.inv, hi.link.map⟩

theorem writeAll_clean (O : Oracles) (P : WParams) (h : List Rec) (hnum : NumOKFor O P h)
    (hwf : WF O h = true) : ∀ l ∈ Writer.writeAll P h, Clean l := by
  simp only [WF, Bool.and_eq_true, Bool.not_eq_true'] at hwf
  exact history_clean O P h WState.new hnum winv_new (fun k hk => by simp [WState.new] at hk) (wf_recs hwf.1).1 hwf.2

theorem readAll_render (O : Oracles) (P : WParams) (fn : Bytes) (h : List Rec) (hnum : NumOKFor O P h)
    (hwf : WF O h = true) :
    readAll O fn (render (Writer.writeAll P h)) = readLines O (st0 fn) (Writer.writeAll P h) := by
  unfold readAll st0
  rw [splitLines_render _ (writeAll_clean O P h hnum hwf)]

/-- **roundtrip_history.** For every finite history `h` of results, unit-metadata records and
syntax errors that is well formed (`WF`) — keys added, changed, deleted, re-added, switched
between file and internal from one result to the next in any order; any measurement bits
(zero, ±Inf, NaN, subnormal …), rescaled or not — the model reader applied to the BYTES the
model writer produces delivers exactly `observeWritten h`: the same results in the same order
with the same name, iteration count, measurements as written and file configuration (as a
map), the same unit metadata, and nothing else (no error record, no extra record). -/
theorem roundtrip_history (O : Oracles) (P : WParams) (fn : Bytes) (h : List Rec)
    (hnum : NumOKFor O P h) (hwf : WF O h = true) :
    (observeRead (readAll O fn (render (Writer.writeAll P h)))).map Obs.abs =
      (observeWritten h).map Obs.abs := by
  have hread := readAll_render O P fn h hnum hwf
  simp only [WF, Bool.and_eq_true] at hwf
  rw [hread, observeWritten_eq]
  unfold observeRead
  -- on both sides `Config` lists have distinct keys, so they are maps
  rw [List.map_map, List.map_map,
    List.map_congr_left (f := Obs.abs ∘ observe) (g := aobsRec)
      (fun r hr => obs_abs_rec r fun _ e => st0_nodup O fn (e ▸ hr)),
    List.map_congr_left (l := kept h) (f := Obs.abs ∘ observe) (g := aobsRec)
      (fun r hr => obs_abs_of_ok ((wf_recs hwf.1).1 r (List.mem_filter.1 hr).1))]
  exact (history_st0 O P fn h hnum hwf.1).1

/-- every line the writer prints for `h` is shorter than the reader's line limit (64 KiB) -/
def LinesFit (P : WParams) (h : List Rec) : Prop := ∀ l ∈ Writer.writeAll P h, l.length < maxToken

/-- **roundtrip_history_limited.** The round trip against the reader WITH its line limit
(`readAllLim`, C02's model of `bufio.Scanner`'s `MaxScanTokenSize`): when no printed line reaches
64 KiB the limited reader delivers the same stream as the unlimited one — hence exactly
`observeWritten h` — and reports no error. (The complement, a printed line of ≥ 65536 bytes, is
class N1L: the real reader stops there with `token too long`.) -/
theorem roundtrip_history_limited (O : Oracles) (P : WParams) (fn : Bytes) (h : List Rec)
    (hnum : NumOKFor O P h) (hwf : WF O h = true) (hfit : LinesFit P h) :
    (observeRead (readAllLim O fn (render (Writer.writeAll P h))).1).map Obs.abs =
      (observeWritten h).map Obs.abs ∧
    (readAllLim O fn (render (Writer.writeAll P h))).2 = none := by
  have hclean := writeAll_clean O P h hnum hwf
  have hlim : readAllLim O fn (render (Writer.writeAll P h)) =
      (readAll O fn (render (Writer.writeAll P h)), none) := by
    unfold readAllLim readAll
    simp only [splitLinesLim_render _ hclean hfit, splitLines_render _ hclean]
    rfl
  rw [hlim]
  exact ⟨roundtrip_history O P fn h hnum hwf, rfl⟩

/-- Same round trip one level up: at the level of LINES the CR clause is not needed — the
model reader fed with the printed lines gives `h` back for every history satisfying `WFnoCR`.
(The CR clause matters only when lines are joined with LF and split again: N1.) -/
theorem roundtrip_lines (O : Oracles) (P : WParams) (fn : Bytes) (h : List Rec)
    (hnum : NumOKFor O P h) (hwf : WFnoCR O h = true) :
    (readLines O (st0 fn) (Writer.writeAll P h)).map aobsRec = (kept h).map aobsRec :=
  (history_st0 O P fn h hnum hwf).1

/-- **internal_never_file.** In the round trip of a well-formed history, take the i-th record
written, a result `r`, and the i-th record read back (it exists and is a result `r'`): no key
that is internal configuration in `r` is file configuration in `r'` — whatever the key was in
earlier records (file configuration with the same value included: the case repaired by
40348e7). -/
theorem internal_never_file (O : Oracles) (P : WParams) (fn : Bytes) (h : List Rec)
    (hnum : NumOKFor O P h) (hwf : WF O h = true) (i : Nat) (r : Res)
    (hi : (kept h)[i]? = some (.result r)) :
    ∃ r', (readAll O fn (render (Writer.writeAll P h)))[i]? = some (.result r') ∧
      ∀ c ∈ r.config, c.file = false → ∀ c' ∈ r'.config, c'.key = c.key → c'.file = false := by
  have hwf' := hwf
  simp only [WF, Bool.and_eq_true] at hwf'
  have hi' := congrArg (fun l => l[i]?) (roundtrip_lines O P fn h hnum hwf'.1)
  simp only [List.getElem?_map, hi, Option.map_some] at hi'
  obtain ⟨rec', hg, he⟩ := Option.map_eq_some_iff.1 hi'
  obtain ⟨r', rfl, hfm⟩ := aobsRec_result he
  rw [readAll_render O P fn h hnum hwf]
  refine ⟨r', hg, fun c hc hf c' hc' hk => ?_⟩
  have hrnd := nodup_of_ok ((wf_recs hwf'.1).1 _ (List.mem_filter.1 (List.mem_of_getElem? hi)).1)
  have hnd' := st0_nodup O fn (List.mem_of_getElem? hg)
  -- the file maps agree; at `c.key` the written one holds nothing
  have hfm := congrFun hfm c.key
  unfold fmOf at hfm
  rw [cfgGet_of_mem hrnd hc, hf, ← hk, cfgGet_of_mem hnd' hc'] at hfm
  cases hcf : c'.file with
  | false => rfl
  | true => rw [hcf] at hfm; simp at hfm

/-- **reader_results_WF'**: whatever the text, the stream the reader delivers
satisfies every clause of `WF` but (possibly) the CR clause: keys it accepted are `keyOK`,
fields it split off are `tokenOK`, values are non-empty without LF and without leading
blank/tab, `Config` keys are pairwise distinct, every result has a measurement, unit metadata
is well formed and no (tidied unit, key) setting is delivered twice. -/
theorem reader_results_WF' (O : Oracles) (fn text : Bytes) : WFnoCR O (readAll O fn text) = true :=
  reader_results_WF O fn text

/-- no file-configuration value of the parsed stream ends in CR (the complement of class N1) -/
def NoCRValue (O : Oracles) (fn t : Bytes) : Prop := hasCRValue (readAll O fn t) = false

/-- **roundtrip_text.** For EVERY text `t` whose parsed `key: value` values do not end in CR:
parse, write, parse again — the second parse observes exactly what the first one delivered
(results with names, iteration counts, measurements as written, file configuration; unit
metadata; syntax errors of the input are dropped, none is added). Without `NoCRValue` the
statement is false on the current code (N1: `k: v\r\r\n`). -/
theorem roundtrip_text (O : Oracles) (P : WParams) (fn fn' : Bytes) (t : Bytes)
    (hnum : NumOKFor O P (readAll O fn t)) (hcr : NoCRValue O fn t) :
    (observeRead (readAll O fn' (render (Writer.writeAll P (readAll O fn t))))).map Obs.abs =
      (observeWritten (readAll O fn t)).map Obs.abs := by
  apply roundtrip_history O P fn' (readAll O fn t) hnum
  simp only [WF, Bool.and_eq_true, Bool.not_eq_true']
  exact ⟨reader_results_WF O fn t, hcr⟩

/-- Every line of a configuration block is a blank line, the line `key:` for a key the writer
knows, or `key: value` with the value of a FILE entry of the record being written: an internal
entry never contributes a `key: value` line. -/
theorem config_block_lines (w : WState) (config : List Cfg) :
    ∀ l ∈ (writeFileConfig w config).2,
      l = [] ∨ (∃ k ∈ w.order, l = delLine k) ∨
      (∃ k c, c ∈ config ∧ c.file = true ∧ l = kvLine k c.value) := by
  intro l hl
  exact (writeFileConfig_lines w config l hl).imp id
    (Or.imp id fun ⟨k, c, _, hc, hf, e⟩ => ⟨k, c, hc, hf, e⟩)

/-- What the writer prints for a key it holds as INTERNAL configuration:
the line `key:` when the key has disappeared from the result, nothing when it is still internal
(changed or not), `key: value` only when it has become file configuration. -/
theorem internal_key_lines (config : List Cfg) (fc : FC) (k v : Bytes) (hk : fc.get k = some (v, false)) :
    (cfgAt config k = none → (walk config [k] fc).2.2 = [delLine k]) ∧
    (∀ c, cfgAt config k = some c → c.file = false → (walk config [k] fc).2.2 = []) ∧
    (∀ c, cfgAt config k = some c → c.file = true → (walk config [k] fc).2.2 = [kvLine k c.value]) := by
  refine ⟨fun h => by simp [walk, h], fun c h hf => ?_, fun c h hf => ?_⟩
  · simp only [walk, h, hk, Option.getD_some, hf]
    split <;> simp
  · simp only [walk, h, hk, Option.getD_some, hf]
    simp

/-- Why that `key:` line does not disturb a reader: for an internal key satisfying the `WF`
clause `internalKeyOK`, the line delivers no record, leaves unit metadata alone and leaves the
reader's configuration — which does not hold the key, internal configuration never having been
printed — exactly as it was (the line is either ignored outright, e.g. `.file:`, or deletes a
key that is not there). -/
theorem internal_delete_line_harmless (O : Oracles) (k : Bytes) (hk : internalKeyOK O k = true)
    (st : RState) (hi : st.store.Inv) (hnone : st.store.toMap k = none) :
    (scanLine O st (delLine k)).2 = [] ∧ (scanLine O st (delLine k)).1.units = st.units ∧
    (scanLine O st (delLine k)).1.store.Inv ∧
    ∀ k', (scanLine O st (delLine k)).1.store.toMap k' = st.store.toMap k' := by
  rcases delOk_of_internal O hk with hd | hd
  · rw [hd st]
    refine ⟨rfl, rfl, Store.inv_set hi k [] true, fun k' => ?_⟩
    simp only
    rw [Store.toMap_set hi]
    by_cases hkk : k' = k
    · subst hkk; simp [hnone]
    · simp [hkk]
  · rw [hd st]
    exact ⟨rfl, rfl, hi, fun _ => rfl⟩

/-- **roundtrip_history_spec_numbers.** The round trip with the number parameters instantiated
by SPECIFICATIONS: the reader's `Atoi`/`atof` are C03's `parseIntSpec`/`parseFloatSpec`, the
writer's `%v` is `Spec.FmtFloat.fmtNumSpec` (the shortest decimal in `%e`/`%f` shape that parses
back), `%d` is `fmtInt`. The hypothesis on numbers is then the DECIDABLE check `numCheck h`
(every iteration count survives `%d`/`Atoi`, and the search for the shortest text succeeds for
every measurement of `h`) — the correspondence run observes exactly this for every value it
generates, by comparing `fmtNumSpec` with Go's `%v`. -/
theorem roundtrip_history_spec_numbers (uc : UC) (tidy : UInt64 → Bytes → UInt64 × Bytes) (fn : Bytes)
    (h : List Rec) (hwf : WF (specOracles uc tidy) h = true) (hnum : numCheck h = true) :
    (observeRead (readAll (specOracles uc tidy) fn (render (Writer.writeAll specParams h)))).map Obs.abs =
      (observeWritten h).map Obs.abs :=
  roundtrip_history (specOracles uc tidy) specParams fn h (numOKFor_of_check uc tidy h hnum) hwf

/-- the same for texts: parse (with the specification parsers), write (with the specification of
`%v`), parse again -/
theorem roundtrip_text_spec_numbers (uc : UC) (tidy : UInt64 → Bytes → UInt64 × Bytes) (fn fn' t : Bytes)
    (hnum : numCheck (readAll (specOracles uc tidy) fn t) = true)
    (hcr : NoCRValue (specOracles uc tidy) fn t) :
    (observeRead (readAll (specOracles uc tidy) fn'
        (render (Writer.writeAll specParams (readAll (specOracles uc tidy) fn t))))).map Obs.abs =
      (observeWritten (readAll (specOracles uc tidy) fn t)).map Obs.abs :=
  roundtrip_text (specOracles uc tidy) specParams fn fn' t
    (numOKFor_of_check uc tidy _ hnum) hcr

/-- **shortest_decimal_exists_17.** Every finite non-zero float64 has a shortest decimal
`m·10^e` (least number of significant digits among the decimals in its rounding interval,
nearest to the exact value among those); it has at most 17 significant digits; and it reads
back to exactly the same bits. -/
theorem shortest_decimal_exists_17 (x : F64.Bits) (hx : F64.isFinite x = true) (zx : F64.isZero x = false) :
    ∃ (m : Nat) (e : Int), m < 10 ^ 17 ∧ F64.IsShortestDecimal x m e ∧ F64.ofDecimal (F64.signBit x) m e = x := by
  obtain ⟨m, e, h⟩ := F64.exists_isShortest x hx zx
  refine ⟨m, e, ?_, h, F64.shortest_reads_back x hx zx m e h⟩
  exact lt_of_lt_of_le h.1 (Nat.pow_le_pow_right (by decide) (F64.shortestLen_le_17 x hx zx))

/-- **roundtrip_history_go.** The round trip with the reader's numbers instantiated by C03's
MODELS of `bytesconv.Atoi` and of the reader's `atof` (`C03.oracles`), for ANY writer number text
`P` of which only `GoFmtOK uc P` is assumed — the correspondence-level fact that Go's `%v` output
for a finite non-zero value is a plain decimal numeral, one field, with the sign of the value and
a value inside its rounding interval (and `NaN`, `+Inf`, `-Inf`, `0`, `-0` for the special
values). That such a numeral exists with at most 17 digits is `shortest_decimal_exists_17`; that
it reads back is `reads_back_reader`. Iteration counts are `int`s (`inInt64`). -/
theorem roundtrip_history_go (uc : UC) (tidy : UInt64 → Bytes → UInt64 × Bytes) (P : WParams)
    (hgo : GoFmtOK uc P) (fn : Bytes) (h : List Rec) (hwf : WF (C03.oracles uc tidy) h = true)
    (hit : ∀ r, Rec.result r ∈ h → inInt64 r.iters) :
    (observeRead (readAll (C03.oracles uc tidy) fn (render (Writer.writeAll P h)))).map Obs.abs =
      (observeWritten h).map Obs.abs :=
  roundtrip_history (C03.oracles uc tidy) P fn h (numOKFor_go uc tidy P hgo h hit) hwf

/-- **roundtrip_text_go.** For EVERY text whose parsed `key: value` values do not end in CR:
parse (C03's reader models), write (any `%v` text satisfying `GoFmtOK`), parse again — the
second parse observes exactly what the first delivered. All finite values, NaN and ±Inf are
covered with no hypothesis on the numbers of the text: the iteration counts the reader delivered
are in range (`iters_inInt64`), every measurement's text reads back (`numGood_go`). -/
theorem roundtrip_text_go (uc : UC) (tidy : UInt64 → Bytes → UInt64 × Bytes) (P : WParams)
    (hgo : GoFmtOK uc P) (fn fn' t : Bytes) (hcr : NoCRValue (C03.oracles uc tidy) fn t) :
    (observeRead (readAll (C03.oracles uc tidy) fn'
        (render (Writer.writeAll P (readAll (C03.oracles uc tidy) fn t))))).map Obs.abs =
      (observeWritten (readAll (C03.oracles uc tidy) fn t)).map Obs.abs := by
  apply roundtrip_text (C03.oracles uc tidy) P fn fn' t _ hcr
  apply numOKFor_go uc tidy P hgo
  intro r hr
  exact iters_inInt64 (C03.oracles uc tidy) (fun _ => rfl) _ _ r hr

/-- a key `a` (97), a value `1`, a measurement `5 u` -/
def exVal : Val := { value := 5, unit := [117], origValue := 0, origUnit := [] }
def exRes (cfg : List Cfg) : Rec :=
  .result { config := cfg, name := [88], iters := 1, values := [exVal], fileName := [], line := 0 }

/-- a four-record history with delete, re-add and file→internal→file flips -/
def exHistory : List Rec :=
  [ exRes [⟨[97], [49], true⟩, ⟨[98], [50], true⟩, ⟨[46, 102], [120], false⟩],
    exRes [⟨[97], [49], false⟩],                       -- a: file → internal; b, .f deleted
    .unit ⟨[117], [107], [117], [118], [], 0⟩,
    exRes [⟨[98], [51], true⟩, ⟨[97], [49], true⟩],   -- b re-added; a: internal → file
    exRes [] ]

example : WF anyOracles exHistory = true := by decide

/-- what the model writer prints for it (number text: every value prints as `5`) -/
example :
    Writer.writeAll ⟨fun _ => [53]⟩ exHistory =
      [[97, 58, 32, 49], [98, 58, 32, 50], [],
       [66, 101, 110, 99, 104, 109, 97, 114, 107, 88, 32, 49, 32, 53, 32, 117],
       [], [97, 58], [98, 58], [46, 102, 58], [],
       [66, 101, 110, 99, 104, 109, 97, 114, 107, 88, 32, 49, 32, 53, 32, 117],
       [85, 110, 105, 116, 32, 117, 32, 107, 61, 118],
       [], [97, 58, 32, 49], [98, 58, 32, 51], [],
       [66, 101, 110, 99, 104, 109, 97, 114, 107, 88, 32, 49, 32, 53, 32, 117],
       [], [97, 58], [98, 58], [],
       [66, 101, 110, 99, 104, 109, 97, 114, 107, 88, 32, 49, 32, 53, 32, 117]] := by
  decide

/-- N1: the CR clause of `WF` is what fails on `k: v\r` -/
example :
    WFnoCR anyOracles [exRes [⟨[107], [118, 13], true⟩]] = true ∧
    WF anyOracles [exRes [⟨[107], [118, 13], true⟩]] = false := by decide

/-- the number hypothesis holds for the example history under the specification oracles, and
so do all hypotheses of `roundtrip_history_spec_numbers` -/
example : numCheck exHistory = true ∧ WF (specOracles UC.ascii fun v u => (v, u)) exHistory = true := by
  decide +kernel

/-- special values: what the specification of `%v` prints, and that it parses back -/
example :
    (fmtNumSpec? 0x7FF8000000000123 = some [78, 97, 78]) ∧                -- NaN (payload dropped)
    (fmtNumSpec? 0xFFF0000000000000 = some [45, 73, 110, 102]) ∧          -- -Inf
    (fmtNumSpec? 0x8000000000000000 = some [45, 48]) ∧                    -- -0
    (fmtNumSpec? 0x0000000000000001 = some [53, 101, 45, 51, 50, 52]) ∧   -- 5e-324
    (fmtNumSpec? 0x412E848000000000 = some [49, 101, 43, 48, 54]) ∧       -- 1e+06
    (fmtNumSpec? 0x3FD3333333333334 = some [48, 46, 51, 48, 48, 48, 48, 48, 48, 48, 48, 48, 48, 48, 48, 48, 48, 48, 52]) := by
  decide +kernel

end C01
