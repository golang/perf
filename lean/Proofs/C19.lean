/-
C19 — stored results come back exactly, and queries mean what they say. Property theorems; the helper lemmas are in
Proofs/Lemmas/C19*.lean.
-/
import Model.Storage.Query
import Model.Storage.Fmt
import Model.Analysis.Quote
import Proofs.Lemmas.C19Order
import Proofs.Lemmas.C19Merge
import Proofs.Lemmas.C19SplitWords
import Proofs.Lemmas.C19Rel
import Proofs.Lemmas.C19KvLine
import Proofs.Lemmas.C19Insert
import Proofs.Lemmas.C19Wf
import Proofs.Lemmas.C19Listing
import Proofs.Lemmas.C19Coalesce
import Proofs.Lemmas.C19ReadBack
import Proofs.Lemmas.C19Lex
import Proofs.Lemmas.C19Store
import Proofs.Lemmas.C19Clean
import Proofs.Lemmas.C19Sent
import Proofs.Lemmas.C19Names
import Proofs.Lemmas.C19Reach

namespace C19
open Storage.Query Analysis.Quote

/-- **merge_is_conjunction, for an arbitrary linear order** with least element `e` (the empty
string): merging the parts on one key from left to right yields a part that a value `v ≠ e`
satisfies iff it satisfies every part; io.EOF (`none`) exactly when no such value exists. -/
theorem merge_is_conjunction_generic {V : Type} [LinearOrder V] (lt : V → V → Bool) (e : V)
    (hlt : ∀ a b, lt a b = true ↔ a < b) (he : ∀ v, e ≤ v)
    (p : PartG V) (ps : List (PartG V)) (v : V) (hv : v ≠ e) :
    satOpt lt (mergeAll lt e p ps) v ↔ ∀ q ∈ p :: ps, satG lt q v :=
  mergeAll_sat lt e hlt he ps p v hv

/-- **merge_is_conjunction** at the bytewise order of Go strings / SQLite BINARY collation.
`_partial`: holds for every label value except the empty string; for `v = ""` the code's treatment
of an empty lower bound (`key>` selects any value, `ltgt` with `value2 == ""` becomes `lt`) departs
from the comparison semantics — see `merge_empty_value_counterexample` and finding N8. -/
theorem merge_is_conjunction_partial (p : Part) (ps : List Part) (v : Bytes) (hv : v ≠ []) :
    satOpt blt (@mergeAll Bytes bytesOrder blt [] p ps) v ↔ ∀ q ∈ p :: ps, satG blt q v :=
  @mergeAll_sat Bytes bytesOrder blt [] (fun _ _ => Iff.rfl) (fun v => blt_nil_right v) ps p v hv

example : satG blt (⟨[107], .gt, [97], []⟩ : Part) [98] ∧ ([98] : Bytes) ≠ [] := by
  simp [satG, blt]

/-- without `v ≠ e` the conjunction statement fails, at the empty value: `k>"" k<"b"` merges to `k<"b"`, which the
empty string satisfies although `"" > ""` is false. -/
theorem merge_empty_value_counterexample :
    ∃ (p q : Part) (v : Bytes),
      satOpt blt (merge p q) v ∧ ¬ (satG blt p v ∧ satG blt q v) :=
  ⟨⟨[107], .gt, [], []⟩, ⟨[107], .lt, [98], []⟩, [], by
    simp [merge, mergeG, finishLtgt, satOpt, satG, blt, Op.toNat]⟩

/-- **splitwords_quote**: a non-empty word quoted by `addToQuery`'s rule is split back into exactly
that word. -/
theorem splitwords_quote (s : Bytes) (hs : s ≠ []) : splitWords (quote s) = [s] :=
  splitWords_quote_end s hs

/-- the whole of `addToQuery`: the added word comes back first, then the words of the old query
(after a `|` word when the old query had none). -/
theorem splitwords_addToQuery (q add : Bytes) (ha : add ≠ []) :
    splitWords (addToQuery q add) =
      add :: (if q.any (· == cBar) then splitWords q else [cBar] :: splitWords q) := by
  unfold addToQuery
  split
  · rw [List.append_assoc, List.singleton_append, splitWords_quote_cons _ _ ha]
  · rw [List.append_assoc]
    show splitWords (quote add ++ cSpace :: (Analysis.Parse.wBar ++ cSpace :: q)) = _
    rw [splitWords_quote_cons _ _ ha, splitWords_closed _ _ closed_bar]
    rfl

/-- the words of `ws` quoted and joined by blanks -/
def joinQuoted : List Bytes → Bytes
  | [] => []
  | [w] => quote w
  | w :: ws => quote w ++ cSpace :: joinQuoted ws

/-- **splitwords_spec**: (i) no word is empty; (ii) every list of non-empty words is recovered from
its quoted, blank-separated rendering (any byte string can be a word). -/
theorem splitwords_spec :
    (∀ q, ∀ w ∈ splitWords q, w ≠ []) ∧
    (∀ ws : List Bytes, (∀ w ∈ ws, w ≠ []) → splitWords (joinQuoted ws) = ws) := by
  refine ⟨splitWords_nonempty, ?_⟩
  intro ws
  induction ws with
  | nil => intro _; rfl
  | cons w ws ih =>
    intro h
    cases ws with
    | nil => exact splitWords_quote_end w (h w (by simp))
    | cons w2 ws' =>
      show splitWords (quote w ++ cSpace :: joinQuoted (w2 :: ws')) = _
      rw [splitWords_quote_cons _ _ (h w (by simp)), ih (fun x hx => h x (by simp [hx]))]

/-- **query_result_spec** (relational model of the SQL): on a database state whose keys hold (`WF`)
and that stores no empty label value, a query that is accepted returns exactly the stored records
whose labels satisfy every word of the query — `key:value`, `key<value`, `key>value` compared
bytewise, several words on one key meaning their conjunction — each record once. -/
theorem query_result_spec (db : DB) (hwf : WF db) (hne : NoEmptyValues db) (q : Bytes)
    (recs : List RecordRow) (h : queryRecords db q = .ok recs) :
    recs.Nodup ∧ ∀ r, r ∈ recs ↔
      (r ∈ db.records ∧
        ∀ w ∈ splitWords q, ∃ p, parseWord w = .ok p ∧ termSat (labelRel db r.rkey) p) := by
  unfold queryRecords at h
  obtain ⟨sqls, hp, h⟩ := (bind_eq_ok _ _ _).mp h
  cases h
  have hsel := selectRecords_spec db hwf sqls
  exact ⟨hsel.1, fun r => (hsel.2 r).trans <| and_congr_right fun hr =>
    parseQuery_rows db hwf hne q sqls hp r.rkey (List.mem_map.mpr ⟨r, hr, rfl⟩)⟩

/-- a query reported as never matching (io.EOF, shown as an empty result) is indeed satisfied by no
stored record -/
theorem query_unsat_spec (db : DB) (hwf : WF db) (hne : NoEmptyValues db) (q : Bytes)
    (h : queryRecords db q = .error .eof) (r : RecordRow) (_hr : r ∈ db.records) :
    ¬ ∀ w ∈ splitWords q, ∀ p, parseWord w = .ok p → termSat (labelRel db r.rkey) p := by
  unfold queryRecords at h
  rcases (bind_eq_error _ _ _).mp h with h | ⟨_, _, h⟩
  · exact parseQuery_unsat db hwf hne q h r.rkey
  · cases h

open Storage.Fmt in
/-- **printer_reader_roundtrip_partial**: the two kinds of configuration line the Printer writes are
read back as written — `key: value` for a non-empty value that does not start with a blank or tab,
`key:` as the removal of the key.
(A statement about single lines; whole result streams: `printer_reader_roundtrip`.) -/
theorem printer_reader_roundtrip_partial (k v : Bytes) (hk : validKey k) :
    ((∃ c r, v = c :: r ∧ isBlank c = false) →
      parseKeyValueLine (k ++ [cColon, cSpace] ++ v) = some (k, v)) ∧
    parseKeyValueLine (k ++ [cColon]) = some (k, []) :=
  ⟨kv_line_roundtrip k v hk, kv_unset_roundtrip k hk⟩

/-- "upload-file", " f.txt", "f.txt" as byte lists -/
def bUploadFile : Bytes := [117, 112, 108, 111, 97, 100, 45, 102, 105, 108, 101]
def bBlankF : Bytes := [32, 102, 46, 116, 120, 116]
def bF : Bytes := [102, 46, 116, 120, 116]

open Storage.Fmt in
example : validKey bUploadFile ∧ (∃ c r, bF = c :: r ∧ isBlank c = false) := by
  refine ⟨⟨⟨117, _, rfl, by decide⟩, by decide⟩, 102, _, rfl, by decide⟩

open Storage.Fmt in
/-- the hypothesis on the value is needed (finding N7): the server label `upload-file: " f.txt"` is
printed as `upload-file:  f.txt` and read back without its blank. -/
theorem printer_reader_blank_counterexample :
    parseKeyValueLine (bUploadFile ++ [cColon, cSpace] ++ bBlankF) = some (bUploadFile, bF) := by
  decide

open Storage.Fmt in
/-- a value ending in CR (line `k: w\r\r\n`, stored as `k: w\r\n`) loses the CR when the stored
record is scanned again -/
theorem printer_reader_cr_counterexample :
    scanLines [107, 58, 32, 119, 13, 10] = [[107, 58, 32, 119]] := by decide

open Storage.Fmt in
/-- **coalesce_spec_partial**: a result with the same labels as the previous one (`SameLabels`) is
appended to the previous record and indexes nothing; any other result starts a new record whose
content is the result printed by a fresh Printer and takes the next record id.
(A statement about one `InsertRecord` step; runs of results: `coalesce_spec`, the flush boundary:
`flush_boundary`. `SameLabels` is not label equality when values are empty: `sameLabels_counterexample`.) -/
theorem coalesce_spec_partial (u : Upload) (r : Result) :
    (∀ last, u.lastResult = some last → last.sameLabels r = true →
      (u.insertRecord r).records = appendToLast u.records (r.content ++ [nl]) ∧
      (u.insertRecord r).labels = u.labels ∧ (u.insertRecord r).recordid = u.recordid) ∧
    ((u.lastResult = none ∨ ∃ last, u.lastResult = some last ∧ last.sameLabels r = false) →
      (u.insertRecord r).records = u.records ++ [⟨u.id, u.recordid, (printResult [] r).1⟩] ∧
      (u.insertRecord r).recordid = u.recordid + 1) := by
  have hnew := And.intro (insertNew_records u r) (insertNew_recordid u r)
  constructor
  · intro last hl hs
    rw [insertRecord_same u r last hl hs]
    exact ⟨rfl, rfl, rfl⟩
  · rintro (hn | ⟨last, hl, hs⟩)
    · rw [insertRecord_new u r fun l h => by rw [hn] at h; cases h]; exact hnew
    · rw [insertRecord_new u r fun l h => by rw [hl] at h; cases h; exact hs]; exact hnew

open Storage.Fmt in
/-- `Labels.Equal` treats a missing key as the empty value: the name labels of `X/` and `X/a=`
compare equal, so the two lines are stored as one record (class of finding N8). -/
theorem sameLabels_counterexample :
    Labels.equal (parseNameLabels [88, 47]) (parseNameLabels [88, 47, 97, 61]) = true ∧
    parseNameLabels [88, 47] ≠ parseNameLabels [88, 47, 97, 61] := by decide +kernel

open Storage.Fmt in
/-- **printer_reader_roundtrip** (whole streams): for every sequence of results whose labels are a
sorted map with Reader-acceptable keys and values that are non-empty, do not start with a blank or
tab, hold no line feed and do not end in CR (the complement of N7's class), and whose content lines
are benchmark lines without line feed or trailing CR: what one Printer writes for the sequence, a
fresh Reader reads back as the same sequence of (labels, content line) — in any order of the
results, with any label histories (keys added, changed, removed between results).
(Name labels are a function of the content line; line numbers are not preserved.) -/
theorem printer_reader_roundtrip (rs : List Result) (hr : ∀ r ∈ rs, CleanResult r) :
    (readAll (printAll [] rs)).map (fun r => (r.labels, r.content)) =
      rs.map (fun r => (r.labels, r.content)) :=
  readAll_printAll rs hr

open Storage.Fmt in
/-- a non-trivial clean result: labels `k=v`, `pkg=a b`, line `BenchmarkF/x-4 1 2 ns/op` -/
def sampleResult : Result :=
  { labels := [([107], [118]), ([112, 107, 103], [97, 32, 98])], nameLabels := none, lineNum := 0,
    content := [66, 101, 110, 99, 104, 109, 97, 114, 107, 70, 47, 120, 45, 52, 32, 49, 32, 50, 32, 110, 115, 47, 111, 112] }

open Storage.Fmt in
example : CleanResult sampleResult := by
  refine ⟨⟨by unfold StrictSorted; decide +kernel, ?_, ?_⟩, ⟨[70, 47, 120, 45, 52], by decide +kernel⟩, by decide +kernel, by decide +kernel⟩
  · intro kv hkv
    simp only [sampleResult, List.mem_cons, List.not_mem_nil, or_false] at hkv
    rcases hkv with rfl | rfl
    · exact ⟨⟨107, [], rfl, by decide⟩, by decide⟩
    · exact ⟨⟨112, [107, 103], rfl, by decide⟩, by decide⟩
  · intro kv hkv
    simp only [sampleResult, List.mem_cons, List.not_mem_nil, or_false] at hkv
    rcases hkv with rfl | rfl
    · exact ⟨⟨118, [], rfl, by decide⟩, by decide, by decide⟩
    · exact ⟨⟨97, [32, 98], rfl, by decide⟩, by decide, by decide⟩

open Storage.Fmt in
/-- **coalesce_spec** (records = runs, between flushes): from a state whose open record does not
take the first result, and while the label queue stays below the 990-argument threshold, inserting
`rs` stores exactly one record per run — a run being a result followed by the results that
`SameLabels` it — with consecutive record ids, each record holding the first result printed with all
its labels and then the bare lines of the rest of the run. -/
theorem coalesce_spec (rs : List Result) (u : Upload)
    (hhead : ∀ l r, u.lastResult = some l → rs.head? = some r → l.sameLabels r = false)
    (hargs : u.labelArgs + 4 * headLabels (runs rs.length rs) ≤ 990) :
    (rs.foldl Upload.insertRecord u).records = u.records ++ rowsOf u.id u.recordid (runs rs.length rs) ∧
    (rs.foldl Upload.insertRecord u).recordid = u.recordid + (runs rs.length rs).length :=
  insert_runs rs.length rs (Nat.le_refl _) u hhead hargs

open Storage.Fmt in
/-- **flush_boundary** (what happens at a flush, the boundary of finding N9): when the queue reaches
990 arguments while the labels of a new record `h` are queued, the record itself is stored as usual
but the coalescing state is forgotten; the next result starts a new record even if it has the very
same labels. Together with `coalesce_spec` (which applies again from the state after the flush, whose
`lastResult` is `none`): the stored records are the runs of the result sequence split after every
result whose insertion flushed. -/
theorem flush_boundary (u : Upload) (h r : Result) (hn : nLabels h ≠ 0)
    (hf : u.labelArgs + 4 * (nLabels h - 1) ≥ 990) :
    (u.insertNew h).lastResult = none ∧
    (u.insertNew h).records = u.records ++ [⟨u.id, u.recordid, (printResult [] h).1⟩] ∧
    ((u.insertNew h).insertRecord r).records =
      u.records ++ [⟨u.id, u.recordid, (printResult [] h).1⟩, ⟨u.id, u.recordid + 1, (printResult [] r).1⟩] := by
  have hl := insertNew_flush u h hn hf
  refine ⟨hl, insertNew_records u h, ?_⟩
  have := (coalesce_spec_partial (u.insertNew h) r).2 (Or.inl hl)
  rw [this.1, insertNew_records, insertNew_id, insertNew_recordid]
  simp

open Storage.Fmt in
/-- without a flush the same second result would have been appended to the record of `h` -/
theorem no_flush_coalesces (u : Upload) (h r : Result) (hs : h.sameLabels r = true)
    (hnf : u.labelArgs + 4 * nLabels h ≤ 990) :
    ((u.insertNew h).insertRecord r).records =
      u.records ++ [⟨u.id, u.recordid, (printResult [] h).1 ++ (r.content ++ [nl])⟩] := by
  have hl := (insertNew_noflush u h hnf).1
  have := (coalesce_spec_partial (u.insertNew h) r).1 h hl hs
  rw [this.1, insertNew_records, appendToLast_snoc]

/-- **listing_spec**: for an accepted query the listing is `full` cut at a positive limit, where
`full` (i) is a permutation of the uploads that own at least one record the query selects, each
with the number of such records (`selectRecords`, characterised by `query_result_spec`), and
(ii) is sorted newest first: no later row has a greater (Day, Seq, UploadID) — Day and UploadID
compared bytewise, Seq numerically — than an earlier one. -/
theorem listing_spec (db : DB) (q : Bytes) (limit : Int) (rows : List (Bytes × Nat))
    (h : listUploads db q limit = .ok rows) :
    ∃ sqls full, parseQuery q = .ok sqls ∧
      full.Perm ((db.uploads.map fun u =>
        (u, ((selectRecords db sqls).filter (·.upload == u.id)).length)).filter (·.2 > 0)) ∧
      SortedNewer full ∧
      rows = (if limit > 0 then full.take limit.toNat else full).map fun p => (p.1.id, p.2) := by
  obtain ⟨sqls, hp, hrows⟩ := listing_spec_partial db q limit rows h
  exact ⟨sqls, _, hp, sortNewer_perm _, sortNewer_sorted _, hrows⟩

/-- with distinct upload ids the order is strict: of two different listed uploads exactly one is
newer, so `SortedNewer` fixes the order completely -/
theorem listing_order_total (a b : UploadRow) (hid : a.id ≠ b.id) :
    (newer a b = true ∧ newer b a = false) ∨ (newer b a = true ∧ newer a b = false) := by
  rcases newer_total a b hid with h | h
  · exact Or.inl ⟨h, newer_asymm _ _ h⟩
  · exact Or.inr ⟨h, newer_asymm _ _ h⟩

open Storage.Fmt in
/-- **wf_preserved**: `processUpload` (successful or not) maps a state satisfying the invariant
(`WF`, distinct upload ids, every record owned by a registered upload) to such a state -/
theorem wf_preserved (db : DB) (h : Inv db) (day user : Bytes) (files : List FileIn) :
    Inv (processUpload db day user files).1 :=
  processUpload_inv db h day user files

open Storage.Fmt in
/-- every state reachable from the empty database by upload requests satisfies `WF`, so
`query_result_spec` (given `NoEmptyValues`) and `listing_spec` apply to it -/
theorem reachable_wf (reqs : List (Bytes × Bytes × List FileIn)) :
    WF (reqs.foldl (fun db q => (processUpload db q.1 q.2.1 q.2.2).1) {}) :=
  (List.foldlRecOn reqs _ inv_empty fun db h q _ => processUpload_inv db h q.1 q.2.1 q.2.2).wf

open Storage.Fmt Storage.Lex in
/-- **lex_ascii_is_model**: the correspondence driver runs the `Lex`-parameterised copy of the
model with Go's Unicode classification (`Lex.unicode uc`, the table dumped from the toolchain);
instantiated with the ASCII primitives that copy IS the model of the theorems above — for uploads,
`db.Query`, `Client.Query` and the listing alike. -/
theorem lex_ascii_is_model (db : DB) (q : Bytes) :
    (∀ day user files, processUploadL Lex.ascii db day user files = processUpload db day user files) ∧
    dbQueryL Lex.ascii db q = dbQuery db q ∧
    clientQueryL Lex.ascii db q = clientQuery db q ∧
    queryRecordsL Lex.ascii db q = queryRecords db q ∧
    (∀ limit, listUploadsL Lex.ascii db q limit = listUploads db q limit) :=
  ⟨processUploadL_ascii db, dbQueryL_ascii db q, clientQueryL_ascii db q, queryRecordsL_ascii db q,
   listUploadsL_ascii db q⟩

open Storage.Fmt in
/-- **stored_results_come_back**: in every reachable state, every stored record stands for a run
`hd :: t` of uploaded results: its rows in the label index are exactly the labels (file, server and
name-derived) of `hd`, and its content reads back as one result per line of the run, each with its
original line and with the labels of `hd` intact. -/
theorem stored_results_come_back (db : DB) (h : Reach db) (rec : RecordRow) (hrec : rec ∈ db.records) :
    ∃ hd t, CleanResult hd ∧ (∀ r ∈ t, CleanResult r ∧ hd.sameLabels r = true) ∧
      db.labels.filter (fun l => l.rkey == rec.rkey) = rowsFor rec.upload rec.rid hd ∧
      (readAll rec.content).map (fun r => (r.labels, r.content)) =
        (hd :: t).map fun r => (hd.labels, r.content) := by
  obtain ⟨hd, t, a, b, d, e, _⟩ := reach_record db h rec hrec
  exact ⟨hd, t, a.1, fun r hr => ⟨(b r hr).1.1, (b r hr).2⟩, d, e⟩

open Storage.Fmt in
/-- **db_query_spec**: `db.Query` on a reachable state without empty label values returns the
results of exactly the stored records whose indexed labels satisfy every term of the query, each
record once, every result with its line and labels intact. -/
theorem db_query_spec (db : DB) (hreach : Reach db) (hne : NoEmptyValues db) (q : Bytes)
    (rs : List Result) (h : dbQuery db q = .ok rs) :
    ∃ recs : List RecordRow, recs.Nodup ∧
      (∀ r, r ∈ recs ↔ (r ∈ db.records ∧
        ∀ w ∈ splitWords q, ∃ p, parseWord w = .ok p ∧ termSat (labelRel db r.rkey) p)) ∧
      rs = recs.flatMap (fun r => readAll r.content) ∧
      ∀ rec ∈ recs, ∃ hd t, CleanResult hd ∧ (∀ r ∈ t, CleanResult r ∧ hd.sameLabels r = true) ∧
        db.labels.filter (fun l => l.rkey == rec.rkey) = rowsFor rec.upload rec.rid hd ∧
        (readAll rec.content).map (fun r => (r.labels, r.content)) =
          (hd :: t).map fun r => (hd.labels, r.content) := by
  unfold dbQuery at h
  obtain ⟨recs, hq, h⟩ := (bind_eq_ok _ _ _).mp h
  cases h
  have hspec := query_result_spec db (reach_inv db hreach).1.wf hne q recs hq
  exact ⟨recs, hspec.1, hspec.2, rfl, fun rec hrec =>
    stored_results_come_back db hreach rec ((hspec.2 rec).mp hrec).1⟩

open Storage.Fmt in
/-- **client_query_spec**: what `db.Query` yields passes through the server's Printer and the
client's Reader unchanged: `Client.Query` returns the same sequence of (labels, line). -/
theorem client_query_spec (db : DB) (hreach : Reach db) (q : Bytes) (rs : List Result)
    (h : dbQuery db q = .ok rs) :
    ∃ cs, clientQuery db q = .ok cs ∧
      cs.map (fun r => (r.labels, r.content)) = rs.map (fun r => (r.labels, r.content)) := by
  refine ⟨readAll (printAll [] rs), ?_, printer_reader_roundtrip rs (reach_query_clean db hreach q rs h)⟩
  unfold clientQuery
  simp only [h, bind, Except.bind, pure, Except.pure]

open Storage.Fmt in
/-- the complement of finding N7 at the level of inputs: the labels the server adds (upload id,
part, time, file name, user) are good values, and no line of a file still ends in CR once its line
terminator is removed (no `CR CR LF`) -/
def CleanUpload (id user : Bytes) (files : List FileIn) : Prop :=
  ∀ (i : Nat) (f : FileIn), f ∈ files →
    GoodLabels (metaLabels id i user f.name) ∧ ∀ line ∈ scanLines f.content, line.getLast? ≠ some cr

open Storage.Fmt in
/-- **clean_upload_reads_clean**: such an upload is read by the server into clean results — arbitrary
file contents otherwise (any keys, values, junk lines, label histories) -/
theorem clean_upload_reads_clean (id user : Bytes) (files : List FileIn)
    (h : CleanUpload id user files) : UploadP CleanResult id user files :=
  fun i f hf => reader_results_clean _ _ (h i f hf).1 (h i f hf).2

open Storage.Fmt in
/-- so every sequence of clean uploads leads to a state to which `stored_results_come_back`,
`db_query_spec` and `client_query_spec` apply -/
theorem reach_of_clean_uploads (reqs : List (Bytes × Bytes × List FileIn))
    (h : ∀ (db : DB) (q : Bytes × Bytes × List FileIn), q ∈ reqs →
      CleanUpload (q.1 ++ [46] ++ natToDec (nextSeq db q.1)) q.2.1 q.2.2) :
    Reach (reqs.foldl (fun db q => (processUpload db q.1 q.2.1 q.2.2).1) {}) :=
  List.foldlRecOn reqs _ Reach.empty fun db hdb q hq =>
    Reach.upload db q.1 q.2.1 q.2.2 hdb (clean_upload_reads_clean _ _ _ (h db q hq))

open Analysis.Parse in
/-- **front_end_chain**: a non-empty word (other than the bare separators `|` and `vs`) added by the
query builder to a query without `|` reaches the storage server intact: `parseQueryString` takes the
quoted word as the prefix (its splitting points are outside the quoted region, whatever quotes,
backslashes, blanks, tabs, `|` or `vs` the value holds), every storage query sent is a group of the
old query preceded by it, and `SplitWords` on the server gives back exactly the original word followed
by the words of that group. -/
theorem front_end_chain (q add : Bytes) (ha : add ≠ []) (h1 : add ≠ wBar) (h2 : add ≠ wVs)
    (hq : ∀ c ∈ q, c ≠ cBar) :
    (sentQueries (addToQuery q add)).map splitWords =
      (parseQueryString q).2.map fun g => add :: splitWords g := by
  rw [sent_addToQuery q add ha h1 h2 hq, List.map_map]
  apply List.map_congr_left
  intro g _
  exact splitWords_quote_cons add g ha

open Analysis.Parse in
/-- **front_end_chain_general** (no hypothesis on the old query): for a non-empty word other than the
bare `|` / `vs`, what the storage server receives for `addToQuery q add` — every storage query split
into words by `SplitWords` — is obtained from the PARTS parseQueryString cuts: the quoted word is
exactly one part (`tok_addToQuery`: the splitting points are outside the quoted region), the old
query's parts follow and are processed by the `|` / `vs` bookkeeping from `startState`; the words of a
storage query are the words of its parts one after the other, and the part `quote add` contributes
exactly the word `add` (`splitwords_quote`). -/
theorem front_end_chain_general (q add : Bytes) (ha : add ≠ []) (h1 : add ≠ wBar) (h2 : add ≠ wVs) :
    (sentQueries (addToQuery q add)).map splitWords =
      (sentParts (startState q add) (tokGo false [] q).1 (tokGo false [] q).2).map
        (fun g => g.flatMap splitWords) ∧
    splitWords (quote add) = [add] := by
  refine ⟨?_, splitWords_quote_end add ha⟩
  rw [sent_addToQuery_general q add h1 h2]
  exact sent_words _ _ _ (startState_closed q add) (parts_closed q)

open Analysis.Parse in
/-- **added_word_lands**: whatever the old query is, if anything is sent then the first storage query
contains the part `quote add` (hence, by `front_end_chain_general`, the word `add` intact). When the
old query has no `|`, or its first separator is `|`, the word is in the prefix and therefore in every
storage query; when a `vs` comes before the first `|` of the old query, the word stays in the first
`vs` group only — the other groups are sent without it (that is what the code does; the clause "split
back into exactly the original word" holds wherever the word is sent). -/
theorem added_word_lands (q add : Bytes) (ha : add ≠ []) :
    ∀ g, (sentParts (startState q add) (tokGo false [] q).1 (tokGo false [] q).2).head? = some g →
      quote add ∈ g := by
  exact sentParts_lands (quote add) (quote_ne_nil add ha) _ (startState_lands q add) _ _

open Storage.Fmt in
/-- **name_labels_come_back**: in a reachable state without empty label values,
for a stored record standing for the run `hd :: t` whose index rows are the labels of `hd`: every
result read back from the record — the first line and the coalesced ones alike — carries exactly the
name-derived labels that are indexed for the record (`hd.nameL`), as long as `hd` has name labels at
all (an empty benchmark name met first by the Reader has none: the one-entry cache). -/
theorem name_labels_come_back (db : DB) (h : Reach db) (hne : NoEmptyValues db)
    (rec : RecordRow) (hrec : rec ∈ db.records) :
    ∃ hd t, db.labels.filter (fun l => l.rkey == rec.rkey) = rowsFor rec.upload rec.rid hd ∧
      (readAll rec.content).map (fun r => (r.labels, r.content)) =
        (hd :: t).map (fun r => (hd.labels, r.content)) ∧
      (hd.nameL ≠ [] → ∀ x ∈ readAll rec.content, x.nameL = hd.nameL) := by
  obtain ⟨hd, t, ⟨_, hnm⟩, ht, hrows, hround, back⟩ := reach_record db h rec hrec
  refine ⟨hd, t, hrows, hround, fun hnonempty x hx => ?_⟩
  have hvals : ∀ kv ∈ hd.nameL, kv.2 ≠ [] := by
    intro kv hkv
    have : (⟨rec.upload, rec.rid, kv.1, kv.2⟩ : LabelRow) ∈ db.labels.filter (fun l => l.rkey == rec.rkey) := by
      rw [hrows]
      exact List.mem_map.mpr ⟨kv, List.mem_append_right _ hkv, rfl⟩
    exact hne _ (List.mem_filter.mp this).1
  -- the line of `x` is the line of a result of the run, which has the name labels of `hd`
  obtain ⟨r, hr, ⟨_, hrn⟩, _, hc⟩ := back x hx
  have hrl : r.nameL = hd.nameL :=
    (List.mem_cons.mp hr).elim (· ▸ rfl) fun hr => hnm.nameL_of_sameLabels hrn hvals (ht r hr).2
  rw [← hrl] at hnonempty hvals ⊢
  exact (reader_names none rec.content x hx).nameL_eq hrn hc hnonempty hvals

end C19
