/-
C09 — Keys sort by the documented per-field orders, totally and reproducibly.

Model: Model/Proc/Sort.lean (`less`, the four comparators) and Model/Proc/Projection.lean
(rank maps maintained by `internRow`). `parseNum` is a parameter `pn` (any function).
`sort.Slice` is Go's standard library: it is trusted to return a sorted permutation of its input
when the comparison is a strict weak order (which `less_strict_total` establishes);
`sorted_perm_unique` then shows that the result cannot depend on the initial arrangement.
-/
import Mathlib.Order.Defs.LinearOrder
import Proofs.Lemmas.C09Order
import Proofs.Lemmas.C09Fixed
import Proofs.Lemmas.C09Obs
import Proofs.Lemmas.C09Num
import Proofs.C08

namespace C09
open Proc.Sort Proc.Projection

/-- Any comparator whose sign is that of the comparison of ranks in a linear order is the sign
function of a strict weak order (the hypothesis of `less_strict_total`). -/
theorem SignOfWeakOrder.ofRank {α : Type} [LinearOrder α] (cmp : Bytes → Bytes → Int) (rk : Bytes → α)
    (hlt : ∀ a b, cmp a b < 0 ↔ rk a < rk b) (hgt : ∀ a b, 0 < cmp a b ↔ rk b < rk a) :
    SignOfWeakOrder cmp := by
  refine .ofKey (· < ·) rk lt_irrefl (fun _ _ _ => lt_trans) (fun _ _ => lt_or_gt_of_ne) hlt fun a b => ?_
  constructor
  · intro h
    rcases lt_trichotomy (rk a) (rk b) with h' | h' | h'
    · have := (hlt a b).2 h'; omega
    · exact h'
    · have := (hgt a b).2 h'; omega
  · intro e
    have h1 : ¬ cmp a b < 0 := fun h => lt_irrefl (rk b) (e ▸ (hlt a b).1 h)
    have h2 : ¬ 0 < cmp a b := fun h => lt_irrefl (rk b) (e ▸ (hgt a b).1 h)
    omega

/-- What `less_strict_total` establishes about a comparison of value rows. -/
structure StrictTotalOn (flat : List Field) (lt : List Bytes → List Bytes → Bool) : Prop where
  irrefl : ∀ a, lt a a = false
  asymm : ∀ a b, lt a b = true → lt b a = false
  trans : ∀ a b c, lt a b = true → lt b c = true → lt a c = true
  /-- total on rows that differ in some flattened field (distinct keys do: `C08.key_eq_iff`) -/
  total : ∀ a b, (∃ f ∈ flat, getVal a f.idx ≠ getVal b f.idx) → lt a b = true ∨ lt b a = true
  /-- and only such rows are ever separated -/
  differs : ∀ a b, lt a b = true → ∃ f ∈ flat, getVal a f.idx ≠ getVal b f.idx

/-- **less_strict_total**: for ANY list of flattened fields and ANY per-field comparators that
are sign functions of strict weak orders (ranks into linear preorders), `less` with its string
fallback is irreflexive, asymmetric, transitive, and total on rows that differ in a flattened
field. -/
theorem less_strict_total (cmpOf : Field → Bytes → Bytes → Int) (flat : List Field)
    (hW : ∀ f ∈ flat, SignOfWeakOrder (cmpOf f)) : StrictTotalOn flat (lessBy cmpOf flat) where
  irrefl := lessBy_irrefl cmpOf flat
  asymm := lessBy_asymm cmpOf flat hW
  trans := lessBy_trans cmpOf flat hW
  total := lessBy_total cmpOf flat hW
  differs := lessBy_differs cmpOf flat

/-- Each of the four kinds of field order (`first` with any rank map, `alpha`, `num` with any
`parseNum`, `fixed` with any list) is such a comparator. -/
theorem four_kinds_are_weak_orders (pn : Bytes → NumC) (f : Field) : SignOfWeakOrder (f.cmp pn) :=
  field_cmp_weak pn f

/-- **less_strict_total**, instantiated: `less` of sort.go, for every `parseNum`, every list of
fields of the four kinds and every state of the observation-order maps. -/
theorem less_strict_total_four_kinds (pn : Bytes → NumC) (flat : List Field) :
    StrictTotalOn flat (less pn flat) :=
  less_strict_total (Field.cmp pn) flat (fun f _ => field_cmp_weak pn f)

example : less (fun _ => .err) [{ name := [], idx := 0, order := .num, ranks := [] }] [[49]] [[50]] = true := by
  decide

/-- two sorted permutations of the same elements are equal when the comparison is total on them -/
theorem sorted_perm_unique_on {α : Type} (lt : α → α → Bool) (l₁ l₂ : List α)
    (total : ∀ a ∈ l₁, ∀ b ∈ l₁, a ≠ b → lt a b = true ∨ lt b a = true)
    (h₁ : Sorted lt l₁) (h₂ : Sorted lt l₂) (hp : l₁.Perm l₂) : l₁ = l₂ := by
  refine List.Perm.eq_of_pairwise (le := fun x y => lt y x = false) ?_ h₁ h₂ hp
  intro a b ha hb hab hba
  apply Classical.byContradiction
  intro hne
  rcases total a ha b (hp.symm.subset hb) hne with h | h
  · rw [h] at hba; exact absurd hba (by simp)
  · rw [h] at hab; exact absurd hab (by simp)

/-- **sorted_perm_unique**: two sorted permutations of the same keys are equal, for every
comparison that is irreflexive-asymmetric and total on distinct elements. -/
theorem sorted_perm_unique {α : Type} (lt : α → α → Bool)
    (total : ∀ a b, a ≠ b → lt a b = true ∨ lt b a = true)
    (l₁ l₂ : List α) (h₁ : Sorted lt l₁) (h₂ : Sorted lt l₂) (hp : l₁.Perm l₂) : l₁ = l₂ :=
  sorted_perm_unique_on lt l₁ l₂ (fun a _ b _ => total a b) h₁ h₂ hp

/-- Whatever the initial arrangement of a slice of keys, every sorted permutation of it is the
same list — namely the reference sort `sortBy`. -/
theorem sort_independent_of_arrangement {α : Type} (lt : α → α → Bool)
    (asymm : ∀ a b, lt a b = true → lt b a = false)
    (trans : ∀ a b c, lt a b = true → lt b c = true → lt a c = true)
    (total : ∀ a b, a ≠ b → lt a b = true ∨ lt b a = true)
    (input₁ input₂ out₁ out₂ : List α) (hin : input₁.Perm input₂)
    (hs₁ : Sorted lt out₁) (hp₁ : out₁.Perm input₁)
    (hs₂ : Sorted lt out₂) (hp₂ : out₂.Perm input₂) :
    out₁ = out₂ ∧ out₁ = sortBy lt input₁ := by
  constructor
  · exact sorted_perm_unique lt total _ _ hs₁ hs₂ (hp₁.trans (hin.trans hp₂.symm))
  · exact sorted_perm_unique lt total _ _ hs₁ (sortBy_sorted lt asymm trans _)
      (hp₁.trans (sortBy_perm lt _).symm)

/-- **alpha_spec**: an `alpha` field orders values bytewise (Go string order) and separates all
distinct values. -/
theorem alpha_spec (pn : Bytes → NumC) (f : Field) (h : f.order = .alpha) (a b : Bytes) :
    (f.cmp pn a b < 0 ↔ ltBytes a b = true) ∧ (f.cmp pn a b = 0 ↔ a = b) ∧
    (0 < f.cmp pn a b ↔ ltBytes b a = true) := by
  unfold Field.cmp; rw [h]
  exact ⟨(cmpBytes_spec a b).1, (cmpBytes_spec a b).2,
    (cmpBytes_weak.antisymm b a).symm.trans (cmpBytes_spec b a).1⟩

/-- Bytewise order is the lexicographic order of the byte values. -/
theorem ltBytes_iff_lex (a b : Bytes) :
    ltBytes a b = true ↔ a.map UInt8.toNat < b.map UInt8.toNat := by
  rw [ltBytes_iff_lt]
  induction a generalizing b with
  | nil => cases b <;> simp
  | cons x xs ih =>
    cases b with
    | nil => simp
    | cons y ys =>
      rw [List.map_cons, List.map_cons, List.cons_lt_cons_iff, List.cons_lt_cons_iff, ih,
        UInt8.lt_iff_toNat_lt, UInt8.toNat_inj]

/-- **num_spec**: a `num` field compares by `numRank ∘ parseNum` lexicographically — numbers
numerically, NaN after all other numbers, non-numbers last; ties exactly for equal numbers,
two NaNs, or two non-numbers (which `less` then separates bytewise). For any `parseNum`. -/
theorem num_spec (pn : Bytes → NumC) (f : Field) (h : f.order = .num) (a b : Bytes) :
    (f.cmp pn a b < 0 ↔
      (numRank (pn a)).1 < (numRank (pn b)).1 ∨
      ((numRank (pn a)).1 = (numRank (pn b)).1 ∧ (numRank (pn a)).2 < (numRank (pn b)).2)) ∧
    (f.cmp pn a b = 0 ↔ numRank (pn a) = numRank (pn b)) := by
  unfold Field.cmp
  rw [h]
  exact cmpNum_spec pn a b

/-- **fixed_spec**: a `fixed` field compares by position in the list, where a value listed twice
takes its LAST position and a value not in the list takes position 0 (Go map zero value). -/
theorem fixed_spec (pn : Bytes → NumC) (f : Field) (l : List Bytes) (h : f.order = .fixed l)
    (a b : Bytes) :
    f.cmp pn a b = ((lastIdx? l a).getD 0 : Int) - ((lastIdx? l b).getD 0 : Int) := by
  unfold Field.cmp; rw [h]
  simp only [cmpRank, RankMap.get, get?_fixedMap]

/-- for a duplicate-free list and listed values a `fixed` field compares exactly by the listed
order (`fixed_spec` with first = last position). -/
theorem fixed_spec_nodup (pn : Bytes → NumC) (f : Field) (l : List Bytes) (h : f.order = .fixed l)
    (hn : l.Nodup) (a b : Bytes) (ha : a ∈ l) (hb : b ∈ l) :
    (f.cmp pn a b < 0 ↔ l.idxOf a < l.idxOf b) ∧ (f.cmp pn a b = 0 ↔ a = b) := by
  rw [fixed_spec pn f l h, lastIdx?_nodup l hn a ha, lastIdx?_nodup l hn b hb]
  exact idxOf_sub_spec ha hb

example : (fixedMap [[97], [98], [97]]) = [([97], 2), ([98], 1)] := by decide

/-- **parseNum_spec_order**: for any assignment of specified numeric values to strings — in
particular `Spec.ParseNum.parseNum`, the exact-rational reading of float literals and SI/IEC
suffixed numbers — "numbers by exact value (−Inf, finite, +Inf) before NaN before non-numbers" is
the sign function of a strict weak order (a rank into the linear order (class, ℚ)). -/
theorem parseNum_spec_order (val : Bytes → Spec.ParseNum.SNum) :
    SignOfWeakOrder (cmpByRank fun v => Spec.ParseNum.rank (val v)) :=
  cmpByRank_weak _

/-- `less` with every `num` field ordered by the SPECIFIED value (`parseNum_spec_order`; the other
kinds as in the code) is a strict total order: an instance of `less_strict_total`. -/
theorem less_strict_total_spec_num (pn : Bytes → NumC) (flat : List Field) :
    StrictTotalOn flat (lessBy (fun f => match f.order with
      | .num => cmpByRank fun v => Spec.ParseNum.rank (Spec.ParseNum.parseNum v)
      | _ => f.cmp pn) flat) := by
  apply less_strict_total
  intro f _
  cases ho : f.order with
  | num => exact parseNum_spec_order _
  | first => simp only []; exact field_cmp_weak pn f
  | alpha => simp only []; exact field_cmp_weak pn f
  | fixed l => simp only []; exact field_cmp_weak pn f

example : Spec.ParseNum.parseNum [49, 90, 105] = .fin (mkRat (2 ^ 70) 1) := by decide +kernel

/-- **first_order_is_observation_order**: in every reachable state of a projection, for every
flattened field with the default order — top-level fields and each individual key inside
`.config` alike — the comparator orders two keys' values by their position in the list of the
field's distinct values in order of first observation (`firstOcc` of the field's values over the
keys in creation order, "" standing for keys made before a `.config` key was first seen), and it
never reports equal for different values (so the string fallback is never reached for such a
field). For every hash function. -/
theorem first_order_is_observation_order (h : List Bytes → UInt64) (pn : Bytes → NumC) (p : Proj)
    (hr : C08.Reachable h p) (f : Field) (hf : f ∈ p.flat) (ho : f.order = .first)
    (a b : Nat) (ha : a < p.nodes.length) (hb : b < p.nodes.length) :
    (f.cmp pn (p.get a f) (p.get b f) < 0 ↔
      (firstOcc (obsSeq p f.idx)).idxOf (p.get a f) < (firstOcc (obsSeq p f.idx)).idxOf (p.get b f)) ∧
    (f.cmp pn (p.get a f) (p.get b f) = 0 ↔ p.get a f = p.get b f) := by
  have hmem : ∀ k, k < p.nodes.length → p.get k f ∈ firstOcc (obsSeq p f.idx) :=
    fun k hk => (mem_firstOcc _ _).2 (get_mem_obsSeq p f k hk)
  have hc : f.cmp pn = cmpRank f.ranks := by unfold Field.cmp; rw [ho]
  rw [hc]
  unfold cmpRank
  rw [reachable_RInv h p hr f hf ho, get_zipIdx _ _ (hmem a ha), get_zipIdx _ _ (hmem b hb)]
  exact idxOf_sub_spec (hmem a ha) (hmem b hb)

/-- **first_order_is_observation_order**, refined to the raw observation sequence over the keys:
the comparator orders two keys' values by the position of their FIRST OCCURRENCE in the sequence of
the field's values over the keys in creation order. -/
theorem first_order_is_first_occurrence (h : List Bytes → UInt64) (pn : Bytes → NumC) (p : Proj)
    (hr : C08.Reachable h p) (f : Field) (hf : f ∈ p.flat) (ho : f.order = .first)
    (a b : Nat) (ha : a < p.nodes.length) (hb : b < p.nodes.length) :
    f.cmp pn (p.get a f) (p.get b f) < 0 ↔
      (obsSeq p f.idx).idxOf (p.get a f) < (obsSeq p f.idx).idxOf (p.get b f) := by
  rw [(first_order_is_observation_order h pn p hr f hf ho a b ha hb).1]
  exact firstOcc_idxOf_lt _ _ _ (get_mem_obsSeq p f a ha) (get_mem_obsSeq p f b hb)

theorem runProjects_reachable (h : List Bytes → UInt64) (ops : List (Env × Res)) (p : Proj)
    (hr : C08.Reachable h p) : C08.Reachable h (runProjects h p ops).1 := by
  induction ops generalizing p with
  | nil => exact hr
  | cons op rest ih =>
    obtain ⟨env, r⟩ := op
    exact ih _ (C08.Reachable.project p env r hr)

/-- `first_order_is_first_occurrence` over the stream of RESULTS: start from a projection that has no keys yet, project any
stream of results (`runProjects`; the parser state may differ from call to call). For every
flattened field with the default order, two keys compare by which of their values was seen first
in the stream, where the value of a result at the field is what the closures put into the row
("" while a `.config` key had not yet been seen: the row is then shorter). -/
theorem first_order_is_stream_order (h : List Bytes → UInt64) (pn : Bytes → NumC) (p₀ : Proj)
    (hr₀ : C08.Reachable h p₀) (hn₀ : p₀.nodes = []) (ops : List (Env × Res))
    (f : Field) (hf : f ∈ (runProjects h p₀ ops).1.flat) (ho : f.order = .first)
    (a b : Nat) (ha : a < (runProjects h p₀ ops).1.nodes.length) (hb : b < (runProjects h p₀ ops).1.nodes.length) :
    f.cmp pn ((runProjects h p₀ ops).1.get a f) ((runProjects h p₀ ops).1.get b f) < 0 ↔
      ((runProjects h p₀ ops).2.map fun row => getVal row f.idx).idxOf ((runProjects h p₀ ops).1.get a f) <
      ((runProjects h p₀ ops).2.map fun row => getVal row f.idx).idxOf ((runProjects h p₀ ops).1.get b f) := by
  have hreach := runProjects_reachable h ops p₀ hr₀
  have hobs := runProjects_obs h ops p₀ (C08.reachable_inv h p₀ hr₀) f.idx
  rw [show obsSeq p₀ f.idx = [] by rw [obsSeq, hn₀]; rfl, List.nil_append] at hobs
  rw [(first_order_is_observation_order h pn _ hreach f hf ho a b ha hb).1, ← hobs]
  have hmem : ∀ k, k < (runProjects h p₀ ops).1.nodes.length →
      (runProjects h p₀ ops).1.get k f ∈ (runProjects h p₀ ops).2.map fun row => getVal row f.idx := by
    intro k hk
    rw [← mem_firstOcc, hobs, mem_firstOcc]
    exact get_mem_obsSeq _ f k hk
  exact firstOcc_idxOf_lt _ _ _ (hmem a ha) (hmem b hb)

/-- The F15 witness on the model (`.config`; results {a:1}, {a:1,b:x}, {a:2}): the key without `b`
sorts before the key with `b=x`, before and after the third result is projected. -/
def f15Witness : Bool :=
  let env : Env := { configKeys := [], exclude := [] }
  let hsh : List Bytes → UInt64 := fun _ => 0
  let cfg : Bytes := [46, 99, 111, 110, 102, 105, 103]
  match (makeProjection Parser.new newProjection { key := cfg, order := .first }).2 with
  | .ok p0 =>
    let r1 : Res := { name := [88], config := [([97], [49], true)], units := [] }
    let r2 : Res := { name := [88], config := [([97], [49], true), ([98], [120], true)], units := [] }
    let r3 : Res := { name := [88], config := [([97], [50], true)], units := [] }
    let s1 := p0.project hsh env r1
    let s2 := s1.1.project hsh env r2
    let s3 := s2.1.project hsh env r3
    s2.1.less (fun _ => .err) s1.2 s2.2 && s3.1.less (fun _ => .err) s1.2 s2.2 &&
      !(s3.1.less (fun _ => .err) s2.2 s1.2) && s3.1.flat.length == 2
  | .error _ => false

example : f15Witness = true := by decide +kernel

/-- **less_strict_total** for the keys of a projection: in every reachable state `Key.Less` is
irreflexive, asymmetric, transitive, and total on distinct keys (distinct keys differ in a
flattened field by `C08.key_eq_iff`). For every hash function and every `parseNum`. -/
theorem key_less_strict_total (h : List Bytes → UInt64) (pn : Bytes → NumC) (p : Proj)
    (hr : C08.Reachable h p) :
    (∀ a, p.less pn a a = false) ∧
    (∀ a b, p.less pn a b = true → p.less pn b a = false) ∧
    (∀ a b c, p.less pn a b = true → p.less pn b c = true → p.less pn a c = true) ∧
    (∀ a b, a < p.nodes.length → b < p.nodes.length → a ≠ b →
      p.less pn a b = true ∨ p.less pn b a = true) := by
  have st := less_strict_total_four_kinds pn p.flat
  refine ⟨fun a => st.irrefl _, fun a b => st.asymm _ _, fun a b c => st.trans _ _ _, ?_⟩
  intro a b ha hb hne
  apply st.total
  apply Classical.byContradiction
  intro hno
  apply hne
  apply (C08.key_eq_iff h p hr a b ha hb).mpr
  intro f hf
  apply Classical.byContradiction
  intro hd
  exact hno ⟨f, hf, hd⟩

/-- `SortKeys` on the keys of a projection: any two sorted permutations of the same keys (taken
from any two arrangements) coincide, and coincide with the reference sort of the model. -/
theorem sortKeys_independent (h : List Bytes → UInt64) (pn : Bytes → NumC) (p : Proj)
    (hr : C08.Reachable h p) (in₁ in₂ out₁ out₂ : List Nat) (hv : ∀ k ∈ in₁, k < p.nodes.length)
    (hin : in₁.Perm in₂)
    (hs₁ : Sorted (p.less pn) out₁) (hp₁ : out₁.Perm in₁)
    (hs₂ : Sorted (p.less pn) out₂) (hp₂ : out₂.Perm in₂) :
    out₁ = out₂ ∧ out₁ = p.sortKeys pn in₁ := by
  obtain ⟨_, hasym, htrans, htotal⟩ := key_less_strict_total h pn p hr
  have total : ∀ a ∈ out₁, ∀ b ∈ out₁, a ≠ b → p.less pn a b = true ∨ p.less pn b a = true :=
    fun a ha b hb => htotal a b (hv a (hp₁.subset ha)) (hv b (hp₁.subset hb))
  exact ⟨sorted_perm_unique_on _ _ _ total hs₁ hs₂ (hp₁.trans (hin.trans hp₂.symm)),
    sorted_perm_unique_on _ _ _ total hs₁ (sortBy_sorted _ hasym htrans _)
      (hp₁.trans (sortBy_perm _ _).symm)⟩

end C09
