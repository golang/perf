/-
C18 — regenerated tie for benchseries/benchseries.go: the rotation constant of `Cell.hash` (the
bootstrap seed), the compact date form (`noPuncDate` and its respelling), the input layout
(`time.RFC3339Nano`, value taken from the Go standard library by the extractor) and the output
layout `RFC3339NanoNoZ`.

`Generated/SeriesFacts.lean` is re-extracted on every check run. The model
(`Model/Series/Bootstrap.lean`, `Model/Series/Date.lean`) hard-codes all of these inside its
definitions; the theorems compare the model with interpreters of the regenerated facts — for all
inputs where that is a rewriting proof, on probe families otherwise.
-/
import Model.Series.Bootstrap
import Model.Series.Date
import Generated.SeriesFacts
import Proofs.Facts.Common
import Proofs.Lemmas.Shared.Bytes

namespace C18.Facts
open Series Series.Date Generated FactsLib

/-- `xlow := (x >> (64 - rot)) & (1<<rot - 1); x = (x << rot) ^ xlow ^ bits(v)` -/
def hashStepG (rot : Nat) (x v : UInt64) : UInt64 :=
  let xlow := (x >>> UInt64.ofNat (64 - rot)) &&& (((1 : UInt64) <<< UInt64.ofNat rot) - 1)
  ((x <<< UInt64.ofNat rot) ^^^ xlow) ^^^ v

/-- **rot_agrees** — the model's hash round is the source's with the regenerated `rot`, for all
states and values -/
theorem rot_agrees (x v : UInt64) : Boot.hashStep x v = hashStepG SeriesFacts.rot x v := by
  have h1 : UInt64.ofNat (64 - SeriesFacts.rot) = 41 := by decide
  have h2 : UInt64.ofNat SeriesFacts.rot = 23 := by decide
  have h3 : ((1 : UInt64) <<< (23 : UInt64)) - 1 = 0x7FFFFF := by decide
  simp only [Boot.hashStep, hashStepG, h1, h2, h3]

theorem hash_source_pinned :
    SeriesFacts.hashRound = ["xlow := (x >> (64 - rot)) & (1<<rot - 1)",
      "x = (x << rot) ^ xlow ^ int64(math.Float64bits(v))"] ∧
    SeriesFacts.seedExpr = "c.Numerator.hash() * c.Denominator.hash()" := ⟨rfl, rfl⟩

/-- anchored match of (lo, hi, count) classes -/
def matchG : List (Nat × Nat × Nat) → Bytes → Bool
  | [], s => s.isEmpty
  | (lo, hi, n) :: rest, s =>
    decide (n ≤ s.length) && (s.take n).all (fun c => decide (lo ≤ c.toNat) && decide (c.toNat ≤ hi)) &&
      matchG rest (s.drop n)

def respellG (pieces : List (Nat × Nat × Nat × List Nat)) (s : Bytes) : Bytes :=
  pieces.flatMap fun p => if p.1 == 0 then (s.drop p.2.1).take (p.2.2.1 - p.2.1) else bytes p.2.2.2

def baseCompact : Bytes := bytes [50, 48, 50, 49, 49, 50, 50, 57, 84, 50, 49, 51, 50, 49, 50]   -- "20211229T213212"

/-- probes: the compact date with every position replaced by each of `0 9 / : T a -`, plus
shortened and lengthened forms -/
def compactProbes : List Bytes :=
  ((List.range 15).flatMap fun i => [48, 57, 47, 58, 84, 97, 45].map fun c => baseCompact.set i c) ++
    [baseCompact, baseCompact.take 14, baseCompact ++ [48], [], baseCompact.drop 1, 32 :: baseCompact]

/-- **compact_form_agrees** — `noPuncDate` as modelled by `isCompact` -/
theorem compact_form_agrees :
    (compactProbes.all fun s => isCompact s == matchG SeriesFacts.compactForm s) = true := by
  decide +kernel

/-- **respell_agrees** — the slices and literals of the respelling, for every input -/
theorem respell_agrees (s : Bytes) : respell s = respellG SeriesFacts.respell s := by
  simp [respell, respellG, SeriesFacts.respell, bytes, List.flatMap]

/-- `time.Parse` driven by the regenerated layout elements, using the model's element parsers -/
def parseFields : List (Nat × Nat × Nat) → Bytes → Parsed → Option (Parsed × Bytes)
  | [], s, p => some (p, s)
  | (code, a, _) :: rest, s, p =>
    match code with
    | 0 => (lit (UInt8.ofNat a) s).bind fun s => parseFields rest s p
    | 1 => (digitsN 4 s).bind fun (v, s) => parseFields rest s { p with year := v }
    | 2 => (digitsN 2 s).bind fun (v, s) => parseFields rest s { p with month := v }
    | 3 => (digitsN 2 s).bind fun (v, s) => parseFields rest s { p with day := v }
    | 4 => (num12 s).bind fun (v, s) => parseFields rest s { p with hour := v }
    | 5 => (digitsN 2 s).bind fun (v, s) => parseFields rest s { p with min := v }
    | 6 => (digitsN 2 s).bind fun (v, s) => parseFields rest s { p with sec := v }
    | 7 => let (ns, s) := fraction s; parseFields rest s { p with nanos := ns }
    | 10 => (zone s).bind fun (off, s) => parseFields rest s { p with offset := off }
    | _ => none

def parseG (tokens : List (Nat × Nat × Nat)) (s : Bytes) : Option Parsed :=
  (parseFields tokens s ⟨0, 0, 0, 0, 0, 0, 0, 0⟩).bind fun (p, s) =>
    if s ≠ [] then none
    else if p.month < 1 || p.month > 12 || p.hour ≥ 24 || p.min ≥ 60 || p.sec ≥ 60 then none
    else if p.day < 1 || p.day > daysIn p.month p.year then none
    else some p

def str (l : List Nat) : Bytes := bytes l

/-- probe inputs: well-formed dates in every zone form and malformed ones (each element damaged) -/
def parseProbes : List Bytes :=
  [ "2021-12-29T21:32:12Z", "2021-12-29T21:32:12+00:00", "2021-12-29T21:32:12.5-07:00",
    "2021-12-29T21:32:12,123456789+05:30", "2021-12-29T21:32:12.1234567891Z", "2021-12-29T1:32:12Z",
    "2020-02-29T00:00:00Z", "2021-02-29T00:00:00Z", "2021-13-01T00:00:00Z", "2021-12-32T00:00:00Z",
    "2021-12-29T24:00:00Z", "2021-12-29T23:60:00Z", "2021-12-29T23:59:60Z", "2021-12-29 21:32:12Z",
    "2021/12/29T21:32:12Z", "2021-12-29T21-32-12Z", "21-12-29T21:32:12Z", "2021-1-29T21:32:12Z",
    "2021-12-9T21:32:12Z", "2021-12-29T21:3:12Z", "2021-12-29T21:32:1Z", "2021-12-29T21:32:12",
    "2021-12-29T21:32:12z", "2021-12-29T21:32:12+0000", "2021-12-29T21:32:12+25:00",
    "2021-12-29T21:32:12Z ", "2021-12-29T21:32:12.Z", "", "20211229T213212", "0000-01-01T00:00:00Z",
    "9999-12-31T23:59:59.999999999-23:59" ].map String.toUTF8 |>.map (·.toList)

/-- **input_layout_agrees** — `parseRFC` is `time.Parse` with the elements of the regenerated
input layout (`time.RFC3339Nano`), in that order -/
theorem input_layout_agrees :
    (parseProbes.all fun s => parseRFC s == parseG SeriesFacts.inputTokens s) = true := by
  -- the probes are string literals: read their bytes off the arrays, not through the loop of `ByteArray.toList`
  unfold parseProbes
  simp only [List.map_cons, List.map_nil, ByteArray.toList_eq_data]
  decide +kernel

def padN (w n : Nat) : List Nat :=
  let ds := (Nat.toDigits 10 n).map Char.toNat
  List.replicate (w - ds.length) 48 ++ ds

def trimZeros (ds : List Nat) : List Nat := (ds.reverse.dropWhile (· == 48)).reverse

/-- `Time.Format` of a UTC time driven by the regenerated layout elements -/
def formatG (tokens : List (Nat × Nat × Nat)) (u : UTC) : List Nat :=
  tokens.flatMap fun (code, a, b) =>
    match code with
    | 0 => [a]
    | 1 => (if u.year < 0 then [45] else []) ++ padN 4 u.year.natAbs
    | 2 => padN 2 u.month | 3 => padN 2 u.day | 4 => padN 2 u.hour | 5 => padN 2 u.min | 6 => padN 2 u.sec
    | 7 => let ds := trimZeros ((padN 9 u.nanos).take b); if ds.isEmpty then [] else a :: ds
    | 8 => a :: (padN 9 u.nanos).take b
    | 9 => [43, 48, 48, 58, 48, 48]
    | 10 => [90]
    | _ => [63]

def utcProbes : List UTC :=
  [0, 1, 10, 120000000, 123456789, 500000000, 999999999, 100, 999999990].flatMap fun ns =>
    [ ⟨2021, 12, 29, 21, 32, 12, ns⟩, ⟨1970, 1, 1, 0, 0, 0, ns⟩, ⟨999, 2, 3, 4, 5, 6, ns⟩,
      ⟨0, 10, 10, 10, 10, 10, ns⟩, ⟨12345, 6, 7, 8, 9, 59, ns⟩, ⟨-44, 3, 15, 12, 0, 0, ns⟩ ]

/-- **output_layout_agrees** — `formatCodes` is `Format(RFC3339NanoNoZ)` of a UTC time, element
by element of the regenerated output layout -/
theorem output_layout_agrees :
    SeriesFacts.outputInUTC = true ∧
    (utcProbes.all fun u => formatCodes u == formatG SeriesFacts.outputTokens u) = true := by
  decide +kernel

theorem layouts_pinned :
    SeriesFacts.inputLayoutName = "time.RFC3339Nano" ∧
    SeriesFacts.inputLayout = "2006-01-02T15:04:05.999999999Z07:00" ∧
    SeriesFacts.outputLayoutName = "RFC3339NanoNoZ" ∧
    SeriesFacts.outputLayout = "2006-01-02T15:04:05.999999999-07:00" ∧
    SeriesFacts.readBackLayoutName = "RFC3339NanoNoZ" ∧
    SeriesFacts.compactRegex = "^[0-9]{8}T[0-9]{6}$" := ⟨rfl, rfl, rfl, rfl, rfl, rfl⟩

end C18.Facts
