/-
C12 — regenerated tie for the numeric constants of /repo/internal/stats: normaldist.go InvCDF
(Acklam coefficients, region bounds, conditions), beta.go betacf (ε, iteration cap, tiny guard),
sample.go Percentile/IQR (R8 constants 1/3.0, caps, quartiles), dist.go InvCDF (xtol, bracketing),
alg.go bisectBool.

`Generated/DistFacts.lean` is re-extracted on every check run; every constant is the exact
fraction of the Go constant expression. The theorems compare them with the constants of
`Model/Stats/{Dists,Beta,Descr}.lean` in BOTH number systems of the model: as exact rationals
(`Rat` instance, the one the C12 theorems are about) and as float64 bit patterns (`Fl` instance,
the one the correspondence run executes). Conditions are interpreted over any `Arith α`.
-/
import Model.Stats.Dists
import Model.Stats.Beta
import Model.Stats.Descr
import Generated.DistFacts
import Proofs.Facts.Common

namespace C12.Facts
open Stats Stats.Arith Generated FactsLib

variable {α : Type} [Arith α]

/-- a Go constant (negative, numerator, denominator) in the number system α -/
def ofC (c : Bool × Nat × Nat) : α := if c.1 then neg (ofFrac c.2.1 c.2.2) else ofFrac c.2.1 c.2.2

def bitsOf (x : Fl) : F64.Bits := x.bits

theorem inv_names_agree :
    DistFacts.invNames = ["a1", "a2", "a3", "a4", "a5", "a6", "b1", "b2", "b3", "b4", "b5",
      "c1", "c2", "c3", "c4", "c5", "c6", "d1", "d2", "d3", "d4", "plow", "phigh"] := rfl

open Stats.Dists.NInv in
/-- the model's 21 coefficients and 2 region bounds, in the order of `invNames` -/
def modelInvConsts : List α :=
  [a1, a2, a3, a4, a5, a6, b1, b2, b3, b4, b5, c1, c2, c3, c4, c5, c6, d1, d2, d3, d4, plow, phigh]

/-- **inv_consts_agree_exact** — as exact rationals (incl. `phigh = 1 - plow` = 0.97575) -/
theorem inv_consts_agree_exact :
    (modelInvConsts : List Rat) = DistFacts.invConsts.map ofC := by decide +kernel

/-- **inv_consts_agree_f64** — as float64 bit patterns -/
theorem inv_consts_agree_f64 :
    (modelInvConsts : List Fl).map bitsOf = DistFacts.invConsts.map (fun c => bitsOf (ofC c)) := by
  decide +kernel

/-- comparison by operator code in any number system -/
def cmpA (op : Nat) (a b : α) : Bool :=
  match op with
  | 0 => le b a | 1 => lt b a | 2 => le a b | 3 => lt a b | 4 => eq a b | 5 => !eq a b | _ => false

def operandA (env : Nat → α) (c : Nat) : α := if c ≥ 1000 then ofNat (c - 1000) else env c

def evalAtomA (env : Nat → α) (a : Atom) : Bool :=
  let v := cmpA a.2.2.1 (operandA env a.2.1) (operandA env a.2.2.2)
  if a.1 then !v else v

def evalCondA (env : Nat → α) (c : Cond) : Bool := c.any fun conj => conj.all (evalAtomA env)

theorem evalCondA_one (env : Nat → α) (l op r : Nat) :
    evalCondA env [[(false, l, op, r)]] = cmpA op (operandA env l) (operandA env r) := by
  simp [evalCondA, evalAtomA]

theorem evalCondA_two (env : Nat → α) (l op r l' op' r' : Nat) :
    evalCondA env [[(false, l, op, r)], [(false, l', op', r')]] =
      (cmpA op (operandA env l) (operandA env r) || cmpA op' (operandA env l') (operandA env r')) := by
  simp [evalCondA, evalAtomA]

/-- **inv_range_conds_agree** — `p < 0 || p > 1`, `p == 0`, `p == 1` as in `NInv.invCDF` -/
theorem inv_range_conds_agree (p : α) :
    (lt p (ofNat 0) || lt (ofNat 1) p) = evalCondA (fun _ => p) DistFacts.invRangeCond ∧
    eq p (ofNat 0) = evalCondA (fun _ => p) DistFacts.invZeroCond ∧
    eq p (ofNat 1) = evalCondA (fun _ => p) DistFacts.invOneCond := by
  simp only [DistFacts.invRangeCond, DistFacts.invZeroCond, DistFacts.invOneCond, evalCondA_one,
    evalCondA_two]
  exact ⟨rfl, rfl, rfl⟩

/-- **inv_region_conds_agree** — `p < plow`, `phigh < p` as in `NInv.approx` -/
theorem inv_region_conds_agree (p plow phigh : α) :
    lt p plow = evalCondA (fun | 0 => p | 1 => plow | _ => phigh) DistFacts.invLowCond ∧
    lt phigh p = evalCondA (fun | 0 => p | 1 => plow | _ => phigh) DistFacts.invHighCond := by
  simp only [DistFacts.invLowCond, DistFacts.invHighCond, evalCondA_one]
  exact ⟨rfl, rfl⟩

/-- `q := p - 0.5`, `math.Sqrt(-2 * math.Log(…))` in both regions, and the four formulas -/
theorem inv_shape_agrees :
    (ofC DistFacts.invCentre : Rat) = Dists.half ∧
    bitsOf (ofC DistFacts.invCentre) = bitsOf Dists.half ∧
    DistFacts.invLogFactor.map (ofC : _ → Rat) = [neg (ofNat 2), neg (ofNat 2)] ∧
    DistFacts.invLogFactor.map (fun c => bitsOf (ofC c)) = [bitsOf (neg (ofNat 2)), bitsOf (neg (ofNat 2))] ∧
    DistFacts.invFormulas =
      ["(((((c1*q+c2)*q+c3)*q+c4)*q+c5)*q+c6)/((((d1*q+d2)*q+d3)*q+d4)*q+1)",
       "-(((((c1*q+c2)*q+c3)*q+c4)*q+c5)*q+c6)/((((d1*q+d2)*q+d3)*q+d4)*q+1)",
       "(((((a1*r+a2)*r+a3)*r+a4)*r+a5)*r+a6)*q/(((((b1*r+b2)*r+b3)*r+b4)*r+b5)*r+1)",
       "x-u/(1+x*u/2)"] :=
  ⟨by decide +kernel, by decide +kernel, by decide +kernel, by decide +kernel, rfl⟩

/-- **beta_consts_agree** — `maxIterations = 200`, `epsilon = 3e-14` (exact and float64), loop
from m = 1, the tiny guard is `math.SmallestNonzeroFloat64` (model: 2^-1074) -/
theorem beta_consts_agree :
    DistFacts.betaMaxIterations = Beta.maxIterations ∧
    (ofC DistFacts.betaEpsilon : Rat) = Beta.epsilon ∧
    bitsOf (ofC DistFacts.betaEpsilon) = bitsOf Beta.epsilon ∧
    DistFacts.betaLoopStart = 1 ∧
    DistFacts.betaTinyValue = "math.SmallestNonzeroFloat64" ∧
    bitsOf Beta.tiny = 1 :=
  ⟨by decide, by decide +kernel, by decide +kernel, by decide, rfl, by decide +kernel⟩

/-- **beta_conds_agree** — `math.Abs(z) < tiny` (raiseZero), `math.Abs(hfac-1) < epsilon`
(convergence) — both strict — and `m <= maxIterations` -/
theorem beta_conds_agree (absz tiny d eps : α) (m cap : Nat) :
    lt absz tiny = evalCondA (fun | 0 => absz | _ => tiny) DistFacts.betaTinyCond ∧
    lt d eps = evalCondA (fun | 4 => d | _ => eps) DistFacts.betaConvergedCond ∧
    decide (m ≤ cap) = evalCond (fun | 2 => m | _ => cap) DistFacts.betaLoopCond := by
  simp only [DistFacts.betaTinyCond, DistFacts.betaConvergedCond, evalCondA_one]
  exact ⟨rfl, rfl, by simp [evalCond, evalAtom, operand, cmpI, DistFacts.betaLoopCond]⟩

/-- the loop runs for m = 1 … maxIterations: `cfLoop` is started with that fuel at m = 1 -/
theorem beta_loop_agrees (x a b : α) :
    Beta.betacf x a b =
      Beta.cfLoop x a b DistFacts.betaMaxIterations DistFacts.betaLoopStart (Beta.initState x a b) := rfl

/-- the interpolation of `Percentile` with the regenerated R8 constants `A + p·(N + B)` -/
def interpG (xs : List Rat) (p : Rat) : Rat :=
  let A : Rat := ofC (DistFacts.pctR8.getD 0 (false, 0, 1))
  let B : Rat := ofC (DistFacts.pctR8.getD 1 (false, 0, 1))
  let n := A + p * ((xs.length : Rat) + B)
  let k := n.floor
  let frac := n - (k : Rat)
  let env : Nat → Int := fun | 1 => k | _ => xs.length
  if evalCond env DistFacts.pctFirstCond then xs.getD 0 0
  else if evalCond env DistFacts.pctLastCond then xs.getD (xs.length - 1) 0
  else xs.getD (k.toNat - 1) 0 + frac * (xs.getD k.toNat 0 - xs.getD (k.toNat - 1) 0)

def probeXs : List Rat := [0, 1, 4, 9, 16, 25, 36, 49]
def probePs : List Rat := [1/100, 1/16, 1/10, 1/4, 1/3, 1/2, 2/3, 3/4, 9/10, 15/16, 99/100]

/-- **percentile_r8_agrees** — `1/3.0 + pctile*(N+1/3.0)`, `k <= 0`, `k >= len(s.Xs)`: the model's
`Descr.interp` (exact instance) = the interpolation with the regenerated constants on probes that
reach the first-element, last-element and interior branches, for 1 … 8 elements. -/
theorem percentile_r8_agrees :
    ((List.range 8).all fun j => probePs.all fun p =>
      Descr.interp (probeXs.take (j + 1)) p == interpG (probeXs.take (j + 1)) p) = true := by
  decide +kernel

/-- as float64: both 1/3.0 are the model's `ofFrac 1 3` -/
theorem percentile_r8_f64 :
    DistFacts.pctR8.map (fun c => bitsOf (ofC c)) = [bitsOf (ofFrac 1 3), bitsOf (ofFrac 1 3)] := by
  decide +kernel

/-- **percentile_caps_agree** — `pctile <= 0`, `pctile >= 1` -/
theorem percentile_caps_agree (p : α) :
    le p (ofNat 0) = evalCondA (fun _ => p) DistFacts.pctLowCond ∧
    le (ofNat 1) p = evalCondA (fun _ => p) DistFacts.pctHighCond := by
  simp only [DistFacts.pctLowCond, DistFacts.pctHighCond, evalCondA_one]
  exact ⟨rfl, rfl⟩

/-- **iqr_agrees** — IQR = Percentile(0.75) − Percentile(0.25), on the probe samples -/
theorem iqr_agrees :
    ((List.range 8).all fun j =>
      let xs := probeXs.take (j + 1)
      match Descr.iqr xs true, Descr.percentile xs true (ofC (DistFacts.iqrPercentiles.getD 0 (false, 0, 1))),
            Descr.percentile xs true (ofC (DistFacts.iqrPercentiles.getD 1 (false, 0, 1))) with
      | some r, some a, some b => r == a - b
      | _, _, _ => false) = true := by
  decide +kernel

/-- **gen_consts_agree** — `xtol = 1e-16` (exact and float64), `xdelta := 1.0`, `xdelta *= 2` in
both loops, midpoint `/ 2` -/
theorem gen_consts_agree :
    (ofC DistFacts.genXtol : Rat) = Dists.xtol ∧
    bitsOf (ofC DistFacts.genXtol) = bitsOf Dists.xtol ∧
    (ofC DistFacts.genXdeltaStart : Rat) = ofNat 1 ∧
    DistFacts.genXdeltaGrowth.map (ofC : _ → Rat) = [ofNat 2, ofNat 2] ∧
    (ofC DistFacts.bisectMidDivisor : Rat) = ofNat 2 :=
  ⟨by decide +kernel, by decide +kernel, by decide +kernel, by decide +kernel, by decide +kernel⟩

/-- **gen_conds_agree** — the comparisons of the generic `InvCDF` (`y < 0 || y > 1`, `y1 < y`,
`hiY < y`, `y <= loY`, `dist.CDF(x) < y`) and of `bisectBool` (`high-low <= xtol`,
`mid == high || mid == low`) as in `Dists.invCDF` / `bracketUp` / `bracketDown` / `bisectLoop` -/
theorem gen_conds_agree (y y1 hiY loY cx d xtol mid high low : α) :
    (lt y (ofNat 0) || lt (ofNat 1) y) = evalCondA (fun _ => y) DistFacts.genRangeCond ∧
    lt y1 y = evalCondA (fun | 0 => y | _ => y1) DistFacts.genDirectionCond ∧
    lt hiY y = evalCondA (fun | 0 => y | _ => hiY) DistFacts.genUpCond ∧
    le y loY = evalCondA (fun | 0 => y | _ => loY) DistFacts.genDownCond ∧
    lt cx y = evalCondA (fun | 0 => y | _ => cx) DistFacts.genPredicate ∧
    le d xtol = evalCondA (fun | 0 => d | _ => xtol) DistFacts.bisectDoneCond ∧
    (eq mid high || eq mid low) =
      evalCondA (fun | 2 => mid | 3 => high | _ => low) DistFacts.bisectStuckCond := by
  simp only [DistFacts.genRangeCond, DistFacts.genDirectionCond, DistFacts.genUpCond,
    DistFacts.genDownCond, DistFacts.genPredicate, DistFacts.bisectDoneCond, DistFacts.bisectStuckCond,
    evalCondA_one, evalCondA_two]
  exact ⟨rfl, rfl, rfl, rfl, rfl, rfl, rfl⟩

/-- the Bool comparisons of `bisectBool` (`flow == fhigh` panics, `fmid == flow` moves low) -/
theorem bisect_bool_conds_agree :
    DistFacts.bisectPanicCond = [[(false, 5, 4, 6)]] ∧ DistFacts.bisectLowCond = [[(false, 7, 4, 5)]] :=
  ⟨rfl, rfl⟩

end C12.Facts
