/-
C02 — regenerated tie for benchfmt/reader.go and benchfmt/files.go.

`Generated/ReadFacts.lean` is re-extracted on every check run (the scanner limit: no `Scanner.Buffer`
call ⇒ `bufio.MaxScanTokenSize`, value and `ErrTooLong` text read from the Go standard library). The
theorems compare it with `Model/Fmt/{Rune,Reader,ReaderLimit,Files}.lean`: named constants by value,
inlined ones by running the model on probes.
-/
import Model.Fmt.Reader
import Model.Fmt.ReaderLimit
import Model.Fmt.Files
import Generated.ReadFacts
import Proofs.Facts.Common

namespace C02.Facts
open Fmt Generated FactsLib

/-- **max_line_agrees** — the reader never calls `Scanner.Buffer`, so lines are limited by
`bufio.MaxScanTokenSize` = the model's `maxToken` -/
theorem max_line_agrees :
    ReadFacts.scannerBufferCalled = false ∧ ReadFacts.scannerCtor = "bufio.NewScanner(ior)" ∧
    maxToken = ReadFacts.maxScanTokenSize := ⟨rfl, rfl, by decide⟩

/-- **too_long_message_agrees** — `fmt.Errorf("%s:%d: %w", fileName, line, bufio.ErrTooLong)` -/
theorem too_long_message_agrees (fileName : Bytes) (line : Nat) :
    tooLongMsg fileName line =
      renderG ReadFacts.ioErrTokens [fileName, decimal line, bytes ReadFacts.errTooLong] := by
  have h : tooLongSuffix = [58, 32] ++ bytes ReadFacts.errTooLong := by decide +kernel
  simp [tooLongMsg, renderG, ReadFacts.ioErrTokens, List.flatMap, h]

theorem syntax_error_format_pinned :
    ReadFacts.syntaxErrorFormat = "%s:%d: %s" ∧ ReadFacts.syntaxErrorTokens = ReadFacts.ioErrTokens :=
  ⟨rfl, by decide⟩

/-- `if fileName == "" { fileName = "<unknown>" }` -/
theorem unknown_file_name_agrees :
    (RState.zero.reset [] []).fileName = bytes ReadFacts.unknownFileName ∧
    (RState.zero.reset [120] []).fileName = [120] := by
  decide +kernel

/-- **space_mask_agrees** — the `isSpace` constant and the six bytes it marks; `asciiSpace`
agrees with membership for every byte -/
theorem space_mask_agrees :
    asciiSpaceMask = ReadFacts.isSpaceMask ∧
    ((List.range 256).all fun c => asciiSpace (UInt8.ofNat c) == ReadFacts.isSpaceBytes.contains c) = true ∧
    ((List.range 128).all fun c => UC.ascii.space c == ReadFacts.isSpaceBytes.contains c) = true ∧
    ReadFacts.isSpaceTests = ["(isSpace>>x[i])&1!=0", "(isSpace>>rest[0])&1==0"] := by
  decide +kernel

/-- **prefixes_agree** — `"Benchmark"`, `"Unit"`, `line[len("Benchmark"):]` -/
theorem prefixes_agree :
    benchmarkPrefix = bytes ReadFacts.benchmarkPrefix ∧ unitPrefix = bytes ReadFacts.unitPrefix ∧
    ReadFacts.benchmarkSkip = benchmarkPrefix.length ∧ ReadFacts.unitLineComparesWith = "unitPrefix" := by
  refine ⟨by decide, by decide, by decide, rfl⟩

def msg (i : Nat) : Bytes := bytes (ReadFacts.messages.getD i [])

/-- oracles for the probes: ASCII classes; `1` parses, `x` is a syntax error, `r` a range error -/
def O : Oracles where
  uc := UC.ascii
  atoi := fun s => if s == [120] then .error .syntax else if s == [114] then .error .range else .ok 1
  atof := fun s => if s == [120] then .error .syntax else if s == [114] then .error .range else .ok 0
  tidy := fun v u => (v, u)

def B (l : List Nat) : Bytes := benchmarkPrefix ++ bytes l

/-- **bench_line_messages_agree** — the five messages of parseBenchmarkLine (with the
`bytesconv.ErrSyntax` / `ErrRange` texts appended where the source appends `err.Err.Error()`),
and the skipped 9 bytes -/
theorem bench_line_messages_agree :
    parseBenchmarkLine O (B [88, 32]) = .err (msg 0) ∧                                   -- "BenchmarkX "
    parseBenchmarkLine O (B [88, 32, 120]) = .err (msg 1 ++ bytes ReadFacts.errSyntax) ∧   -- "BenchmarkX x"
    parseBenchmarkLine O (B [88, 32, 114]) = .err (msg 1 ++ bytes ReadFacts.errRange) ∧    -- "BenchmarkX r"
    parseBenchmarkLine O (B [88, 32, 49]) = .err (msg 2) ∧                               -- "BenchmarkX 1"
    parseBenchmarkLine O (B [88, 32, 49, 32, 120, 32, 117]) = .err (msg 3 ++ bytes ReadFacts.errSyntax) ∧
    parseBenchmarkLine O (B [88, 32, 49, 32, 114, 32, 117]) = .err (msg 3 ++ bytes ReadFacts.errRange) ∧
    parseBenchmarkLine O (B [88, 32, 49, 32, 50]) = .err (msg 4) ∧                       -- "BenchmarkX 1 2"
    parseBenchmarkLine O (B [88]) = .skip ∧
    parseBenchmarkLine O (B [88, 32, 49, 32, 50, 32, 117]) = .ok [88] 1 [⟨0, [117], 0, []⟩] := by
  decide +kernel

def fn : Bytes := [102]          -- "f"

/-- **unit_line_messages_agree** — "missing unit", "expected key=value" (no `=`, or nothing
before it), the conflict message `metadata %s of unit %s already set to %s`, the `=` separator -/
theorem unit_line_messages_agree :
    (parseUnitLine O fn 3 [] []).2 = [.err ⟨fn, 3, msg 5⟩] ∧
    (parseUnitLine O fn 3 [] (bytes [117, 32, 97])).2 = [.err ⟨fn, 3, msg 6⟩] ∧            -- "u a"
    (parseUnitLine O fn 3 [] (bytes [117, 32, 61, 97])).2 = [.err ⟨fn, 3, msg 6⟩] ∧        -- "u =a"
    (parseUnitLine O fn 3 [⟨[117], [97], [117], [98], fn, 1⟩] (bytes [117, 32, 97, 61, 99])).2 =
      [.err ⟨fn, 3, renderG ReadFacts.metadataConflictTokens [[97], [117], [98]]⟩] ∧         -- "u a=c" vs a=b
    (parseUnitLine O fn 3 [] (bytes [117, 32, 97, ReadFacts.unitFieldSep, 99])).2 =
      [.unit ⟨[117], [97], [117], [99], fn, 3⟩] := by
  decide +kernel

/-- **key_value_shape_agrees** — the value is separated by the regenerated blanks (space, tab),
the key ends at the regenerated rune `:`; first rune lower case, no space / upper case in the key
(conditions pinned, behaviour probed) -/
theorem key_value_shape_agrees :
    ((List.range 256).all fun c => isBlank (UInt8.ofNat c) == ReadFacts.keyValueBlanks.contains c) = true ∧
    parseKeyValueLine UC.ascii (bytes [107, ReadFacts.keyValueSep, 32, 118]) = some ([107], [118]) ∧   -- "k: v"
    parseKeyValueLine UC.ascii (bytes [107, ReadFacts.keyValueSep]) = some ([107], []) ∧
    parseKeyValueLine UC.ascii (bytes [107, ReadFacts.keyValueSep, 118]) = none ∧                      -- "k:v"
    parseKeyValueLine UC.ascii (bytes [75, 58, 32, 118]) = none ∧                                      -- "K: v"
    parseKeyValueLine UC.ascii (bytes [107, 75, 58, 32, 118]) = none ∧                                 -- "kK: v"
    parseKeyValueLine UC.ascii (bytes [107, 32, 58, 32, 118]) = none ∧                                 -- "k : v"
    parseKeyValueLine UC.ascii (bytes [58, 32, 118]) = none ∧                                          -- ": v"
    parseKeyValueLine UC.ascii (bytes [49, 58, 32, 118]) = none ∧                                      -- "1: v"
    ReadFacts.keyValueConds = ["i == 0 && !unicode.IsLower(r)", "unicode.IsSpace(r) || unicode.IsUpper(r)",
      "i > 0 && r == ':'", "len(key) == 0", "len(val) == 0"] := by
  refine ⟨by decide +kernel, by decide +kernel, by decide +kernel, by decide +kernel, by decide +kernel,
    by decide +kernel, by decide +kernel, by decide +kernel, by decide +kernel, rfl⟩

def pa : Bytes := [97]   -- "a"

/-- **files_labels_agree** — `path#N` disambiguation with the regenerated format, the label
separator `=` and the stdin name `-` -/
theorem files_labels_agree :
    (Files.init [pa, pa, [98]] false false).map (·.label) =
      [renderG ReadFacts.fileLabelTokens [pa, decimal 0], renderG ReadFacts.fileLabelTokens [pa, decimal 1], [98]] ∧
    (parsePath true true ([108] ++ bytes ReadFacts.fileLabelSep ++ pa)) =
      { path := pa, label := [108], isStdin := false, isLabeled := true } ∧
    (parsePath true false ([108] ++ bytes ReadFacts.fileLabelSep ++ pa)).isLabeled = false ∧
    (parsePath true true (bytes ReadFacts.stdinName)).isStdin = true ∧
    (parsePath false true (bytes ReadFacts.stdinName)).isStdin = false ∧
    (parsePath true true pa).isStdin = false ∧
    (Files.init [] true false).map (·.path) = [bytes ReadFacts.stdinName] := by
  decide +kernel

end C02.Facts
