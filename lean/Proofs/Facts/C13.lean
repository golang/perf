/-
C13 — regenerated tie for benchmath/anone.go (uTestMinP, uTestSamples, medianSamples/medianSamplesAbove, medianCI,
assumeNothing.Compare/Summary) and benchmath/sample.go (DefaultThresholds).

`Generated/NothingFacts.lean` is re-extracted on every check run; the theorems tie it to
`Model/Math/Nothing.lean`: the `uTestMinP` table by float64 bit pattern of every literal, the
conditions/limits of `uTestSamples` by running the model and an interpreter of the regenerated facts
on boundary probes, those of `medianSamples` for all tables and sizes (`medianSamplesAbove_agrees`),
single comparisons for all inputs.
-/
import Model.Math.Nothing
import Generated.NothingFacts
import Proofs.Facts.Common

namespace C13.Facts
open Math Math.Nothing Generated FactsLib

/-- **utest_minp_agrees** — the model's table is the source's `uTestMinP[1..9]`, literal by
literal (correctly rounded), at indices 1..9 with `len(uTestMinP) = 10`. -/
theorem utest_minp_agrees :
    uTestMinP = NothingFacts.uTestMinP.map (fun e => f64 e.2) ∧
    NothingFacts.uTestMinP.map (·.1) = List.range' 1 9 ∧
    NothingFacts.uTestMinPLen = uTestMinP.length + 1 := by decide +kernel

def opOf (n : Nat) : Op := if n == 0 then .ge else .gt

/-- `uTestSamples` from the regenerated facts: first listed index (not skipped) whose condition
holds, else (fallback operator, len(uTestMinP)) -/
def uTestSamplesG (alpha : F64.Bits) : Op × Nat :=
  match NothingFacts.uTestMinP.find? (fun e =>
      !(evalCond (fun _ => e.1) NothingFacts.uTestSkipCond) &&
      evalCondF (fun | 1 => f64 e.2 | _ => alpha) NothingFacts.uTestFoundCond) with
  | some e => (opOf NothingFacts.uTestFoundOp, e.1)
  | none => (opOf NothingFacts.uTestFallbackOp, NothingFacts.uTestMinPLen)

/-- probes: 0, 2, NaN, and every table value with its two float neighbours -/
def alphaProbes : List F64.Bits :=
  [F64.posZero, F64.ofInt 2, F64.nan, F64.negZero] ++
    NothingFacts.uTestMinP.flatMap fun e => let v := f64 e.2; [v - 1, v, v + 1]

/-- **utest_samples_agrees** — operator `minP <= alpha`, skipped index 0, returned operators and
the fallback `len(uTestMinP)`: model = source on every boundary probe. -/
theorem utest_samples_agrees : (alphaProbes.all fun a => uTestSamples a == uTestSamplesG a) = true := by
  decide +kernel

/-- `medianSamplesAbove` from the regenerated facts over a table of (LoOrder, HiOrder) for
n = start, start+1, …: the source loop runs from max(start, have + step) -/
def medianSamplesAboveG (needTab : List (Nat × Nat)) (have_ : Nat) : Op × Nat :=
  let env (n : Nat) (e : Nat × Nat) : Nat → Int
    | 0 => n | 1 => NothingFacts.medianLimit | 2 => e.1 | _ => e.2
  let first := max NothingFacts.medianStart (have_ + NothingFacts.medianHaveStep)
  let rec go (fuel n : Nat) (tab : List (Nat × Nat)) : Op × Nat :=
    match fuel, tab with
    | 0, _ => (opOf NothingFacts.medianFallbackOp, NothingFacts.medianLimit)
    | _, [] => (opOf NothingFacts.medianFallbackOp, NothingFacts.medianLimit)
    | fuel + 1, e :: rest =>
      if n < first then go fuel (n + 1) rest
      else if !(evalCond (env n e) NothingFacts.medianLoopCond) then
        (opOf NothingFacts.medianFallbackOp, NothingFacts.medianLimit)
      else if evalCond (env n e) NothingFacts.medianFoundCond then (opOf NothingFacts.medianFoundOp, n)
      else go fuel (n + 1) rest
  go 100 NothingFacts.medianStart needTab

/-- probe tables of 60 rows: no hit before row j; at row j (n = j+2) the orders are
(1, n) [hit], (0, n) [LoOrder boundary], (1, n+1) [HiOrder boundary]; a hit follows at row j+1 -/
def medianProbes : List (List (Nat × Nat)) :=
  (List.range 55).flatMap fun j =>
    let pre := List.replicate j (0, 0)
    let post := (1, j + 3) :: List.replicate (58 - j) (0, 0)
    [pre ++ (1, j + 2) :: post, pre ++ (0, j + 2) :: post, pre ++ (1, j + 3) :: post]

/-- probe tables with EARLIER hits as well (every row from 2 up to row j a hit): the `have` bound
alone must skip them -/
def medianProbesDense : List (List (Nat × Nat)) :=
  (List.range 55).map fun j => (List.range 60).map fun i => if i ≤ j then (1, i + 2) else (0, 0)

/-- rows probed with a size at hand: the start of the range, the middle, and every row around the
limit (n = j + 2 = 50 is row 48) -/
def probeRows : List Nat := [0, 1, 2, 3, 10, 25, 40, 46, 47, 48, 49, 50, 51, 54]

/-- sizes at hand probed around every row -/
def haveProbes (j : Nat) : List Nat := [0, 1, j, j + 1, j + 2, j + 3, 49, 50, 51]

/-- the source loop as a search over the next `51 − n` rows, with fuel to reach 51 -/
theorem medianSamplesAboveG.go_eq (env : Nat → Nat × Nat → Nat → Int) (h : Nat)
    (hloop : ∀ n e, evalCond (env n e) NothingFacts.medianLoopCond = decide (n ≤ 50))
    (hfound : ∀ n e, evalCond (env n e) NothingFacts.medianFoundCond = (decide (0 < e.1) && decide (e.2 ≤ n)))
    (tab : List (Nat × Nat)) : ∀ fuel n, 2 ≤ n → 51 ≤ n + fuel →
    medianSamplesAboveG.go env (max 2 (h + 1)) fuel n tab =
      match ((tab.take (51 - n)).zipIdx n).find?
          (fun e => decide (h < e.2) && decide (0 < e.1.1) && decide (e.1.2 ≤ e.2)) with
      | some e => (.ge, e.2)
      | none => (.gt, 50) := by
  have fb : (opOf NothingFacts.medianFallbackOp, NothingFacts.medianLimit) = (Op.gt, 50) := rfl
  induction tab with
  | nil =>
    intro fuel n _ _
    cases fuel <;> simp only [medianSamplesAboveG.go, fb, List.take_nil, List.zipIdx_nil, List.find?_nil]
  | cons e rest ih =>
    intro fuel n h2 hf
    cases fuel with
    | zero =>
      rw [show 51 - n = 0 by omega]
      simp only [medianSamplesAboveG.go, fb, List.take_zero, List.zipIdx_nil, List.find?_nil]
    | succ f =>
      rw [medianSamplesAboveG.go, hloop, hfound, ih f (n + 1) (by omega) (by omega), fb]
      by_cases hn : n ≤ 50
      · rw [show 51 - n = 51 - (n + 1) + 1 by omega, List.take_succ_cons, List.zipIdx_cons, List.find?_cons]
        by_cases hh : h < n
        · have hge : ¬ n < max 2 (h + 1) := by omega
          have fo : opOf NothingFacts.medianFoundOp = Op.ge := rfl
          cases hp : (decide (0 < e.1) && decide (e.2 ≤ n)) <;> simp [hge, hn, hh, hp, fo]
        · have hlt : n < max 2 (h + 1) := by omega
          simp [hlt, hh]
      · -- beyond the limit both sides answer the fallback
        rw [show 51 - n = 0 by omega, show 51 - (n + 1) = 0 by omega]
        simp [hn]

theorem medianSamplesAbove_agrees (tab : List (Nat × Nat)) (h : Nat) :
    medianSamplesAbove tab h = medianSamplesAboveG tab h :=
  (medianSamplesAboveG.go_eq _ h
    (fun n e => by
      simp [evalCond, evalAtom, operand, cmpI, NothingFacts.medianLoopCond, NothingFacts.medianLimit]; omega)
    (fun n e => by simp [evalCond, evalAtom, operand, cmpI, NothingFacts.medianFoundCond])
    tab 100 2 (Nat.le_refl 2) (by decide)).symm

/-- **median_samples_agrees** — start max(2, have+1), limit 50, `n <= limit`,
`0 < LoOrder && HiOrder <= n`, returned operators and fallback: model = source on boundary probes
around every n and every size at hand; `medianSamples` delegates with have = 0; Summary asks for a
size above `len(s.Values)`. -/
theorem median_samples_agrees :
    ((probeRows.flatMap fun j => (haveProbes j).flatMap fun h =>
        ((medianProbes.drop (3 * j)).take 3 ++ (medianProbesDense.drop j).take 1).map fun t => (t, h)).all
      fun th => medianSamplesAbove th.1 th.2 == medianSamplesAboveG th.1 th.2) = true ∧
    (medianProbes.all fun t => medianSamples t == medianSamplesAboveG t NothingFacts.medianDelegateHave) = true ∧
    NothingFacts.summaryNeedAboveLen = true :=
  ⟨List.all_eq_true.2 fun th _ => beq_iff_eq.2 (medianSamplesAbove_agrees th.1 th.2),
    List.all_eq_true.2 fun t _ => beq_iff_eq.2 (medianSamplesAbove_agrees t 0), rfl⟩

/-- median = quantile 0.5 (the model's `half`) -/
theorem median_quantile_agrees : f64 NothingFacts.medianQuantile = half := by decide +kernel

/-- **compare_warn_cond_agrees** — `cmp.P > cmp.Alpha` is the model's `F64.lt alpha p` -/
theorem compare_warn_cond_agrees (p alpha : F64.Bits) :
    F64.lt alpha p = evalCondF (fun | 0 => p | _ => alpha) NothingFacts.compareWarnCond := by
  simp [evalCondF, evalAtomF, operandF, cmpF, NothingFacts.compareWarnCond]

/-- **compare_few_cond_agrees** — `cmp.N1 < n && cmp.N2 < n` -/
theorem compare_few_cond_agrees (n1 n2 n : Nat) :
    (decide (n1 < n) && decide (n2 < n)) =
      evalCond (fun | 2 => n1 | 3 => n2 | _ => n) NothingFacts.compareFewCond := by
  simp [evalCond, evalAtom, operand, cmpI, NothingFacts.compareFewCond]

/-- `math.Min(1, 2*math.Min(…))`, `P: 1` on error, `DefaultThresholds.CompareAlpha = 0.05` (the
value the driver's summary cases use), the ±∞ warning condition -/
theorem compare_constants_agree :
    f64 NothingFacts.twoSidedCap = F64.one ∧ f64 NothingFacts.twoSidedFactor = two ∧
    f64 NothingFacts.errorP = F64.one ∧
    f64 NothingFacts.defaultCompareAlpha = 0x3FA999999999999A ∧
    NothingFacts.summaryWarnCond = "math.IsInf(lo, 0) || math.IsInf(hi, 0)" :=
  ⟨by decide +kernel, by decide +kernel, by decide +kernel, by decide +kernel, rfl⟩

end C13.Facts
