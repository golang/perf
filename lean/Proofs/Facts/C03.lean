/-
C03 — regenerated tie for benchfmt/internal/bytesconv (atof.go, decimal.go, atoi.go, ftoa.go) and
the integer fast path of benchfmt/reader.go `atof`.

`Generated/NumFacts.lean` is re-extracted on every check run: the tables `float64pow10`, `leftcheats`
(delta + cutoff digits), `powtab`, the limits 19/16 (mantissa digits), 800 (decimal buffer), 10000
(exponent clamp), 310 / −330 (floatBits exits), 27 and `maxShift` = uintSize − 4, the exact-path
windows (15+22, 22, 1e15), `float64info`, the spellings of `special`, the `Atoi` fast-path length
bound, the `ParseUint`/`ParseInt` cutoffs (constant expressions evaluated with Go's integer
semantics for a 64-bit platform) and the `(math.MaxInt64-10)/10` guard. Tables and named constants
are compared by value; constants inlined in model definitions by running the model
(`Model/Num/*.lean`) and an interpreter of the regenerated facts on boundary probes.
-/
import Model.Num.Atof
import Model.Num.Atoi
import Model.Num.FastPath
import Model.Num.DecSlow
import Generated.NumFacts
import Proofs.Facts.Common

namespace C03.Facts
open Generated FactsLib

/-- **pow10_table_agrees** — `float64pow10[0..22]`: every literal rounded to float64 -/
theorem pow10_table_agrees :
    (List.range Num.pow10TableLen).map Num.float64pow10 = NumFacts.float64pow10.map f64 ∧
    NumFacts.float64pow10.length = Num.pow10TableLen := by decide +kernel

/-- **leftcheats_agree** — all 61 rows: delta and cutoff digit string -/
theorem leftcheats_agree :
    Num.leftcheats = NumFacts.leftcheats.map (fun r => (r.1, bytes r.2)) := by decide +kernel

/-- **powtab_agrees** — and the sizes: 800-digit buffer, `maxShift` = uintSize − 4 = 60 on a
64-bit platform (the model's platform assumption) -/
theorem powtab_agrees :
    Num.powtab = NumFacts.powtab ∧ Num.bufLen = NumFacts.decimalBufLen ∧
    Num.maxShift = NumFacts.maxShift ∧ NumFacts.uintSize = 64 ∧ NumFacts.intSize = 64 := by decide

/-- the shift the source picks for a decimal exponent `dp` in the first (`down`) or second loop -/
def shiftG (down : Bool) (dp : Int) : Nat :=
  let env : Nat → Int := fun | 0 => dp | 1 => NumFacts.powtab.length | 2 => -dp | _ => 0
  if evalCond env (if down then NumFacts.scaleDownBigCond else NumFacts.scaleUpBigCond) then
    NumFacts.bigShift.getD (if down then 0 else 1) 0
  else NumFacts.powtab.getD (if down then dp else -dp).toNat 0

/-- the binary exponent after one round of a scaling loop, from the regenerated conditions -/
def roundG (down : Bool) (c0 : UInt8) (dp : Int) : Int :=
  let env : Nat → Int := fun | 0 => dp | 3 => c0.toNat | _ => 0
  if evalCond env (if down then NumFacts.scaleDownCond else NumFacts.scaleUpCond) then
    (if down then (shiftG down dp : Int) else -(shiftG down dp : Int))
  else 0

def dpProbes : List Int := (List.range 25).map fun (i : Nat) => (i : Int) - 12

/-- **float_bits_scaling_agrees** — loop conditions `d.dp > 0`, `d.dp < 0 || d.dp == 0 && d.d[0] < '5'`,
the table bound `>= len(powtab)`, `powtab[±dp]` and the fallback 27: one round of the model's
`fbDown` / `fbUp` = the regenerated rule, for dp = −12 … 12 and first digit '4' / '5' -/
theorem float_bits_scaling_agrees :
    (dpProbes.all fun dp => [(52 : UInt8), 53].all fun c =>
      (Num.fbDown 1 { d := [c], dp := dp } 0).2 == roundG true c dp &&
      (Num.fbUp 1 { d := [c], dp := dp } 0).2 == roundG false c dp) = true := by decide +kernel

/-- the "obvious overflow/underflow" exits (`d.dp > 310`, `d.dp < -330`) and `float64info` are
inlined in `Num.floatBits`/`Num.atofHex`/`Num.slowPath`; the exits are shortcuts that do not change
the result, so no probe can see them: pinned to the model's literals. -/
theorem float_bits_exits_pinned :
    NumFacts.overflowExit = (1, 310) ∧ NumFacts.underflowExit = (3, -330) := ⟨rfl, rfl⟩

/-- **float64info_agrees** — mantbits/expbits/bias assemble the model's float64 layout:
1.0, +Inf, the hidden bit and the largest finite exponent -/
theorem float64info_agrees :
    UInt64.ofNat (((0 - NumFacts.bias).toNat) <<< NumFacts.mantbits) = F64.one ∧
    UInt64.ofNat ((2 ^ NumFacts.expbits - 1) <<< NumFacts.mantbits) = F64.posInf ∧
    Num.fbAssemble true 0 (2 ^ NumFacts.expbits - 1 + NumFacts.bias) = F64.negInf ∧
    (Num.atof64exact (2 ^ NumFacts.mantbits - 1) 0 false).isSome = true ∧
    (Num.atof64exact (2 ^ NumFacts.mantbits) 0 false).isSome = false ∧
    NumFacts.exactMantissaCond = "mantissa>>float64info.mantbits != 0" := by
  refine ⟨by decide +kernel, by decide +kernel, by decide +kernel, by decide +kernel, by decide +kernel, rfl⟩

def rep (c : UInt8) (n : Nat) : Bytes := List.replicate n c

/-- **mantissa_cap_agrees** — 19 decimal / 16 hex mantissa digits are kept, the next one sets
`trunc` and moves the exponent by 1 resp. 4 (`dp *= 4; ndMant *= 4`) -/
theorem mantissa_cap_agrees :
    let n := NumFacts.maxMantDigits
    let h := NumFacts.maxMantDigitsHex
    let hx (k : Nat) : Bytes := [48, 120] ++ rep 102 k ++ [112, 48]
    (Num.readFloat (rep 57 n)).mant = 10 ^ n - 1 ∧ (Num.readFloat (rep 57 n)).trunc = false ∧
    (Num.readFloat (rep 57 n)).ok = true ∧
    (Num.readFloat (rep 57 (n + 1))).mant = 10 ^ n - 1 ∧ (Num.readFloat (rep 57 (n + 1))).trunc = true ∧
    (Num.readFloat (rep 57 (n + 1))).exp = 1 ∧
    (Num.readFloat (hx h)).mant = 16 ^ h - 1 ∧ (Num.readFloat (hx h)).trunc = false ∧
    (Num.readFloat (hx h)).ok = true ∧
    (Num.readFloat (hx (h + 1))).mant = 16 ^ h - 1 ∧ (Num.readFloat (hx (h + 1))).trunc = true ∧
    (Num.readFloat (hx (h + 1))).exp = 4 ∧
    NumFacts.hexScale = [("dp", 4), ("ndMant", 4)] := by
  refine ⟨by decide +kernel, by decide +kernel, by decide +kernel, by decide +kernel, by decide +kernel,
    by decide +kernel, by decide +kernel, by decide +kernel, by decide +kernel, by decide +kernel,
    by decide +kernel, by decide +kernel, rfl⟩

/-- `if e < clamp { e = e*10 + digit }` over a digit string (underscores skipped) -/
def expLoopG (clamp : Nat) (ds : Bytes) : Nat :=
  ds.foldl (fun e c => if c == 95 then e else if e < clamp then e * 10 + (c.toNat - 48) else e) 0

def expProbes : List Bytes :=
  [[57, 57, 57, 57], [49, 48, 48, 48, 48], [57, 57, 57, 57, 57], [49, 48, 48, 48, 48, 48],
   [49, 50, 51, 52, 53, 54, 55], [49, 95, 48, 95, 48, 48, 48, 49], [48, 48, 48, 57, 57, 57, 57, 57, 57],
   [57, 57, 57, 57, 48], [49, 48, 48, 48, 49, 57], [48]]

/-- **exp_clamp_agrees** — the exponent clamp 10000 of `readFloat` and of `decimal.set` (the model
uses one `expLoop` for both) -/
theorem exp_clamp_agrees :
    (expProbes.all fun ds => (Num.expLoop ds 0).1 == expLoopG NumFacts.expClamp ds &&
      (Num.expLoop ds 0).1 == expLoopG NumFacts.expClampSet ds) = true := by decide +kernel

/-- **decimal_buffer_agrees** — `decimal.set` keeps `len(b.d)` = 800 digits: digit 800 is stored,
digit 801 sets `trunc` -/
theorem decimal_buffer_agrees :
    let n := NumFacts.decimalBufLen
    ((Num.decSet (rep 57 n)).map fun d => (d.d.length, d.trunc)) = some (n, false) ∧
    ((Num.decSet (rep 57 (n + 1))).map fun d => (d.d.length, d.trunc)) = some (n, true) := by
  refine ⟨by decide +kernel, by decide +kernel⟩

def specialG (s : Bytes) : Option F64.Bits :=
  match s with
  | [] => none
  | c :: _ =>
    match NumFacts.specials.find? (fun r => r.1.any (· == c.toNat)) with
    | none => none
    | some r =>
      if r.2.1.any (fun t => Num.equalIgnoreCase s (bytes t)) then
        some (if r.2.2 == 0 then F64.posInf else if r.2.2 == 1 then F64.negInf else F64.nan)
      else none

def upper (s : Bytes) : Bytes := s.map fun c => if 97 ≤ c && c ≤ 122 then c - 32 else c

/-- every spelling, its upper-case and mixed-case forms, with a byte appended / removed / another
sign, and the cross combinations (`+nan`, `-nan`, `ninf`) -/
def specialProbes : List Bytes :=
  let sp := NumFacts.specials.flatMap fun r => r.2.1.map bytes
  (sp.flatMap fun s => [s, upper s, upper (s.take 2) ++ s.drop 2, s ++ [121], s.dropLast, 43 :: s, s.drop 1]) ++
    [[], [43], [45], [110], [105], bytes [43, 110, 97, 110], bytes [45, 110, 97, 110],
     bytes [110, 105, 110, 102], bytes [73, 78, 70, 73, 78, 73, 84], bytes [48]]

/-- **special_agrees** — the spellings `±inf`, `±infinity`, `nan` (any case), their values and
the first-byte dispatch -/
theorem special_agrees : (specialProbes.all fun s => Num.special s == specialG s) = true := by
  decide +kernel

/-- `atof64exact` from the regenerated table, windows, pre-scale rule and magnitude test -/
def exactG (mantissa : Nat) (exp : Int) (neg : Bool) : Option F64.Bits :=
  let p10 (k : Int) : F64.Bits := f64 (NumFacts.float64pow10.getD k.toNat (false, 0, 0))
  if mantissa >>> NumFacts.mantbits != 0 then none
  else
    let f0 := F64.ofInt mantissa
    let f := if neg then F64.neg f0 else f0
    if exp == 0 then some f
    else if cmpI NumFacts.mulWindow.1 exp 0 && cmpI NumFacts.mulWindow.2.1 exp NumFacts.mulWindow.2.2 then
      let ps := NumFacts.preScale
      let (f, exp) := if cmpI ps.1 exp ps.2.1 then (F64.mul f (p10 (exp - ps.2.2.1)), ps.2.2.2) else (f, exp)
      if NumFacts.exactMagnitude.any (fun m => cmpF m.1 f (f64 m.2)) then none
      else some (F64.mul f (p10 exp))
    else if cmpI NumFacts.divWindow.1 exp 0 && cmpI NumFacts.divWindow.2.1 exp NumFacts.divWindow.2.2 then
      some (F64.div f (p10 (-exp)))
    else none

def exactMants : List Nat := [1, 3, 999999999999999, 1000000000000000, 1000000000000001, 2 ^ 52 - 1, 123456789]
def exactExps : List Int := (List.range 66).map fun (i : Nat) => (i : Int) - 25

theorem atof64exact_eq_exactG (m : Nat) (e : Int) (ng : Bool) : Num.atof64exact m e ng = exactG m e ng := by
  have tab : ∀ k < 23, f64 (NumFacts.float64pow10.getD k (false, 0, 0)) = Num.float64pow10 k := by
    decide +kernel
  have hneg : F64.neg (f64 (false, 1, 15)) = f64 (true, 1, 15) := by decide +kernel
  have hpos : Num.f1e15 = f64 (false, 1, 15) := rfl
  unfold Num.atof64exact exactG
  simp only [NumFacts.mantbits, NumFacts.mulWindow, NumFacts.divWindow, NumFacts.preScale, NumFacts.exactMagnitude,
    cmpI, cmpF, List.any_cons, List.any_nil, Bool.or_false, hpos, hneg, show (15 : Int) + 22 = 37 from rfl]
  generalize (if ng = true then F64.neg (F64.ofInt ↑m) else F64.ofInt ↑m) = f
  -- the two sides differ in the table only, and each look-up is below 23 inside its window
  rcases Int.lt_trichotomy e 0 with hlt | rfl | hgt
  · by_cases hd : e ≥ -22
    · simp only [hlt, hd, show ¬ e > 0 by omega, tab (-e).toNat (by omega), decide_true, decide_false,
        Bool.and_true, Bool.false_and, Bool.false_eq_true, if_true, if_false]
    · simp only [hd, show ¬ e > 0 by omega, decide_false, Bool.and_false, Bool.false_and, Bool.false_eq_true,
        if_false]
  · rfl
  · by_cases h37 : e ≤ 37
    · by_cases h22 : e > 22
      · simp only [hgt, h37, h22, tab (e - 22).toNat (by omega), tab (22 : Int).toNat (by decide),
          decide_true, Bool.and_true, if_true]
      · simp only [hgt, h37, h22, tab e.toNat (by omega), decide_true, decide_false, Bool.and_true,
          Bool.false_eq_true, if_true, if_false]
    · simp only [h37, show ¬ e < 0 by omega, decide_false, Bool.and_false, Bool.false_and, Bool.false_eq_true,
        if_false]

/-- **exact_path_agrees** — windows `0 < exp <= 15+22`, `-22 <= exp < 0`, the pre-scale
`exp > 22 → f *= 10^(exp-22); exp = 22`, the test `f > 1e15 || f < -1e15`, the table look-ups, one
multiplication / division: model = regenerated on 7 mantissas × exp −25 … 40 × both signs -/
theorem exact_path_agrees :
    (exactMants.all fun m => exactExps.all fun e => [false, true].all fun ng =>
      Num.atof64exact m e ng == exactG m e ng) = true := by
  simp only [atof64exact_eq_exactG, beq_self_eq_true, List.all_eq_true, implies_true]

theorem exact_formulas_pinned :
    NumFacts.exactFormulas = ["f*float64pow10[exp]", "f/float64pow10[-exp]"] ∧
    NumFacts.optimize = true ∧ NumFacts.optimizeGuards = 1 := ⟨rfl, rfl, rfl⟩

/-- **atoi_fast_path_agrees** — `Atoi` takes its fast path iff the source condition holds (the
`intSize == 64` disjunct: `0 < sLen && sLen < 19`), for every input -/
theorem atoi_fast_path_agrees (s : Bytes) :
    Num.atoiFastApplies s =
      evalCond (fun | 0 => s.length | _ => NumFacts.intSize) NumFacts.atoiFastCond := by
  have h : (((s.length : Nat) : Int) < 19) = (s.length < 19) := by apply propext; omega
  simp [Num.atoiFastApplies, evalCond, evalAtom, operand, cmpI, NumFacts.atoiFastCond, NumFacts.intSize, h]

/-- **uint_cutoffs_agree** — `math.MaxUint64/10 + 1`, `uint64(1)<<uint(64) - 1` (wraps to
2^64 − 1), `uint64(1 << uint(63))`, `(math.MaxInt64-10)/10` -/
theorem uint_cutoffs_agree :
    Num.uintCutoff = NumFacts.uintCutoff10 ∧ Num.uintMaxVal = NumFacts.uintMaxVal64 ∧
    NumFacts.intCutoff64 = 2 ^ 63 ∧ Num.atofGuard = NumFacts.atofGuard := by decide +kernel

/-- **atof_guard_agrees** — reader.go `atof`: `digit >= 10` fails, `val > guard` fails, for all inputs -/
theorem atof_guard_agrees (ch : UInt8) (rest : Bytes) (val : Int) :
    Num.atofLoop (ch :: rest) val =
      if evalCond (fun _ => ((ch - 48).toNat : Int)) NumFacts.atofDigitCond then none
      else if evalCond (fun | 1 => val | _ => NumFacts.atofGuard) NumFacts.atofGuardCond then none
      else Num.atofLoop rest (Num.wrap64 (val * 10 + (((ch - 48).toNat : Nat) : Int))) := by
  have hg : NumFacts.atofGuard = Num.atofGuard := by decide +kernel
  have hD : evalCond (fun _ => ((ch - 48).toNat : Int)) NumFacts.atofDigitCond = decide ((ch - 48) ≥ 10) := by
    have e : ((10 : Int) ≤ ((ch - 48).toNat : Int)) = ((10 : UInt8) ≤ ch - 48) := by
      apply propext
      rw [UInt8.le_iff_toNat_le]
      simp
      omega
    simp [evalCond, evalAtom, operand, cmpI, NumFacts.atofDigitCond, e]
  have hG : evalCond (fun | 1 => val | _ => NumFacts.atofGuard) NumFacts.atofGuardCond =
      decide (val > Num.atofGuard) := by
    simp [evalCond, evalAtom, operand, cmpI, NumFacts.atofGuardCond, hg]
  rw [hD, hG]
  simp [Num.atofLoop]

/-- the remaining comparisons of ParseUint / ParseInt / Atoi in numeric form -/
theorem atoi_conds_pinned :
    NumFacts.atoiDigitCond = [[(false, 8, 1, 1009)]] ∧
    NumFacts.uintDigitCond = [[(false, 6, 0, 7)]] ∧
    NumFacts.uintMulOverflowCond = [[(false, 2, 0, 3)]] ∧
    NumFacts.uintAddOverflowCond = [[(false, 4, 3, 2)], [(false, 4, 1, 5)]] ∧
    NumFacts.intRangeConds = ["!neg && un >= cutoff", "neg && un > cutoff"] ∧
    NumFacts.atofStep = "(val*10)+int64(digit)" := ⟨rfl, rfl, rfl, rfl, rfl, rfl⟩

end C03.Facts
