/-
C17 — regenerated tie for the legacy benchstat library (benchstat/data.go computeStats,
table.go Tables/metricOf/metricSuffix, scaler.go NewScaler/timeScaler).

`Generated/LegacyFacts.lean` is re-extracted on every check run. The theorems tie it to
`Model/Legacy/Collection.lean` and `Model/Legacy/Text.lean`: float constants by bit pattern
(`F64.ofDecimal` of the source literal), conditions by interpretation for all inputs, string
tables by value, and the two scaler cascades (hard-coded inside `newScaler`/`timeScaler`) against
an interpreter of the regenerated rows: for every value and unit (`agreeNum_all`), of which the
statements on probes at, just below and just above every threshold are instances.
-/
import Model.Legacy.Text
import Generated.LegacyFacts
import Proofs.Facts.Common

namespace C17.Facts
open Legacy Generated FactsLib

/-- quartile arguments 0.25 / 0.75 and the fence factor 1.5 (both bounds), `q1 - …`, `q3 + …` -/
theorem fence_constants_agree :
    LegacyFacts.quartiles.map f64 = [c0_25, c0_75] ∧
    LegacyFacts.fenceLo.1 = 0 ∧ f64 LegacyFacts.fenceLo.2 = c1_5 ∧
    LegacyFacts.fenceHi.1 = 1 ∧ f64 LegacyFacts.fenceHi.2 = c1_5 := by decide +kernel

def quartile (i : Nat) : F64.Bits := f64 (LegacyFacts.quartiles.getD i (false, 0, 0))

/-- the model's fence from the regenerated constants: `(q1 - k·(q3-q1), q3 + k·(q3-q1))` -/
def fenceOfG (vs : List F64.Bits) : F64.Bits × F64.Bits :=
  let q1 := percentile vs (quartile 0)
  let q3 := percentile vs (quartile 1)
  let app (b : Nat × (Bool × Nat × Int)) (q : F64.Bits) :=
    if b.1 == 0 then F64.sub q (F64.mul (f64 b.2) (F64.sub q3 q1)) else F64.add q (F64.mul (f64 b.2) (F64.sub q3 q1))
  (app LegacyFacts.fenceLo q1, app LegacyFacts.fenceHi q3)

theorem fence_of_agrees (vs : List F64.Bits) : fenceOf vs = fenceOfG vs := by
  have h := fence_constants_agree
  have h0 : quartile 0 = c0_25 := by decide +kernel
  have h1 : quartile 1 = c0_75 := by decide +kernel
  simp [fenceOf, fenceOfG, h0, h1, h.2.1, h.2.2.1, h.2.2.2.1, h.2.2.2.2]

/-- **fence_cond_agrees** — `inFence` is the source's `lo <= value && value <= hi`, for all floats -/
theorem fence_cond_agrees (lo hi v : F64.Bits) :
    inFence lo hi v = evalCondF (fun | 0 => lo | 1 => v | _ => hi) LegacyFacts.fenceCond := by
  simp [inFence, evalCondF, evalAtomF, operandF, cmpF, LegacyFacts.fenceCond]

/-- **alpha_agrees** — `effAlpha` is `if alpha == 0 { alpha = 0.05 }` with the source's literal -/
theorem alpha_agrees (a : F64.Bits) :
    effAlpha a = if evalCondF (fun _ => a) LegacyFacts.alphaZeroCond then f64 LegacyFacts.defaultAlpha else a := by
  have h : f64 LegacyFacts.defaultAlpha = c0_05 := by decide +kernel
  have z : F64.ofInt 0 = F64.posZero := by decide +kernel
  simp [effAlpha, evalCondF, evalAtomF, operandF, cmpF, LegacyFacts.alphaZeroCond, h, z]

/-- **significant_cond_agrees** — `pval < alpha` (strict), as the model's `lt pval alpha` -/
theorem significant_cond_agrees (pval alpha : F64.Bits) :
    F64.lt pval alpha = evalCondF (fun | 0 => alpha | _ => pval) LegacyFacts.significantCond := by
  simp [evalCondF, evalAtomF, operandF, cmpF, LegacyFacts.significantCond]

/-- `new.Mean == old.Mean`, `pval != -1`, `len(c.Configs) == 2` in numeric form; the -1 is the
model's `cNeg1`; `((new/old) - 1.0) * 100.0` uses the model's `one`, `c100` -/
theorem table_constants_agree :
    LegacyFacts.meanEqualCond = [[(false, 2, 4, 3)]] ∧
    LegacyFacts.pvalNoteCond = [[(false, 1, 5, 2001)]] ∧
    LegacyFacts.oldNewDeltaCond = [[(false, 4, 4, 1002)]] ∧
    operandF (fun _ => 0) 2001 = cNeg1 ∧
    f64 LegacyFacts.pctMinus = F64.one ∧ f64 LegacyFacts.pctTimes = c100 :=
  ⟨rfl, rfl, rfl, by decide +kernel, by decide +kernel, by decide +kernel⟩

/-- the improvement rule `pct < 0 == (table.Metric != "speed")` → +1 else −1 -/
def changeG (pct : F64.Bits) (metric : Str) : Int :=
  let l := cmpF LegacyFacts.changeLeftOp pct (f64 LegacyFacts.changeLeftRhs)
  let r := if LegacyFacts.changeRightOp == 5 then metric != bytes LegacyFacts.speedMetric
           else metric == bytes LegacyFacts.speedMetric
  let c := if LegacyFacts.changeMidOp == 4 then l == r else l != r
  if c then LegacyFacts.changeThen else LegacyFacts.changeElse

theorem speed_name_agrees : bytes LegacyFacts.speedMetric = speed := by decide +kernel

/-- **change_agrees** — the model's `change` expression in `deltaPart` is the source's -/
theorem change_agrees (pct : F64.Bits) (metric : Str) :
    (if (F64.lt pct F64.posZero) == (metric != speed) then (1 : Int) else -1) = changeG pct metric := by
  have z : f64 LegacyFacts.changeLeftRhs = F64.posZero := by decide +kernel
  simp [changeG, LegacyFacts.changeLeftOp, LegacyFacts.changeRightOp, LegacyFacts.changeMidOp,
    LegacyFacts.changeThen, LegacyFacts.changeElse, cmpF, z, speed_name_agrees]

/-- the `metricSuffix` map (source order of the literal) -/
theorem metric_suffix_agrees :
    metricSuffix = LegacyFacts.metricSuffix.map (fun r => (bytes r.1, bytes r.2)) := by decide +kernel

/-- `metricOf` maps exactly MB/s (and a literal "speed") to the speed metric, through the
regenerated table and name -/
theorem speed_units_agree :
    (LegacyFacts.metricSuffix.filter (fun r => r.2 == LegacyFacts.speedMetric)).map (·.1) = LegacyFacts.prescaleUnits ∧
    LegacyFacts.prescaleUnits = LegacyFacts.rateUnits ∧
    (LegacyFacts.prescaleUnits.all fun u => metricOf (bytes u) == speed) = true := by decide +kernel

def hasBaseUnitG (s unit : Str) : Bool := s == unit || hasSuffix s ([45] ++ unit)

/-- first row whose condition holds (`default` = operator 9) -/
def pick {β : Type} (rows : List (Nat × (Bool × Nat × Int) × β)) (x : F64.Bits) : Option β :=
  (rows.find? fun r => r.1 == 9 || cmpF r.1 x (f64 r.2.1)).map (·.2.2)

/-- (time?, precision, scale, suffix before the unit-dependent additions) from the regenerated facts -/
def scalerG (val : F64.Bits) (unit : Str) : Option (Bool × Nat × F64.Bits × String) :=
  if LegacyFacts.timeUnits.any (fun u => hasBaseUnitG unit (bytes u)) then
    (pick LegacyFacts.timeRows (F64.div val (f64 LegacyFacts.timeDivisor))).map fun r =>
      (true, r.1, F64.ofInt r.2.1, r.2.2)
  else
    let pre := if LegacyFacts.prescaleUnits.any (fun u => hasBaseUnitG unit (bytes u))
               then f64 LegacyFacts.prescale else f64 LegacyFacts.prescaleDefault
    (pick LegacyFacts.scalerRows (F64.mul val pre)).map fun r =>
      (false, r.1, F64.div (f64 r.2.1) pre, r.2.2)

/-- probes: every threshold of both cascades shifted by 10^k, and its two float neighbours -/
def probeVals (k : Int) : List F64.Bits :=
  ((LegacyFacts.scalerRows.map (·.2.1)) ++ (LegacyFacts.timeRows.map (·.2.1))).flatMap fun t =>
    let v := F64.ofDecimal false t.2.1 (t.2.2 + k)
    if t.2.1 == 0 then [] else [v - 1, v, v + 1]

def unitX : Str := [120]                      -- "x"
def unitYns : Str := [121, 45, 110, 115, 47, 111, 112]   -- "y-ns/op"
def unitZMB : Str := [122, 45, 77, 66, 47, 115]          -- "z-MB/s"

/-- model and regenerated cascade agree on (time?, precision, scale) -/
def agreeNum (v : F64.Bits) (u : Str) : Bool :=
  let s := newScaler v u
  match scalerG v u with
  | some g => s.time == g.1 && s.prec == g.2.1 && s.scale == g.2.2.1
  | none => false

/-- … and on the suffix, for units where the model appends nothing -/
def agreeSuffix (v : F64.Bits) (u : Str) : Bool :=
  match scalerG v u with
  | some g => (newScaler v u).suffix == g.2.2.2
  | none => false

def timeUnitList : List Str := LegacyFacts.timeUnits.map bytes ++ [unitYns]
def rateUnitList : List Str := LegacyFacts.prescaleUnits.map bytes ++ [unitZMB]

/-! Both `switch` cascades of scaler.go have the shape `if c₁ ≤ x then b₁ else if c₂ ≤ x then b₂ … else d`.
The model's nested `if`s unfold to `cascade` over the regenerated rows (`rfl`, which compares
thresholds, precisions, scales and suffixes), and so does `pick` on rows with operator `>=` closed by
a `default`. Hence model and regenerated cascade agree for every value and unit, not only on probes. -/

def cascade {β : Type} (d : β) (x : F64.Bits) : List (F64.Bits × β) → β
  | [] => d
  | r :: rs => if F64.le r.1 x then r.2 else cascade d x rs

theorem cascade_map {β γ : Type} (f : β → γ) (d : β) (x : F64.Bits) (rs : List (F64.Bits × β)) :
    cascade (f d) x (rs.map fun r => (r.1, f r.2)) = f (cascade d x rs) := by
  induction rs with
  | nil => rfl
  | cons r rs ih => rw [List.map_cons, cascade, cascade, ih, apply_ite f]

theorem cascade_ind {β : Type} (P : β → Prop) {d : β} {rs : List (F64.Bits × β)} (hd : P d)
    (h : ∀ r ∈ rs, P r.2) (x : F64.Bits) : P (cascade d x rs) := by
  induction rs with
  | nil => exact hd
  | cons r rs ih =>
    rw [cascade]
    split
    · exact h r List.mem_cons_self
    · exact ih fun r hr => h r (List.mem_cons_of_mem _ hr)

theorem pick_eq_cascade {β : Type} (rows : List (Nat × (Bool × Nat × Int) × β)) (t : Bool × Nat × Int)
    (d : β) (h : ∀ r ∈ rows, r.1 = 0) (x : F64.Bits) :
    pick (rows ++ [(9, t, d)]) x = some (cascade d x (rows.map fun r => (f64 r.2.1, r.2.2))) := by
  induction rows with
  | nil => rfl
  | cons r rows ih =>
    have ih := ih fun r hr => h r (List.mem_cons_of_mem _ hr)
    unfold pick at ih ⊢
    rw [List.cons_append, List.find?_cons, List.map_cons, cascade, h r List.mem_cons_self]
    show Option.map _ (match F64.le (f64 r.2.1) x with | true => some r | false => _) =
      some (if F64.le (f64 r.2.1) x = true then r.2.2 else _)
    cases F64.le (f64 r.2.1) x
    · exact ih
    · rfl

/-- the unit test at the head of `NewScaler` and of `scalerG` -/
def isTimeUnit (u : Str) : Bool := hasBaseUnit u (str "ns/op") || hasBaseUnit u (str "ns/GC")

def prescaleOf (u : Str) : F64.Bits := if hasBaseUnit u (str "MB/s") then F64.ofInt 1000000 else F64.one

theorem any_hasBaseUnitG (us : List (List Nat)) (u : Str) :
    (us.any fun w => hasBaseUnitG u (bytes w)) = (us.map bytes).any (hasBaseUnit u) := by
  have h : str "-" = [45] := by decide +kernel
  rw [List.any_map]
  exact congrArg _ (funext fun w => by rw [Function.comp, hasBaseUnit, h]; rfl)

/-- the unit names and constants of scaler.go -/
theorem units_agree :
    LegacyFacts.timeUnits.map bytes = [str "ns/op", str "ns/GC"] ∧
    LegacyFacts.prescaleUnits.map bytes = [str "MB/s"] ∧ f64 LegacyFacts.timeDivisor = c1e9 ∧
    f64 LegacyFacts.prescale = F64.ofInt 1000000 ∧ f64 LegacyFacts.prescaleDefault = F64.one := by
  decide +kernel

def timeCascade (x : F64.Bits) : Nat × Nat × String :=
  cascade (2, 1000000000, "ns") x (LegacyFacts.timeRows.dropLast.map fun r => (f64 r.2.1, r.2.2))

def scalerCascade (x : F64.Bits) : Nat × (Bool × Nat × Int) × String :=
  cascade (2, (false, 1, 0), "") x (LegacyFacts.scalerRows.dropLast.map fun r => (f64 r.2.1, r.2.2))

theorem scalerG_eq (v : F64.Bits) (u : Str) :
    scalerG v u =
      if isTimeUnit u then
        (some (timeCascade (F64.div v c1e9))).map fun r => (true, r.1, F64.ofInt r.2.1, r.2.2)
      else (some (scalerCascade (F64.mul v (prescaleOf u)))).map fun r =>
        (false, r.1, F64.div (f64 r.2.1) (prescaleOf u), r.2.2) := by
  have ht : ∀ x, pick LegacyFacts.timeRows x = some (timeCascade x) :=
    pick_eq_cascade LegacyFacts.timeRows.dropLast (false, 0, 0) _ (by decide)
  have hs : ∀ x, pick LegacyFacts.scalerRows x = some (scalerCascade x) :=
    pick_eq_cascade LegacyFacts.scalerRows.dropLast (false, 0, 0) _ (by decide)
  obtain ⟨h1, h2, h3, h4, h5⟩ := units_agree
  simp only [scalerG, any_hasBaseUnitG, h1, h2, h3, h4, h5, ht, hs, List.any_cons, List.any_nil,
    Bool.or_false]
  rfl

def timeOf (r : Nat × Nat × String) : Scaler :=
  { time := true, prec := r.1, scale := F64.ofInt r.2.1, suffix := r.2.2 }

/-- the model keeps the scale as an integer, the source writes it as a decimal literal -/
def intScale (r : Nat × (Bool × Nat × Int) × String) : Nat × Int × String :=
  (r.1, ((frac r.2.1).1 : Int), r.2.2)

/-- what `newScaler` does with the triple its cascade selects -/
def scalerOf (unit : Str) (t : Nat × Int × String) : Scaler :=
  let suffix :=
    if hasBaseUnit unit (str "B/op") || hasBaseUnit unit (str "bytes/op") || hasBaseUnit unit (str "bytes")
    then t.2.2 ++ "B" else t.2.2
  let suffix := if hasBaseUnit unit (str "MB/s") then suffix ++ "B/s" else suffix
  { time := false, prec := t.1, scale := F64.div (F64.ofInt t.2.1) (prescaleOf unit), suffix := suffix }

theorem newScaler_eq (v : F64.Bits) (u : Str) :
    newScaler v u =
      if isTimeUnit u then timeOf (timeCascade (F64.div v c1e9))
      else scalerOf u (intScale (scalerCascade (F64.mul v (prescaleOf u)))) := by
  rw [newScaler, isTimeUnit, timeCascade, scalerCascade, ← cascade_map timeOf, ← cascade_map intScale]
  cases hasBaseUnit u (str "ns/op") || hasBaseUnit u (str "ns/GC") <;> rfl

theorem scale_exact (x : F64.Bits) :
    F64.ofInt (intScale (scalerCascade x)).2.1 = f64 (scalerCascade x).2.1 :=
  cascade_ind (fun r => F64.ofInt (intScale r).2.1 = f64 r.2.1) (by decide +kernel) (by decide +kernel) x

theorem agreeNum_all (v : F64.Bits) (u : Str) : agreeNum v u = true := by
  rw [agreeNum, newScaler_eq, scalerG_eq]
  cases isTimeUnit u
  · simp [scalerOf, scale_exact]
    rfl
  · simp [timeOf]

theorem agreeSuffix_time (v : F64.Bits) (u : Str) (h : isTimeUnit u = true) : agreeSuffix v u = true := by
  rw [agreeSuffix, newScaler_eq, scalerG_eq, h]
  simp [timeOf]

/-- for units to whose suffix `newScaler` appends nothing -/
theorem agreeSuffix_plain (v : F64.Bits) (u : Str) (h : isTimeUnit u = false)
    (hb : (hasBaseUnit u (str "B/op") || hasBaseUnit u (str "bytes/op") || hasBaseUnit u (str "bytes")) = false)
    (hr : hasBaseUnit u (str "MB/s") = false) : agreeSuffix v u = true := by
  rw [agreeSuffix, newScaler_eq, scalerG_eq, h]
  simp [scalerOf, hb, hr, intScale]

/-- **scaler_cascade_agrees** — thresholds, comparison operators, precisions, scales and suffixes
of the `NewScaler` cascade as modelled = as in the source, on 3 probes per threshold (unit "x"). -/
theorem scaler_cascade_agrees : ((probeVals 0).all fun v => agreeNum v unitX) = true :=
  List.all_eq_true.2 fun v _ => agreeNum_all v unitX

theorem scaler_cascade_suffix_agrees : ((probeVals 0).all fun v => agreeSuffix v unitX) = true :=
  List.all_eq_true.2 fun v _ =>
    agreeSuffix_plain v unitX (by decide +kernel) (by decide +kernel) (by decide +kernel)

/-- **time_cascade_agrees** — the `timeScaler` cascade, its divisor 1e9, scale products and unit
suffixes, and the unit names that select it (`ns/op`, `ns/GC`, and a `-` suffixed form) -/
theorem time_cascade_agrees :
    ((probeVals 9).all fun v => timeUnitList.all fun u => agreeNum v u) = true :=
  List.all_eq_true.2 fun v _ => List.all_eq_true.2 fun u _ => agreeNum_all v u

theorem time_cascade_suffix_agrees :
    ((probeVals 9).all fun v => timeUnitList.all fun u => agreeSuffix v u) = true := by
  have h : ∀ u ∈ timeUnitList, isTimeUnit u = true := by decide +kernel
  exact List.all_eq_true.2 fun v _ => List.all_eq_true.2 fun u hu => agreeSuffix_time v u (h u hu)

/-- **rate_prescale_agrees** — `MB/s` (and `-MB/s` suffixed units) prescale by 1e6 -/
theorem rate_prescale_agrees :
    ((probeVals (-6)).all fun v => rateUnitList.all fun u => agreeNum v u) = true :=
  List.all_eq_true.2 fun v _ => List.all_eq_true.2 fun u _ => agreeNum_all v u

/-- names whose handling appends to the suffix (string append is not kernel-evaluable):
pinned to the literals the model `newScaler` uses -/
theorem suffix_units_pinned :
    LegacyFacts.byteUnitsS = ["B/op", "bytes/op", "bytes"] ∧ LegacyFacts.byteSuffix = "B" ∧
    LegacyFacts.rateUnitsS = ["MB/s"] ∧ LegacyFacts.rateSuffix = "B/s" ∧
    LegacyFacts.hasBaseUnitExpr = "s == unit || strings.HasSuffix(s, \"-\"+unit)" :=
  ⟨rfl, rfl, rfl, rfl, rfl⟩

end C17.Facts
