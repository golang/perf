/-
C16 — the text/CSV rendering constants of cmd/benchstat/internal/benchtab/table.go (ToText, ToCSV,
superscript) and cmd/benchstat/internal/texttab/table.go (Span's default margin, lpad), re-extracted
into `Generated/TabFacts.lean` on every check run, agree with `Model/Tab/Render.lean` and
`Model/Tab/TextTab.lean`: named constants by value, inlined ones by building the model's tables.
-/
import Model.Tab.Render
import Generated.TabFacts
import Proofs.Facts.Common

namespace C16.Facts
open Tab.Render Tab.TextTab Generated FactsLib

def startColG (cols : Nat × Nat × Nat) (exp : Nat) : Nat :=
  if exp == 0 then cols.1 else cols.1 + cols.2.1 + (exp - 1) * (cols.2.1 + cols.2.2)

/-- **column_groups_agree** — `startCol` of ToText (1, 3, 3) and ToCSV (1, 2, 2), group widths -/
theorem column_groups_agree :
    ((List.range 12).all fun e => textStartCol e == startColG TabFacts.textCols e &&
      csvStartCol e == startColG TabFacts.csvCols e) = true ∧
    textGroupWidth 0 = TabFacts.textCols.2.1 ∧ textGroupWidth 1 = TabFacts.textCols.2.1 + TabFacts.textCols.2.2 ∧
    csvGroupWidth 0 = TabFacts.csvCols.2.1 ∧ csvGroupWidth 1 = TabFacts.csvCols.2.1 + TabFacts.csvCols.2.2 := by
  decide

/-- **margins_agree** — the six LeftMargin strings, in source order -/
theorem margins_agree :
    TabFacts.margins.map bytes = [barMargin, edgeMargin, barMargin, [0x20, 0x20], edgeMargin, pmMargin] ∧
    bytes TabFacts.vsBase = vsBase := by decide

/-- what the model's builder records for a cell: (col, span, value, margin, alignment code) -/
def cellsOf (ops : List Op) : List (Nat × Nat × Bytes × Bytes × Nat) :=
  match build ops with
  | none => []
  | some t => t.cells.map fun c =>
      (c.col, c.span, c.value, c.margin, match c.align with | .left => 0 | .center => 1 | .right => 2)

def mg (i : Nat) : Bytes := bytes (TabFacts.margins.getD i [])

/-- alignment code of the i-th Span/Cell call of ToText (no option = Left) -/
def al (i : Nat) : Nat :=
  let a := (TabFacts.textCalls.getD i ("", "", 0, "")).2.2.1
  if a < 0 then 0 else a.toNat

/-- **header_rows_agree** — a header level and the unit row as the model builds them: span
`centerCols` centred with " │ ", "vs base" over `deltaCols` left-aligned with "  ", right edge " │" -/
theorem header_rows_agree :
    let c := TabFacts.textCols.2.1
    let d := TabFacts.textCols.2.2
    cellsOf (levelOps 10 [.mk 0 [107] 0 2 []]) =
      [(1, c + (c + d), [107], mg 0, al 1), (10, 1, [], mg 1, al 2)] ∧
    cellsOf (unitRowOps 10 2 [117]) =
      [(1, c, [117], mg 2, al 3), (1 + c, c, [117], mg 2, al 3), (1 + c + c, d, bytes TabFacts.vsBase, mg 3, al 4),
       (10, 1, [], mg 4, al 5)] := by
  refine ⟨by decide +kernel, by decide +kernel⟩

def dc : DataCell := ⟨[49], [49], [50], [], some ⟨[51], [52], []⟩⟩

/-- **data_cells_agree** — a measurement cell with a baseline: centre right-aligned, range
right-aligned with " ± ", delta right-aligned, "(p…)" default, the warning cells default -/
theorem data_cells_agree :
    cellsOf (Op.row :: Op.span 1 [120] [] :: (dataCellOps [] 1 dc).2) =
      [(0, 1, [120], bytes TabFacts.noMargin, al 6),
       (textStartCol 1, 1, [49], bytes TabFacts.defaultMargin, al 7),
       (textStartCol 1 + 1, 1, [50], mg 5, al 8),
       (textStartCol 1 + 2, 1, [], bytes TabFacts.noMargin, al 0),
       (textStartCol 1 + 3, 1, [51], bytes TabFacts.defaultMargin, al 9),
       (textStartCol 1 + 4, 1, [40, 52, 41], bytes TabFacts.defaultMargin, al 10),
       (textStartCol 1 + 5, 1, [], bytes TabFacts.noMargin, al 0)] := by decide +kernel

/-- the alignment / margin of every Span/Cell call of ToText in source order, as literals (the
theorems above run the model on the same calls) -/
theorem text_calls_pinned :
    TabFacts.textCalls.map (fun c => (c.1, c.2.2.1, c.2.2.2)) =
      [("1", -1, "<none>"), ("r-l", 1, " │ "), ("1", -1, " │"), ("centerCols", 1, " │ "),
       ("deltaCols", 0, "  "), ("1", -1, " │"), ("1", -1, "<none>"), ("1", 2, "<none>"), ("1", 2, " ± "),
       ("1", 2, "<none>"), ("1", -1, "<none>"), ("1", -1, "<none>"), ("1", 2, "<none>"), ("1", 2, "<none>"),
       ("1", -1, "<none>")] ∧
    TabFacts.shrinkLoop = "j := l + 1; j < o.CurCol(); j++ { o.SetShrink(j, true) }" ∧
    TabFacts.textFormats = ["%+.2f%%", "%s %s\n"] := ⟨rfl, rfl, rfl⟩

/-- **shrink_columns_agree** — interior columns of each group shrink, the first of each group and
the label column do not -/
theorem shrink_columns_agree :
    ((build (unitRowOps 10 2 [117])).map fun t => (List.range 10).map t.isShrink) =
      some [false, false, true, true, false, true, true, true, true, true] := by decide +kernel

def superG (i : Nat) : Bytes :=
  let b := TabFacts.superBase.getD 0 10
  if i == 0 then bytes (TabFacts.superDigits.getD 0 [])
  else ((Nat.toDigits b i).map fun c => bytes (TabFacts.superDigits.getD (c.toNat - 48) [])).flatten

/-- **superscript_agrees** — the digit table ⁰¹²³⁴⁵⁶⁷⁸⁹ (UTF-8) and base 10 -/
theorem superscript_agrees :
    (List.range 10).map superDigit = TabFacts.superDigits.map bytes ∧
    ([0, 1, 9, 10, 11, 99, 100, 1234567890, 405].all fun i => superscript i == superG i) = true ∧
    TabFacts.superBuf = 20 ∧ TabFacts.superBase = [10, 10] := by
  refine ⟨by decide +kernel, by decide +kernel, by decide, by decide⟩

/-- **footnote_lines_agree** — `fmt.Fprintf(w, "%s %s\n", superscript(i+1), msg)` per warning, and
the footnote marks of a cell joined by " " -/
theorem footnote_lines_agree :
    footnoteLines [[97], [98, 99]] =
      renderG TabFacts.footnoteTokens [superscript 1, [97]] ++ renderG TabFacts.footnoteTokens [superscript 2, [98, 99]] ∧
    joinSp [[97], [98], [99]] = [97] ++ bytes TabFacts.footnoteJoin ++ [98] ++ bytes TabFacts.footnoteJoin ++ [99] := by
  refine ⟨by decide +kernel, by decide +kernel⟩

/-- little-endian digits of x in base b (fuel = x suffices for b ≥ 2) -/
def digitsLE (b : Nat) : Nat → Nat → List Nat
  | 0, _ => []
  | fuel + 1, x => if x == 0 then [] else (x % b) :: digitsLE b fuel (x / b)

def colNameG (x : Nat) : Bytes :=
  let a := TabFacts.csvNameParts.getD 0 0
  if x == 0 then [UInt8.ofNat (TabFacts.csvNameParts.getD 3 0)]
  else if TabFacts.csvNameParts.getD 1 1 != TabFacts.csvNameParts.getD 2 2 then []
  else ((digitsLE (TabFacts.csvNameParts.getD 1 1) 10 x).reverse.map fun d => UInt8.ofNat (a + d))

/-- **csv_cell_reference_agrees** — the column label built from `len(row)` ('A' + x%26 per digit,
"A" for 0) -/
theorem csv_cell_reference_agrees :
    ((List.range 120).all fun x => colName x == colNameG x) = true ∧
    colName 700 = colNameG 700 ∧ TabFacts.csvNameParts = [65, 26, 26, 65] ∧ TabFacts.csvNameBuf = 10 := by
  refine ⟨by decide +kernel, by decide +kernel, by decide, by decide⟩

/-- **csv_warning_line_agrees** — `fmt.Fprintf(warnings, "%s%d: %s\n", colName, row, msg)` -/
theorem csv_warning_line_agrees (x r : Nat) (m : Bytes) :
    warnLine (x, r, m) = renderG TabFacts.csvWarnTokens [colName x, natDigits r, m] := by
  simp [warnLine, renderG, TabFacts.csvWarnTokens, List.flatMap]

/-- **csv_header_agrees** — the unit row: unit, "CI", and for exp > 0 "vs base", "P"; "?" for a
missing ratio -/
theorem csv_header_agrees :
    let L (i : Nat) : Bytes := bytes (TabFacts.csvLiterals.getD i [])
    csvUnitRow 2 [117] = [L 0, [117], L 1, [117], L 1, L 2, L 3] ∧
    (csvSumCols 0 [[115]] [] 1 [some ⟨false, [], [], false, [], []⟩]).1 = [[115], L 0, L 0, L 0, L 0, L 4] := by
  refine ⟨by decide +kernel, by decide +kernel⟩

/-- **default_margin_agrees** — `Span`: " " unless the cell is in column 0 or empty -/
theorem default_margin_agrees :
    cellsOf [Op.row, Op.span 1 [97] [], Op.span 1 [98] [], Op.span 1 [] []] =
      [(0, 1, [97], bytes TabFacts.noMargin, 0), (1, 1, [98], bytes TabFacts.defaultMargin, 0),
       (2, 1, [], bytes TabFacts.noMargin, 0)] ∧
    TabFacts.noMarginCond = "t.curCol == 0 || len(value) == 0" := ⟨by decide +kernel, rfl⟩

/-- **centre_padding_agrees** — `l := (w - runes(s)) / 2` -/
theorem centre_padding_agrees :
    ([(3 : Int), 4, 5, 6, 9, 10].all fun w =>
      lpad .center [120, 121] w == spaces ((w - 2) / (TabFacts.centreDivisor : Int)).toNat ++ [120, 121]) = true ∧
    TabFacts.padFormats = ["%*s%s", "%*s"] := ⟨by decide +kernel, rfl⟩

end C16.Facts
