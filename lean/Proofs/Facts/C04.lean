/-
C04 — regenerated tie for benchunit/tidy.go.

`Generated/TidyFacts.lean` is re-extracted from /repo/benchunit/tidy.go by /verif/extract on every
check run. The theorems below are kernel-checked agreements between those facts and the constants
the hand-written model `Model/Unit/Tidy.lean` hard-codes: a changed constant, table row, operator
or pre-filter string in the Go source changes the generated file and makes this module fail to
build (P layer broken).
-/
import Model.Unit.Tidy
import Generated.TidyFacts

namespace C04.Facts
open Unit.Tidy Unit.Parse Generated

/-- Go string bytes as emitted by the extractor → model `Bytes` -/
def bytes (l : List Nat) : Bytes := l.map UInt8.ofNat

/-- a Go decimal literal (negative, mantissa, decimal exponent) → the float64 constant the
compiler produces (correctly rounded) -/
def f64 (d : Bool × Nat × Int) : F64.Bits := F64.ofDecimal d.1 d.2.1 d.2.2

/-- The model's fast-path table is the `switch unit` of tidyUnit, row for row, with the factor
literals rounded to float64. -/
theorem fast_table_agrees :
    fastTable = TidyFacts.fastTable.map (fun r => (bytes r.1, bytes r.2.1, f64 r.2.2)) := by
  decide +kernel

/-- The model's pre-filter strings, its shape `!(Contains || Contains)` and its result
`(unit, 1)` are the source's. -/
theorem prefilter_agrees :
    TidyFacts.prefilter.map bytes = [sNs, sMB] ∧ TidyFacts.prefilterNegated = true ∧
    TidyFacts.prefilterOpN = 6 ∧ TidyFacts.prefilterReturnsUnit = true ∧
    f64 TidyFacts.prefilterFactor = F64.one := by
  decide +kernel

/-- The edit table `switch p.tok` as constants: token, `len(…)`, replacement, operator and the
float64 of the factor literal; initial factor 1; the denominator is skipped; edits are applied
last-to-first; `Tidy` multiplies. -/
theorem edit_constants_agree :
    TidyFacts.edits.map (fun r => (bytes r.1, r.2.1, bytes r.2.2.1, r.2.2.2.1, f64 r.2.2.2.2)) =
      [(sNs, sNs.length, sSec, 0, f1e9), (sMB, sMB.length, sB, 1, f1e6)] ∧
    f64 TidyFacts.initFactor = F64.one ∧ TidyFacts.denomSkipped = true ∧
    TidyFacts.editsAppliedLastFirst = true ∧ TidyFacts.tidyValueIsMul = true := by
  decide +kernel

/-- `strings.Contains(unit, s₁) || strings.Contains(unit, s₂)` interpreted from the regenerated
substring list -/
def mayNeedTidyG (u : Bytes) : Bool := (TidyFacts.prefilter.map bytes).any (Bytes.contains u ·)

theorem mayNeedTidy_agrees (u : Bytes) : mayNeedTidy u = mayNeedTidyG u := by
  simp [mayNeedTidy, mayNeedTidyG, prefilter_agrees.1]

/-- source text of the slice expression modelled by `applyEdit?` and of `Tidy`'s value -/
theorem apply_expr_agrees :
    TidyFacts.applyExpr = "unit[:e.pos] + e.replace + unit[e.pos+e.len:]" ∧
    TidyFacts.tidyValueExpr = "value * factor" := ⟨rfl, rfl⟩

abbrev Row := List Nat × Nat × List Nat × Nat × (Bool × Nat × Int)

def stepFactor (r : Row) (f : F64.Bits) : F64.Bits :=
  if r.2.2.2.1 == 0 then F64.div f (f64 r.2.2.2.2) else F64.mul f (f64 r.2.2.2.2)

/-- `for p.next() { if p.denom { continue }; switch p.tok { <table> } }` -/
def scanG (tbl : List Row) (skipDenom : Bool) : List Tok → List Edit → F64.Bits → List Edit × F64.Bits
  | [], es, f => (es, f)
  | t :: ts, es, f =>
    if skipDenom && t.denom then scanG tbl skipDenom ts es f
    else match tbl.find? (fun r => bytes r.1 == t.tok) with
      | some r => scanG tbl skipDenom ts (es ++ [⟨t.pos, r.2.1, bytes r.2.2.1⟩]) (stepFactor r f)
      | none => scanG tbl skipDenom ts es f

theorem f1e9_is_literal : f64 (false, 1, 9) = f1e9 := by decide +kernel
theorem f1e6_is_literal : f64 (false, 1, 6) = f1e6 := by decide +kernel

theorem edits_find (tok : Bytes) :
    TidyFacts.edits.find? (fun r => bytes r.1 == tok) =
      if tok == sNs then some ([110, 115], 2, [115, 101, 99], 0, (false, 1, 9))
      else if tok == sMB then some ([77, 66], 2, [66], 1, (false, 1, 6)) else none := by
  have hns : bytes [110, 115] = sNs := by decide
  have hmb : bytes [77, 66] = sMB := by decide
  simp only [TidyFacts.edits, List.find?, hns, hmb, BEq.comm (a := sNs), BEq.comm (a := sMB)]
  cases tok == sNs <;> cases tok == sMB <;> rfl

/-- **scan_agrees** — for every token list, the loop driven by the table re-extracted from
tidy.go computes exactly what the hand-written `scan` computes. -/
theorem scan_agrees (ts : List Tok) (es : List Edit) (f : F64.Bits) :
    scan ts es f = scanG TidyFacts.edits TidyFacts.denomSkipped ts es f := by
  induction ts generalizing es f with
  | nil => rfl
  | cons t ts ih =>
    have hsec : bytes [115, 101, 99] = sSec := by decide
    have hb : bytes [66] = sB := by decide
    have hskip : TidyFacts.denomSkipped = true := rfl
    simp only [scan, scanG, hskip, Bool.true_and, edits_find]
    by_cases hd : t.denom = true
    · simp only [hd, if_true, ih, hskip]
    · cases h1 : t.tok == sNs
      · cases h2 : t.tok == sMB
        · simp [hd, ih, hskip]
        · simp [hd, ih, hskip, stepFactor, f1e6_is_literal, hb, sMB]
      · simp [hd, ih, hskip, stepFactor, f1e9_is_literal, hsec, sNs]

end C04.Facts
