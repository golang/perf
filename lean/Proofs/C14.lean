/-
C14 — benchstat puts each measurement in one cell and reports its true statistics.
The model is Tab.* in Model/Tab/Pipeline.lean, the specification Spec.Cells.* in Model/Spec/Cells.lean.
-/
import Proofs.Lemmas.C14Tables
import Proofs.Lemmas.C14Raw

namespace C14
open Tab Spec.Cells C14L

variable {κ ζ ν : Type} [DecidableEq κ] [DecidableEq ζ]
set_option linter.unusedSectionVars false

/-- **cells_are_groupBy** (all streams, induction over `Add`): the cell (t, r, c) holds exactly
the values of the measurements that fall under (t, r, c), in input order; it exists iff that
group is non-empty; the sample sizes of all cells add up to the number of measurements (so no
measurement is counted twice or dropped); and table keys, and the cell keys of each table, are
unique (so "the" cell of a key is well defined). -/
theorem cells_are_groupBy (rs : List (Res κ ζ ν)) :
    (∀ t r c, cellValues (build rs) t r c = (group (measOf rs) t r c).map (·.value)) ∧
    (∀ t r c, hasCell (build rs) t r c = true ↔ group (measOf rs) t r c ≠ []) ∧
    totalValues (build rs) = (measOf rs).length ∧
    WF (build rs) := by
  refine ⟨cellValues_build rs, fun t r c => ?_, ?_, WF_build rs⟩
  · rw [hasCell_build, Bool.not_eq_eq_eq_not, Bool.not_true, ← Bool.not_eq_true, List.isEmpty_iff]
  · rw [build, foldl_add_eq, totalValues_foldl]; exact Nat.zero_add _

/-- every measurement falls under exactly one key: its own -/
theorem measurement_in_one_cell (m : Meas κ ζ ν) (t r c : κ) :
    inCell t r c m = true ↔ (t, r, c) = (m.table, m.row, m.col) := by
  simp only [inCell, Bool.and_eq_true, decide_eq_true_eq, Prod.mk.injEq]
  constructor
  · rintro ⟨⟨h1, h2⟩, h3⟩; exact ⟨h1.symm, h2.symm, h3.symm⟩
  · rintro ⟨h1, h2, h3⟩; exact ⟨⟨h1.symm, h2.symm⟩, h3.symm⟩

/-- **default_projection**: the flag defaults of cmd/benchstat/main.go (the harness re-reads
them from `benchstat -h` on every run and compares them with the model's; `C14.Facts.flag_defaults_agree`
does the same against the source): tables by file configuration (+ unit,
added by ParseWithUnit), rows by full name, columns by file; nothing ignored, no filter. -/
theorem default_projection :
    ({} : Flags).table = ".config" ∧ ({} : Flags).row = ".fullname" ∧ ({} : Flags).col = ".file" ∧
    ({} : Flags).ignore = "" ∧ ({} : Flags).filter = "*" := ⟨rfl, rfl, rfl, rfl, rfl⟩

section Tables
variable (cfg : Cfg κ) (t : κ) (bt : BTable κ (List Bytes) F64.Bits)

/-- **baseline_is_first_sorted_col**: the columns are the builder's columns sorted by the
requested order; the first of them has the least rank; a cell's baseline is the cell of the SAME
row in that first column, provided the cell is not itself in the first column and that cell
exists — and there is no baseline otherwise. -/
theorem baseline_is_first_sorted_col (k : κ × κ) (cell : OCell κ)
    (h : AL.lookup k (toTable cfg t bt).cells = some cell) :
    (toTable cfg t bt).cols = sortKeys cfg.rankC bt.cols ∧
    (∀ c0, (toTable cfg t bt).cols.head? = some c0 → c0 ∈ bt.cols ∧ ∀ c ∈ bt.cols, cfg.rankC c0 ≤ cfg.rankC c) ∧
    cell.baseline = (match (toTable cfg t bt).cols.head? with
      | none => none
      | some c0 => if k.2 ≠ c0 ∧ (AL.lookup (k.1, c0) (toTable cfg t bt).cells).isSome then some (k.1, c0) else none) := by
  refine ⟨rfl, fun c0 hc0 => sortKeys_head_min cfg.rankC hc0, ?_⟩
  rw [toTable_cell] at h
  have hcols : (toTable cfg t bt).cols = sortKeys cfg.rankC bt.cols := rfl
  rw [hcols]
  cases hb : AL.lookup k bt.cells with
  | none => simp [hb] at h
  | some bc =>
    simp only [hb, Option.map_some, Option.some.injEq] at h
    subst h
    unfold mkCell
    simp only
    cases (sortKeys cfg.rankC bt.cols).head? with
    | none => rfl
    | some c0 =>
      simp only [toTable_cell]
      by_cases hk : k.2 = c0
      · simp [hk]
      · cases AL.lookup (k.1, c0) bt.cells <;> simp [hk]

/-- **comparison_against_same_row_baseline**: a cell's sample is its builder values sorted, its
summary is the unit's assumption applied to that sample, and its comparison is the assumption's
comparison of the BASELINE cell's sample with its own sample (no comparison without a baseline). -/
theorem comparison_against_same_row_baseline (k : κ × κ) (cell : OCell κ)
    (h : AL.lookup k (toTable cfg t bt).cells = some cell) :
    let a := cfg.assume (cfg.unitOf t)
    (toTable cfg t bt).assumption = a ∧
    cell.sample = sortFloats (((AL.lookup k bt.cells).map (·.values)).getD []) ∧
    cell.summary = cfg.orc.summary a cell.sample ∧
    cell.comparison = cell.baseline.bind fun bk =>
      (AL.lookup bk (toTable cfg t bt).cells).map fun bc => cfg.orc.compare a bc.sample cell.sample := by
  rw [toTable_cell] at h
  cases hb : AL.lookup k bt.cells with
  | none => simp [hb] at h
  | some bc =>
    simp only [hb, Option.map_some, Option.some.injEq] at h
    subst h
    refine ⟨rfl, by simp [mkCell], rfl, ?_⟩
    have key : ∀ (S : List F64.Bits) (o : Option (κ × κ)),
        (o.bind fun bk => (AL.lookup bk bt.cells).map fun bc =>
          cfg.orc.compare (cfg.assume (cfg.unitOf t)) (sortFloats bc.values) S) =
        o.bind fun bk => (AL.lookup bk (toTable cfg t bt).cells).map fun bc =>
          cfg.orc.compare (cfg.assume (cfg.unitOf t)) bc.sample S := by
      intro S o
      cases o with
      | none => rfl
      | some bk =>
        simp only [Option.bind_some, toTable_cell]
        cases AL.lookup bk bt.cells <;> rfl
    exact key _ _

/-- a cell's sample is a permutation of the values the builder collected for it -/
theorem sample_perm (k : κ × κ) (cell : OCell κ) (bc : BCell (List Bytes) F64.Bits)
    (hb : AL.lookup k bt.cells = some bc) (h : AL.lookup k (toTable cfg t bt).cells = some cell) :
    cell.sample.Perm bc.values := by
  rw [toTable_cell, hb] at h
  simp only [Option.map_some, Option.some.injEq] at h
  subst h
  exact sortFloats_perm _

end Tables

/-- **ratio_rules** (builder.go:301-316): equal centres give ratio 1 (this covers 0/0), a zero
baseline with a different centre gives a bad ratio, anything else is the IEEE quotient. -/
theorem ratio_rules (a b : F64.Bits) :
    (F64.eq a b = true → ratioOf a b = some F64.one) ∧
    (F64.eq a b = false → F64.eq b F64.posZero = true → ratioOf a b = none) ∧
    (F64.eq a b = false → F64.eq b F64.posZero = false → ratioOf a b = some (F64.div a b)) := by
  unfold ratioOf
  refine ⟨fun h => by simp [h], fun h1 h2 => by simp [h1, h2], fun h1 h2 => by simp [h1, h2]⟩

/-- instances: 0/0, -0/+0 and x/x are 1; 5/0 is bad; 6/3 = 2 -/
example : ratioOf F64.posZero F64.posZero = some F64.one ∧ ratioOf F64.negZero F64.posZero = some F64.one ∧
    ratioOf 0x4014000000000000 F64.posZero = none ∧
    ratioOf 0x4018000000000000 0x4008000000000000 = some 0x4000000000000000 := by decide +kernel

theorem strs_distinct : strDiffers ≠ strSumPos ∧ strDiffers ≠ strRatioPos ∧ strSumPos ≠ strRatioPos := by
  decide +kernel

/-- **geomean_row_spec**: the summary cell of a column is the geometric mean of the centres of
the column's cells (in row order) and the geometric mean of the per-row ratios centre/baseline
centre over the rows that have a baseline, with exactly these warnings:
* "benchmark set differs from baseline" iff the column is not the baseline column and the number
  of its cells that have a baseline differs from the number of baseline cells `nBase` or from the
  number of its own cells (both comparisons: the code after commit 6fa9e62);
* "summaries must be >0" iff the geomean of the centres is NaN (no summary is shown then);
* "ratios must be >0" iff the column is not the baseline, no ratio was bad (zero baseline
  centre) and the geomean of the ratios is NaN — a bad ratio shows "?" without this warning. -/
theorem geomean_row_spec (orc : Oracles) (rows : List κ) (cells : List ((κ × κ) × OCell κ)) (col : κ)
    (nBase : Nat) (isBase : Bool) :
    let s := summarizeCol orc rows cells col nBase isBase
    let centres := colCentres rows cells col
    let pairs := colPairs rows cells col
    let ratios := pairs.map fun p => (ratioOf p.1 p.2).getD F64.posZero
    let bad := pairs.any fun p => (ratioOf p.1 p.2).isNone
    (s.hasSummary = !F64.isNaN (geoMean orc centres).val) ∧
    (s.hasSummary = true → s.summary = (geoMean orc centres).val ∧ s.summaryStr = (geoMean orc centres).str) ∧
    (s.hasRatio = (!isBase && !bad && !F64.isNaN (geoMean orc ratios).val)) ∧
    (s.hasRatio = true → s.ratio = (geoMean orc ratios).val ∧ s.ratioPct = (geoMean orc ratios).pct) ∧
    (strDiffers ∈ s.warnings ↔ (isBase = false ∧ (nBase ≠ pairs.length ∨ centres.length ≠ pairs.length))) ∧
    (strSumPos ∈ s.warnings ↔ F64.isNaN (geoMean orc centres).val = true) ∧
    (strRatioPos ∈ s.warnings ↔ (isBase = false ∧ bad = false ∧ F64.isNaN (geoMean orc ratios).val = true)) := by
  intro s centres pairs ratios bad
  obtain ⟨d1, d2, d3⟩ := strs_distinct
  have hs : s = summarizeCol orc rows cells col nBase isBase := rfl
  unfold summarizeCol at hs
  simp only [colStep_foldl, List.nil_append, Bool.false_or] at hs
  refine ⟨?_, ?_, ?_, ?_, ?_, ?_, ?_⟩
  · rw [hs]
  · intro h; rw [hs] at h ⊢; simp only [Bool.not_eq_eq_eq_not, Bool.not_true] at h; simp [h, centres]
  · rw [hs]
  · intro h; rw [hs] at h ⊢
    simp only at h
    simp only [h, if_true]
    exact ⟨rfl, rfl⟩
  -- each warning is one of three different strings, present under its own condition
  · rw [hs]
    simp only [List.mem_append, List.mem_ite_nil_right, List.mem_singleton, d1, d2, and_false, or_false, and_true,
      List.length_map, Bool.and_eq_true, Bool.not_eq_eq_eq_not, Bool.not_true, Bool.or_eq_true, bne_iff_ne, ne_eq]
    exact Iff.rfl
  · rw [hs]
    simp only [List.mem_append, List.mem_ite_nil_right, List.mem_singleton, d1.symm, d3, and_false, or_false, false_or,
      and_true]
    exact Iff.rfl
  · rw [hs]
    simp only [List.mem_append, List.mem_ite_nil_right, List.mem_singleton, d2.symm, d3.symm, and_false, false_or, and_true,
      Bool.and_eq_true, Bool.not_eq_eq_eq_not, Bool.not_true, and_assoc]
    exact Iff.rfl

/-- the geomean itself: NaN for an empty list, one with an element `<= 0` or a NaN element;
otherwise the answer of go-moremath's `GeoMean` on that list -/
theorem geoMean_spec (orc : Oracles) (xs : List F64.Bits) :
    (xs = [] ∨ (∃ x ∈ xs, nonPos x = true) ∨ (∃ x ∈ xs, F64.isNaN x = true) → (geoMean orc xs).val = F64.nan) ∧
    (xs ≠ [] → (∀ x ∈ xs, nonPos x = false) → (∀ x ∈ xs, F64.isNaN x = false) → geoMean orc xs = orc.geomean xs) := by
  have hc : (xs.isEmpty || xs.any nonPos || xs.any F64.isNaN) = true ↔
      xs = [] ∨ (∃ x ∈ xs, nonPos x = true) ∨ (∃ x ∈ xs, F64.isNaN x = true) := by
    simp only [Bool.or_eq_true, List.isEmpty_iff, List.any_eq_true, or_assoc]
  unfold geoMean
  refine ⟨fun h => by rw [if_pos (hc.mpr h)], fun h1 h2 h4 => ?_⟩
  rw [if_neg]
  rw [hc]
  rintro (h | ⟨x, hx, hp⟩ | ⟨x, hx, hp⟩)
  · exact h1 h
  · rw [h2 x hx] at hp; cases hp
  · rw [h4 x hx] at hp; cases hp

/-- **residue_warning_exact**: for every stream and every key, the warning `summarizeCell`
attaches to the cell is determined by the GROUP of measurements of that cell alone: it is absent
iff no flattened residue field takes two different values inside the group, and otherwise it is
"benchmarks vary in " followed by exactly the names of the fields that do, in flattened order.
(Reading fixed in DESIGN.md: the residue's domain is the file configuration keys and the full
name that were neither projected nor ignored; tool-internal labels such as `.file` are not in it.) -/
theorem residue_warning_exact (names : List Bytes) (rs : List (Res κ (List Bytes) ν)) (t r c : κ) :
    residueWarning names (cellResidue (build rs) t r c) =
      (let fs := residueFields names ((group (measOf rs) t r c).map (·.residue))
       if fs.isEmpty then [] else [strVary ++ joinBytes strCommaSp fs]) := by
  rw [residueWarning_congr names (mem_cellResidue_build rs t r c)]
  unfold residueWarning residueFields
  rw [nonSingular_eq_varying]
  simp [List.isEmpty_iff]

/-- the warning of an output cell is the residue warning of its builder cell -/
theorem cell_sampleWarnings (cfg : Cfg κ) (t : κ) (bt : BTable κ (List Bytes) F64.Bits) (k : κ × κ)
    (cell : OCell κ) (bc : BCell (List Bytes) F64.Bits)
    (hb : AL.lookup k bt.cells = some bc) (h : AL.lookup k (toTable cfg t bt).cells = some cell) :
    cell.sampleWarnings = residueWarning cfg.fieldNames bc.residue := by
  rw [toTable_cell, hb] at h
  simp only [Option.map_some, Option.some.injEq] at h
  subst h
  rfl

/-- instance: two sub-benchmarks merged by `-row .name` differ in `.fullname` only -/
example : residueWarning ["goos".toUTF8.toList, ".fullname".toUTF8.toList]
    [["linux".toUTF8.toList, "E/format=json".toUTF8.toList], ["linux".toUTF8.toList, "E/format=gob".toUTF8.toList]]
    = ["benchmarks vary in .fullname".toUTF8.toList] := by decide +kernel


section Raw
open Proc.Projection Proc.Sort Tab.RawPass

/-- **cells_are_groupBy_raw** (composition with C08): run the loop of cmd/benchstat over RAW
results (name, file configuration, units) with the flags' projections parsed into one shared
parser state, for ANY hash function. Then every projection stays reachable, and for all keys of
the final state the cell (t, r, c) holds exactly the values of the measurements whose PROJECTED
VALUES — the tuples over the final flattened fields of the table (incl. unit), row and column
projections — equal those of t, r and c, in input order. Key identity (what the Go maps are keyed
by) is replaced by tuple identity through `C08.key_eq_iff`, not assumed. -/
theorem cells_are_groupBy_raw {ν : Type} (h : List Bytes → UInt64) (specs : List (List Spec)) (raws : List Res)
    (vals : List (List ν)) (pT pR pC : Proj)
    (hlen : 4 < (rawWorld specs).projs.length)
    (hT : (raws.foldl (rawStep h 4) (rawWorld specs, [])).1.projs[0]? = some pT)
    (hR : (raws.foldl (rawStep h 4) (rawWorld specs, [])).1.projs[1]? = some pR)
    (hC : (raws.foldl (rawStep h 4) (rawWorld specs, [])).1.projs[2]? = some pC) :
    let stream := idStream (raws.foldl (rawStep h 4) (rawWorld specs, [])).2 vals
    C08.Reachable h pT ∧ C08.Reachable h pR ∧ C08.Reachable h pC ∧
    ∀ t r c, t < pT.nodes.length → r < pR.nodes.length → c < pC.nodes.length →
      cellValues (build stream) t r c =
        ((measOf stream).filter fun m =>
          decide (tupleOf pT m.table = tupleOf pT t) && decide (tupleOf pR m.row = tupleOf pR r) &&
          decide (tupleOf pC m.col = tupleOf pC c)).map (·.value) := by
  intro stream
  obtain ⟨hok, hv⟩ := rawFold_inv h 4 raws (rawWorld specs, []) (WorldOK_rawWorld h specs)
    ⟨Nat.lt_trans (by decide) hlen, hlen⟩ (by intro e he; simp at he)
  have rT := hok pT (List.mem_of_getElem? hT)
  have rR := hok pR (List.mem_of_getElem? hR)
  have rC := hok pC (List.mem_of_getElem? hC)
  refine ⟨rT, rR, rC, ?_⟩
  intro t r c ht hr hc
  rw [(cells_are_groupBy stream).1 t r c]
  unfold group
  congr 1
  apply List.filter_congr
  intro m hm
  have hvalid := idStream_keys_valid hv hm
  simp only [nodesLen, hT, hR, hC, Option.map_some, Option.getD_some] at hvalid
  simp only [inCell]
  rw [Bool.eq_iff_iff]
  simp only [Bool.and_eq_true, decide_eq_true_eq]
  rw [tuple_eq_iff h pT rT _ _ hvalid.1 ht, tuple_eq_iff h pR rR _ _ hvalid.2.1 hr,
    tuple_eq_iff h pC rC _ _ hvalid.2.2 hc]

/-- the hypothesis on the flags is inhabited: the default flags (-table .config, -row .fullname,
-col .file, -ignore "") parse into five projections (table, row, col, ignore, residue) -/
example : (rawWorld [[{ key := Proc.Extract.dotConfig, order := .first }], [{ key := Proc.Extract.dotFullname, order := .first }],
    [{ key := ".file".toUTF8.toList, order := .first }], []]).projs.length = 5 := by decide +kernel

/-- **rows_sorted_by_key_less** (composition with C09): take the `Key.Less` of a reachable
projection state and rank every key of a duplicate-free list `d` of its keys by its position in
the `Key.Less`-sorted arrangement of `d` (this is the `rank` data of the benchtab model). Then
(1) the rank separates the keys of `d` — the `RankOK` hypothesis of C15 is discharged by
`C09.key_less_strict_total`, not assumed — and (2) for every duplicate-free sub-collection `l`
(the rows, columns or tables actually present) the model's `sortKeys` returns THE
`Key.Less`-sorted arrangement of `l`: every sorted permutation `out` of `l` — whatever
`sort.Slice` does — is equal to it. -/
theorem rows_sorted_by_key_less (h : List Bytes → UInt64) (pn : Bytes → NumC) (p : Proj) (hr : C08.Reachable h p)
    (d : List Nat) (hd : d.Nodup) (hvalid : ∀ k ∈ d, k < p.nodes.length) :
    (∀ x y, x ∈ d → y ∈ d → rankOf pn p d x = rankOf pn p d y → x = y) ∧
    ∀ l : List Nat, l.Nodup → (∀ k ∈ l, k ∈ d) →
      ∀ out : List Nat, C09.Sorted (p.less pn) out → out.Perm l → out = Tab.sortKeys (rankOf pn p d) l := by
  obtain ⟨hirr, hasym, htrans, htotal⟩ := C09.key_less_strict_total h pn p hr
  have hS : C09.Sorted (p.less pn) (p.sortKeys pn d) := C09.sortBy_sorted _ hasym htrans _
  have hP : (p.sortKeys pn d).Perm d := C09.sortBy_perm _ _
  have hinj : ∀ x y, x ∈ d → y ∈ d → rankOf pn p d x = rankOf pn p d y → x = y :=
    fun x y hx hy e => FirstOcc.eq_of_idxOf_eq (hP.mem_iff.mpr hx) (hP.mem_iff.mpr hy) e
  refine ⟨hinj, ?_⟩
  intro l hl hsub out hso hpo
  -- the model's arrangement is sorted by Key.Less: ranks do not decrease along it, the keys are
  -- distinct, so their positions in the Key.Less-sorted arrangement of `d` increase
  have hA : C09.Sorted (p.less pn) (Tab.sortKeys (rankOf pn p d) l) := by
    refine ((sortKeys_sorted (rankOf pn p d) l).and (sortKeys_nodup (rankOf pn p d) hl)).imp_of_mem ?_
    intro a b ha hb ⟨hle, hne⟩
    have ha' := hsub a ((mem_sortKeys _ _ l).mp ha)
    have hb' := hsub b ((mem_sortKeys _ _ l).mp hb)
    exact FirstOcc.rel_of_idxOf_lt hS (hP.mem_iff.mpr ha') (hP.mem_iff.mpr hb')
      (Nat.lt_of_le_of_ne hle fun e => hne (hinj a b ha' hb' e))
  exact (C09.sortKeys_independent h pn p hr l l out (Tab.sortKeys (rankOf pn p d) l)
    (fun k hk => hvalid k (hsub k hk)) (List.Perm.refl l) hso hpo hA (sortKeys_perm _ l)).1

end Raw

end C14
