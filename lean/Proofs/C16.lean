/-
C16 — text tables are laid out without loss and agree with the CSV rendering.
-/
import Proofs.Lemmas.C16Fit
import Proofs.Lemmas.C16Header
import Proofs.Lemmas.C16Build
import Proofs.Lemmas.C16Lines
import Model.Tab.Render
import Proofs.Lemmas.C16RenderText
import Proofs.Lemmas.C16HeaderOps
import Proofs.Lemmas.C16ToText
import Proofs.Lemmas.C16Warn
import Proofs.Lemmas.C16Decode
import Proofs.Lemmas.Shared.Sort

namespace C16
open Tab.TextTab

/-- **widths_fit** (the code after commit b5d6dcd, `grow = true`): after the width pass EVERY cell
of the table has room for its column's margin plus its whole value,
`Σ ws[col..col+span) ≥ lmargin[col] + runes(value)` — for every order in which the unstable sort
may have left the cells (`ordered` is arbitrary, not even sortedness by span is needed) and every
order `sortCols` in which the columns under a spanning cell are taken (any permutation). -/
theorem widths_fit (sortCols : List Int → List Nat → List Nat)
    (hperm : ∀ ws l, (sortCols ws l).Perm l)
    (t : Table) (ordered : List Cell) (c : Cell) (hc : c ∈ ordered)
    (hspan : 1 ≤ c.span) (hcols : c.col + c.span ≤ t.cols) :
    (runeCount c.value : Int) + ((layoutOf true sortCols t ordered).lm.getD c.col 0 : Nat)
      ≤ sumRange (layoutOf true sortCols t ordered).ws c.col c.span := by
  have := foldl_cellStep_fits t.isShrink sortCols hperm (lmargins t.cols t.cells) ordered
    (List.replicate t.cols 0) c hc hspan (by simpa using hcols)
  exact this

/-- the margin term of `widths_fit` covers the cell's own margin -/
theorem widths_fit_margin (grow : Bool) (sortCols : List Int → List Nat → List Nat)
    (t : Table) (ordered : List Cell) (c : Cell) (hc : c ∈ t.cells) (hcol : c.col < t.cols) :
    runeCount c.margin ≤ (layoutOf grow sortCols t ordered).lm.getD c.col 0 := by
  exact lmargins_ge t.cells (List.replicate t.cols 0) c hc (by simpa using hcol)

/-- `widths_fit` for `Table.Format` as it is run (`format` uses `insertSortCols`). -/
theorem widths_fit_format (t : Table) (ordered : List Cell) (c : Cell) (hc : c ∈ ordered)
    (hspan : 1 ≤ c.span) (hcols : c.col + c.span ≤ t.cols) :
    Fits (layoutOf true insertSortCols t ordered).lm (layoutOf true insertSortCols t ordered).ws c :=
  widths_fit insertSortCols insertSortCols_perm t ordered c hc hspan hcols

/-- the F14 witness: `x | vs base (2 cols) | y` over `1 | | | 2` with columns 1 and 2 shrink -/
def f14Table : Table :=
  ((build [.row, .span 1 [120] [], .span 2 [118, 115, 32, 98, 97, 115, 101] [], .span 1 [121] [],
           .row, .span 1 [49] [], .col 3, .span 1 [50] [],
           .setShrink 1 true, .setShrink 2 true]).getD {})

/-- **widths_fit fails on the width pass before commit b5d6dcd** (`grow = false`): the cell that spans
only shrink columns gets no room (needs 8, gets 0). -/
theorem widths_fit_prefix_counterexample :
    ∃ c ∈ f14Table.cells, 1 ≤ c.span ∧ c.col + c.span ≤ f14Table.cols ∧
      ¬ Fits (layoutOf false insertSortCols f14Table f14Table.cells).lm
             (layoutOf false insertSortCols f14Table f14Table.cells).ws c := by
  refine ⟨{ row := 0, col := 1, span := 2, value := [118, 115, 32, 98, 97, 115, 101], margin := [0x20], align := .left }, ?_, ?_, ?_, ?_⟩
  · decide
  · decide
  · decide
  · decide

/-- … and the same table is fine with `grow = true` (the conclusion of `widths_fit`, evaluated). -/
example : ∀ c ∈ f14Table.cells,
    Fits (layoutOf true insertSortCols f14Table f14Table.cells).lm
         (layoutOf true insertSortCols f14Table f14Table.cells).ws c := by decide

/-- **columns_align** (at the level of the pieces `Format` writes): take the layout
computed from ANY order `ordered` of the cells (so in particular any order among equal-span
cells) and any list `sorted` of cells of the table in row-major order without overlaps inside a
row (`Before`; this is what the final sort by (row, col) yields for cells added through the
builder with spans ≥ 1). Then for every cell the emission loop does not skip, `CellOK` holds at
the writer's position: the pad in front of the cell is non-negative and brings the writer exactly
to `offs[col]` (same offset on every line), the margin is right-justified and whole in the
column's margin width, the value is written whole after `k` blanks (`k = 0` left-aligned, value
ending exactly at `offs[col+span]` right-aligned, `k = ⌊slack/2⌋` centred), the writer's offset
bookkeeping equals the number of runes written, and the cell ends at or before `offs[col+span]`
— which is at or before the next cell's column, so no two cells overlap. Widths are counted per
piece (`runeCount`); pieces that end in an incomplete UTF-8 sequence could fuse with the next
piece in a rune-counting viewer, that case is excluded in the S oracle, not here. -/
theorem columns_align (sortCols : List Int → List Nat → List Nat)
    (hperm : ∀ ws l, (sortCols ws l).Perm l)
    (t : Table) (ordered sorted : List Cell)
    (hsorted : sorted.Pairwise Before)
    (hmem : ∀ c ∈ sorted, c ∈ ordered ∧ c ∈ t.cells ∧ 1 ≤ c.span ∧ c.col + c.span ≤ t.cols) :
    EmitOK (layoutOf true sortCols t ordered).offs (layoutOf true sortCols t ordered).lm {} sorted := by
  have hnn := widthPass_nonneg true t.isShrink sortCols (lmargins t.cols t.cells) t.cols ordered
  have hlen := widthPass_length true t.isShrink sortCols (lmargins t.cols t.cells) t.cols ordered
  apply emitOK_of
  · exact fun i j hij hj => offsets_mono _ hnn i j hij hj
  · exact fun i => offsets_nonneg _ hnn i
  · exact hsorted
  · intro c hc
    obtain ⟨ho, ht, hs, hcol⟩ := hmem c hc
    refine ⟨?_, ?_⟩
    · simp only [layoutOf]; rw [offsets_length, hlen]; omega
    · have hf := widths_fit sortCols hperm t ordered c ho hs hcol
      have hd := offsets_diff (layoutOf true sortCols t ordered).ws 0 c.col c.span
        (by simp only [layoutOf]; rw [hlen]; exact hcol)
      simp only [layoutOf] at hf hd ⊢
      omega
  · intro c _
    exact ⟨Nat.zero_le _, fun _ => offsets_nonneg _ hnn _⟩

/-- non-trivial instance: the F14 table in builder order is row-major without overlaps -/
example : f14Table.cells.Pairwise Before := by
  unfold Before; decide

/-- **builder_order**: whatever sequence of `Row/Col/Cell/Span/SetShrink` calls built the table
(without panicking), its cells are in row-major order, cells of one row do not overlap
(`a.col + a.span ≤ b.col` for `a` before `b`), and every cell lies inside `cols`. -/
theorem builder_order (ops : List Op) (t : Table) (h : build ops = some t) :
    t.cells.Pairwise Before ∧ ∀ c ∈ t.cells, c.col + c.span ≤ t.cols := by
  have := buildInv_foldlM ops {} t ⟨List.Pairwise.nil, fun c hc => nomatch hc⟩ h
  exact ⟨this.1, fun c hc => (this.2 c hc).2⟩

/-- **columns_align_format**: for a table built through
the builder API with spans ≥ 1 and ANY permutation `ordered` of its cells (what the unstable sort
by span may leave), the list `Format` iterates over after its final sort by (row, col) IS the
builder order, and every printed cell is written with the geometry `CellOK` of `columns_align`. -/
theorem columns_align_format (ops : List Op) (t : Table) (hb : build ops = some t)
    (hspan : ∀ c ∈ t.cells, 1 ≤ c.span) (ordered : List Cell) (hperm : ordered.Perm t.cells) :
    ordered.mergeSort cellLe = t.cells ∧
    EmitOK (layoutOf true insertSortCols t ordered).offs (layoutOf true insertSortCols t ordered).lm {}
      (ordered.mergeSort cellLe) := by
  obtain ⟨hp, hcols⟩ := builder_order ops t hb
  have hs := mergeSort_restores t.cells ordered hp hspan hperm
  refine ⟨hs, ?_⟩
  rw [hs]
  exact columns_align insertSortCols insertSortCols_perm t ordered t.cells hp
    (fun c hc => ⟨hperm.symm.subset hc, hc, hspan c hc, hcols c hc⟩)

/-- **no_trailing_blanks_partial**: the last byte written for a printed cell is the last byte of
the cell's own text (margin followed by value) — the engine never writes padding AFTER content
(cells are only padded on the left; an empty value is not padded at all: the code after commit 8783093), and a
printed cell has some text. Since the pieces of a line's last printed cell are the last pieces of
that line (the only other pieces `emitCell` writes are newlines), a line ends in a blank only if
the text of its last cell does. This is a statement about the pieces of one cell; the step from
pieces to the lines of the flattened output is `no_trailing_blanks`. -/
theorem no_trailing_blanks_partial (offs : List Int) (lm : List Nat) (off : Int) (c : Cell)
    (hok : CellOK offs lm off c) (hpr : skipped c = false) :
    c.margin ++ c.value ≠ [] ∧
    ((cellPieces offs lm off c).1.flatten).getLast? = (c.margin ++ c.value).getLast? := by
  have hne := printed_ne_nil c hpr
  exact ⟨hne, pieces_getLast? offs lm off c hok hne⟩

/-- **no_trailing_blanks** (on the bytes `Format` returns): for a table built
through the builder API with spans ≥ 1, formatted under any order left by the unstable sort, if
every printed cell is single-line and its own text (margin then value) does not end in a blank,
then in the output no blank is immediately followed by a newline — no line ends in blanks (every
line, the last included, is terminated by a newline). -/
theorem no_trailing_blanks (ops : List Op) (t : Table) (hb : build ops = some t)
    (hspan : ∀ c ∈ t.cells, 1 ≤ c.span) (ordered : List Cell) (hperm : ordered.Perm t.cells)
    (hclean : ∀ c ∈ t.cells, skipped c = false → CleanCell c) :
    noBlankNL (format t ordered) = true := by
  obtain ⟨hs, hok⟩ := columns_align_format ops t hb hspan ordered hperm
  rw [hs] at hok
  rw [format, hs]
  exact emit_noBlankNL _ _ t.cells hok hclean

/-- non-trivial instance: the cells of the F14 table are clean -/
example : ∀ c ∈ f14Table.cells, skipped c = false → CleanCell c := by
  unfold CleanCell cellText; decide

open Tab.Render in
/-- **text_csv_same_view_partial**: in BOTH renderings the physical column groups of the logical
columns follow the label column without gaps or overlaps — group `exp` ends exactly where group
`exp+1` starts — so a cell of one logical column can never land under another one, and the text
group is the CSV group plus one warnings column per sub-group. This is the column arithmetic
only; what the cells at these columns hold is stated by `text_csv_same_view`,
`text_csv_same_view_summary` and `decode_same_view`. That both outputs show the same tables,
labels, cells, deltas, p-values, warnings and numbers to the printed precision is also checked end
to end by the S oracle `Spec.TextCsv.judge` on the real renderings. -/
theorem text_csv_same_view_partial (exp : Nat) :
    textStartCol 0 = 1 ∧ csvStartCol 0 = 1 ∧
    textStartCol exp + textGroupWidth exp = textStartCol (exp + 1) ∧
    csvStartCol exp + csvGroupWidth exp = csvStartCol (exp + 1) ∧
    textGroupWidth exp = csvGroupWidth exp + csvGroupWidth exp / 2 := by
  refine ⟨rfl, rfl, (textStartCol_succ exp).symm, (csvStartCol_succ exp).symm, ?_⟩
  cases exp with
  | zero => rfl
  | succ n => rw [textGroupWidth_pos (Nat.succ_pos n), csvGroupWidth_pos (Nat.succ_pos n)]

open Tab.Render in
/-- **text_csv_same_view** (measurement rows): let `(label, cells)` be a row of the
cells view. Whatever table ToText has built so far (`t`) and whatever is in its warning list
(`wl`), the calls ToText makes for the row never panic, and BOTH renderings show the same view:
 * the label is the texttab cell at column 0 of the new row and field 0 of the CSV record;
 * for every cell `c` present at logical column `i`: the centre is the right-aligned texttab
   cell at `textStartCol i` (scaled spelling) and CSV field `csvStartCol i` (unscaled spelling of
   the same number — their numeric agreement is C10's and the S oracle's business); the range is
   the right-aligned cell with margin " ± " at `textStartCol i + 1` and CSV field
   `csvStartCol i + 1`, the same string;
 * if `i > 0` and the cell has a baseline: the delta is at `textStartCol i + 3` / CSV field
   `csvStartCol i + 2` (same string), the p-value string at `textStartCol i + 4` in parentheses /
   CSV field `csvStartCol i + 3`.
Cells absent from the view contribute nothing to either rendering (`placedRow`, `csvDataCols`
skip them), and no field or cell written for one column is overwritten by another
(`csvWrite_getD`, `cols_run`). The two presentation differences are outside the rows:
the summary row (`toTextOps`: only when `rows.length > 1`; `toCsv`: always) and the warnings
(text: footnote cells at `+2`/`+5` and `footnoteLines`; CSV: `csvWarn` lines, second stream). -/
theorem text_csv_same_view (wl : List Bytes) (t : Table) (label : Bytes)
    (cells : List (Option DataCell)) (rowNo : Nat) (w : List Bytes) :
    ∃ t', runOps t (dataRowOps wl (label, cells)).2 = some t' ∧
      mkCell t.row.curRow 0 label [] ∈ t'.cells ∧
      (csvDataCols rowNo [label] w 0 cells).1.getD 0 [] = label ∧
      ∀ i c, cells[i]? = some (some c) →
        mkCell t.row.curRow (textStartCol i) c.centerText [.right] ∈ t'.cells ∧
        (csvDataCols rowNo [label] w 0 cells).1.getD (csvStartCol i) [] = c.centerCsv ∧
        mkCell t.row.curRow (textStartCol i + 1) c.range [.right, .margin pmMargin] ∈ t'.cells ∧
        (csvDataCols rowNo [label] w 0 cells).1.getD (csvStartCol i + 1) [] = c.range ∧
        ∀ d, i > 0 → c.delta = some d →
          mkCell t.row.curRow (textStartCol i + 3) d.delta [.right] ∈ t'.cells ∧
          (csvDataCols rowNo [label] w 0 cells).1.getD (csvStartCol i + 2) [] = d.delta ∧
          mkCell t.row.curRow (textStartCol i + 4) ([0x28] ++ d.p ++ [0x29]) [] ∈ t'.cells ∧
          (csvDataCols rowNo [label] w 0 cells).1.getD (csvStartCol i + 3) [] = d.p := by
  obtain ⟨t', h1, h2, h3, h4⟩ := row_same_view dataCell_runs csvStrings_length wl t label cells
  rw [csvDataCols_eq rowNo cells [label] w 0 (Nat.le_refl 1)]
  refine ⟨t', by rw [← dataColsOps_eq] at h1; exact h1, h2, h3, fun i c hi => ?_⟩
  obtain ⟨⟨wl', hin⟩, hf⟩ := h4 i c hi
  have hcr := placed_center_range t.row.curRow (textStartCol i) wl' i c
  have hw := csvGroupWidth_ge i
  refine ⟨hin _ hcr.1, hf 0 (by omega), hin _ hcr.2, hf 1 (by omega), fun d hpos hd => ?_⟩
  have hdl := placed_delta t.row.curRow (textStartCol i) wl' i c d hpos hd
  have hw4 := csvGroupWidth_pos hpos
  rw [csvStrings_delta hpos hd] at hf
  exact ⟨hin _ hdl.1, hf 2 (by omega), hin _ hdl.2, hf 3 (by omega)⟩

open Tab.Render in
/-- **text_csv_same_view_summary** (the summary/geomean row): for the summary label
and the per-column summaries of the cells view, on any texttab table and warning list: ToText's
calls for the row never panic; the label is texttab cell (row, 0) and CSV field 0; and for every
column `i` that has a summary entry `s`:
 * if `s.hasSummary`, the geomean is the right-aligned texttab cell at `textStartCol i` and CSV
   field `csvStartCol i` (scaled / unscaled spelling); if not, that CSV field is BLANK;
 * CSV field `csvStartCol i + 1` (under "CI") is blank — whether or not there is a geomean;
 * if `i > 0`, the summary delta (or "?") is the texttab cell at `textStartCol i + 3` — the column
   the "vs base" header starts at — and CSV field `csvStartCol i + 2` (under "vs base"), the same
   string, and CSV field `csvStartCol i + 3` (under "P") is blank.
So text and CSV agree on which column holds the geomean and which the delta, in particular for
columns WITHOUT a geomean. -/
theorem text_csv_same_view_summary (wl : List Bytes) (t : Table) (label : Bytes)
    (sums : List (Option SumCell)) (rowNo : Nat) (w : List Bytes) :
    ∃ t', runOps t ([Op.row, Op.span 1 label []] ++ (sumColsOps wl 0 sums).2) = some t' ∧
      mkCell t.row.curRow 0 label [] ∈ t'.cells ∧
      (csvSumCols rowNo [label] w 0 sums).1.getD 0 [] = label ∧
      ∀ i s, sums[i]? = some (some s) →
        (s.hasSummary = true → mkCell t.row.curRow (textStartCol i) s.sumText [.right] ∈ t'.cells ∧
          (csvSumCols rowNo [label] w 0 sums).1.getD (csvStartCol i) [] = s.sumCsv) ∧
        (s.hasSummary = false → (csvSumCols rowNo [label] w 0 sums).1.getD (csvStartCol i) [] = []) ∧
        (csvSumCols rowNo [label] w 0 sums).1.getD (csvStartCol i + 1) [] = [] ∧
        (i > 0 →
          mkCell t.row.curRow (textStartCol i + 3) (ratioStr s) (ratioOpts s) ∈ t'.cells ∧
          (csvSumCols rowNo [label] w 0 sums).1.getD (csvStartCol i + 2) [] = ratioStr s ∧
          (csvSumCols rowNo [label] w 0 sums).1.getD (csvStartCol i + 3) [] = []) := by
  obtain ⟨t', h1, h2, h3, h4⟩ := row_same_view sumCell_runs sumTail_length wl t label sums
  rw [csvSumCols_eq rowNo sums [label] w 0 (Nat.le_refl 1), sumColsOps_eq]
  refine ⟨t', h1, h2, h3, fun i s hi => ?_⟩
  obtain ⟨⟨wl', hin⟩, hf⟩ := h4 i s hi
  obtain ⟨hp0, hp3⟩ := sumPlaced_mem t.row.curRow wl' i s
  obtain ⟨s0, s1, s23⟩ := sumTail_getD i s
  have hw := csvGroupWidth_ge i
  refine ⟨fun hs => ⟨hin _ (hp0 hs), ?_⟩, fun hs => ?_, (hf 1 (by omega)).trans s1, fun hpos => ?_⟩
  · exact (hf 0 (by omega)).trans (s0.trans (if_pos hs))
  · exact (hf 0 (by omega)).trans (s0.trans (if_neg (by rw [hs]; exact Bool.false_ne_true)))
  · have hw4 := csvGroupWidth_pos hpos
    exact ⟨hin _ (hp3 hpos), (hf 2 (by omega)).trans (s23 hpos).1, (hf 3 (by omega)).trans (s23 hpos).2⟩

open Tab.Render in
/-- **footnote_numbering**: the warning list ToText ends with is the list of DISTINCT messages in
the order in which the row-major traversal first meets them (`foldl addNew []` over
`textWarnStream`: the warnings of every present cell — sample/summary warnings, then those of the
comparison — row by row, then those of the summary row iff it is printed); it has no duplicates and
contains exactly the messages of the stream; and the footnote lines are `<n> <message>` for
n = 1, 2, 3, … in that order (`footnoteLines_append`: appending the n-th message appends exactly
the line `superscript n ++ " " ++ message ++ "\n"`). -/
theorem footnote_numbering (v : View) :
    (toTextOps v).2 = (textWarnStream v).foldl addNew [] ∧
    ((toTextOps v).2).Nodup ∧
    (∀ m, m ∈ (toTextOps v).2 ↔ m ∈ textWarnStream v) ∧
    (∀ (wl : List Bytes) (m : Bytes), footnoteLines (wl ++ [m]) =
      footnoteLines wl ++ (superscript (wl.length + 1) ++ [0x20] ++ m ++ [0x0A])) := by
  have h := toTextOps_snd v
  refine ⟨h, ?_, ?_, footnoteLines_append⟩
  · rw [h, addNew_eq]; exact FirstOcc.nodup_foldl_add _ List.nodup_nil
  · intro m; rw [h, addNew_eq]; exact (FirstOcc.mem_foldl_add _).trans (by simp)

open Tab.Render in
/-- **warn_marks_are_numbers**: whenever ToText calls `warn(msgs)` with the list `wl`, the list
only grows at its end, and the superscripts written into the footnote cell (joined by blanks:
`warnCell`) are, message by message, the 1-based positions of the messages in ANY later state
`fin` of the list — in particular in the final list the footnote lines are printed from, because
every later call only appends (`dataColsOps`, `dataRowsOps`, `sumColsOps` all return
`foldl addNew` of their messages over the list they were given). -/
theorem warn_marks_are_numbers (wl msgs fin x : List Bytes) (hfin : fin = msgs.foldl addNew wl ++ x) :
    (∃ y, (warnCell wl msgs).1 = wl ++ y) ∧
    ∃ marks, (warnCell wl msgs).2 = Op.span 1 (joinSp marks) [] ∧ marks.length = msgs.length ∧
      ∀ k, k < msgs.length → ∃ i, findIdx fin (msgs.getD k []) = some i ∧ fin.getD i [] = msgs.getD k [] ∧
        marks.getD k [] = superscript (i + 1) := by
  refine ⟨by rw [warnCell_fst, addNew_eq]; exact (FirstOcc.foldl_add_prefix msgs wl).imp fun _ h => h.symm,
    msgs.map fun m => superscript ((findIdx fin m).getD 0 + 1), ?_, List.length_map _, fun k hk => ?_⟩
  · unfold warnCell
    rw [warn_fold msgs wl [] fin x hfin]
    rfl
  · have hm : msgs[k] ∈ fin := by
      rw [hfin, addNew_eq]
      exact List.mem_append_left _ ((FirstOcc.mem_foldl_add msgs).mpr (Or.inr (List.getElem_mem hk)))
    simp only [List.getD_eq_getElem?_getD, List.getElem?_map, List.getElem?_eq_getElem hk, Option.map_some,
      Option.getD_some]
    cases hf : findIdx fin msgs[k] with
    | none => exact absurd hm ((findIdx_none fin _).mp hf)
    | some i => exact ⟨i, rfl, by rw [getElem?_of_findIdx hf, Option.getD_some], rfl⟩

open Tab.Render in
/-- all (field index, CSV row number, message) triples of the warnings stream of a table -/
def csvWarnPairs (v : View) (startRow : Nat) : List (Nat × Nat × Bytes) :=
  rowsPairs (startRow + (v.nfields + 1)) v.rows ++
  sumsPairs (startRow + (v.nfields + 1 + v.rows.length)) 0 v.summary

open Tab.Render in
/-- **same_warnings**: the CSV warnings stream is one line `warnLine (field, row, message)` per
warning of every present cell — `field` is the record index of the cell the warning belongs to
(`csvStartCol exp` for the centre, `csvStartCol exp + 2` for the comparison, the very positions of
`text_csv_same_view`), `row` the CSV row of the measurement row — followed by those of the summary
row. Its messages are `rowsMsgs ++ sumsMsgs`, the same stream the text numbers its footnotes from.
Hence, as SETS of messages per table: with more than one row the footnotes of the text are exactly
the messages of the CSV stream; with one row (no geomean row in the text) they are exactly the
messages of the measurement rows, the CSV additionally carrying those of its geomean row. -/
theorem same_warnings (v : View) (startRow : Nat) :
    (toCsv v startRow).warn = (csvWarnPairs v startRow).map warnLine ∧
    (csvWarnPairs v startRow).map (·.2.2) = rowsMsgs v.rows ++ sumsMsgs v.summary ∧
    (v.rows.length > 1 → ∀ m, m ∈ (toTextOps v).2 ↔ m ∈ (csvWarnPairs v startRow).map (·.2.2)) ∧
    (¬ v.rows.length > 1 → ∀ m, m ∈ (toTextOps v).2 ↔
      m ∈ (rowsPairs (startRow + (v.nfields + 1)) v.rows).map (·.2.2)) := by
  have hm : (csvWarnPairs v startRow).map (·.2.2) = rowsMsgs v.rows ++ sumsMsgs v.summary := by
    unfold csvWarnPairs
    rw [List.map_append, rowsPairs_msgs, sumsPairs_msgs]
  have hf := (footnote_numbering v).2.2.1
  refine ⟨by rw [toCsv_eq]; rfl, hm, ?_, ?_⟩
  · intro hr m
    rw [hf m, hm]; unfold textWarnStream; simp [hr]
  · intro hr m
    rw [hf m, rowsPairs_msgs]; unfold textWarnStream; simp [hr]

open Tab.Render in
/-- the spreadsheet-style column label as the code builds it from the 0-based field index:
digits `'A' + x % 26` of `x` in base 26, so fields 0..25 read A..Z, but field 26 reads "BA"
(a spreadsheet's 27th column is "AA"); beyond column Z this is outside C16's statement -/
theorem colName_behaviour :
    colName 0 = [65] ∧ colName 1 = [66] ∧ colName 25 = [90] ∧ colName 26 = [66, 65] ∧ colName 27 = [66, 66] := by
  decide

open Tab.KeyHeader in
/-- **keyheader_partition**: the forest `NewKeyHeader` returns is `Good`, i.e.
recursively for every node list below a parent covering `[start, start+len)` (the top list:
`[0, len(keys))`): the nodes are non-empty, contiguous, disjoint and cover exactly the parent's
range (`Tiles` — hence they refine the level above); each node's `Field` is its level, its
`Value` is the value of that field in EVERY key it covers; neighbouring siblings have different
values; and the tree is exactly `nfields` levels deep. -/
theorem keyheader_partition (keys : List (List Bytes)) (nf : Nat) :
    Good keys nf 0 0 keys.length (newKeyHeader keys nf) := by
  rw [newKeyHeader_eq_walk]
  exact walk_good keys nf 0 0 keys.length

open Tab.KeyHeader in
/-- consequence used by the table header: at EVERY level k < nfields the header cells, read left
to right as `ToText` walks them, tile `[0, len(keys))` — every column is under exactly one header
cell per level. -/
theorem keyheader_level_cover (keys : List (List Bytes)) (nf k : Nat) (hk : k < nf) :
    Tiles 0 keys.length (nodeSpans (level (newKeyHeader keys nf) k)) := by
  obtain ⟨fuel, rfl⟩ : ∃ fuel, nf = (fuel + k) + 1 := ⟨nf - 1 - k, by omega⟩
  have := ((keyheader_partition keys (fuel + k + 1)).level.level k).1
  rwa [Nat.zero_add] at this

open Tab.KeyHeader Tab.Render in
/-- **header_cells_span_keys**: ToText's header loop over the KeyHeader of the
column keys, started on ANY texttab table `t`, never panics (no `Col` to an earlier column) and
adds exactly `hdrCells`: one row per tree level and on it, for every node of that level, one
centred cell with margin " │ " whose value is the node's value, whose first physical column is
`textStartCol node.Start` and whose span ends at `textStartCol (node.Start + node.Len)` — exactly
the physical columns of the logical columns (keys) the node covers — followed by the right-edge
cell. With `keyheader_partition` (the node's value is the common field value of the keys it
covers) and `keyheader_level_cover` (the nodes of a level tile all columns) this is: each header
cell spans exactly the columns of the keys it labels, every column is under exactly one header
cell per level. -/
theorem header_cells_span_keys (keys : List (List Bytes)) (nf : Nat) (t : Table) :
    ∃ t', runOps t (headerOps (textStartCol (keys.length + 1)) (nf + 1) (newKeyHeader keys nf)) = some t' ∧
      t'.cells = t.cells ++
        hdrCells (textStartCol (keys.length + 1)) (nf + 1) t.row.curRow (newKeyHeader keys nf) := by
  obtain ⟨t', h⟩ := newKeyHeader_run keys nf _ (textStartCol_mono (Nat.le_succ _)) t
  exact ⟨t', h.run, h.cells⟩

open Tab.Render in
/-- **unit_row** : ToText's column-labels row, run on any texttab table: never panics; for every
logical column one centred cell with the unit over the three centre columns of its group
(`unitCell`: columns `textStartCol i .. +2`, margin " │ "), for every non-baseline column "vs base"
left-aligned over the three delta columns (`vsCell`: `textStartCol i + 3 .. +5`, margin two
blanks), then the right edge; and the shrink marks afterwards are set on exactly the columns of a
group other than its leftmost (`InGroupTail`), every other column keeps its mark. -/
theorem unit_row (rEdge ncols : Nat) (hre : textStartCol ncols ≤ rEdge) (unit : Bytes) (t : Table) :
    ∃ t', runOps t (unitRowOps rEdge ncols unit) = some t' ∧
      t'.cells = t.cells ++ unitCells t.row.curRow unit ncols ++ [edgeCell t.row.curRow rEdge] ∧
      t'.curRow = t.row.curRow ∧
      (∀ j, InGroupTail ncols j → t'.isShrink j = true) ∧
      (∀ j, ¬ InGroupTail ncols j → t'.isShrink j = t.isShrink j) := by
  obtain ⟨t1, h, h4, h5, h6⟩ := unit_blocks unit ncols t.row (Nat.zero_le _)
  have a := h.append (Adds.col_span (Nat.le_trans h4 hre) 1 [] [.margin edgeMargin])
  exact ⟨_, by rw [unitRowOps_eq, runOps_row]; exact a.run, by rw [a.cells, h.row, ← List.append_assoc]; rfl,
    a.row, h5, h6⟩

open Tab.KeyHeader Tab.Render in
/-- **toText_never_panics** (completes panic-freedom): for EVERY cells view — any column keys,
any rows with cells present or absent in any pattern, any summaries, any warnings — the whole call
sequence of ToText (header loop, unit row, every measurement row, summary row) runs on a fresh
texttab table without ever moving to an earlier column, and the cells it adds are exactly
`textCells v`: the header cells of every level (`hdrCells`), the unit cells over the centre
columns and "vs base" over the delta columns of every non-baseline group (`unitCells`), the right
edges, the label and the placed strings of every measurement row (`rowsPlaced`), and, iff there
is more than one row, the summary row (`sumPlacedRow`). -/
theorem toText_never_panics (v : View) :
    ∃ t, build (toTextOps v).1 = some t ∧ t.cells = textCells v := by
  have hre : textStartCol v.ncols ≤ textStartCol (v.ncols + 1) := textStartCol_mono (Nat.le_succ _)
  obtain ⟨t1, a⟩ := newKeyHeader_run v.colKeys v.nfields (textStartCol (v.ncols + 1)) hre {}
  obtain ⟨t2, b1, b2, b3, _, _⟩ := unit_row (textStartCol (v.ncols + 1)) v.ncols hre v.unit t1
  have b : Rows t1 _ _ 1 t2 :=
    ⟨b1, b2.trans (List.append_assoc ..), by rw [row_curRow_succ t2 (by rw [b2]; simp), b3]⟩
  obtain ⟨t3, c⟩ := data_rows_run v.rows [] t2
  -- the rows are numbered from 0: `R` header rows, the unit row, the measurement rows, the summary row
  have hR := a.next.trans (Nat.zero_add _)
  rw [b.next, hR] at c
  rw [hR] at b
  have abc := (a.append b).append c
  show ∃ t, runOps {} (toTextOps v).1 = some t ∧ _
  rw [toTextOps_fst]
  unfold textCells
  dsimp only
  by_cases hr : v.rows.length > 1
  · rw [if_pos hr, if_pos hr]
    obtain ⟨t4, d⟩ := row_run sumCell_runs (dataRowsOps [] v.rows).1 v.summaryLabel v.summary t3
    rw [← sumColsOps_eq, c.next, b.next, hR] at d
    exact ⟨t4, (abc.append d).run, (abc.append d).cells⟩
  · rw [if_neg hr, if_neg hr, List.append_nil, List.append_nil]
    exact ⟨t3, abc.run, abc.cells⟩

/-- non-trivial instance: the example of the doc comment of keyheader.go -/
example : (Tab.KeyHeader.level (Tab.KeyHeader.newKeyHeader
    [[[49], [49], [49]], [[49], [49], [50]], [[50], [50], [50]], [[50], [51], [51]]] 3) 1).map
      (fun x => (x.value, x.start, x.len)) = [([49], 0, 2), ([50], 2, 1), ([51], 3, 1)] := by decide

open Tab.Render Tab.KeyHeader in
/-- **decode_same_view** (a single statement for the measurement rows): let `t` be the texttab
table ToText builds for the view (it exists: `toText_never_panics`) and `recs` the records ToCSV
emits. Decode both by POSITION only — text: the value of the cell found at row
`R + 1 + ri` (`R` header rows, then the unit row) and column `textStartCol exp + 0/1/3/4`
(empty if no cell is there; parentheses stripped from the p-value); CSV: field
`csvStartCol exp + 0/1/2/3` of record `nf + 1 + ri`. Then for every measurement row `ri` and
EVERY logical column `exp` (cell present, absent, without comparison, or beyond the row's cells)
both decodings give the entry of the view at (ri, exp): the same label, range, delta and p-value
strings, and as centre the text's resp. the CSV's spelling of the same number. Hence
`decodeText = decodeCsv` up to the centre spelling. (Summary row: `text_csv_same_view_summary`;
the two presentation differences: the summary row is in the text only for tables with more than
one row, and warnings are footnotes in the text / a second stream in the CSV: `same_warnings`.) -/
theorem decode_same_view (v : View) (startRow : Nat) :
    ∃ t, build (toTextOps v).1 = some t ∧
      ∀ ri row, v.rows[ri]? = some row →
        let R := levelCount (v.nfields + 1) (newKeyHeader v.colKeys v.nfields)
        let recs := (toCsv v startRow).recs
        decodeTextLabel t.cells R ri = row.1 ∧ decodeCsvLabel recs v.nfields ri = row.1 ∧
        ∀ exp,
          decodeText t.cells R ri exp = viewEntry true (row.2.getD exp none) exp ∧
          decodeCsv recs v.nfields ri exp = viewEntry false (row.2.getD exp none) exp ∧
          (decodeText t.cells R ri exp).range = (decodeCsv recs v.nfields ri exp).range ∧
          (decodeText t.cells R ri exp).delta = (decodeCsv recs v.nfields ri exp).delta ∧
          (decodeText t.cells R ri exp).p = (decodeCsv recs v.nfields ri exp).p := by
  obtain ⟨t, ht, hcells⟩ := toText_never_panics v
  refine ⟨t, ht, fun ri row hrow => ?_⟩
  simp only
  rw [hcells]
  obtain ⟨hlab, hslots⟩ := textVal_textCells v ri row hrow _ rfl
  have hrec := toCsv_rec v startRow ri row hrow
  obtain ⟨c1, _, c3⟩ := csvWrite_getD csvStrings_length row.2 [row.1] 0 (Nat.le_refl 1)
  simp only [Nat.zero_add] at c3
  refine ⟨hlab, by unfold decodeCsvLabel; rw [hrec]; exact c1 0 Nat.one_pos, fun exp => ?_⟩
  rw [decodeText_eq _ _ ri exp _ (hslots exp),
    decodeCsv_eq _ _ ri exp (row.2.getD exp none) (by rw [hrec]; exact c3 exp)]
  exact ⟨rfl, rfl, viewEntry_agree _ exp⟩

end C16
