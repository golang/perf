/-
C02 — the CLOSED reader (`Model/Fmt/ReaderClosed.lean`): the reader model with its number and
unit parameters instantiated by the models of C03 (`Num.atoi`, `Num.readerAtofMirror`) and C04
(`Unit.Tidy.tidy`), and what the theorems of those properties then say about every record.
-/
import Proofs.C02
import Proofs.C03
import Proofs.C04
import Model.Fmt.ReaderClosed

namespace C02
open Fmt Spec.Format

/-- **closed_reader_refines_spec.** The closed reader — bytes in, records out, no number or unit
oracle — delivers exactly the records of the specification instantiated with the same closed
oracles, up to configuration-as-map; `Config` keys are distinct; final unit metadata agree.
(The specification's stream, scoping and line grammar are independent of the model; what the
numbers and units in it *mean* is the content of `closed_values_reported` below.) -/
theorem closed_reader_refines_spec (uc : UC) (fileName text : Bytes) :
    (Reader.closed uc fileName text).map Rec.abs =
        (Spec.Format.read (closedOracles uc) fileName [] [] text).1.map SRec.abs ∧
    (∀ r, Rec.result r ∈ Reader.closed uc fileName text → (r.config.map Cfg.key).Nodup) ∧
    (finalState (closedOracles uc) (RState.zero.reset fileName []) (splitLines text)).units =
      (Spec.Format.read (closedOracles uc) fileName [] [] text).2 :=
  reader_refines_spec (closedOracles uc) fileName text

/-- the same for a sequence of files through one reused reader -/
theorem closed_files_refine_spec (uc : UC) (fs : FS) (paths : List Bytes) (allowStdin allowLabels : Bool) :
    let out := Files.closed uc fs paths allowStdin allowLabels
    let sp := readFiles (closedOracles uc) fs [] fs.stdin
      ((Files.init paths allowStdin allowLabels).map fun i => (i.label, i.path, i.isStdin))
    out.recs.map Rec.abs = sp.recs.map SRec.abs ∧ out.failed = sp.failed ∧ out.st.units = sp.units :=
  files_refine_spec (closedOracles uc) fs paths allowStdin allowLabels

/-- Every field of a line is a non-empty byte string. -/
theorem fields_nonempty (uc : UC) (x : Bytes) : ∀ f ∈ (firstAndFields uc x).2.2, f ≠ [] :=
  firstAndFields_ne_nil uc x

/-- The measurements `vals` reported for the value/unit fields `ms`: pairwise, the value text
`v` is read to a float `x` by the (fully mirrored) model of the reader's `atof`; under C03's two
hypotheses on the numeral — exponent literal below 100000 or a `Moderate` mantissa text (the
complement is known finding N3E), not in the class of finding N3 (more than 800 significant
digits) — `x` is the SPECIFIED, correctly rounded value `parseFloatSpec v`;
and what is reported is C04's SPECIFICATION `Spec.Tidy.report x u`: base unit, value times
factor, the written pair kept exactly when the unit changed. -/
inductive Reported : List Bytes → List Val → Prop
  | nil : Reported [] []
  | cons (v u : Bytes) (ms : List Bytes) (val : Val) (vals : List Val) (x : F64.Bits) :
      (Num.readerAtofMirror v).toExcept = .ok x →
      ((C03.expLit v < 100000 ∨ C03.Moderate v) → Num.inClassN3 v = false →
        Spec.NumText.parseFloatSpec v = .ok x) →
      (val.value, val.unit, val.origValue, val.origUnit) = Spec.Tidy.report x u →
      Reported ms vals → Reported (v :: u :: ms) (val :: vals)

theorem closedAtof_ok {v : Bytes} {x : UInt64} (h : closedAtof v = .ok x) :
    (Num.readerAtofMirror v).toExcept = .ok x := by
  unfold closedAtof at h
  unfold Num.FloatRes.toExcept
  cases he : (Num.readerAtofMirror v).err with
  | none => rw [he] at h; simpa using h
  | some e => rw [he] at h; cases h

theorem mkVal_closed (uc : UC) (x : UInt64) (u : Bytes) :
    let val := mkVal (closedOracles uc) x u
    (val.value, val.unit, val.origValue, val.origUnit) = Spec.Tidy.report x u := by
  have h := C04.reader_is_report x u
  rw [← h]
  have e : (closedOracles uc).tidy = Unit.Tidy.tidy := rfl
  unfold mkVal Unit.Tidy.readerValue
  rw [e]
  cases Unit.Tidy.tidy x u with
  | mk a b =>
    simp only
    split <;> rfl

theorem reported_of_meas (uc : UC) {ms : List Bytes} {vals : List Val} (h : Meas (closedOracles uc) ms vals)
    (hne : ∀ f ∈ ms, f ≠ []) : Reported ms vals := by
  induction h with
  | nil => exact .nil
  | @cons v u ms x vals ha _ ih =>
    have hx := closedAtof_ok (show closedAtof v = .ok x from ha)
    refine .cons v u ms _ vals x hx ?_ (mkVal_closed uc x u)
      (ih fun f hf => hne f (List.mem_cons_of_mem _ (List.mem_cons_of_mem _ hf)))
    intro hlit hN3
    rw [← C03.reader_atof_mirror_correct_ext v (hne v List.mem_cons_self) hlit hN3]; exact hx

theorem closedAtoi_ok {s : Bytes} {n : Int} (h : closedAtoi s = .ok n) :
    Spec.NumText.parseIntSpec s = .ok n := by
  unfold closedAtoi at h
  cases he : (Num.atoi s).err with
  | none => rw [he] at h; cases h; exact C03.IntRes.sound (C03.atoi_correct s) he
  | some e => rw [he] at h; cases h

/-- **closed_values_reported.** Whenever the closed reader accepts a benchmark line, with
`name`, `n` iterations and measurements `vals`: the line's first piece after `Benchmark` is
`name`, its next field `it` denotes exactly the integer `n` (C03's specification of `Atoi`:
`[sign] digits`, exact, within int64 — no hypothesis), and `vals` are `Reported` for the
remaining fields. -/
theorem closed_values_reported (uc : UC) (line name : Bytes) (n : Int) (vals : List Val)
    (h : parseBenchmarkLine (closedOracles uc) line = .ok name n vals) :
    ∃ it ms, firstAndFields uc (line.drop 9) = (name, true, it :: ms) ∧
      Spec.NumText.parseIntSpec it = .ok n ∧ Reported ms vals := by
  rw [← benchLine_eq] at h
  obtain ⟨it, ms, hf, ha, _, hm⟩ := benchLine_ok h
  have hne := fields_nonempty uc (line.drop 9)
  rw [show (closedOracles uc).uc = uc from rfl] at hf
  rw [hf] at hne
  exact ⟨it, ms, hf, closedAtoi_ok ha, reported_of_meas uc hm fun f hf' => hne f (List.mem_cons_of_mem _ hf')⟩

/-- **closed_values_correctly_rounded.** For EVERY input text and file name: every result the
closed reader reports stems from the line whose number it carries; that line starts with
`Benchmark`, its first piece is the reported name, its next field denotes exactly the reported
iteration count (C03 `parseIntSpec`), and the reported measurements are `Reported` for the
remaining fields — i.e. each value is the CORRECTLY ROUNDED float64 of its numeral
(`parseFloatSpec`, under exactly C03's two hypotheses on that numeral: exponent literal < 100000
or `C03.Moderate` mantissa text, and not in class N3) tidied per C04's specification. (Lines that
do not parse yield a positioned `SyntaxError` or nothing: `C03.errors_become_syntax_errors`,
`reader_refines_spec`.) -/
theorem closed_values_correctly_rounded (uc : UC) (fileName text : Bytes) (r : Res)
    (hr : Rec.result r ∈ Reader.closed uc fileName text) :
    ∃ (line it : Bytes) (ms : List Bytes),
      1 ≤ r.line ∧ (splitLines text)[r.line - 1]? = some line ∧
      Bytes.hasPrefix line benchmarkPrefix = true ∧
      firstAndFields uc (line.drop 9) = (r.name, true, it :: ms) ∧
      Spec.NumText.parseIntSpec it = .ok r.iters ∧ Reported ms r.values := by
  obtain ⟨i, l, hi, hl, hp, hb⟩ := readLines_result_origin (closedOracles uc) (splitLines text) _ r hr
  obtain ⟨it, ms, hf, hit, hrep⟩ := closed_values_reported uc l r.name r.iters r.values hb
  have h0 : (RState.zero.reset fileName []).line = 0 := rfl
  rw [h0] at hl
  refine ⟨l, it, ms, by omega, ?_, hp, hf, hit, hrep⟩
  have : r.line - 1 = i := by omega
  rw [this]; exact hi

/-- **reported_value_is_scaled_numeral** (composition with C04 `tidy_spec`). A reported
measurement whose unit `u` has a different base form carries the base unit, the value
`F64.mul x factor` (one float64 multiplication of the numeral's value by the unit's factor), and
keeps the written pair; a unit already in base form is reported as written. -/
theorem reported_value_is_scaled_numeral (val : Val) (x : F64.Bits) (u : Bytes)
    (h : (val.value, val.unit, val.origValue, val.origUnit) = Spec.Tidy.report x u) :
    ((Spec.Tidy.tidyUnit u).1 ≠ u →
      val.unit = (Spec.Tidy.tidyUnit u).1 ∧ val.value = F64.mul x (Spec.Tidy.tidyUnit u).2 ∧
      val.origValue = x ∧ val.origUnit = u) ∧
    ((Spec.Tidy.tidyUnit u).1 = u →
      val.unit = u ∧ val.value = x ∧ val.origValue = 0 ∧ val.origUnit = []) := by
  unfold Spec.Tidy.report Spec.Tidy.tidy at h
  simp only at h
  constructor
  · intro hne
    have hb : ((Spec.Tidy.tidyUnit u).1 == u) = false := by simpa using hne
    simp only [hb, Bool.false_eq_true, ↓reduceIte, Prod.mk.injEq] at h
    exact ⟨h.2.1, h.1, h.2.2.1, h.2.2.2⟩
  · intro he
    have hb : ((Spec.Tidy.tidyUnit u).1 == u) = true := by simpa using he
    simp only [hb, ↓reduceIte, Prod.mk.injEq] at h
    exact ⟨h.2.1, h.1, h.2.2.1, h.2.2.2⟩

/-- Non-vacuity: `BenchmarkX 5 1500 ns/op` through the closed model, evaluated by the kernel:
5 iterations, 1.5e-6 sec/op with the written 1500 ns/op kept. -/
example : parseBenchmarkLine (closedOracles UC.ascii)
      (Bytes.ofString "BenchmarkX 5 1500 ns/op") =
    .ok [88] 5 [⟨0x3EB92A737110E454, Bytes.ofString "sec/op", 0x4097700000000000, Bytes.ofString "ns/op"⟩] := by
  decide +kernel

end C02
