/-
C11 — Mann–Whitney U statistics and p-values are exact for small samples.

Property statements; the proofs are in Proofs/Lemmas/C11*.lean, except where a statement has no other
user there: then it carries its proof here.

Objects:
* model  — `Stats.UStat` (utest.go: sort, labeledMerge, rank loop, U1/U2, branch selection, p formulas),
           `Stats.UDist` (udist.go: recurrence `pRec` of `UDist.p`, counting recurrence `A` of
           `makeUmemo` with its K = 2 base case `base2`, wrappers `cdfPure`/`pmfPure`);
* spec   — `Spec.UExact` (`twoUPairs` = pair counting, `splits` = all assignments of the pooled
           values, `nullDistOf`, `pLess`/`pGreater`/`pTwoSided` by counting), and the per-group
           count `C11.groupCount` (Proofs/Lemmas/C11Groups).
-/
import Proofs.Lemmas.C11Basic
import Proofs.Lemmas.C11Rank
import Proofs.Lemmas.C11Untied
import Proofs.Lemmas.C11Approx
import Proofs.Lemmas.C11Groups
import Proofs.Lemmas.C11GroupsEnum
import Proofs.Lemmas.C11PFormulas
import Proofs.Lemmas.C11UntiedCdf
import Proofs.Lemmas.C11TiedRec
import Proofs.Lemmas.C11Memo
import Proofs.Lemmas.C11Count
import Proofs.Lemmas.C11Relabel
import Proofs.Lemmas.C11Palindromic  -- not used below: imported so that the checks of C11, which follow the imports of Audit/C11.lean, reach it
import Proofs.Lemmas.C11ErrIff
import Proofs.Lemmas.C11EndToEnd
import Proofs.Lemmas.C11Benchmath

namespace C11.Props
open Stats Stats.UStat Stats.UDist

/-- **u_is_pair_count.** For all samples over any linear order, the doubled rank-sum statistic
    2·R1 − n1(n1+1) computed by the sort/merge/rank loop equals 2·#{(a,b) ∈ x1×x2 : a > b} + #{a = b}. -/
theorem u_is_pair_count {α : Type} [LinearOrder α] (x1 x2 : List α) :
    twoU1 x1 x2 = ((Spec.UExact.twoUPairs x1 x2 : Nat) : Int) :=
  C11.u_is_pair_count x1 x2

/-- the tie vector T handed to `UDist` is the run-length vector of the pooled sorted sample -/
theorem tie_vector_is_run_lengths {α : Type} [LinearOrder α] (x1 x2 : List α) :
    tieVector x1 x2 = Spec.UExact.tieVectorOf ((sortF (x1 ++ x2)).dedup) (x1 ++ x2) :=
  C11.tie_vector_is_run_lengths x1 x2

/-- `hasTies` is set exactly when some tie group has more than one member -/
theorem has_ties_iff {α : Type} [LinearOrder α] (L : List (α × Bool)) :
    (ranks L).hasTies = true ↔ ∃ t ∈ (ranks L).T, t > 1 :=
  C11.ranks_hasTies_iff L

/-- **untied_recurrence_exact.** `p_{n,m}(u)·C(n+m,n)` is the number of assignments of a pool of
    n+m distinct values (listed in descending order) to a first sample of size n whose doubled
    statistic is 2u. -/
theorem untied_recurrence_exact {α : Type} [LinearOrder α] (n m : Nat) (pool : List α)
    (hlen : pool.length = n + m) (hdesc : pool.Pairwise (· > ·)) (u : Nat) :
    pRec n m (u : Int) * (Nat.choose (n + m) n : Rat)
      = (((Spec.UExact.nullDistOf n pool).filter (· = 2 * u)).length : Rat) :=
  C11.untied_recurrence_exact n m pool hlen hdesc u

example : pRec 2 1 (1 : Nat) * (Nat.choose (2 + 1) 2 : Rat)
    = (((Spec.UExact.nullDistOf 2 [(3 : Nat), 2, 1]).filter (· = 2 * 1)).length : Rat) :=
  untied_recurrence_exact 2 1 [3, 2, 1] rfl (by decide) 1

/-- the number of assignments is C(N, n1) -/
theorem assignments_count {α : Type} (n : Nat) (pool : List α) :
    (Spec.UExact.splits n pool).length = Nat.choose pool.length n :=
  C11.splits_length n pool

theorem pmf_sums_to_one_untied (n m : Nat) :
    ∑ u ∈ Finset.range (n * m + 1), pRec n m (u : Int) = 1 :=
  C11.pmf_sums_to_one_untied n m

/-- **dist_swap_symmetry** (untied): symmetric about n·m/2 and under swapping the sample sizes -/
theorem dist_swap_symmetry_untied (n m u : Nat) :
    pRec n m (u : Int) = pRec n m (((n * m : Nat) : Int) - (u : Int)) ∧ pRec n m (u : Int) = pRec m n (u : Int) :=
  C11.untied_dist_symmetric n m u

/-- **cdf_is_prefix_sum** (untied wrapper, including the `flip` shortcut of `UDist.CDF`) -/
theorem cdf_is_prefix_sum_untied (n1 n2 : Nat) (T : List Nat) (hT : UDist.hasTies T = false) (twoU : Int)
    (h0 : 0 ≤ twoU) (h1 : twoU < 2 * ((n1 * n2 : Nat) : Int)) :
    cdfPure n1 n2 T twoU = ∑ v ∈ Finset.range ((twoU / 2).toNat + 1), pRec n1 n2 (v : Int) :=
  C11.cdfPure_untied_pRec n1 n2 T hT twoU h0 h1

/-- **k2_closed_form.** The K = 2 base case with its `num ≥ 0` guard and Go's truncating division
    sums C(t0, n1−r2)·C(t1, r2) over exactly the r2 ∈ [0, n1] whose doubled statistic
    n1(t0−n1) + r2(t0+t1) is ≤ twoU. -/
theorem k2_closed_form (t0 t1 n1 : Nat) (hpos : 0 < t0 + t1) (twoU : Int) :
    base2 [t0, t1] (n1 : Int) twoU
      = ∑ r2 ∈ Finset.range (n1 + 1),
          if (n1 : Int) * ((t0 : Int) - n1) + (r2 : Int) * ((t0 : Int) + t1) ≤ twoU
          then Nat.choose t0 (n1 - r2) * Nat.choose t1 r2 else 0 :=
  C11.k2_closed_form t0 t1 n1 hpos twoU

/-- the base case before commit f31837d was wrong (witness of finding F5) -/
theorem k2_old_code_wrong : C11.base2Old [3, 1] 2 0 = 3 ∧ base2 [3, 1] 2 0 = 0 := by
  decide +kernel

/-- **klotz_step.** One level of the recurrence lowers (n1, 2U) by the members taken from the top
    rank and by the pairs they win or tie: r·(a[k] − 2·n1 + r) = 2·r·(S − (n1−r)) + r·(t[k−1] − r). -/
theorem klotz_step (t : List Nat) (k : Nat) (n1 twoU r : Int) :
    (subKey t (k + 1) n1 twoU r).1 = n1 - r ∧
    (subKey t (k + 1) n1 twoU r).2
      = twoU - (2 * r * ((sumTo t k : Int) - (n1 - r)) + r * (((t.getD k 0 : Nat) : Int) - r)) :=
  C11.klotz_step t k n1 twoU r

/-- **cdf_is_prefix_sum** (tied wrappers): CDF(U) = A(−1)/C + Σ_{v ≤ 2U} PMF(v/2) -/
theorem cdf_is_prefix_sum_tied (n1 n2 : Nat) (T : List Nat) (hT : UDist.hasTies T = true) (u : Nat)
    (hu : u < 2 * (n1 * n2)) :
    cdfPure n1 n2 T (u : Int)
      = ((A T T.length n1 (-1) : Nat) : Rat) / ((choose (n1 + n2) n1 : Nat) : Rat)
        + ∑ v ∈ Finset.range (u + 1), pmfPure n1 n2 T (v : Int) := by
  rw [pmf_prefix_sum_tied n1 n2 T hT u (by omega),
    cdfPure_tied n1 n2 hT (by omega) (by push_cast; omega)]
  ring

/-- **tied_recurrence_exact.** For every tie vector with positive entries and K ≥ 2 groups, the
    counting recurrence `A` (K = 2 base case, per-rank step, pruning by twoUmin/twoUmax, completion
    rule) equals the number of assignments counted per tie group, for every n1 and every 2U. -/
theorem tied_recurrence_exact (T : List Nat) (hT : ∀ t ∈ T, 0 < t) (hK : 2 ≤ T.length) (n1 : Nat)
    (hn : n1 ≤ T.sum) (twoU : Int) :
    A T T.length (n1 : Int) twoU = groupCount T n1 twoU :=
  C11.tied_recurrence_exact T hT hK n1 hn twoU

theorem pmf_sums_to_one_tied (T : List Nat) (hpos : ∀ t ∈ T, 0 < t) (hK : 2 ≤ T.length) (n1 n2 : Nat)
    (hT : UDist.hasTies T = true) (hN : T.sum = n1 + n2) :
    ∑ v ∈ Finset.range (2 * (n1 * n2) + 1), pmfPure n1 n2 T (v : Int) = 1 := by
  -- telescoping; the table is exact at the two ends: A(−1) = 0, A(2·n1·n2) = C(N, n1)
  have hlo : A T T.length n1 (-1) = 0 := by
    rw [tied_recurrence_exact T hpos hK n1 (by omega), groups_count_labelings,
      List.filter_eq_nil_iff.2 fun d _ => by simp only [decide_eq_true_eq]; omega]
    rfl
  have hhi : A T T.length n1 ((2 * (n1 * n2) : Nat) : Int) = choose (n1 + n2) n1 := by
    rw [tied_recurrence_exact T hpos hK n1 (by omega), groups_count_labelings,
      List.filter_eq_self.2 fun d hd => by
        have := nullDistOf_poolOf_le T n1 n2 hN d hd
        simp only [decide_eq_true_eq]
        exact_mod_cast this,
      nullDistOf_poolOf_length T n1 n2 hN, choose_eq]
  have hC : ((choose (n1 + n2) n1 : Nat) : Rat) ≠ 0 := by
    rw [choose_eq]
    exact_mod_cast (Nat.choose_pos (Nat.le_add_right n1 n2)).ne'
  rw [pmf_prefix_sum_tied n1 n2 T hT _ (le_refl _), hlo, hhi]
  simp [hC]

example : ∑ v ∈ Finset.range (2 * (2 * 1) + 1), pmfPure 2 1 [1, 2] (v : Int) = 1 :=
  pmf_sums_to_one_tied [1, 2] (by decide) (by decide) 2 1 (by decide) (by decide)

/-- **less_spec.** Given the exact distribution function, the one-sided *less* p-value is P(2U ≤ 2u). -/
theorem less_spec (cdf : Int → Rat) (dist : List Nat) (h : IsCDFOf cdf dist) (u : Nat) (tu2 : Int) :
    exactP cdf .less (u : Int) tu2 = Spec.UExact.pLess dist u :=
  C11.less_spec cdf dist h u tu2

/-- **greater_spec.** Given the exact distribution function, the one-sided *greater* p-value
    (which steps back by one half step, 079b4ab) is P(2U ≥ 2u). -/
theorem greater_spec (cdf : Int → Rat) (dist : List Nat) (h : IsCDFOf cdf dist) (hne : dist ≠ [])
    (u : Nat) (tu2 : Int) :
    exactP cdf .greater (u : Int) tu2 = Spec.UExact.pGreater dist u :=
  C11.greater_spec cdf dist h hne u tu2

/-- **two_sided_spec_partial.** The code's two-sided value (1 if U1 = U2, else 2·CDF(min(U1,U2))) is the
    specification's min(1, 2·min(P(2U ≤ u), P(2U ≥ u))) PROVIDED the null distribution is symmetric
    about n1·n2 (hypothesis `hsym`, c = 2·n1·n2). Without symmetry it is false: see the witness below. -/
theorem two_sided_spec_partial (cdf : Int → Rat) (dist : List Nat) (c : Nat)
    (h : IsCDFOf cdf dist) (hne : dist ≠ [])
    (hsym : ∀ v : Nat, (dist.filter (· ≤ v)).length = (dist.filter (fun d => decide (d + v ≥ c))).length)
    (u : Nat) (hu : u ≤ c) :
    exactP cdf .differs (u : Int) ((c : Int) - u) = Spec.UExact.pTwoSided dist u :=
  C11.two_sided_spec_partial cdf dist c h hne hsym u hu

/-- the specification's two-sided value always lies in [0,1], and swapping the samples mirrors U -/
theorem two_sided_in_unit_interval_and_swap {α : Type} [LinearOrder α] (dist : List Nat) (u : Nat) (x1 x2 : List α) :
    (0 ≤ Spec.UExact.pTwoSided dist u ∧ Spec.UExact.pTwoSided dist u ≤ 1)
      ∧ Spec.UExact.twoUPairs x1 x2 + Spec.UExact.twoUPairs x2 x1 = 2 * x1.length * x2.length :=
  ⟨by
    unfold Spec.UExact.pTwoSided Spec.UExact.pLess Spec.UExact.pGreater
    simp only [C11.ratMin_eq_min]
    exact ⟨le_min (by norm_num) (mul_nonneg (by norm_num)
      (le_min (div_nonneg (Nat.cast_nonneg _) (Nat.cast_nonneg _))
        (div_nonneg (Nat.cast_nonneg _) (Nat.cast_nonneg _)))), min_le_left _ _⟩,
    (C11.twoUPairs_swap x1 x2).trans (Nat.mul_assoc _ _ _).symm⟩

/-- the untied CDF wrapper (with its flip) is the distribution function of the enumeration -/
theorem untied_cdf_is_cdf {α : Type} [LinearOrder α] (n m : Nat) (T : List Nat) (hT : UDist.hasTies T = false)
    (pool : List α) (hlen : pool.length = n + m) (hdesc : pool.Pairwise (· > ·)) :
    IsCDFOf (cdfPure n m T) (Spec.UExact.nullDistOf n pool) :=
  C11.untied_cdf_is_cdf n m T hT pool hlen hdesc

theorem less_exact_untied {α : Type} [LinearOrder α] (n m : Nat) (T : List Nat) (hT : UDist.hasTies T = false)
    (pool : List α) (hlen : pool.length = n + m) (hdesc : pool.Pairwise (· > ·)) (u : Nat) (tu2 : Int) :
    exactP (cdfPure n m T) .less (u : Int) tu2 = Spec.UExact.pLess (Spec.UExact.nullDistOf n pool) u :=
  C11.less_spec _ _ (C11.untied_cdf_is_cdf n m T hT pool hlen hdesc) u tu2

theorem greater_exact_untied {α : Type} [LinearOrder α] (n m : Nat) (T : List Nat) (hT : UDist.hasTies T = false)
    (pool : List α) (hlen : pool.length = n + m) (hdesc : pool.Pairwise (· > ·)) (u : Nat) (tu2 : Int) :
    exactP (cdfPure n m T) .greater (u : Int) tu2 = Spec.UExact.pGreater (Spec.UExact.nullDistOf n pool) u :=
  C11.greater_spec _ _ (C11.untied_cdf_is_cdf n m T hT pool hlen hdesc)
    (C11.nullDistOf_ne_nil n m pool hlen) u tu2

/-- **two_sided_spec for untied samples** (full): the untied null distribution is symmetric -/
theorem two_sided_exact_untied {α : Type} [LinearOrder α] (n m : Nat) (T : List Nat) (hT : UDist.hasTies T = false)
    (pool : List α) (hlen : pool.length = n + m) (hdesc : pool.Pairwise (· > ·)) (u : Nat) (hu : u ≤ 2 * (n * m)) :
    exactP (cdfPure n m T) .differs (u : Int) (((2 * (n * m) : Nat) : Int) - (u : Int))
      = Spec.UExact.pTwoSided (Spec.UExact.nullDistOf n pool) u :=
  C11.two_sided_spec_partial _ _ (2 * (n * m)) (C11.untied_cdf_is_cdf n m T hT pool hlen hdesc)
    (C11.nullDistOf_ne_nil n m pool hlen)
    (C11.nullDistOf_mirror_of_nodup n m pool hlen (hdesc.imp ne_of_gt)).filter_le u hu

example : exactP (cdfPure 2 1 []) .differs ((2 : Nat) : Int) (((2 * (2 * 1) : Nat) : Int) - ((2 : Nat) : Int))
    = Spec.UExact.pTwoSided (Spec.UExact.nullDistOf 2 [(3 : Nat), 2, 1]) 2 :=
  two_sided_exact_untied 2 1 [] rfl [3, 2, 1] rfl (by decide) 2 (by decide)

/-- **groups_count_labelings.** Counting assignments per tie group (r-vectors weighted by ∏ C(t_k, r_k))
    is the same as enumerating the assignments of the pooled sample with tie vector T. -/
theorem groups_count_labelings (T : List Nat) (n1 : Nat) (twoU : Int) :
    groupCount T n1 twoU
      = ((Spec.UExact.nullDistOf n1 (poolOf T)).filter fun (d : Nat) => decide ((d : Int) ≤ twoU)).length :=
  C11.groups_count_labelings T n1 twoU

/-- the tied CDF wrapper is the distribution function of the enumeration of the assignments of the
    pooled sample with tie vector T -/
theorem tied_cdf_is_cdf (T : List Nat) (hpos : ∀ t ∈ T, 0 < t) (hK : 2 ≤ T.length) (n1 n2 : Nat)
    (hT : UDist.hasTies T = true) (hN : T.sum = n1 + n2) :
    IsCDFOf (cdfPure n1 n2 T) (Spec.UExact.nullDistOf n1 (poolOf T)) :=
  C11.tied_cdf_is_cdf T hpos hK n1 n2 hT hN

/-- **less_spec for tied samples**: the one-sided p-value is P(2U ≤ 2u) over all assignments -/
theorem less_exact_tied (T : List Nat) (hpos : ∀ t ∈ T, 0 < t) (hK : 2 ≤ T.length) (n1 n2 : Nat)
    (hT : UDist.hasTies T = true) (hN : T.sum = n1 + n2) (u : Nat) (tu2 : Int) :
    exactP (cdfPure n1 n2 T) .less (u : Int) tu2
      = Spec.UExact.pLess (Spec.UExact.nullDistOf n1 (poolOf T)) u :=
  C11.less_spec _ _ (C11.tied_cdf_is_cdf T hpos hK n1 n2 hT hN) u tu2

/-- **greater_spec for tied samples** (uses the half step of 079b4ab) -/
theorem greater_exact_tied (T : List Nat) (hpos : ∀ t ∈ T, 0 < t) (hK : 2 ≤ T.length) (n1 n2 : Nat)
    (hT : UDist.hasTies T = true) (hN : T.sum = n1 + n2) (u : Nat) (tu2 : Int) :
    exactP (cdfPure n1 n2 T) .greater (u : Int) tu2
      = Spec.UExact.pGreater (Spec.UExact.nullDistOf n1 (poolOf T)) u :=
  C11.greater_spec _ _ (C11.tied_cdf_is_cdf T hpos hK n1 n2 hT hN)
    (C11.nullDistOf_ne_nil n1 n2 _ ((C11.poolOf_length T).trans hN)) u tu2

example : exactP (cdfPure 4 3 [3, 2, 2]) .greater ((7 : Nat) : Int) 0
    = Spec.UExact.pGreater (Spec.UExact.nullDistOf 4 (poolOf [3, 2, 2])) 7 :=
  greater_exact_tied [3, 2, 2] (by decide) (by decide) 4 3 (by decide) (by decide) 7 0

/-- **two_sided_asymmetric_witness** (finding N5): for x1 = {1,2}, x2 = {2} the code's two-sided value
    is 4/3, swapped 2/3; the specification demands 1 both ways. Hence `two_sided_spec` is false for
    the code as it stands. -/
theorem two_sided_asymmetric_witness :
    C11.Outcome.p? (mannWhitney cdfPure 50 25 [(1 : Int), 2] [2] .differs) = some ((4 : Rat) / 3) ∧
    C11.Outcome.p? (mannWhitney cdfPure 50 25 [(2 : Int)] [1, 2] .differs) = some ((2 : Rat) / 3) ∧
    Spec.UExact.pTwoSided (Spec.UExact.nullDist [(1 : Int), 2] [2]) (Spec.UExact.twoUPairs [(1 : Int), 2] [2]) = 1 ∧
    Spec.UExact.pTwoSided (Spec.UExact.nullDist [(2 : Int)] [1, 2]) (Spec.UExact.twoUPairs [(2 : Int)] [1, 2]) = 1 := by
  have m1 : labeledMerge (sortF [(1 : Int), 2]) (sortF [2]) = [(1, true), (2, false), (2, true)] := by
    simp [sortF, insertSorted, labeledMerge]
  have m2 : labeledMerge (sortF [(2 : Int)]) (sortF [1, 2]) = [(1, false), (2, false), (2, true)] := by
    simp [sortF, insertSorted, labeledMerge]
  refine ⟨?_, ?_, ?_, ?_⟩
  · unfold mannWhitney; rw [m1]; decide +kernel
  · unfold mannWhitney; rw [m2]; decide +kernel
  · decide +kernel
  · decide +kernel

/-- **errors_spec** (empty): an empty sample is the size error -/
theorem errors_spec_empty {α : Type} [LT α] [DecidableLT α] [DecidableEq α]
    (cdf : Nat → Nat → List Nat → Int → Rat) (lim limT : Nat) (x1 x2 : List α) (alt : Alt)
    (h : x1 = [] ∨ x2 = []) :
    mannWhitney cdf lim limT x1 x2 alt = .error .sampleSize :=
  C11.mannWhitney_of_empty h

/-- **errors_spec** (one tie group): all values equal is the all-equal error on either branch -/
theorem errors_spec_all_equal {α : Type} [LT α] [DecidableLT α] [DecidableEq α]
    (cdf : Nat → Nat → List Nat → Int → Rat) (lim limT : Nat) (alt : Alt)
    (v : α) (hirr : ¬ v < v) (x1 x2 : List α) (h1 : x1 ≠ []) (h2 : x2 ≠ [])
    (e1 : ∀ a ∈ x1, a = v) (e2 : ∀ b ∈ x2, b = v) :
    mannWhitney cdf lim limT x1 x2 alt = .error .samplesEqual :=
  C11.errors_spec_all_equal cdf lim limT alt v hirr x1 x2 h1 h2 e1 e2

example : mannWhitney cdfPure 50 25 [(7 : Int), 7] [7] .less = .error .samplesEqual :=
  errors_spec_all_equal _ _ _ _ 7 (by decide) _ _ (by simp) (by simp) (by simp) (by simp)

/-- **approx_formula.** μ, tie-corrected σ² and the continuity-corrected numerator of the model are
    the textbook ones, as exact rationals. -/
theorem approx_formula (twoU n1 n2 : Nat) (T : List Nat) :
    sigma2 n1 n2 T = Spec.UExact.sigma2 n1 n2 ((T.map fun t => t * t * t - t).sum) ∧
    twoNumer .less (twoU : Int) n1 n2 = Spec.UExact.twoNumerLess twoU n1 n2 ∧
    twoNumer .greater (twoU : Int) n1 n2 = Spec.UExact.twoNumerGreater twoU n1 n2 ∧
    twoNumer .differs (twoU : Int) n1 n2 = Spec.UExact.twoNumerTwoSided twoU n1 n2 :=
  C11.approx_formula twoU n1 n2 T

/-- the model's binomial (Go `mathChoose` on its exact range) is the binomial coefficient -/
theorem choose_is_binomial (n k : Nat) : choose n k = Nat.choose n k := C11.choose_eq n k

/-- **makeUmemo_eq_A.** The memo-table evaluator the compiled driver runs (hash-map key sets built
    top-down with pruning, filled bottom-up) computes the pure counting recurrence, for every input. -/
theorem makeUmemo_eq_A (T : List Nat) (n1 twoU : Int) :
    makeUmemo T n1 twoU = A T T.length n1 twoU :=
  C11.makeUmemo_eq_A T n1 twoU

/-- **count_table_is_recurrence.** The integer count table of the untied distribution is
    `pRec · C(n+m,n)` entry by entry -/
theorem count_table_is_recurrence (n m u : Nat) :
    (((cntUntied n m).getD u 0 : Nat) : Rat) = pRec n m (u : Int) * (Nat.choose (n + m) n : Rat) :=
  C11.cntUntied_getD n m u

/-- the CDF/PMF the compiled driver evaluates (integer count tables) ARE the ones the theorems talk
    about (`cdfPure`/`pmfPure`), for all arguments -/
theorem cdf_eq_cdfPure (n1 n2 : Nat) (T : List Nat) (twoU : Int) : cdf n1 n2 T twoU = cdfPure n1 n2 T twoU :=
  C11.cdf_eq_cdfPure_of C11.pUntied_getD_eq n1 n2 T twoU

theorem pmf_eq_pmfPure (n1 n2 : Nat) (T : List Nat) (twoU : Int) : pmf n1 n2 T twoU = pmfPure n1 n2 T twoU := by
  unfold pmf pmfPure pmfWith
  simp only [C11.makeUmemo_eq_A, C11.pUntied_getD_eq]

/-- **relabelling, 1**: the null distribution does not depend on the order in which the pooled values
    are listed -/
theorem null_dist_perm_invariant {α : Type} [LinearOrder α] (n : Nat) {pool pool' : List α}
    (h : pool.Perm pool') (P : Nat → Bool) :
    (Spec.UExact.nullDistOf n pool).countP P = (Spec.UExact.nullDistOf n pool').countP P :=
  C11.nullDistOf_countP_perm n h P

/-- **relabelling, 2**: nor on the values themselves, only on their order pattern -/
theorem null_dist_order_iso_invariant {α β : Type} [LinearOrder α] [LinearOrder β] (f : α → β)
    (n : Nat) (pool : List α) (hf : ∀ a ∈ pool, ∀ b ∈ pool, (a < b ↔ f a < f b)) :
    Spec.UExact.nullDistOf n (pool.map f) = Spec.UExact.nullDistOf n pool :=
  C11.nullDistOf_map_of_strictMonoOn f n pool hf

/-- **relabelling, 3 (canonical pool)**: every count over the assignments of the actual pooled values
    equals the count over the canonical pool with the same tie vector; hence the exact p-values depend
    only on (n1, n2, T, U) -/
theorem null_dist_canonical {α : Type} [LinearOrder α] (n : Nat) (pool : List α) (P : Nat → Bool) :
    (Spec.UExact.nullDistOf n pool).countP P
      = (Spec.UExact.nullDistOf n
          (poolOf (Spec.UExact.tieVectorOf ((sortF pool).dedup) pool))).countP P :=
  C11.nullDistOf_canonical n pool P

/-- **errors_spec** as an iff: an error is returned ONLY for an empty sample (size error) or for
    all-equal values (all-equal error), on both branches, whatever the limits -/
theorem errors_spec_iff {α : Type} [LinearOrder α] (cdf : Nat → Nat → List Nat → Int → Rat)
    (lim limT : Nat) (x1 x2 : List α) (alt : Alt) (e : Err) :
    mannWhitney cdf lim limT x1 x2 alt = .error e ↔
      (e = .sampleSize ∧ (x1 = [] ∨ x2 = [])) ∨
      (e = .samplesEqual ∧ x1 ≠ [] ∧ x2 ≠ [] ∧ Spec.UExact.allEqual x1 x2 = true) :=
  C11.errors_spec_iff cdf lim limT x1 x2 alt e

/-- **two_sided_spec_iff**: exactly when the code's two-sided value equals the specification's
    (L = P(2U ≤ u), G = P(2U ≥ u), m = min(u, c−u), c = 2·n1·n2). The N5 class is the negation. -/
theorem two_sided_spec_iff (cdf : Int → Rat) (dist : List Nat) (h : IsCDFOf cdf dist) (c u : Nat) (hu : u ≤ c) :
    exactP cdf .differs (u : Int) ((c : Int) - u) = Spec.UExact.pTwoSided dist u ↔
      (if 2 * u = c then 1 ≤ 2 * Spec.UExact.ratMin (Spec.UExact.pLess dist u) (Spec.UExact.pGreater dist u)
       else (2 * Spec.UExact.pLess dist (min u (c - u)) = 2 * Spec.UExact.ratMin (Spec.UExact.pLess dist u) (Spec.UExact.pGreater dist u)
              ∧ 2 * Spec.UExact.ratMin (Spec.UExact.pLess dist u) (Spec.UExact.pGreater dist u) ≤ 1)
          ∨ (2 * Spec.UExact.pLess dist (min u (c - u)) = 1
              ∧ 1 ≤ 2 * Spec.UExact.ratMin (Spec.UExact.pLess dist u) (Spec.UExact.pGreater dist u))) :=
  C11.two_sided_spec_iff cdf dist h c u hu

/-! ### the property for ACTUAL samples, end to end

Hypotheses common to the statements below: both samples non-empty, not all values equal, and the
exact-branch condition of utest.go:165 holds (on the model's own hasTies flag). -/

/-- on the exact branch the result is U by pair counting and the per-alternative formula applied to
    `UDist{n1,n2,T}.CDF` with T the tie vector -/
theorem exact_outcome_shape {α : Type} [LinearOrder α] (cdf : Nat → Nat → List Nat → Int → Rat) (lim limT : Nat)
    (x1 x2 : List α) (alt : Alt) (h1 : x1 ≠ []) (h2 : x2 ≠ [])
    (hne : Spec.UExact.allEqual x1 x2 = false)
    (hb : exactBranch (ranks (labeledMerge (sortF x1) (sortF x2))).hasTies x1.length x2.length lim limT = true) :
    mannWhitney cdf lim limT x1 x2 alt
      = .exact ((Spec.UExact.twoUPairs x1 x2 : Nat) : Int)
          (exactP (cdf x1.length x2.length (tieVector x1 x2)) alt ((Spec.UExact.twoUPairs x1 x2 : Nat) : Int)
            (((2 * (x1.length * x2.length) : Nat) : Int) - ((Spec.UExact.twoUPairs x1 x2 : Nat) : Int))) :=
  C11.exact_outcome_shape cdf lim limT x1 x2 alt h1 h2 hne hb

/-- the CDF the code consults is the distribution function of the doubled statistic over all
    C(N, n1) assignments of the ACTUAL pooled values — tied or not -/
theorem cdf_is_null_distribution {α : Type} [LinearOrder α] (x1 x2 : List α) (h1 : x1 ≠ [])
    (hne : Spec.UExact.allEqual x1 x2 = false) :
    IsCDFOf (cdfPure x1.length x2.length (tieVector x1 x2)) (Spec.UExact.nullDist x1 x2) :=
  C11.cdfPure_isCDFOf_nullDist x1 x2 h1 hne

/-- **less_spec, end to end**: `MannWhitneyUTest(x1, x2, LocationLess)` = (U by pair counting,
    P(U' ≤ U) over all equally likely assignments of the pooled values) -/
theorem less_exact {α : Type} [LinearOrder α] (x1 x2 : List α) (lim limT : Nat) (h1 : x1 ≠ []) (h2 : x2 ≠ [])
    (hne : Spec.UExact.allEqual x1 x2 = false)
    (hb : exactBranch (ranks (labeledMerge (sortF x1) (sortF x2))).hasTies x1.length x2.length lim limT = true) :
    mannWhitney cdfPure lim limT x1 x2 .less
      = .exact ((Spec.UExact.twoUPairs x1 x2 : Nat) : Int)
          (Spec.UExact.pLess (Spec.UExact.nullDist x1 x2) (Spec.UExact.twoUPairs x1 x2)) :=
  C11.less_exact x1 x2 lim limT h1 h2 hne hb

theorem example_merge : labeledMerge (sortF [(1 : Int), 2, 2]) (sortF [1, 3])
    = [(1, false), (1, true), (2, true), (2, true), (3, false)] := by
  simp [sortF, insertSorted, labeledMerge]

/-- the hypotheses are satisfiable: x1 = {1,2,2}, x2 = {1,3} (tied, K = 3) -/
example : mannWhitney cdfPure 50 25 [(1 : Int), 2, 2] [1, 3] .less
    = .exact ((Spec.UExact.twoUPairs [(1 : Int), 2, 2] [1, 3] : Nat) : Int)
        (Spec.UExact.pLess (Spec.UExact.nullDist [(1 : Int), 2, 2] [1, 3])
          (Spec.UExact.twoUPairs [(1 : Int), 2, 2] [1, 3])) :=
  less_exact _ _ 50 25 (by simp) (by simp) (by decide) (by rw [example_merge]; decide)

theorem greater_exact {α : Type} [LinearOrder α] (x1 x2 : List α) (lim limT : Nat) (h1 : x1 ≠ []) (h2 : x2 ≠ [])
    (hne : Spec.UExact.allEqual x1 x2 = false)
    (hb : exactBranch (ranks (labeledMerge (sortF x1) (sortF x2))).hasTies x1.length x2.length lim limT = true) :
    mannWhitney cdfPure lim limT x1 x2 .greater
      = .exact ((Spec.UExact.twoUPairs x1 x2 : Nat) : Int)
          (Spec.UExact.pGreater (Spec.UExact.nullDist x1 x2) (Spec.UExact.twoUPairs x1 x2)) :=
  C11.greater_exact x1 x2 lim limT h1 h2 hne hb

/-- the same for the evaluator the compiled driver runs (memo table / count table) -/
theorem less_exact_driver {α : Type} [LinearOrder α] (x1 x2 : List α) (lim limT : Nat) (h1 : x1 ≠ []) (h2 : x2 ≠ [])
    (hne : Spec.UExact.allEqual x1 x2 = false)
    (hb : exactBranch (ranks (labeledMerge (sortF x1) (sortF x2))).hasTies x1.length x2.length lim limT = true) :
    mannWhitney cdf lim limT x1 x2 .less
      = .exact ((Spec.UExact.twoUPairs x1 x2 : Nat) : Int)
          (Spec.UExact.pLess (Spec.UExact.nullDist x1 x2) (Spec.UExact.twoUPairs x1 x2)) :=
  (C11.mannWhitney_cdf_eq lim limT x1 x2 .less).trans (C11.less_exact x1 x2 lim limT h1 h2 hne hb)

theorem greater_exact_driver {α : Type} [LinearOrder α] (x1 x2 : List α) (lim limT : Nat) (h1 : x1 ≠ []) (h2 : x2 ≠ [])
    (hne : Spec.UExact.allEqual x1 x2 = false)
    (hb : exactBranch (ranks (labeledMerge (sortF x1) (sortF x2))).hasTies x1.length x2.length lim limT = true) :
    mannWhitney cdf lim limT x1 x2 .greater
      = .exact ((Spec.UExact.twoUPairs x1 x2 : Nat) : Int)
          (Spec.UExact.pGreater (Spec.UExact.nullDist x1 x2) (Spec.UExact.twoUPairs x1 x2)) :=
  (C11.mannWhitney_cdf_eq lim limT x1 x2 .greater).trans (C11.greater_exact x1 x2 lim limT h1 h2 hne hb)

/-- **two_sided_spec, end to end, under symmetry**: whenever the null distribution of the samples is
    symmetric about n1·n2 the two-sided result is min(1, 2·min(one-sided)) -/
theorem two_sided_exact_of_symmetric {α : Type} [LinearOrder α] (x1 x2 : List α) (lim limT : Nat)
    (h1 : x1 ≠ []) (h2 : x2 ≠ []) (hne : Spec.UExact.allEqual x1 x2 = false)
    (hb : exactBranch (ranks (labeledMerge (sortF x1) (sortF x2))).hasTies x1.length x2.length lim limT = true)
    (hsym : ∀ v : Nat, ((Spec.UExact.nullDist x1 x2).filter (· ≤ v)).length
      = ((Spec.UExact.nullDist x1 x2).filter (fun d => decide (d + v ≥ 2 * (x1.length * x2.length)))).length) :
    mannWhitney cdfPure lim limT x1 x2 .differs
      = .exact ((Spec.UExact.twoUPairs x1 x2 : Nat) : Int)
          (Spec.UExact.pTwoSided (Spec.UExact.nullDist x1 x2) (Spec.UExact.twoUPairs x1 x2)) :=
  C11.two_sided_exact_of_symmetric x1 x2 lim limT h1 h2 hne hb hsym

/-- the conclusion of `two_sided_exact_of_symmetric` for samples without ties (their null
    distribution is symmetric) -/
theorem two_sided_exact_of_untied {α : Type} [LinearOrder α] (x1 x2 : List α) (lim limT : Nat)
    (h1 : x1 ≠ []) (h2 : x2 ≠ []) (hne : Spec.UExact.allEqual x1 x2 = false)
    (hT : (ranks (labeledMerge (sortF x1) (sortF x2))).hasTies = false)
    (hb : exactBranch (ranks (labeledMerge (sortF x1) (sortF x2))).hasTies x1.length x2.length lim limT = true) :
    mannWhitney cdfPure lim limT x1 x2 .differs
      = .exact ((Spec.UExact.twoUPairs x1 x2 : Nat) : Int)
          (Spec.UExact.pTwoSided (Spec.UExact.nullDist x1 x2) (Spec.UExact.twoUPairs x1 x2)) :=
  C11.two_sided_exact_of_untied x1 x2 lim limT h1 h2 hne hT hb

/-- the conclusion of `two_sided_exact_of_symmetric` for samples whose tie vector is palindromic -/
theorem two_sided_exact_of_palindromic {α : Type} [LinearOrder α] (x1 x2 : List α) (lim limT : Nat)
    (h1 : x1 ≠ []) (h2 : x2 ≠ []) (hne : Spec.UExact.allEqual x1 x2 = false)
    (hb : exactBranch (ranks (labeledMerge (sortF x1) (sortF x2))).hasTies x1.length x2.length lim limT = true)
    (hpal : (tieVector x1 x2).reverse = tieVector x1 x2) :
    mannWhitney cdfPure lim limT x1 x2 .differs
      = .exact ((Spec.UExact.twoUPairs x1 x2 : Nat) : Int)
          (Spec.UExact.pTwoSided (Spec.UExact.nullDist x1 x2) (Spec.UExact.twoUPairs x1 x2)) :=
  C11.two_sided_exact_of_symmetric x1 x2 lim limT h1 h2 hne hb
    (C11.nullDist_mirror_of_palindromic x1 x2 hpal).filter_le

/-- reversing the tie vector mirrors the null distribution about n1·n2 -/
theorem null_dist_mirror_reverse (T : List Nat) (n : Nat) (P : Nat → Bool) :
    (Spec.UExact.nullDistOf n (poolOf T.reverse)).countP P
      = ((Spec.UExact.nullDistOf n (poolOf T)).map (fun d => 2 * n * (T.sum - n) - d)).countP P := by
  rw [(C11.nullDistOf_poolOf_reverse T n).2, List.countP_map, Nat.mul_assoc]
  rfl

/-- a palindromic tie vector has a symmetric null distribution (sufficient, not necessary: T = [1,3]) -/
theorem palindromic_symmetric (T : List Nat) (hpal : T.reverse = T) (n : Nat) (v : Nat) :
    ((Spec.UExact.nullDistOf n (poolOf T)).filter (· ≤ v)).length
      = ((Spec.UExact.nullDistOf n (poolOf T)).filter
          (fun d => decide (d + v ≥ 2 * (n * (T.sum - n))))).length :=
  C11.palindromic_symmetric T hpal n v

/-- swap lemma for the enumerations: choosing the complement mirrors the statistic, so the lower tail
    of the swapped samples at c − u is the upper tail of the original samples at u (c = 2·n1·n2) -/
theorem p_less_swap {α : Type} [LinearOrder α] (x1 x2 : List α) (u : Nat) (hu : u ≤ 2 * (x1.length * x2.length)) :
    Spec.UExact.pLess (Spec.UExact.nullDist x2 x1) (2 * (x1.length * x2.length) - u)
      = Spec.UExact.pGreater (Spec.UExact.nullDist x1 x2) u :=
  C11.pLess_swap x1 x2 u hu

/-- the specification's two-sided p does not change when the samples are swapped -/
theorem spec_two_sided_swap {α : Type} [LinearOrder α] (x1 x2 : List α) :
    Spec.UExact.pTwoSided (Spec.UExact.nullDist x2 x1) (Spec.UExact.twoUPairs x2 x1)
      = Spec.UExact.pTwoSided (Spec.UExact.nullDist x1 x2) (Spec.UExact.twoUPairs x1 x2) :=
  C11.pTwoSided_swap x1 x2

/-- **compare_exact.** Inside the exact regime (both samples non-empty, not all equal, exact-branch
    condition) `AssumeNothing.Compare` — min(1, 2·min(less(x1,x2), less(x2,x1))) — IS the exact two-sided
    permutation p-value: twice the smaller of the two one-sided tail probabilities over all assignments,
    capped at 1. No symmetry hypothesis: this is the full `two_sided_spec` for the value benchstat prints
    (the N5 defect of `MannWhitneyUTest(…, LocationDiffers)` does not reach it). -/
theorem compare_exact {α : Type} [LinearOrder α] (x1 x2 : List α) (lim limT : Nat)
    (h1 : x1 ≠ []) (h2 : x2 ≠ []) (hne : Spec.UExact.allEqual x1 x2 = false)
    (hb : exactBranch (ranks (labeledMerge (sortF x1) (sortF x2))).hasTies x1.length x2.length lim limT = true) :
    compareAssumeNothing cdfPure lim limT x1 x2
      = .ok (Spec.UExact.pTwoSided (Spec.UExact.nullDist x1 x2) (Spec.UExact.twoUPairs x1 x2)) :=
  C11.compare_eq_pTwoSided x1 x2 lim limT h1 h2 hne hb

/-- in the exact regime `AssumeNothing.Compare` does not change when the two samples are swapped -/
theorem compare_swap_symmetric {α : Type} [LinearOrder α] (x1 x2 : List α) (lim limT : Nat)
    (h1 : x1 ≠ []) (h2 : x2 ≠ []) (hne : Spec.UExact.allEqual x1 x2 = false)
    (hb : exactBranch (ranks (labeledMerge (sortF x1) (sortF x2))).hasTies x1.length x2.length lim limT = true) :
    compareAssumeNothing cdfPure lim limT x1 x2 = compareAssumeNothing cdfPure lim limT x2 x1 :=
  C11.compare_swap x1 x2 lim limT h1 h2 hne hb

/-- the same for the evaluator the compiled driver runs -/
theorem compare_exact_driver {α : Type} [LinearOrder α] (x1 x2 : List α) (lim limT : Nat)
    (h1 : x1 ≠ []) (h2 : x2 ≠ []) (hne : Spec.UExact.allEqual x1 x2 = false)
    (hb : exactBranch (ranks (labeledMerge (sortF x1) (sortF x2))).hasTies x1.length x2.length lim limT = true) :
    compareAssumeNothing cdf lim limT x1 x2
      = .ok (Spec.UExact.pTwoSided (Spec.UExact.nullDist x1 x2) (Spec.UExact.twoUPairs x1 x2)) := by
  rw [C11.compare_cdf_eq, C11.compare_eq_pTwoSided x1 x2 lim limT h1 h2 hne hb]

/-- non-vacuity on a tied pair of unequal sizes: {1} vs {0,0} ↦ 2/3, both orders -/
example : compareAssumeNothing cdfPure 50 25 [(1 : Int)] [0, 0] = .ok (2 / 3) := C11.compare_example
example : compareAssumeNothing cdfPure 50 25 [(0 : Int), 0] [1] = .ok (2 / 3) := C11.compare_example_swapped

end C11.Props
