/-
C08 — Keys identify projected tuples; projections plus residue lose nothing.
The property theorems, with the definitions their statements need (`Later`, `origins`, example scenarios)
and a few local helpers; the other definitions of the statements (`Reachable`, `ReachableE`, `agree`, `parserAfter`,
`specKeyVal`, …) and the helper lemmas are in Proofs/Lemmas/C08*.lean.

Model: Model/Proc/Projection.lean. Every theorem is quantified over the hash function `h`
(collisions included), over every parser state the closures may see (`env`, at every call) and
over every sequence of Project / ProjectValues calls (`Reachable`, `Later`).
-/
import Proofs.Lemmas.C08Inv
import Proofs.Lemmas.C08Perm
import Proofs.Lemmas.C08Loss
import Proofs.C05
import Proofs.Lemmas.C08Spec

namespace C08
open Proc.Sort Proc.Projection Proc.Extract

/-- **intern_inv**: in every reachable state no two key nodes hold equal rows, every node's row
is trimmed (no trailing empty value), and every node is filed under the hash of its row. -/
theorem intern_inv (h : List Bytes → UInt64) (p : Proj) (hr : Reachable h p) :
    (∀ i j, i < p.nodes.length → j < p.nodes.length → p.vals i = p.vals j → i = j) ∧
    (∀ k, trim (p.vals k) = p.vals k) ∧
    (∀ n ∈ p.nodes, n.hash = h n.vals) := by
  have hi := reachable_inv h p hr
  exact ⟨fun i j hi' hj' e => vals_inj hi hi' hj' e, hi.n.vals_trimmed, hi.n.hash⟩

/-- **key_eq_iff**: for every hash function, two keys of a projection (in any reachable state,
i.e. however many fields were added since either key was made) are the same key iff they have
the same value in every flattened field, a missing value counting as "". -/
theorem key_eq_iff (h : List Bytes → UInt64) (p : Proj) (hr : Reachable h p) (k₁ k₂ : Nat)
    (h₁ : k₁ < p.nodes.length) (h₂ : k₂ < p.nodes.length) :
    k₁ = k₂ ↔ ∀ f ∈ p.flat, p.get k₁ f = p.get k₂ f :=
  (reachable_inv h p hr).key_eq_iff h₁ h₂

/-- `q` is `p` after any number of further `Project` / `ProjectValues` calls. -/
inductive Later (h : List Bytes → UInt64) : Proj → Proj → Prop
  | refl (p : Proj) : Later h p p
  | project (p q : Proj) (env : Env) (r : Res) : Later h p q → Later h p (q.project h env r).1
  | projectValues (p q : Proj) (env : Env) (r : Res) : Later h p q → Later h p (q.projectValues h env r).1

theorem later_reachable (h : List Bytes → UInt64) (p q : Proj) (hl : Later h p q) (hr : Reachable h p) :
    Reachable h q := by
  induction hl with
  | refl => exact hr
  | project q env r _ ih => exact Reachable.project q env r ih
  | projectValues q env r _ ih => exact Reachable.projectValues q env r ih

theorem later_nodes (h : List Bytes → UInt64) (p q : Proj) (hl : Later h p q) (hr : Reachable h p) :
    p.nodes <+: q.nodes := by
  induction hl with
  | refl => exact List.prefix_rfl
  | project q env r hl ih =>
    exact ih.trans (project_nodes h env q r (reachable_inv h q (later_reachable h p q hl hr)))
  | projectValues q env r hl ih =>
    exact ih.trans (projectValues_nodes h env q r (reachable_inv h q (later_reachable h p q hl hr)))

/-- Keys are never invalidated and never change their values: after any further projections
(which may add fields) an old key is still a key and `Get` returns what it returned before for
every old field; for a field added later it returns "" (the key's row is shorter). -/
theorem key_stable (h : List Bytes → UInt64) (p q : Proj) (hl : Later h p q) (hr : Reachable h p)
    (k : Nat) (hk : k < p.nodes.length) :
    k < q.nodes.length ∧ q.vals k = p.vals k ∧
    (∀ f : Field, p.nFields ≤ f.idx → q.get k f = []) := by
  obtain ⟨hk', hv⟩ := vals_of_prefix (later_nodes h p q hl hr) hk
  refine ⟨hk', hv, ?_⟩
  intro f hf
  unfold Proj.get
  rw [hv, (reachable_inv h p hr).n.beyond k hf]

/-- The key returned by `Project` is a valid key of the new state. -/
theorem project_key_valid (h : List Bytes → UInt64) (env : Env) (p : Proj) (r : Res) :
    (p.project h env r).2 < (p.project h env r).1.nodes.length :=
  (project_key h env p r).1

/-- **key_eq_iff** over a stream: a key made at one time and a key made after any number of
further projections (with any number of new fields) are equal iff all flattened field values,
as seen in the final state, are equal. For every hash function. -/
theorem key_eq_iff_stream (h : List Bytes → UInt64) (p₀ : Proj) (hr : Reachable h p₀)
    (env₁ env₂ : Env) (r₁ r₂ : Res) (p₂ : Proj)
    (hl : Later h (p₀.project h env₁ r₁).1 p₂) :
    let k₁ := (p₀.project h env₁ r₁).2
    let p₃ := (p₂.project h env₂ r₂).1
    let k₂ := (p₂.project h env₂ r₂).2
    k₁ = k₂ ↔ ∀ f ∈ p₃.flat, p₃.get k₁ f = p₃.get k₂ f := by
  intro k₁ p₃ k₂
  have hr1 : Reachable h (p₀.project h env₁ r₁).1 := Reachable.project p₀ env₁ r₁ hr
  have hl3 : Later h (p₀.project h env₁ r₁).1 p₃ := Later.project _ p₂ env₂ r₂ hl
  have hr3 : Reachable h p₃ := later_reachable h _ _ hl3 hr1
  have hk1 := (key_stable h _ p₃ hl3 hr1 k₁ (project_key_valid h env₁ p₀ r₁)).1
  exact key_eq_iff h p₃ hr3 k₁ k₂ hk1 (project_key_valid h env₂ p₂ r₂)

/-- **get_is_row**: the key returned by `Project` gives, for EVERY field index, exactly the value
the projection closures left in the row buffer for this result (missing = ""): nothing is lost or
altered by trimming, hashing, bucket search or node reuse. -/
theorem get_is_row (h : List Bytes → UInt64) (env : Env) (p : Proj) (r : Res) (f : Field) :
    (p.project h env r).1.get (p.project h env r).2 f = getVal (p.populateRow env r).row f.idx := by
  unfold Proj.get
  rw [(project_key h env p r).2, getVal_trim]

/-- A single root field projection: the closure of a specific key writes the extractor's value,
so `Get` returns exactly what `newExtractor(key)` extracts. -/
theorem get_is_extracted_single (h : List Bytes → UInt64) (env : Env) (pa pa' : Parser) (sp : Spec) (s : Proj)
    (r : Res) (hp : pa.parse [sp] = (pa', .ok s)) (hk : sp.key ≠ dotConfig) (hf : sp.key ≠ dotFullname) :
    ∃ f, s.flat = [f] ∧ f.name = sp.key ∧
      (s.project h env r).1.get (s.project h env r).2 f =
        (match extract sp.key r.view with | .ok v => v | .error _ => []) := by
  have hk' : (sp.key == dotConfig) = false := by simpa using hk
  have hf' : (sp.key == dotFullname) = false := by simpa using hf
  obtain ⟨_, _, rfl⟩ := (parse_ok_iff pa [sp] pa' s).mp hp
  have hs : partProj newProjection sp =
      { (newProjection.addRootField sp.key sp.order).1 with parts := [.key sp.key 0] } := by
    simp only [partProj, partOf, hk', hf', Bool.false_eq_true, if_false]
    rfl
  rw [List.foldl_cons, List.foldl_nil, hs]
  refine ⟨mkField sp.key 0 sp.order, rfl, rfl, ?_⟩
  rw [get_is_row]
  simp only [Proj.populateRow, Proj.addRootField, newProjection, runPart, List.foldl_cons, List.foldl_nil]
  exact getVal_set_eq _ _ _ (by simp)

/-- **get_is_extracted**: in every reachable state, the key returned by `Project` gives for EACH
flattened field of the projection (as it is after the call) exactly the value that field's extractor
extracts from the result:
* a field named by a specific key: `newExtractor(key)(result)`;
* `.fullname`: the name with the parser's excluded keys removed (`newExtractorFullName(exclude)`);
* a sub-field of a `.config` group (named by a file key): the value of the result's (last) File
  entry with that key, "" when there is none;
* `.unit`: "" (`Project` leaves it empty).
Every flattened field is of one of these four kinds: it belongs to an entry of `root.Sub`, and the
entry to the closure at the same position (or to `ParseWithUnit`); entries share no row index, so
what the closure wrote is what is read (`Lay`, `Inv.spec` in Proofs/Lemmas/C08Own.lean).
For every hash function and parser state. -/
theorem get_is_extracted (h : List Bytes → UInt64) (env : Env) (p : Proj) (r : Res) (hr : Reachable h p) :
    ∀ f ∈ (p.project h env r).1.flat,
      (Part.key f.name f.idx ∈ (p.project h env r).1.parts ∧
        (p.project h env r).1.get (p.project h env r).2 f = extractD f.name r) ∨
      (Part.fullname f.idx ∈ (p.project h env r).1.parts ∧ f.name = dotFullname ∧
        (p.project h env r).1.get (p.project h env r).2 f = fullNameExcluding env.exclude r.name) ∨
      (∃ pos o, Part.config pos o ∈ (p.project h env r).1.parts ∧
        f ∈ groupSubs (p.project h env r).1.top pos ∧
        (p.project h env r).1.get (p.project h env r).2 f = fileValOf f.name r.config []) ∨
      ((p.project h env r).1.unitIdx = some f.idx ∧ f.name = dotUnit ∧
        (p.project h env r).1.get (p.project h env r).2 f = []) := by
  intro f' hf'
  have hi := reachable_inv h p hr
  have s := hi.spec env r
  obtain ⟨g, hg, hparts, hu, _, htop, hflat⟩ := project_shape h env p r hi
  rw [hflat] at hf'
  obtain ⟨f, hf, rfl⟩ := List.mem_map.mp hf'
  obtain ⟨j, hj⟩ := (mem_flat_iff _ _).mp hf
  rw [get_is_row, hg.idx f, hg.name f, hparts, hu, htop, s.val hj, ← s.ext.parts, ← s.ext.unitIdx]
  rcases s.lay.cases hj with a | ⟨a, b⟩ | ⟨o, a, b⟩ | ⟨a, b, c⟩ <;> rw [a]
  · exact Or.inl ⟨List.mem_of_getElem? a, rfl⟩
  · exact Or.inr (Or.inl ⟨List.mem_of_getElem? a, b, rfl⟩)
  · exact Or.inr (Or.inr (Or.inl ⟨j, o, List.mem_of_getElem? a,
      by rw [groupSubs_mapFields]; exact List.mem_map_of_mem b, rfl⟩))
  · exact Or.inr (Or.inr (Or.inr ⟨b, c, rfl⟩))

/-- The fields of a `.config` group after projecting a result: every File key of the result that
is not a specific key of the parser (as the closure sees it now) has its sub-field, and every
sub-field created by this call is such a key. -/
theorem config_group_fields (h : List Bytes → UInt64) (env : Env) (p : Proj) (r : Res) (hr : Reachable h p)
    (pos : Nat) (o : Order) (hp : Part.config pos o ∈ p.parts) :
    (∀ c ∈ r.config, c.2.2 = true → env.configKeys.contains c.1 = false →
      ∃ f ∈ groupSubs (p.populateRow env r).top pos, f.name = c.1) ∧
    (∀ f ∈ groupSubs (p.populateRow env r).top pos,
      f ∈ groupSubs p.top pos ∨
      (env.configKeys.contains f.name = false ∧ ∃ c ∈ r.config, c.2.2 = true ∧ c.1 = f.name)) := by
  have hi := reachable_inv h p hr
  have s := hi.spec env r
  obtain ⟨hj, hg⟩ := hi.l.config_pos hp
  rw [← flatAt_group (s.f.groups pos o (by rw [s.ext.parts]; exact hp)), ← flatAt_group hg]
  exact ⟨fun _ hc => s.covered hj hc, fun f hfm => (s.origin pos f hfm).imp id fun a => ⟨a.2.2.1, a.2.2.2.1⟩⟩

/-- **project_values_no_unit** (no `.unit` field): all keys are the key `Project` returns. -/
theorem project_values_no_unit (h : List Bytes → UInt64) (env : Env) (p : Proj) (r : Res)
    (hu : (p.populateRow env r).unitIdx = none) :
    (p.projectValues h env r).2 = r.units.map (fun _ => (p.project h env r).2) ∧
    (p.projectValues h env r).1 = (p.project h env r).1 := by
  unfold Proj.projectValues Proj.project
  simp [hu]

/-- **project_values_only_unit** (one step of the `.unit` loop): the key made for a measurement
has the measurement's unit in the `.unit` field and, in every other field, the value `Project`
would give (the populated row). -/
theorem project_values_only_unit (h : List Bytes → UInt64) (p : Proj) (ui : Nat) (u : Bytes)
    (hui : ui < p.row.length) (f : Field) :
    let q := ({ p with row := p.row.set ui u }.internRow h)
    q.1.get q.2 f = if f.idx = ui then u else getVal p.row f.idx := by
  intro q
  show getVal (q.1.vals q.2) f.idx = _
  rw [(internRow_key h { p with row := p.row.set ui u }).2, getVal_trim]
  simp only [getVal_set, hui, and_true, eq_comm]

/-- **project_values_slice**: for a projection with a `.unit` field, `ProjectValues` returns one
key per measurement, in order; the j-th key has the j-th measurement's unit in the `.unit` field
and in every other field exactly the value `Project` gives for the result (the populated row; see
`get_is_extracted`). -/
theorem project_values_slice (h : List Bytes → UInt64) (env : Env) (p : Proj) (r : Res)
    (hr : Reachable h p) (ui : Nat) (hu : p.unitIdx = some ui) :
    (p.projectValues h env r).2.length = r.units.length ∧
    ∀ j, j < r.units.length → ∀ f : Field,
      (p.projectValues h env r).2.getD j 0 < (p.projectValues h env r).1.nodes.length ∧
      (p.projectValues h env r).1.get ((p.projectValues h env r).2.getD j 0) f =
        if f.idx = ui then r.units.getD j [] else getVal (p.populateRow env r).row f.idx := by
  have hi := reachable_inv h p hr
  have s := hi.spec env r
  have hu1 : (p.populateRow env r).unitIdx = some ui := by rw [s.ext.unitIdx]; exact hu
  have hlt : ui < (p.populateRow env r).row.length := by
    rw [s.f.rowLen]
    exact Nat.lt_of_lt_of_le (hi.l.unitLt ui hu) s.ext.nFields
  unfold Proj.projectValues
  simp only [hu1]
  obtain ⟨h1, h2⟩ := projectUnits_vals h ui r.units (p.populateRow env r)
  refine ⟨h1, fun j hj f => ⟨(h2 j hj).1, ?_⟩⟩
  rw [Proj.get, (h2 j hj).2, getVal_trim]
  simp only [getVal_set, hlt, and_true, eq_comm]

/-- The keys of one result's measurements differ exactly where the units differ. -/
theorem project_values_keys_eq_iff (h : List Bytes → UInt64) (env : Env) (p : Proj) (r : Res)
    (hr : Reachable h p) (ui : Nat) (hu : p.unitIdx = some ui) (i j : Nat)
    (hi' : i < r.units.length) (hj : j < r.units.length) :
    (p.projectValues h env r).2.getD i 0 = (p.projectValues h env r).2.getD j 0 ↔
      r.units.getD i [] = r.units.getD j [] := by
  obtain ⟨_, hs⟩ := project_values_slice h env p r hr ui hu
  have hrq : Reachable h (p.projectValues h env r).1 := Reachable.projectValues p env r hr
  have hiq := reachable_inv h _ hrq
  rw [key_eq_iff h _ hrq _ _ (hs i hi' default).1 (hs j hj default).1]
  constructor
  · intro hall
    -- the `.unit` field is a flattened field
    have huq : (p.projectValues h env r).1.unitIdx = some ui := by
      rw [(projectValues_shape h env p r (reachable_inv h p hr)).2]; exact hu
    obtain ⟨f, hf, hfi⟩ := hiq.f.cover ui (hiq.l.unitLt ui huq)
    have := hall f hf
    rw [(hs i hi' f).2, (hs j hj f).2] at this
    simpa [hfi] using this
  · intro he f _
    rw [(hs i hi' f).2, (hs j hj f).2, he]

/-- **nonsingular_spec**: `NonSingularFields(keys)` consists of exactly the flattened fields on
which two of the keys differ (for two keys: the fields on which they differ). -/
theorem nonsingular_spec (p : Proj) (keys : List Nat) (f : Field) :
    f ∈ p.nonSingular keys ↔ f ∈ p.flat ∧ ∃ a ∈ keys, ∃ b ∈ keys, p.get a f ≠ p.get b f := by
  unfold Proj.nonSingular
  match keys with
  | [] => simp
  | [k] => simp
  | k0 :: k1 :: rest =>
    simp only [List.mem_filter, List.any_eq_true, bne_iff_ne, ne_eq]
    exact and_congr_right fun _ => Varying.exists_ne_head_iff (p.get · f) k0 (k1 :: rest)

/-- `NonSingularFields(keys)` lists its fields in flattened-field order, each once. -/
theorem nonsingular_order (p : Proj) (keys : List Nat) : (p.nonSingular keys).Sublist p.flat := by
  unfold Proj.nonSingular
  match keys with
  | [] => simp
  | [k] => simp
  | k0 :: k1 :: rest => exact List.filter_sublist

/-- `fullNameExcluding` is invariant under permutation of the exclusion list. -/
theorem fullExcluded_perm_invariant (ex ex' : List Bytes) (hp : ex.Perm ex') (name : Bytes) :
    fullNameExcluding ex name = fullNameExcluding ex' name :=
  fullNameExcluding_perm ex ex' hp name

/-- **exclusion_env_congruence**: projecting a result gives the same projection state (group
fields, rows, nodes, order maps) and the same key under any two parser states that have the same
SET of specific config keys and the same MULTISET of specific name keys. For every hash function. -/
theorem exclusion_env_congruence (h : List Bytes → UInt64) (e e' : Env) (he : EnvEq e e')
    (p : Proj) (r : Res) :
    p.project h e r = p.project h e' r ∧ p.projectValues h e r = p.projectValues h e' r := by
  unfold Proj.project Proj.projectValues
  rw [populateRow_congr e e' he p r]
  exact ⟨rfl, rfl⟩

example : EnvEq { configKeys := [[97], [98]], exclude := [[47, 120], [47, 121]] }
    { configKeys := [[98], [97], [98]], exclude := [[47, 121], [47, 120]] } := by
  refine ⟨fun k => ?_, List.Perm.swap _ _ _⟩
  by_cases h1 : k = [97] <;> by_cases h2 : k = [98] <;> simp [h1, h2]

/-- **rejected_parse_inert**: a `Parse` or `ParseWithUnit` call whose expression has a rejected part
(`k@fixed` without a list, a fixed order on `.config`, the key `.unit`, an empty key — wherever in
the expression) yields no projection and leaves the parser state exactly as it was: no key stays
excluded, no group counts as projected (the code after commit 91c9aa7). -/
theorem rejected_parse_inert (pa : Parser) (e : Bool × List Spec) (h : e.2.any isErr = true) :
    (parseExpr pa e).1 = pa ∧ ∃ err, (parseExpr pa e).2 = .error err := by
  obtain ⟨h1, err, h2⟩ := parse_rejected pa e.2 h
  unfold parseExpr
  cases e.1
  · exact ⟨h1, err, h2⟩
  · rw [if_pos rfl, parseWithUnit_eq, h2]
    exact ⟨h1, err, rfl⟩

/-- rejected `Parse` calls (`rejected_parse_inert`) can be dropped from any sequence of calls. -/
theorem parserAfter_drop_rejected (pa : Parser) (es : List (Bool × List Spec)) :
    parserAfter pa es = parserAfter pa (es.filter fun e => !e.2.any isErr) := by
  rw [parserAfter_eq, parserAfter_eq]
  congr 1
  induction es with
  | nil => rfl
  | cons e rest ih =>
    have hnil : e.2.any isErr = true → effSpecs e.2 = [] := fun h => by simp [effSpecs, h]
    cases he : e.2.any isErr with
    | true =>
      rw [List.flatMap_cons, hnil he, List.nil_append, ih, List.filter_cons]
      simp [he]
    | false =>
      rw [List.flatMap_cons, List.filter_cons]
      simp only [he, Bool.not_false, if_true, List.flatMap_cons]
      rw [ih]

/-- **exclusion_order_independent**: take any parser (that has not projected yet) and any two
orders `es`, `es'` of the same `Parse`/`ParseWithUnit` calls (rejected calls included: they are
inert, `rejected_parse_inert`). Then
(a) every expression yields the same projection wherever in the sequence it is parsed;
(b) `Residue` yields the same projection after either order;
(c) every projection behaves identically after either order, on every stream of `Project` /
    `ProjectValues` calls: same final state (group fields, nodes, order maps) and same keys;
(d) what is excluded is exactly the specific keys of all expressions: a key is in `configKeys`
    iff some part of an ACCEPTED expression names it as a config key (`config_group_fields`: such keys never become
    `.config` sub-fields), and `fullnameKeys` is, up to order, the list of all name keys named
    (`fullExcluded_perm_invariant`: the order does not matter for `.fullname`).
For every hash function. -/
theorem exclusion_order_independent (h : List Bytes → UInt64) (pa : Parser) (hfresh : pa.fullExt = none)
    (es es' : List (Bool × List Spec)) (hp : es.Perm es') :
    (∀ e pa₁ pa₂, (parseExpr pa₁ e).2 = (parseExpr pa₂ e).2) ∧
    ((parserAfter pa es).residue).2 = ((parserAfter pa es').residue).2 ∧
    (∀ p ops, runOps h (envOf (parserAfter pa es)) p ops = runOps h (envOf (parserAfter pa es')) p ops) ∧
    (∀ k, k ∈ (parserAfter pa es).configKeys ↔
      k ∈ pa.configKeys ∨ ∃ sp ∈ es.flatMap (fun e => effSpecs e.2), cfgKeyOf sp = some k) ∧
    (parserAfter pa es).fullnameKeys =
      pa.fullnameKeys ++ (es.flatMap fun e => effSpecs e.2).flatMap nameKeyOf := by
  obtain ⟨henv, hc, hf⟩ := parserAfter_perm pa hfresh es es' hp
  obtain ⟨o1, o2, _, _, _⟩ := parserAfter_obs pa es
  exact ⟨fun e pa₁ pa₂ => parseExpr_proj pa₁ pa₂ e, by rw [residue_proj, residue_proj, hc, hf],
    fun p ops => runOps_congr h _ _ henv ops p, o1, o2⟩

example : (parserAfter Parser.new [(false, [{ key := [97], order := .first }, { key := [47, 120], order := .alpha }]),
    (true, [{ key := [46, 99, 111, 110, 102, 105, 103], order := .first }])]).configKeys = [[97]] := by
  decide +kernel

/-- **lossless** (general form). Let `ps` be projections that are only used under one parser state
`env` (all projecting after all parsing), among them one with `.config` and one with `.fullname`
(the residue supplies whichever group no expression named). Two results get the same key in
EVERY one of them iff
* every individually projected key extracts the same value from both (name keys, file keys, and
  internal keys such as `.file` alike),
* their file configurations agree on every key that is not individually projected (as maps,
  missing = ""), and
* their names agree once the individually projected name keys are removed.
Hypotheses the proof forces: (1) one fixed `env` for all projections and all calls (`ReachableE`) —
with parsing interleaved between projections a `.config` group may hold a key that was excluded
later, and the statement fails (see `lossless_interleaved_counterexample`); (2) coverage (`hC`,
`hF`). No hypothesis on the names is needed for THIS statement, because "the value of a
sub-name key" is what the extractor returns (first `/k=` part); that this is the whole of the
information under the key needs distinct sub-name keys (`lossless_needs_distinct_subnames`). -/
theorem lossless (h : List Bytes → UInt64) (env : Env) (ps : List Proj)
    (hps : ∀ p ∈ ps, ReachableE h env p)
    (hC : ∃ p ∈ ps, ∃ pos o, Part.config pos o ∈ p.parts)
    (hF : ∃ p ∈ ps, ∃ i, Part.fullname i ∈ p.parts) (r r' : Res) :
    (∀ p ∈ ps, agree h env p r r') ↔
      (∀ p ∈ ps, ∀ k i, Part.key k i ∈ p.parts → extractD k r = extractD k r') ∧
      (∀ c, env.configKeys.contains c = false → fileValOf c r.config [] = fileValOf c r'.config []) ∧
      fullNameExcluding env.exclude r.name = fullNameExcluding env.exclude r'.name := by
  have hiff : ∀ p ∈ ps, _ := fun p hp =>
    agree_iff h env p r r' (reachable_inv h p (reachableE_reachable h env p (hps p hp)))
      (reachableE_noExcl h env p (hps p hp))
  constructor
  · intro hall
    refine ⟨fun p hp k i hk => ((hiff p hp).mp (hall p hp)).1 k i hk, ?_, ?_⟩
    · obtain ⟨p, hp, pos, o, hk⟩ := hC
      exact ((hiff p hp).mp (hall p hp)).2.2 pos o hk
    · obtain ⟨p, hp, i, hk⟩ := hF
      exact ((hiff p hp).mp (hall p hp)).2.1 i hk
  · rintro ⟨h1, h2, h3⟩ p hp
    exact (hiff p hp).mpr ⟨h1 p hp, fun _ _ => h3, fun _ _ _ c hc => h2 c hc⟩

/-- The projections of a parser in their initial state: one per accepted expression, plus the
residue taken after all of them. -/
def origins (es : List (Bool × List Spec)) : List Proj :=
  (es.filterMap fun e => match (parseExpr Parser.new e).2 with
    | .ok s => some s
    | .error _ => none) ++ [((parserAfter Parser.new es).residue).2]

theorem mem_origins {es : List (Bool × List Spec)} {o : Proj} :
    o ∈ origins es ↔
      (∃ e ∈ es, ∃ pa', parseExpr Parser.new e = (pa', .ok o)) ∨ o = ((parserAfter Parser.new es).residue).2 := by
  simp only [origins, List.mem_append, List.mem_filterMap, List.mem_singleton]
  refine or_congr_left (exists_congr fun e => and_congr_right fun _ => ?_)
  cases hh : parseExpr Parser.new e with
  | mk p1 r1 => cases r1 <;> simp

/-- **lossless** for the projections of ONE parser plus its residue: expressions `es` parsed by a
new parser (every one accepted), the residue taken afterwards, then any streams of results
projected on them (`cur o` is the present state of the projection that started as `o`). Two results
`r`, `r'` agree on all of them iff
* every specific key named in any expression extracts the same value,
* their file configurations agree outside the parser's specific config keys, and
* their names agree with the parser's specific name keys removed. -/
theorem lossless_parser (h : List Bytes → UInt64) (es : List (Bool × List Spec))
    (hok : ∀ e ∈ es, ∃ pa' s, parseExpr Parser.new e = (pa', .ok s))
    (cur : Proj → Proj)
    (hcur : ∀ o ∈ origins es, Descends h (envOf (parserAfter Parser.new es)) o (cur o)) (r r' : Res) :
    (∀ o ∈ origins es, agree h (envOf (parserAfter Parser.new es)) (cur o) r r') ↔
      (∀ e ∈ es, ∀ sp ∈ e.2, isSpecific sp = true → extractD sp.key r = extractD sp.key r') ∧
      (∀ c, c ∉ (parserAfter Parser.new es).configKeys →
        fileValOf c r.config [] = fileValOf c r'.config []) ∧
      fullNameExcluding (parserAfter Parser.new es).fullnameKeys r.name =
        fullNameExcluding (parserAfter Parser.new es).fullnameKeys r'.name := by
  obtain ⟨_, _, _, _, o5⟩ := parserAfter_obs Parser.new es
  have hexcl : (envOf (parserAfter Parser.new es)).exclude = (parserAfter Parser.new es).fullnameKeys := by
    show (parserAfter Parser.new es).fullExt.getD _ = _
    rw [o5]; rfl
  -- origins are reachable, their descendants keep the closures
  have hdesc : ∀ o ∈ origins es, (cur o).parts = o.parts ∧
      ReachableE h (envOf (parserAfter Parser.new es)) (cur o) := by
    intro o ho
    refine descends_parts h _ o (cur o) (hcur o ho) ?_
    rcases mem_origins.mp ho with ⟨e, _, pa', hh⟩ | rfl
    · unfold parseExpr at hh
      cases hb : e.1 with
      | false => rw [hb] at hh; exact ReachableE.parsed _ _ _ _ hh
      | true => rw [hb] at hh; exact ReachableE.parsedWithUnit _ _ _ _ hh
    · exact ReachableE.residue _
  obtain ⟨⟨oc, hoc, hC⟩, ⟨of, hof, hF⟩, hK⟩ := parser_closures es hok (origins es) fun _ => mem_origins
  have L := lossless h _ ((origins es).map cur)
    (fun p hp => by obtain ⟨o, ho, rfl⟩ := List.mem_map.mp hp; exact (hdesc o ho).2)
    ⟨cur oc, List.mem_map_of_mem hoc, by rw [(hdesc oc hoc).1]; exact hC⟩
    ⟨cur of, List.mem_map_of_mem hof, by rw [(hdesc of hof).1]; exact hF⟩ r r'
  rw [hexcl] at L
  simp only [List.forall_mem_map] at L
  rw [L]
  refine and_congr ⟨fun h1 e he sp hsp hspec => ?_, fun h1 o ho k i hk => ?_⟩
    (and_congr_left' ⟨fun h2 c hc => h2 c (by simpa [envOf] using hc), fun h2 c hc => h2 c (by simpa [envOf] using hc)⟩)
  · obtain ⟨o, ho, i, hk⟩ := (hK sp.key).mpr ⟨e, he, sp, hsp, hspec, rfl⟩
    exact h1 o ho sp.key i (by rw [(hdesc o ho).1]; exact hk)
  · rw [(hdesc o ho).1] at hk
    obtain ⟨e, he, sp, hsp, hspec, rfl⟩ := (hK k).mp ⟨o, ho, i, hk⟩
    exact h1 e he sp hsp hspec

/-- **lossless**, property-text form: if moreover no individually projected config key occurs as
an INTERNAL (non-file) entry in either result — then "every individually projected config key
extracts the same value" + "file configurations agree elsewhere" is simply "same file
configuration". (With an internal key such as `.file` projected individually the general form
`lossless` is the precise statement.) -/
theorem lossless_file_config (h : List Bytes → UInt64) (env : Env) (ps : List Proj)
    (hps : ∀ p ∈ ps, ReachableE h env p)
    (hC : ∃ p ∈ ps, ∃ pos o, Part.config pos o ∈ p.parts)
    (hF : ∃ p ∈ ps, ∃ i, Part.fullname i ∈ p.parts) (r r' : Res)
    (hkeys : ∀ c, env.configKeys.contains c = true → ∃ p ∈ ps, ∃ i, Part.key c i ∈ p.parts)
    (hfile : ∀ c, env.configKeys.contains c = true →
      extractD c r = fileValOf c r.config [] ∧ extractD c r' = fileValOf c r'.config []) :
    (∀ p ∈ ps, agree h env p r r') ↔
      (∀ p ∈ ps, ∀ k i, Part.key k i ∈ p.parts → extractD k r = extractD k r') ∧
      (∀ c, fileValOf c r.config [] = fileValOf c r'.config []) ∧
      fullNameExcluding env.exclude r.name = fullNameExcluding env.exclude r'.name := by
  rw [lossless h env ps hps hC hF r r']
  constructor
  · rintro ⟨h1, h2, h3⟩
    refine ⟨h1, fun c => ?_, h3⟩
    cases hc : env.configKeys.contains c with
    | false => exact h2 c hc
    | true =>
      obtain ⟨p, hp, i, hk⟩ := hkeys c hc
      rw [← (hfile c hc).1, ← (hfile c hc).2]
      exact h1 p hp c i hk
  · rintro ⟨h1, h2, h3⟩
    exact ⟨h1, fun c _ => h2 c, h3⟩

/-- Excluded shape 1 (the property's side condition): with a repeated sub-name key the extractor
sees only the first occurrence and the remaining name drops all of them, so two names that differ
only in a later occurrence agree on `/a` and on the residue: "same value for the key" is then
not all the information under the key. `B/a=1/a=2` vs `B/a=1/a=3`. -/
theorem lossless_needs_distinct_subnames :
    let n₁ : Bytes := [66, 47, 97, 61, 49, 47, 97, 61, 50]
    let n₂ : Bytes := [66, 47, 97, 61, 49, 47, 97, 61, 51]
    let k : Bytes := [47, 97]
    extractD k { name := n₁, config := [], units := [] } = extractD k { name := n₂, config := [], units := [] } ∧
    fullNameExcluding [k] n₁ = fullNameExcluding [k] n₂ ∧ n₁ ≠ n₂ := by
  decide +kernel

/-- The scenario of excluded shape 2: `Parse(".config")`, project a result with file key `a`,
THEN `Parse("a")` and `Residue`. -/
def interleavedWitness : Bool :=
  let hsh : List Bytes → UInt64 := fun _ => 0
  let cfg : Bytes := [46, 99, 111, 110, 102, 105, 103]
  let r : Res := { name := [88], config := [([97], [49], true)], units := [] }
  let r' : Res := { name := [88], config := [([97], [49], false)], units := [] }
  let s1 := Parser.new.parse [{ key := cfg, order := .first }]
  match s1.2 with
  | .error _ => false
  | .ok p1 =>
    let p1a := (p1.project hsh (envOf s1.1) r).1
    let s2 := s1.1.parse [{ key := [97], order := .first }]
    let env := envOf (s2.1.residue).1
    -- the right-hand side of `lossless` holds …
    (extractD [97] r == extractD [97] r') && (env.configKeys == [[97]]) &&
      (fullNameExcluding env.exclude r.name == fullNameExcluding env.exclude r'.name) &&
      -- … but the two results get different keys from the first projection
      ((p1a.project hsh env r).2 != ((p1a.project hsh env r).1.project hsh env r').2)

/-- Excluded shape 2: when parsing is interleaved with projecting, a `.config` group may hold a key
that is excluded later; then the right-hand side of `lossless` can hold (file key `a` vs internal
key `a` with the same value) while the keys differ. `ReachableE` (one parser state for all
projecting) rules this out. -/
theorem lossless_interleaved_counterexample : interleavedWitness = true := by decide +kernel

/-- **lossless** in specification terms (one parser, its accepted expressions, the residue, any
streams): two results agree on all keys iff they have the same specified value for every specific
key named, the same file configuration outside the specific config keys, and the same remaining
name (`Spec.Name.fullNameExcluding`: base replaced by `*` if `.name` is individually projected, every
part `/k=…` of an individually projected `/k` deleted, the `-N` part deleted with `/gomaxprocs`). -/
theorem lossless_spec (h : List Bytes → UInt64) (es : List (Bool × List Spec))
    (hok : ∀ e ∈ es, ∃ pa' s, parseExpr Parser.new e = (pa', .ok s))
    (cur : Proj → Proj)
    (hcur : ∀ o ∈ origins es, Descends h (envOf (parserAfter Parser.new es)) o (cur o)) (r r' : Res) :
    (∀ o ∈ origins es, agree h (envOf (parserAfter Parser.new es)) (cur o) r r') ↔
      (∀ e ∈ es, ∀ sp ∈ e.2, isSpecific sp = true → specKeyVal sp.key r = specKeyVal sp.key r') ∧
      (∀ c, c ∉ (parserAfter Parser.new es).configKeys →
        fileValOf c r.config [] = fileValOf c r'.config []) ∧
      Spec.Name.fullNameExcluding (parserAfter Parser.new es).fullnameKeys
          (Spec.Name.decomp r.name).1 (Spec.Name.decomp r.name).2 =
        Spec.Name.fullNameExcluding (parserAfter Parser.new es).fullnameKeys
          (Spec.Name.decomp r'.name).1 (Spec.Name.decomp r'.name).2 := by
  rw [lossless_parser h es hok cur hcur r r', C05.fullname_excluding_spec, C05.fullname_excluding_spec,
    C05.parts_eq_spec, C05.parts_eq_spec]
  constructor
  · rintro ⟨h1, h2, h3⟩
    exact ⟨fun e he sp hsp hs => by rw [← extractD_spec sp r hs, ← extractD_spec sp r' hs]; exact h1 e he sp hsp hs,
      h2, h3⟩
  · rintro ⟨h1, h2, h3⟩
    exact ⟨fun e he sp hsp hs => by rw [extractD_spec sp r hs, extractD_spec sp r' hs]; exact h1 e he sp hsp hs,
      h2, h3⟩

end C08
