/-
C03 — the witness that the hypothesis of `parseFloat_correct` on the exponent literal cannot be dropped
(finding N3E). A module of its own: the kernel evaluations of the 2511-byte text are the dearest item of
the property and depend on the assembly of the paths only (Proofs/Lemmas/C03Total.lean), not on the
mirrored slow path; Proofs/C03.lean imports it.
-/
import Proofs.Lemmas.C03Total

namespace C03
open Num Spec.NumText

/-- the 2 511-byte text `0x0.` + 2499 zeros + `1p100000` (value 16^-2500·2^100000 = 2^90000) -/
def clampWitness : Bytes := Bytes.ofString "0x0." ++ List.replicate 2499 48 ++ Bytes.ofString "1p100000"

theorem clampWitness_recognise : recognise clampWitness = some ⟨false, true, 1, 90000⟩ := by decide +kernel
theorem clampWitness_gap : expGapS clampWitness = -90000 := by decide +kernel
theorem clampWitness_special : specialSpec clampWitness = none := by decide +kernel

/-- **clamp_witness** — the hypothesis of `parseFloat_correct` cannot be dropped: on `clampWitness`
the specification says range error, while the model of `ParseFloat` — like the real code and like
strconv, see notes/C03.md — returns 1.0: the exponent literal is clamped to 10000 and 4·2500 hex
places compensate exactly that. The text is outside N3, its exponent literal is 100000, and it has
2500 > 2244 digits after the point. The kernel evaluates specification-side functions of the text
only (`recognise`, `expGapS`, `specialSpec` above, `expLit`, `mantLens`); the value of the model comes
through `parseFloat_eq_clamped` (the statement of `parseFloat_clamped_correct`): evaluating `readFloat`'s state over the 2511 bytes costs the
kernel more than all of these together. -/
theorem clamp_witness :
    parseFloatSpec clampWitness = .error .range ∧
    (parseFloat clampWitness).toExcept = .ok 0x3FF0000000000000 ∧
    inClassN3 clampWitness = false ∧ expLit clampWitness = 100000 ∧ mantLens clampWitness = (0, 2500) := by
  have hN3 : inClassN3 clampWitness = false := by
    unfold inClassN3; rw [clampWitness_recognise]; rfl
  refine ⟨?_, ?_, hN3, by decide +kernel, by decide +kernel⟩
  · unfold parseFloatSpec
    rw [clampWitness_special, clampWitness_recognise]
    decide +kernel
  · rw [parseFloat_eq_clamped _ hN3]
    unfold parseFloatSpecG
    rw [clampWitness_special, clampWitness_recognise, clampWitness_gap]
    decide +kernel

end C03
