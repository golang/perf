/-
C07 helper lemmas about the tokenizer model (Model/Proc/Tok.lean).
-/
import Proofs.Lemmas.C07Rune

namespace C07
open Proc.Tok

/-- A quoted-word body made of items: a byte other than `"` and `\`, or `\` followed by any byte. -/
inductive Items : Bytes → Prop
  | nil : Items []
  | plain {c : UInt8} {r : Bytes} : c ≠ cQuote → c ≠ cBsl → Items r → Items (c :: r)
  | esc {d : UInt8} {r : Bytes} : Items r → Items (cBsl :: d :: r)

theorem scanQuote_quote (r : Bytes) : scanQuote (cQuote :: r) = some ([], r) := by
  unfold scanQuote; simp

theorem scanQuote_plain {c : UInt8} (hq : c ≠ cQuote) (hb : c ≠ cBsl) (r : Bytes) :
    scanQuote (c :: r) = (scanQuote r).map (fun p => (c :: p.1, p.2)) := by
  rw [scanQuote.eq_def]; simp [hq, hb]
  cases scanQuote r with
  | none => rfl
  | some p => rfl

theorem scanQuote_esc (d : UInt8) (r : Bytes) :
    scanQuote (cBsl :: d :: r) = (scanQuote r).map (fun p => (cBsl :: d :: p.1, p.2)) := by
  have h1 : (cBsl == cQuote) = false := by decide
  rw [scanQuote.eq_def]; simp [h1]
  cases scanQuote r with
  | none => rfl
  | some p => rfl

theorem scanQuote_items {body : Bytes} (h : Items body) (rest : Bytes) :
    scanQuote (body ++ cQuote :: rest) = some (body, rest) := by
  induction h with
  | nil => simpa using scanQuote_quote rest
  | plain hq hb _ ih => simp [scanQuote_plain hq hb, ih]
  | esc _ ih => simp [scanQuote_esc, ih]

theorem isSpaceLen_eq_zero (cx : Ctx) (c : UInt8) (t : Bytes) :
    isSpaceLen cx (c :: t) = 0 ↔ isSpaceRune cx (decodeRune (c :: t)).1 = false := by
  have hsz := (decodeRune_size c t).1
  simp only [isSpaceLen]
  split
  · rename_i h20
    obtain rfl : c = 0x20 := by simpa using h20
    simp [decodeRune, isSpaceRune]
  · cases isSpaceRune cx (decodeRune (c :: t)).1
    · simp
    · simp; omega

theorem next_word (cx : Ctx) (m : Bool) (c : UInt8) (r : Bytes) (e : ErrSt)
    (hop : isStartOpB c = false) (hsp : isSpaceLen cx (c :: r) = 0) :
    next cx m (c :: r) e = if (m && c == cSlash) = true then regexpTok cx (c :: r) e
      else if (c == cQuote) = true then quotedWord cx (c :: r) e else bareWord cx (c :: r) e := by
  simp only [next, List.length_cons, nextF, hop, hsp, Bool.false_eq_true, if_false, Nat.lt_irrefl]

theorem isSpaceLen_ascii (cx : Ctx) {c : UInt8} (r : Bytes) (hc : c < 0x80) (hs : isSpaceRune cx c.toNat = false) :
    isSpaceLen cx (c :: r) = 0 :=
  (isSpaceLen_eq_zero cx c r).mpr (by rw [decodeRune_lo c r hc]; exact hs)

theorem next_quote (cx : Ctx) (m : Bool) (r : Bytes) (e : ErrSt) :
    next cx m (cQuote :: r) e =
      match scanQuote r with
      | none => tokError cx (cQuote :: r) .missingEndQuote e
      | some (body, rest) =>
        match unquote (cQuote :: (body ++ [cQuote])) with
        | none => tokError cx (cQuote :: r) .badEscape e
        | some w => mkTok cx (cQuote :: r) kQ w rest e := by
  rw [next_word cx m cQuote r e (by decide) (isSpaceLen_ascii cx r (by decide) rfl)]
  cases m <;> rfl

theorem next_regexp (cx : Ctx) (r : Bytes) (e : ErrSt) :
    next cx true (cSlash :: r) e =
      match reScan r 0 0 with
      | none => tokError cx (cSlash :: r) .missingCloseSlash e
      | some (x, rest) =>
        if !cx.compileOK x then tokError cx (cSlash :: r) .reCompile e
        else if followOK cx (rest.drop 1) then mkTok cx (cSlash :: r) kR x (rest.drop 1) e
        else tokError cx (rest.drop 1) .reFollow e := by
  rw [next_word cx true cSlash r e (by decide) (isSpaceLen_ascii cx r (by decide) rfl)]
  rfl

theorem next_items (cx : Ctx) (m : Bool) {body : Bytes} (h : Items body) (rest : Bytes) (e : ErrSt) :
    next cx m (cQuote :: (body ++ cQuote :: rest)) e =
      match unquote (cQuote :: (body ++ [cQuote])) with
      | some w => mkTok cx (cQuote :: (body ++ cQuote :: rest)) kQ w rest e
      | none => tokError cx (cQuote :: (body ++ cQuote :: rest)) .badEscape e := by
  rw [next_quote, scanQuote_items h rest]
  dsimp only
  cases unquote (cQuote :: (body ++ [cQuote])) <;> rfl

theorem next_literal (cx : Ctx) (m : Bool) {body s : Bytes} (h : Items body)
    (hu : unquote (cQuote :: (body ++ [cQuote])) = some s) (rest : Bytes) (e : ErrSt) :
    next cx m (cQuote :: (body ++ [cQuote]) ++ rest) e = mkTok cx (cQuote :: (body ++ [cQuote]) ++ rest) kQ s rest e := by
  have hshape : cQuote :: (body ++ [cQuote]) ++ rest = cQuote :: (body ++ cQuote :: rest) := by simp
  rw [hshape, next_items cx m h rest e, hu]

theorem next_nil (cx : Ctx) (m : Bool) (e : ErrSt) : next cx m [] e = mkTok cx [] 0 [] [] e := by
  simp [next, nextF]

theorem next_op (cx : Ctx) (m : Bool) (c : UInt8) (r : Bytes) (e : ErrSt) (h : isStartOpB c = true) :
    next cx m (c :: r) e = mkTok cx (c :: r) c [c] r e := by
  simp only [next, List.length_cons]
  rw [nextF]
  simp [h]

theorem scanQuote_len {r b rest : Bytes} (h : scanQuote r = some (b, rest)) :
    r.length = b.length + 1 + rest.length := by
  fun_induction scanQuote r generalizing b rest with
  | case2 => cases h; simp only [List.length_cons, List.length_nil]; omega
  | case4 | case6 =>
    rename_i hs ih
    cases h
    have := ih hs
    simp only [List.length_cons]; omega
  | _ => cases h

theorem reScan_len {r : Bytes} {cs : Nat} {cp : Int} {x rest : Bytes} (h : reScan r cs cp = some (x, rest)) :
    x.length + rest.length = r.length ∧ 1 ≤ rest.length := by
  fun_induction reScan r cs cp generalizing x rest with
  | case2 => cases h; simp
  | case4 | case6 =>
    rename_i hs ih
    cases h
    have := ih hs
    simp only [List.length_cons]; omega
  | _ => cases h

theorem bareSplit_append (cx : Ctx) : ∀ (f : Nat) (q : Bytes),
    (bareSplit cx f q).1 ++ (bareSplit cx f q).2 = q := by
  intro f
  induction f with
  | zero => intro q; simp [bareSplit]
  | succ f ih =>
    intro q
    match q with
    | [] => simp [bareSplit]
    | c :: t =>
      simp only [bareSplit]
      split
      · simp
      · have := ih ((c :: t).drop (decodeRune (c :: t)).2)
        simp only [List.append_assoc, this, List.take_append_drop]

/-- how the error tracker may change while working inside `q`: unchanged, or set for the first
time to an error positioned at a tokenizer state no longer than `q` -/
def ErrOK (cx : Ctx) (q : Bytes) (e e' : ErrSt) : Prop :=
  e' = e ∨ (e = none ∧ ∃ q' m, e' = some ⟨offOf cx q', m⟩ ∧ q'.length ≤ q.length)

theorem ErrOK.refl (cx : Ctx) (q : Bytes) (e : ErrSt) : ErrOK cx q e e := Or.inl rfl

theorem ErrOK.mono {cx : Ctx} {q q1 : Bytes} {e e' : ErrSt} (h : ErrOK cx q1 e e') (hl : q1.length ≤ q.length) :
    ErrOK cx q e e' := by
  rcases h with h | ⟨h1, q', m, h2, h3⟩
  · exact Or.inl h
  · exact Or.inr ⟨h1, q', m, h2, by omega⟩

theorem ErrOK.trans {cx : Ctx} {q : Bytes} {e e1 e2 : ErrSt} (h1 : ErrOK cx q e e1) (h2 : ErrOK cx q e1 e2) :
    ErrOK cx q e e2 := by
  rcases h1 with h1 | ⟨h1, q', m, h1', h1''⟩
  · subst h1; exact h2
  · rcases h2 with h2 | ⟨h2, _⟩
    · subst h2; exact Or.inr ⟨h1, q', m, h1', h1''⟩
    · rw [h1'] at h2; simp at h2

theorem ErrOK.some {cx : Ctx} {q : Bytes} {x : Err} {e' : ErrSt} (h : ErrOK cx q (some x) e') : e' = some x := by
  rcases h with h | ⟨h, _⟩
  · exact h
  · simp at h

theorem recErr_ok (cx : Ctx) {q q' : Bytes} (m : Msg) (e : ErrSt) (h : q'.length ≤ q.length) :
    ErrOK cx q e (recErr cx q' m e) := by
  cases e with
  | none => exact Or.inr ⟨rfl, q', m, rfl, h⟩
  | some x => exact Or.inl rfl

theorem recErr_isSome (cx : Ctx) (q : Bytes) (m : Msg) (e : ErrSt) : (recErr cx q m e).isSome := by
  cases e <;> simp [recErr]

theorem recErr_some (cx : Ctx) (q : Bytes) (m : Msg) (x : Err) : recErr cx q m (some x) = some x := rfl

/-- a word tokenizer called at `q` answers, whatever the tracker holds, with one token at `q` or with one error -/
def WordR (cx : Ctx) (q : Bytes) (F : ErrSt → TokR) : Prop :=
  (∃ k w rest, rest.length < q.length ∧ ∀ e, F e = mkTok cx q k w rest e) ∨
  (∃ q' m, q'.length ≤ q.length ∧ ∀ e, F e = tokError cx q' m e)

theorem quotedWord_word (cx : Ctx) (c : UInt8) (r : Bytes) : WordR cx (c :: r) (quotedWord cx (c :: r)) := by
  unfold quotedWord
  simp only [List.drop_succ_cons, List.drop_zero]
  cases hs : scanQuote r with
  | none => exact Or.inr ⟨_, _, Nat.le_refl _, fun _ => rfl⟩
  | some p =>
    obtain ⟨body, rest⟩ := p
    have hl := scanQuote_len hs
    simp only
    split
    · exact Or.inr ⟨_, _, Nat.le_refl _, fun _ => rfl⟩
    · exact Or.inl ⟨_, _, _, by simp; omega, fun _ => rfl⟩

theorem regexpTok_word (cx : Ctx) (c : UInt8) (r : Bytes) : WordR cx (c :: r) (regexpTok cx (c :: r)) := by
  unfold regexpTok
  simp only [List.drop_succ_cons, List.drop_zero]
  cases hs : reScan r 0 0 with
  | none => exact Or.inr ⟨_, _, Nat.le_refl _, fun _ => rfl⟩
  | some p =>
    obtain ⟨x, rest⟩ := p
    have hl := reScan_len hs
    simp only
    split
    · exact Or.inr ⟨_, _, Nat.le_refl _, fun _ => rfl⟩
    · split
      · exact Or.inl ⟨_, _, _, by simp; omega, fun _ => rfl⟩
      · exact Or.inr ⟨_, _, by rw [List.length_drop, List.length_cons]; omega, fun _ => rfl⟩

theorem bareWord_word (cx : Ctx) (c : UInt8) (t : Bytes)
    (h1 : isStartOpB c = false) (h2 : isSpaceLen cx (c :: t) = 0) : WordR cx (c :: t) (bareWord cx (c :: t)) := by
  have hsz := decodeRune_size c t
  have hstop : (isSpaceRune cx (decodeRune (c :: t)).1 || isOpR (decodeRune (c :: t)).1) = false := by
    have hs := (isSpaceLen_eq_zero cx c t).mp h2
    have ho : isOpR (decodeRune (c :: t)).1 = false := by
      by_cases hc : c < 0x80
      · rw [decodeRune_lo c t hc]
        simp only [isStartOpB, isStartOpR, Bool.or_eq_false_iff] at h1
        exact h1.1.1
      · have := decodeRune_hi c t hc
        simp only [isOpR, Bool.or_eq_false_iff, beq_eq_false_iff_ne]
        omega
    simp [hs, ho]
  have happ := bareSplit_append cx ((c :: t).length + 1) (c :: t)
  have hne : (bareSplit cx ((c :: t).length + 1) (c :: t)).1 ≠ [] := by
    simp only [bareSplit, hstop]
    simp
    intro h; simp at hsz; omega
  have hlen : (bareSplit cx ((c :: t).length + 1) (c :: t)).2.length < (c :: t).length := by
    have h3 := congrArg List.length happ
    rw [List.length_append] at h3
    have : 0 < (bareSplit cx ((c :: t).length + 1) (c :: t)).1.length := List.length_pos_iff.mpr hne
    omega
  unfold bareWord
  split
  rename_i word rest heq
  rw [heq] at hlen
  simp only at hlen
  split
  · exact Or.inl ⟨_, _, _, hlen, fun _ => rfl⟩
  · split
    · exact Or.inl ⟨_, _, _, hlen, fun _ => rfl⟩
    · exact Or.inl ⟨_, _, _, hlen, fun _ => rfl⟩

theorem word_word (cx : Ctx) (m : Bool) (c : UInt8) (r : Bytes)
    (h1 : isStartOpB c = false) (h2 : isSpaceLen cx (c :: r) = 0) :
    WordR cx (c :: r) (fun e => if (m && c == cSlash) = true then regexpTok cx (c :: r) e
      else if (c == cQuote) = true then quotedWord cx (c :: r) e else bareWord cx (c :: r) e) := by
  split
  · exact regexpTok_word cx c r
  · split
    · exact quotedWord_word cx c r
    · exact bareWord_word cx c r h1 h2

theorem drop_isSpaceLen_lt {cx : Ctx} {c : UInt8} {r : Bytes} (h : 0 < isSpaceLen cx (c :: r)) :
    ((c :: r).drop (isSpaceLen cx (c :: r))).length < (c :: r).length := by
  rw [List.length_drop]; exact Nat.sub_lt (Nat.succ_pos _) h

theorem nextF_fuel2 (cx : Ctx) (m : Bool) : ∀ (f1 f2 : Nat) (q : Bytes) (e : ErrSt), q.length < f1 → q.length < f2 →
    nextF cx m f1 q e = nextF cx m f2 q e := by
  intro f1
  induction f1 with
  | zero => intro f2 q e h; omega
  | succ f1 ih =>
    intro f2 q e h1 h2
    match f2, h2 with
    | f2 + 1, h2 =>
    match q with
    | [] => simp [nextF]
    | c :: r =>
      -- the two sides differ in the call after skipped white space only
      simp only [nextF]
      by_cases hsp : isSpaceLen cx (c :: r) > 0
      · have hlen := drop_isSpaceLen_lt hsp
        rw [ih f2 _ e (Nat.lt_of_lt_of_le hlen (Nat.le_of_lt_succ h1)) (Nat.lt_of_lt_of_le hlen (Nat.le_of_lt_succ h2))]
      · rw [if_neg hsp, if_neg hsp]

theorem nextF_fuel (cx : Ctx) (m : Bool) (f : Nat) (q : Bytes) (e : ErrSt) (h : q.length < f) :
    nextF cx m f q e = next cx m q e :=
  nextF_fuel2 cx m f (q.length + 1) q e h (Nat.lt_succ_self _)

theorem next_skip (cx : Ctx) (m : Bool) (c : UInt8) (r : Bytes) (e : ErrSt) (hop : isStartOpB c = false)
    (hsp : 0 < isSpaceLen cx (c :: r)) :
    next cx m (c :: r) e = next cx m ((c :: r).drop (isSpaceLen cx (c :: r))) e := by
  rw [← nextF_fuel cx m _ _ e (drop_isSpaceLen_lt hsp)]
  simp only [next, nextF, List.length_cons, hop, if_pos hsp, Bool.false_eq_true, if_false]

theorem next_space (cx : Ctx) (m : Bool) (q : Bytes) (e : ErrSt) :
    next cx m (0x20 :: q) e = next cx m q e := by
  rw [next_skip cx m 0x20 q e (by decide) (by simp [isSpaceLen])]
  simp [isSpaceLen]

end C07
