/-
C03 — truncating runs of the decimal slow path: following the TRUE value through buffer-limited shifts.
Each truncating shift floors the decimal on the grid 10^(dp' − 800), so it drifts below the true value, by
several units of the 800th digit after several shifts. What is preserved exactly is the ORDER against every
point that is itself on all those grids: the dyadic points I·2^q with I ≤ 2^55 and q not below −1075 (in the
frame of the input), which include every float64, every midpoint between neighbours, and the powers of two the
scaling loops compare with. Next to a decimal of comparable size such a point has at most ~770 significant
digits, so the buffer never cuts it.
-/
import Proofs.Lemmas.C03Shift

namespace C03
open Num Spec.NumText F64

/-- the dyadic points whose order against the true value is followed, in the frame reached after
a total shift by `K` bits -/
def Bnd (K : Int) (z : ℚ) : Prop :=
  ∃ (I : ℕ) (q : Int), z = (I : ℚ) * (2 : ℚ) ^ q ∧ ((I ≤ 2 ^ 55 ∧ K - 1075 ≤ q) ∨ (I = 1 ∧ K - 1140 ≤ q))

theorem bnd_shift (K k : Int) (z : ℚ) (h : Bnd (K + k) z) : Bnd K (z / (2 : ℚ) ^ k) := by
  obtain ⟨I, q, hz, hc⟩ := h
  refine ⟨I, q - k, ?_, ?_⟩
  · rw [hz, zpow_sub₀ (by norm_num : (2 : ℚ) ≠ 0), mul_div_assoc]
  · rcases hc with ⟨h1, h2⟩ | ⟨h1, h2⟩
    · exact Or.inl ⟨h1, by omega⟩
    · exact Or.inr ⟨h1, by omega⟩

theorem bnd_pow2 (K q : Int) (h : K - 1140 ≤ q) : Bnd K ((2 : ℚ) ^ q) :=
  ⟨1, q, by simp, Or.inr ⟨rfl, h⟩⟩

theorem bnd_one (K : Int) (h : K ≤ 1140) : Bnd K 1 :=
  ⟨1, 0, by simp, Or.inr ⟨rfl, by omega⟩⟩

theorem bnd_half (K : Int) (I : Nat) (hI : I ≤ 2 ^ 55) (hK : K ≤ 1074) : Bnd K ((I : ℚ) / 2) :=
  ⟨I, -1, by rw [zpow_neg, zpow_one, div_eq_mul_inv], Or.inl ⟨hI, by omega⟩⟩

theorem grid_numbers : 2 ^ 55 * 5 ^ 1119 < 10 ^ 800 ∧ 5 ^ 1140 < 10 ^ 800 := by decide +kernel

theorem ten_pow (m : ℕ) : (10 : ℚ) ^ m = (2 : ℚ) ^ m * (5 : ℚ) ^ m := by rw [← mul_pow]; norm_num

theorem grid_of (I t m : ℕ) (dp : ℤ) (h : dp + m ≤ 800) :
    ∃ j : ℤ, (I : ℚ) * ((2 : ℚ) ^ t / (2 : ℚ) ^ m) = (j : ℚ) * (10 : ℚ) ^ (dp - 800) := by
  refine ⟨(I : ℤ) * 2 ^ t * 5 ^ m * 10 ^ (800 - dp - m).toNat, ?_⟩
  have e2 : (10 : ℚ) ^ (dp - 800) = 1 / ((10 : ℚ) ^ (800 - dp - m).toNat * (10 : ℚ) ^ m) := by
    conv => lhs; rw [show dp - 800 = -(((800 - dp - m).toNat + m : Nat) : Int) by omega]
    rw [zpow_neg, zpow_natCast, one_div, pow_add]
  rw [e2, ten_pow m]
  push_cast
  field_simp

/-- a followed point just above a decimal lies on the decimal's 800-digit grid -/
theorem bnd_grid (a : Dc) (hnz : NZ a) (K : Int) (z : ℚ) (hb : Bnd K z) (hlt : dval a < z)
    (hdp : a.dp ≤ 800) (hmag : 0 ≤ K ∨ 1 / (2 : ℚ) ^ 1065 ≤ dval a) :
    ∃ j : ℤ, z = (j : ℚ) * (10 : ℚ) ^ (a.dp - 800) := by
  obtain ⟨I, q, hz, hc⟩ := hb
  have lo := (dval_bounds a hnz).1
  -- z = I · 2^t / 2^m, one of t, m being 0; what has to be shown is that the point of `a` and the
  -- `m` binary places of `z` fit the buffer together
  obtain ⟨m, hm⟩ : ∃ m : Nat, m = (-q).toNat := ⟨_, rfl⟩
  have e : z = (I : ℚ) * ((2 : ℚ) ^ q.toNat / (2 : ℚ) ^ m) := by
    rw [hz, ← zpow_natCast, ← zpow_natCast, ← zpow_sub₀ (by norm_num : (2 : ℚ) ≠ 0)]; congr 2; omega
  rw [e]
  apply grid_of
  by_cases hq : 0 ≤ q
  · omega
  have hqm : q = -(m : Int) := by omega
  have ez : z = (I : ℚ) / (2 : ℚ) ^ m := by
    rw [hz, hqm, zpow_neg, zpow_natCast, div_eq_mul_inv]
  have two_ne : (2 : ℚ) ≠ 0 := by norm_num
  -- had the buffer no room, z = I·5^m / 10^m < 10^800 / 10^m ≤ 10^(dp-1) would lie below `a`
  have key : ∀ (Imax M : Nat), I ≤ Imax → m ≤ M → Imax * 5 ^ M < 10 ^ 800 → a.dp + m ≤ 800 := by
    intro Imax M hI hmM hnum
    apply Classical.byContradiction
    intro hbig
    have h5 : ((I * 5 ^ m : ℕ) : ℚ) < ((10 ^ 800 : ℕ) : ℚ) := by
      exact_mod_cast lt_of_le_of_lt (Nat.mul_le_mul hI (Nat.pow_le_pow_right (by decide) hmM)) hnum
    have hz' : z = ((I * 5 ^ m : ℕ) : ℚ) / (10 : ℚ) ^ m := by
      rw [ez, ten_pow m]; push_cast; field_simp
    have h1 : ((10 ^ 800 : ℕ) : ℚ) / (10 : ℚ) ^ m ≤ (10 : ℚ) ^ (a.dp - 1) := by
      rw [Nat.cast_pow, Nat.cast_ofNat, ← zpow_natCast, ← zpow_natCast, ← zpow_sub₀ (by norm_num : (10 : ℚ) ≠ 0)]
      exact zpow_le_zpow_right₀ (by norm_num) (by push_cast; omega)
    have h2 : z < ((10 ^ 800 : ℕ) : ℚ) / (10 : ℚ) ^ m := by
      rw [hz']; exact div_lt_div_of_pos_right h5 (by positivity)
    linarith
  -- a point above 2^-1065 with numerator below 2^e has fewer than 1065 + e binary places
  have mbound : ∀ e : Nat, I ≤ 2 ^ e → 1 / (2 : ℚ) ^ 1065 ≤ dval a → m < 1065 + e := fun e hI hx => by
    have hIq : (I : ℚ) ≤ (2 : ℚ) ^ (e : ℤ) := by rw [zpow_natCast]; exact_mod_cast hI
    have h2 : (2 : ℚ) ^ (-((1065 : ℕ) : ℤ)) < (2 : ℚ) ^ ((e : ℤ) + q) := by
      rw [two_zpow_nat, zpow_add₀ two_ne]
      exact lt_of_le_of_lt hx (lt_of_lt_of_le hlt (hz ▸ mul_le_mul_of_nonneg_right hIq (zpow_pos (by norm_num) q).le))
    have := (zpow_lt_zpow_iff_right₀ (by norm_num : (1 : ℚ) < 2)).mp h2
    push_cast at this
    omega
  rcases hc with ⟨hI, hq1⟩ | ⟨hI, hq1⟩
  · have hm1119 : m ≤ 1119 := by
      rcases hmag with h | h
      · omega
      · have := mbound 55 hI h; omega
    exact key (2 ^ 55) 1119 hI hm1119 grid_numbers.1
  · have hm1140 : m ≤ 1140 := by
      rcases hmag with h | h
      · omega
      · have := mbound 0 (by omega) h; omega
    exact key 1 1140 (by omega) hm1140 (by rw [Nat.one_mul]; exact grid_numbers.2)

/-- the decimal `a` follows the true value `V` (frame `K`): it never exceeds it, equals it exactly
as long as nothing was truncated, is strictly below once something was, and no followed point
separates the two -/
structure Follows (a : Dc) (V : ℚ) (K : Int) : Prop where
  le : dval a ≤ V
  exact : a.trunc = false → dval a = V
  strict : a.trunc = true → dval a < V
  nob : ∀ z, Bnd K z → z ≤ V → z ≤ dval a

theorem Follows.lt_of_lt {a : Dc} {V : ℚ} {K : Int} (h : Follows a V K) (z : ℚ) (hb : Bnd K z) (hlt : dval a < z) : V < z := by
  apply Classical.byContradiction
  intro hn
  have := h.nob z hb (by linarith)
  linarith

theorem Follows.le_iff {a : Dc} {V : ℚ} {K : Int} (h : Follows a V K) {z : ℚ} (hb : Bnd K z) : z ≤ dval a ↔ z ≤ V :=
  ⟨fun hz => le_trans hz h.le, h.nob z hb⟩

/-- no followed point lies strictly between a decimal and a value less than one unit of its
800th digit above it: the point would be on the decimal's grid -/
theorem nob_of_floor (d : Dc) (hnz : NZ d) (K : Int) (V : ℚ)
    (hlt : V < dval d + (10 : ℚ) ^ (d.dp - 800)) (hdp : d.dp ≤ 800) (hmag : 0 ≤ K ∨ 1 / (2 : ℚ) ^ 1065 ≤ dval d) :
    ∀ z, Bnd K z → z ≤ V → z ≤ dval d := by
  intro z hb hzV
  apply Classical.byContradiction
  intro hn
  have hlt2 : dval d < z := lt_of_not_ge hn
  obtain ⟨j, hj⟩ := bnd_grid d hnz K z hb hlt2 hdp hmag
  have := grid_above d hnz.toWF z j hj hlt2
  linarith

/-- **one buffer-limited shift keeps following the true value** -/
theorem follows_step (a a' : Dc) (k : Int) (hk : k ≤ 60) (hnz : NZ a) (V : ℚ) (K : Int)
    (h : Follows a V K) (hs : StepRes a a' ((2 : ℚ) ^ k)) (hdp : a.dp ≤ 780)
    (hmag : 0 ≤ K + k ∨ 1 / (2 : ℚ) ^ 1064 ≤ dval a * (2 : ℚ) ^ k) :
    Follows a' (V * (2 : ℚ) ^ k) (K + k) := by
  have hfpos : (0 : ℚ) < (2 : ℚ) ^ k := zpow_pos (by norm_num) _
  have hle : dval a * (2 : ℚ) ^ k ≤ V * (2 : ℚ) ^ k := mul_le_mul_of_nonneg_right h.le hfpos.le
  have c := hs.cut
  -- the point of `a'` stays inside the buffer, and `a'` is at least half the exact product
  have hdp' := step_dp a a' _ hnz hs (pow60_le k hk)
  have hmag' : 0 ≤ K + k ∨ 1 / (2 : ℚ) ^ 1065 ≤ dval a' := hmag.imp_right fun hx => by
    rw [show 1 / (2 : ℚ) ^ 1065 = 1 / (2 : ℚ) ^ 1064 / 2 by rw [pow_succ]; field_simp]
    exact le_trans (div_le_div_of_nonneg_right hx (by norm_num)) (step_lower a a' _ hs)
  refine ⟨le_trans c.le hle, fun ht => ?_, fun ht => ?_, fun z hb hzV => ?_⟩
  · rw [c.eq_of_trunc ht, h.exact (c.flag_of_trunc ht)]
  · by_cases heq : dval a' = dval a * (2 : ℚ) ^ k
    · rw [heq]
      exact mul_lt_mul_of_pos_right (h.strict (by rw [← c.exact heq]; exact ht)) hfpos
    · exact lt_of_lt_of_le (lt_of_le_of_ne c.le heq) hle
  · refine nob_of_floor a' hs.nz (K + k) _ c.lt (by omega) hmag' z hb ?_
    rw [← div_le_iff₀ hfpos] at hzV ⊢
    exact h.nob _ (bnd_shift K k z hb) hzV

/-- what `Shift` by at most 120 bits gives along the true value -/
structure ShiftOut (a r : Dc) (V : ℚ) (K k : Int) : Prop where
  fol : Follows r (V * (2 : ℚ) ^ k) (K + k)
  wf : WF r
  ne : r.d ≠ []
  trimmed : Trimmed r
  neg : r.neg = a.neg
  lo : dval a * (2 : ℚ) ^ k / 4 ≤ dval r
  hi : dval r ≤ dval a * (2 : ℚ) ^ k
  tr : a.trunc = true → r.trunc = true
  lo1 : -60 ≤ k → k ≤ 60 → dval a * (2 : ℚ) ^ k / 2 ≤ dval r

theorem shiftOut_one (a r : Dc) (V : ℚ) (K k : Int) (hnz : NZ a) (s : StepRes a r ((2 : ℚ) ^ k))
    (f : Follows r (V * (2 : ℚ) ^ k) (K + k)) : ShiftOut a r V K k :=
  have hl := step_lower a r _ s
  have hpp : (0 : ℚ) ≤ dval a * (2 : ℚ) ^ k :=
    mul_nonneg (dval_bounds a hnz).2.2.le (zpow_pos (by norm_num) _).le
  ⟨f, s.wf, s.ne, s.trimmed, s.neg, le_trans (div_le_div_of_nonneg_left hpp (by norm_num) (by norm_num)) hl, s.le,
    s.cut.trunc_of_flag, fun _ _ => hl⟩

theorem shiftOut_two (a b r : Dc) (V : ℚ) (K k1 k2 : Int) (hbig : k1 + k2 < -60 ∨ 60 < k1 + k2)
    (s1 : StepRes a b ((2 : ℚ) ^ k1)) (s2 : StepRes b r ((2 : ℚ) ^ k2))
    (f : Follows r (V * (2 : ℚ) ^ k1 * (2 : ℚ) ^ k2) (K + k1 + k2)) : ShiftOut a r V K (k1 + k2) := by
  have e : ∀ x : ℚ, x * (2 : ℚ) ^ k1 * (2 : ℚ) ^ k2 = x * (2 : ℚ) ^ (k1 + k2) := fun x => by
    rw [mul_assoc, ← zpow_add₀ (by norm_num : (2 : ℚ) ≠ 0)]
  have hp2 : (0 : ℚ) < (2 : ℚ) ^ k2 := zpow_pos (by norm_num) _
  refine ⟨by rw [← e, ← add_assoc]; exact f, s2.wf, s2.ne, s2.trimmed, by rw [s2.neg, s1.neg], ?_, ?_,
    fun ht => s2.cut.trunc_of_flag (s1.cut.trunc_of_flag ht), fun h1 h2 => by exfalso; omega⟩
  · rw [← e]
    calc dval a * (2 : ℚ) ^ k1 * (2 : ℚ) ^ k2 / 4 = dval a * (2 : ℚ) ^ k1 / 2 * (2 : ℚ) ^ k2 / 2 := by ring
      _ ≤ dval b * (2 : ℚ) ^ k2 / 2 :=
        div_le_div_of_nonneg_right (mul_le_mul_of_nonneg_right (step_lower a b _ s1) hp2.le) (by norm_num)
      _ ≤ dval r := step_lower b r _ s2
  · rw [← e]; exact le_trans s2.le (mul_le_mul_of_nonneg_right s1.le hp2.le)

/-- between the two ends of a shift in one direction the exact value stays above what both ends exceed -/
theorem interp {x y : ℚ} (hx : 0 ≤ x) {s : Int} (hs : s = 1 ∨ s = -1) {m n : Nat} (hm : m ≤ n) (h0 : y ≤ x)
    (h1 : y ≤ x * (2 : ℚ) ^ (s * n)) : y ≤ x * (2 : ℚ) ^ (s * m) := by
  rcases hs with rfl | rfl
  · exact le_trans h0 (le_mul_of_one_le_right hx (one_le_zpow₀ (by norm_num) (by omega)))
  · exact le_trans h1 (mul_le_mul_of_nonneg_left (zpow_le_zpow_right₀ (by norm_num) (by omega)) hx)

/-- `Shift` by at most 120 bits in one direction (`s = ±1`, `step` the matching single shift): one
step, or two when more than 60 bits are asked for -/
theorem shift_steps (step : Dc → Nat → Dc) (s : Int) (hs : s = 1 ∨ s = -1)
    (hstep : ∀ a n, 1 ≤ n → n ≤ 60 → NZ a → StepRes a (step a n) ((2 : ℚ) ^ (s * n)))
    (a : Dc) (n : Nat) (hn1 : 1 ≤ n) (hn : n ≤ 120) (hnz : NZ a) (V : ℚ) (K : Int)
    (h : Follows a V K) (hdp : a.dp ≤ 700)
    (hmag : (0 ≤ K ∧ 0 ≤ K + s * n) ∨ (1 / (2 : ℚ) ^ 1062 ≤ dval a ∧ 1 / (2 : ℚ) ^ 1062 ≤ dval a * (2 : ℚ) ^ (s * n))) :
    ShiftOut a (if n > maxShift then step (step a maxShift) (n - maxShift) else step a n) V K (s * n) := by
  have hm : maxShift = 60 := rfl
  have hpos := (dval_bounds a hnz).2.2
  have q64 : 1 / (2 : ℚ) ^ 1064 ≤ 1 / (2 : ℚ) ^ 1062 / 2 := by
    rw [div_div, ← pow_succ]
    exact one_div_le_one_div_of_le (by positivity) (pow_le_pow_right₀ (by norm_num) (by decide))
  -- every intermediate frame and exact value lies between the two ends
  have mid : ∀ m : Nat, m ≤ n → 0 ≤ K + s * m ∨ 1 / (2 : ℚ) ^ 1062 ≤ dval a * (2 : ℚ) ^ (s * m) := fun m hmn => by
    rcases hmag with h0 | hx
    · left; rcases hs with rfl | rfl <;> omega
    · exact Or.inr (interp hpos.le hs hmn hx.1 hx.2)
  have weak : ∀ m : Nat, m ≤ n → 0 ≤ K + s * m ∨ 1 / (2 : ℚ) ^ 1064 ≤ dval a * (2 : ℚ) ^ (s * m) := fun m hmn =>
    (mid m hmn).imp_right fun hx => le_trans (le_trans q64 (half_le_self (by positivity))) hx
  have hk : ∀ m : Nat, m ≤ 60 → s * m ≤ 60 := fun m hm => by rcases hs with rfl | rfl <;> omega
  by_cases hbig : n > maxShift
  · rw [if_pos hbig, hm]
    have s1 := hstep a 60 (by decide) (by decide) hnz
    have f1 := follows_step a _ _ (hk 60 le_rfl) hnz V K h s1 (by omega) (weak 60 (by omega))
    have hd1 := step_dp a _ _ hnz s1 (pow60_le _ (hk 60 le_rfl))
    have s2 := hstep (step a 60) (n - 60) (by omega) (by omega) s1.nz
    have esum : s * ((60 : ℕ) : ℤ) + s * ((n - 60 : ℕ) : ℤ) = s * n := by rw [← mul_add]; congr 1; omega
    have f2 := follows_step _ _ _ (hk (n - 60) (by omega)) s1.nz _ _ f1 s2 (by omega) (by
      rcases mid n le_rfl with h0 | hx
      · left; rw [add_assoc, esum]; exact h0
      · right
        have h1 := mul_le_mul_of_nonneg_right (step_lower a _ _ s1) (zpow_pos (by norm_num : (0 : ℚ) < 2) (s * ((n - 60 : ℕ) : ℤ))).le
        rw [div_mul_eq_mul_div, mul_assoc, ← zpow_add₀ (by norm_num : (2 : ℚ) ≠ 0), esum] at h1
        exact le_trans q64 (le_trans (div_le_div_of_nonneg_right hx (by norm_num)) h1))
    have := shiftOut_two a _ _ V K _ _ (by rw [esum]; rcases hs with rfl | rfl <;> omega) s1 s2 f2
    rwa [esum] at this
  · rw [if_neg hbig]
    have s1 := hstep a n hn1 (by omega) hnz
    exact shiftOut_one a _ V K _ hnz s1
      (follows_step a _ _ (hk n (by omega)) hnz V K h s1 (by omega) (weak n le_rfl))

/-- **`a.Shift(k)` along the true value**, |k| ≤ 120 (every call in `floatBits` on inputs in range) -/
theorem shift_follows (a : Dc) (k : Int) (hk : k ≠ 0) (hk1 : -120 ≤ k) (hk2 : k ≤ 120) (hnz : NZ a)
    (V : ℚ) (K : Int) (h : Follows a V K) (hdp : a.dp ≤ 700)
    (hmag : (0 ≤ K ∧ 0 ≤ K + k) ∨ (1 / (2 : ℚ) ^ 1062 ≤ dval a ∧ 1 / (2 : ℚ) ^ 1062 ≤ dval a * (2 : ℚ) ^ k)) :
    ShiftOut a (a.shift k) V K k := by
  obtain ⟨step, s, n, hs, rfl, hn1, e, hstep⟩ := shift_cases a hnz.ne k hk
  have hn : n ≤ 120 := by rcases hs with rfl | rfl <;> omega
  rw [e, shiftBy_two step 98 a n hn]
  exact shift_steps step s hs hstep a n hn1 hn hnz V K h hdp hmag

/-- a decimal that is `V` cut to its own 800-digit buffer follows `V` (frame 0): what
`decimal.set` produces when the text has more than 800 significant digits -/
theorem follows_of_floor (d : Dc) (hnz : NZ d) (V : ℚ) (c : Cut d V false) (hdp : d.dp ≤ 800) :
    Follows d V 0 :=
  ⟨c.le, c.eq_of_trunc, c.lt_of_trunc, nob_of_floor d hnz 0 V c.lt hdp (Or.inl (le_refl _))⟩

end C03
