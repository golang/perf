/-
The arithmetic operations as `roundQ ∘ exact`: `mul_eq`, `div_eq_roundQ`, `add_eq`, `sub_eq`, `ofInt_eq`
(in values: `sval (op a b) = R (exact result)`), with commutativity, monotonicity and exactness consequences
(`mul_one`, `ofInt_exact`, doubling and halving).
-/
import Proofs.Lemmas.F64R

namespace F64

theorem sval_mul_sign (a b : Bits) :
    sval a * sval b = if (signBit a != signBit b) then -(val a * val b) else val a * val b := by
  unfold sval; cases signBit a <;> cases signBit b <;> simp

theorem sval_div_sign (a b : Bits) :
    sval a / sval b = if (signBit a != signBit b) then -(val a / val b) else val a / val b := by
  unfold sval; cases signBit a <;> cases signBit b <;> simp [neg_div, div_neg]

theorem roundRat_int (z : Int) (n d : Nat) (hn : 0 < n) (hd : 0 < d) (c : ℚ)
    (h : (n : ℚ) / d = |(z : ℚ)| * c) : roundRat (decide (z < 0)) n d = roundQ (z * c) := by
  rw [roundRat_eq_roundQ _ _ _ hn hd, h]
  congr 1
  by_cases hneg : z < 0
  · simp only [hneg, decide_true, if_true]
    rw [abs_of_neg (by exact_mod_cast hneg), neg_mul, _root_.neg_neg]
  · simp only [hneg, decide_false, Bool.false_eq_true, if_false]
    rw [abs_of_nonneg (by exact_mod_cast not_lt.mp hneg)]

theorem mul_eq (a b : Bits) (ha : isFinite a = true) (hb : isFinite b = true)
    (za : isZero a = false) (zb : isZero b = false) : mul a b = roundQ (sval a * sval b) := by
  unfold mul
  simp only [isNaN_of_finite ha, isNaN_of_finite hb, isInf_of_finite ha, isInf_of_finite hb, za, zb,
    Bool.or_self, Bool.false_eq_true, if_false]
  have hn : 0 < (toFrac (mant a * mant b) (expo a + expo b)).1 :=
    toFrac_fst_pos _ (Nat.mul_pos (mant_pos_of_nonzero za) (mant_pos_of_nonzero zb))
  show roundRat (signBit a != signBit b) (toFrac (mant a * mant b) (expo a + expo b)).1
    (toFrac (mant a * mant b) (expo a + expo b)).2 = _
  rw [roundRat_eq_roundQ _ _ _ hn (toFrac_snd_pos _ _), toFrac_ratio, sval_mul_sign]
  have : ((mant a * mant b : Nat) : ℚ) * (2 : ℚ) ^ (expo a + expo b) = val a * val b := by
    unfold val; rw [zpow_add₀ (by norm_num : (2 : ℚ) ≠ 0)]; push_cast; ring
  rw [this]

theorem mul_of_isZero (a b : Bits) (ha : isFinite a = true) (hb : isFinite b = true)
    (h : isZero a = true ∨ isZero b = true) : mul a b = zero (signBit a != signBit b) := by
  unfold mul
  rcases h with h | h <;>
    simp [isNaN_of_finite ha, isNaN_of_finite hb, isInf_of_finite ha, isInf_of_finite hb, h]

theorem sval_mul (a b : Bits) (ha : isFinite a = true) (hb : isFinite b = true) :
    sval (mul a b) = R (sval a * sval b) := by
  by_cases z : isZero a = true ∨ isZero b = true
  · have h0 : sval a * sval b = 0 := by
      rcases z with z | z
      · rw [sval_eq_zero_of_isZero z, zero_mul]
      · rw [sval_eq_zero_of_isZero z, mul_zero]
    rw [mul_of_isZero a b ha hb z, sval_zero, h0, R_zero]
  · rw [mul_eq a b ha hb (by simpa using fun h => z (Or.inl h)) (by simpa using fun h => z (Or.inr h))]
    rfl

/-- for all patterns, NaN/Inf/zero cases included. -/
theorem mul_comm (a b : Bits) : mul a b = mul b a := by
  unfold mul
  rw [Bool.or_comm (isNaN a), Bool.or_comm (isInf a), Bool.or_comm (isZero a),
    Nat.mul_comm (mant a), Int.add_comm (expo a)]
  have : (signBit a != signBit b) = (signBit b != signBit a) := by
    cases signBit a <;> cases signBit b <;> rfl
  rw [this]

/-- multiplication by a positive finite float is monotone (all finite operands). -/
theorem mul_mono (a b c : Bits) (ha : isFinite a = true) (hb : isFinite b = true)
    (hc : isFinite c = true) (hpos : 0 ≤ sval c) (h : sval a ≤ sval b) :
    sval (mul a c) ≤ sval (mul b c) := by
  rw [sval_mul a c ha hc, sval_mul b c hb hc]
  exact R_mono (mul_le_mul_of_nonneg_right h hpos)

/-- multiplication by 1.0 is the identity on every non-NaN pattern
(±Inf, ±0, subnormal and normal numbers). -/
theorem mul_one (x : Bits) (hx : isNaN x = false) : mul x one = x := by
  have f1 : isFinite one = true := by decide
  have z1 : isZero one = false := by decide
  have s1 : signBit one = false := by decide
  by_cases hinf : isInf x = true
  · have hz : isZero x = false := (isZero_false_iff x).mpr (by rw [(isInf_iff x).mp hinf]; decide)
    unfold mul
    simp only [hx, isNaN_of_finite f1, isInf_of_finite f1, hinf, hz, z1, s1, Bool.or_false, Bool.false_eq_true,
      if_false, if_true, Bool.bne_false]
    exact eq_of_sign_mag _ _ (signBit_inf _) (by rw [magOf_inf, (isInf_iff x).mp hinf])
  · have hfin := isFinite_of_not_nan_inf hx (by simpa using hinf)
    by_cases hz : isZero x = true
    · rw [mul_of_isZero x one hfin f1 (Or.inl hz), s1, Bool.bne_false]
      exact eq_of_sign_mag _ _ (signBit_zero _) (by rw [magOf_zero, (isZero_iff x).mp hz])
    · have hz' : isZero x = false := by simpa using hz
      rw [mul_eq x one hfin f1 hz' z1, sval_one, _root_.mul_one, roundQ_exact x hfin hz']

/-- non-trivial instances: −3.0 · 1.0 = −3.0; a subnormal; −Inf -/
example : mul 0xC008000000000000 one = 0xC008000000000000 := mul_one _ (by decide)
example : mul 0x0000000000000003 one = 0x0000000000000003 := mul_one _ (by decide)
example : mul negInf one = negInf := mul_one _ (by decide)

/-- a NaN produced by `mul` is the canonical NaN of the model -/
theorem mul_nan_canon (a b : Bits) (h : isNaN (mul a b) = true) : mul a b = nan := by
  unfold mul at h ⊢
  split
  · rfl
  · rename_i h0
    rw [if_neg h0] at h
    simp only [] at h ⊢
    split at h
    · split at h
      · rename_i h1 h2; rw [if_pos h1, if_pos h2]
      · exfalso; revert h; cases (signBit a != signBit b) <;> decide
    · split at h
      · exfalso; revert h; cases (signBit a != signBit b) <;> decide
      · exfalso
        revert h
        rw [roundRat_isNaN]; decide

theorem mul_nan_left (a b : Bits) (h : isNaN a = true) : mul a b = nan := by
  unfold mul; simp [h]

theorem div_eq_roundQ (a b : Bits) (ha : isFinite a = true) (hb : isFinite b = true)
    (za : isZero a = false) (zb : isZero b = false) : div a b = roundQ (sval a / sval b) := by
  have hma := mant_pos_of_nonzero za
  have hmb := mant_pos_of_nonzero zb
  have key : div a b = roundRat (signBit a != signBit b)
      (scaled (mant a) (mant b) (expo a - expo b)).1 (scaled (mant a) (mant b) (expo a - expo b)).2 := by
    unfold div
    simp only [isNaN_of_finite ha, isNaN_of_finite hb, isInf_of_finite ha, isInf_of_finite hb, za, zb,
      Bool.or_self, Bool.false_eq_true, if_false]
    simp only [scaled_fst, scaled_snd]
    split
    · rename_i h
      have : (-(expo a - expo b)).toNat = 0 := by omega
      rw [this]; simp
    · rename_i h
      have : (expo a - expo b).toNat = 0 := by omega
      rw [this]; simp
  rw [key, roundRat_eq_roundQ _ _ _ (scaled_fst_pos _ _ hma) (scaled_snd_pos _ _ hmb), scaled_ratio,
    sval_div_sign]
  have two_ne : (2 : ℚ) ≠ 0 := by norm_num
  have : (mant a : ℚ) / (mant b : ℚ) * (2 : ℚ) ^ (expo a - expo b) = val a / val b := by
    unfold val; rw [zpow_sub₀ two_ne, div_mul_div_comm]
  rw [this]

theorem div_of_isZero (a b : Bits) (ha : isFinite a = true) (hb : isFinite b = true)
    (za : isZero a = true) (zb : isZero b = false) : div a b = zero (signBit a != signBit b) := by
  unfold div
  simp [isNaN_of_finite ha, isNaN_of_finite hb, isInf_of_finite ha, isInf_of_finite hb, za, zb]

theorem sval_div (a b : Bits) (ha : isFinite a = true) (hb : isFinite b = true)
    (zb : isZero b = false) : sval (div a b) = R (sval a / sval b) := by
  by_cases za : isZero a = true
  · rw [div_of_isZero a b ha hb za zb, sval_zero, sval_eq_zero_of_isZero za, zero_div, R_zero]
  rw [div_eq_roundQ a b ha hb (by simpa using za) zb]
  rfl

/-- division by a positive finite float is monotone in the dividend, for
dividends of either sign (and zeros). -/
theorem div_mono_signed (a b f : Bits) (ha : isFinite a = true) (hb : isFinite b = true)
    (hf : isFinite f = true) (zf : isZero f = false) (hpos : 0 ≤ sval f) (h : sval a ≤ sval b) :
    sval (div a f) ≤ sval (div b f) := by
  rw [sval_div a f ha hf zf, sval_div b f hb hf zf]
  exact R_mono (div_le_div_of_nonneg_right h hpos)

theorem div_signBit (a f : Bits) (ha : PosFin a) (hf : PosFin f) : (div a f).toNat < 2 ^ 63 := by
  have h : 0 ≤ sval a / sval f := by
    rw [sval_of_posFin ha, sval_of_posFin hf]; exact div_nonneg (val_nonneg a) (val_nonneg f)
  rw [div_eq_roundQ a f ha.isFinite hf.isFinite ha.isZero hf.isZero, roundQ_of_nonneg _ h]
  have := magQ_toNat_le (sval a / sval f); omega

/-- division by a finite positive float is monotone in the (finite positive) dividend (the quotients are
sign-free patterns, so their order is the float order, +Inf included). -/
theorem div_mono_val (a b f : Bits) (ha : PosFin a) (hb : PosFin b) (hf : PosFin f)
    (h : val a ≤ val b) : (div a f).toNat ≤ (div b f).toNat := by
  rw [toNat_le_iff_sval (div_signBit a f ha hf) (div_signBit b f hb hf)]
  exact div_mono_signed a b f ha.isFinite hb.isFinite hf.isFinite hf.isZero
    (by rw [sval_of_posFin hf]; exact val_nonneg f) (by rw [sval_of_posFin ha, sval_of_posFin hb]; exact h)

theorem div_mono (a b f : Bits) (ha : PosFin a) (hb : PosFin b) (hf : PosFin f)
    (h : vle a b) : (div a f).toNat ≤ (div b f).toNat :=
  div_mono_val a b f ha hb hf ((vle_iff a b).mp h)

/-- the same with the order of the dividends given on the patterns -/
theorem div_mono_bits (a b f : Bits) (ha : PosFin a) (hb : PosFin b) (hf : PosFin f)
    (h : a.toNat ≤ b.toNat) : (div a f).toNat ≤ (div b f).toNat :=
  div_mono_val a b f ha hb hf (val_mono a b hb.lt63 h)

/-- `(b/f) < (a/f)` is false for a ≤ b. -/
theorem div_mono_lt (a b f : Bits) (ha : PosFin a) (hb : PosFin b) (hf : PosFin f)
    (h : vle a b) : lt (div b f) (div a f) = false :=
  lt_false_of_toNat_le _ _ (div_signBit b f hb hf) (div_signBit a f ha hf) (div_mono a b f ha hb hf h)

/-- non-trivial instance: 1.0 ≤ 3.0, divided by 10.0 -/
example : (div 0x3FF0000000000000 0x4024000000000000).toNat ≤ (div 0x4008000000000000 0x4024000000000000).toNat :=
  div_mono_bits _ _ _ (by decide) (by decide) (by decide) (by decide)

theorem div_neg_dividend (a f : Bits) (ha : isFinite a = true) (za : isZero a = false)
    (hf : isFinite f = true) (zf : isZero f = false) : div (neg a) f = neg (div a f) := by
  have hv : sval a / sval f ≠ 0 := by
    apply div_ne_zero
    · rw [Ne, sval_eq_zero_iff, za]; simp
    · rw [Ne, sval_eq_zero_iff, zf]; simp
  rw [div_eq_roundQ (neg a) f (by rw [isFinite_neg]; exact ha) hf (by rw [isZero_neg]; exact za) zf,
    div_eq_roundQ a f ha hf za zf, sval_neg, neg_div, roundQ_neg _ hv]

/-- the mantissa of `x` aligned to an exponent `e ≤ expo x` and signed, an integer (what `add` computes with),
has the value of `x` on the grid `2^e` -/
theorem sval_aligned (x : Bits) (e : Int) (he : e ≤ expo x) :
    (((if signBit x then -((mant x * 2 ^ (expo x - e).toNat : Nat) : Int)
      else ((mant x * 2 ^ (expo x - e).toNat : Nat) : Int)) : Int) : ℚ) * (2 : ℚ) ^ e = sval x := by
  have hv : ((mant x * 2 ^ (expo x - e).toNat : Nat) : ℚ) * (2 : ℚ) ^ e = val x := by
    unfold val
    rw [Nat.cast_mul, Nat.cast_pow, Nat.cast_ofNat, ← zpow_natCast, Int.toNat_of_nonneg (by omega), mul_assoc,
      ← zpow_add₀ two_ne_zero, sub_add_cancel]
  unfold sval
  cases signBit x
  · rw [if_neg Bool.false_ne_true, if_neg Bool.false_ne_true, Int.cast_natCast, hv]
  · rw [if_pos rfl, if_pos rfl, Int.cast_neg, Int.cast_natCast, neg_mul, hv]

/-- for finite operands the sum is the rounded exact sum; an exact zero sum gives +0
except for (−x) + (−y) with both negative (only −0 + −0), which gives −0. -/
theorem add_eq (a b : Bits) (ha : isFinite a = true) (hb : isFinite b = true) :
    add a b = if sval a + sval b = 0 then (if signBit a && signBit b then negZero else posZero)
              else roundQ (sval a + sval b) := by
  unfold add
  simp only [isNaN_of_finite ha, isNaN_of_finite hb, isInf_of_finite ha, isInf_of_finite hb,
    Bool.or_self, Bool.false_eq_true, if_false]
  generalize he : (if expo a ≤ expo b then expo a else expo b) = e
  have hea : e ≤ expo a := by rw [← he]; split <;> omega
  have heb : e ≤ expo b := by rw [← he]; split <;> omega
  have hsa := sval_aligned a e hea
  have hsb := sval_aligned b e heb
  generalize (if signBit a then -((mant a * 2 ^ (expo a - e).toNat : Nat) : Int)
      else ((mant a * 2 ^ (expo a - e).toNat : Nat) : Int)) = sa at hsa ⊢
  generalize (if signBit b then -((mant b * 2 ^ (expo b - e).toNat : Nat) : Int)
      else ((mant b * 2 ^ (expo b - e).toNat : Nat) : Int)) = sb at hsb ⊢
  have hsum : ((sa + sb : Int) : ℚ) * (2 : ℚ) ^ e = sval a + sval b := by
    rw [← hsa, ← hsb]; push_cast; ring
  have hp := two_zpow_pos e
  by_cases h0 : sa + sb = 0
  · have : sval a + sval b = 0 := by rw [← hsum, h0]; simp
    simp only [h0, this, beq_self_eq_true, if_true]
  · have hne : sval a + sval b ≠ 0 := by
      rw [← hsum]
      exact mul_ne_zero (by exact_mod_cast h0) hp.ne'
    have hb0 : ((sa + sb == 0) = false) := by simpa using h0
    simp only [hb0, hne, Bool.false_eq_true, if_false]
    show roundRat (decide (sa + sb < 0)) (toFrac (sa + sb).natAbs e).1 (toFrac (sa + sb).natAbs e).2 = _
    rw [roundRat_int _ _ _ (toFrac_fst_pos _ (Int.natAbs_pos.mpr h0)) (toFrac_snd_pos _ _) ((2 : ℚ) ^ e)
      (by rw [toFrac_ratio, Nat.cast_natAbs, Int.cast_abs]), hsum]

theorem sval_add (a b : Bits) (ha : isFinite a = true) (hb : isFinite b = true) :
    sval (add a b) = R (sval a + sval b) := by
  rw [add_eq a b ha hb]
  split
  · rename_i h
    rw [h, R_zero]
    split
    · exact sval_negZero
    · exact sval_posZero
  · rfl

theorem add_isNaN (a b : Bits) (ha : isFinite a = true) (hb : isFinite b = true) :
    isNaN (add a b) = false := by
  rw [add_eq a b ha hb]
  split
  · split <;> decide
  · exact roundQ_isNaN _

theorem add_mono (a a' b b' : Bits) (ha : isFinite a = true) (ha' : isFinite a' = true)
    (hb : isFinite b = true) (hb' : isFinite b' = true) (h1 : sval a ≤ sval a') (h2 : sval b ≤ sval b') :
    sval (add a b) ≤ sval (add a' b') := by
  rw [sval_add a b ha hb, sval_add a' b' ha' hb']
  exact R_mono (add_le_add h1 h2)

theorem add_mono_le (a a' b b' : Bits) (ha : isFinite a = true) (ha' : isFinite a' = true)
    (hb : isFinite b = true) (hb' : isFinite b' = true) (h1 : le a a' = true) (h2 : le b b' = true) :
    le (add a b) (add a' b') = true := by
  rw [le_iff_sval _ _ (isNaN_of_finite ha) (isNaN_of_finite ha')] at h1
  rw [le_iff_sval _ _ (isNaN_of_finite hb) (isNaN_of_finite hb')] at h2
  rw [le_iff_sval _ _ (add_isNaN a b ha hb) (add_isNaN a' b' ha' hb')]
  exact add_mono a a' b b' ha ha' hb hb' h1 h2

theorem add_exact (a b x : Bits) (ha : isFinite a = true) (hb : isFinite b = true)
    (hx : isFinite x = true) (zx : isZero x = false) (h : sval x = sval a + sval b) : add a b = x := by
  have hne : sval a + sval b ≠ 0 := by
    rw [← h, Ne, sval_eq_zero_iff, zx]; simp
  rw [add_eq a b ha hb, if_neg hne, ← h, roundQ_exact x hx zx]

theorem add_zero_right (a z : Bits) (ha : isFinite a = true) (hane : a ≠ negZero)
    (hz : isZero z = true) : add a z = a := by
  have hzf : isFinite z = true := by
    rw [isFinite_iff, (isZero_iff z).1 hz]; decide
  rw [add_eq a z ha hzf, sval_eq_zero_of_isZero hz, add_zero]
  split
  · -- a is a zero other than −0, hence +0
    rename_i h0
    have hm := (isZero_iff a).1 ((sval_eq_zero_iff a).1 h0)
    cases hs : signBit a
    · simpa using eq_of_sign_mag posZero a (by rw [hs]; rfl) (by rw [hm]; rfl)
    · exact absurd (eq_of_sign_mag a negZero (by rw [hs]; rfl) (by rw [hm]; rfl)) hane
  · rename_i h0
    exact roundQ_exact a ha (by rw [← Bool.not_eq_true, ← sval_eq_zero_iff]; exact h0)

/-- for all patterns (NaN, ±Inf, ±0 included). -/
theorem add_comm (a b : Bits) : add a b = add b a := by
  by_cases na : isNaN a = true
  · unfold add; simp [na]
  by_cases nb : isNaN b = true
  · unfold add; simp [nb]
  have na' : isNaN a = false := by simpa using na
  have nb' : isNaN b = false := by simpa using nb
  by_cases ia : isInf a = true
  · by_cases ib : isInf b = true
    · unfold add
      simp only [na', nb', ia, ib, Bool.or_self, Bool.false_eq_true, if_false, if_true, Bool.true_and]
      cases hsa : signBit a <;> cases hsb : signBit b <;> simp
      · exact eq_of_sign_mag _ _ (by rw [hsa, hsb]) (by rw [(isInf_iff a).mp ia, (isInf_iff b).mp ib])
      · exact eq_of_sign_mag _ _ (by rw [hsa, hsb]) (by rw [(isInf_iff a).mp ia, (isInf_iff b).mp ib])
    · have ib' : isInf b = false := by simpa using ib
      unfold add
      simp [na', nb', ia, ib']
  · have ia' : isInf a = false := by simpa using ia
    by_cases ib : isInf b = true
    · unfold add
      simp [na', nb', ia', ib]
    · have ib' : isInf b = false := by simpa using ib
      have fa := isFinite_of_not_nan_inf na' ia'
      have fb := isFinite_of_not_nan_inf nb' ib'
      rw [add_eq a b fa fb, add_eq b a fb fa, _root_.add_comm (sval a), Bool.and_comm]

theorem sub_eq (a b : Bits) (hb : isNaN b = false) : sub a b = add a (neg b) := by
  unfold sub; simp [hb]

theorem sval_sub (a b : Bits) (ha : isFinite a = true) (hb : isFinite b = true) :
    sval (sub a b) = R (sval a - sval b) := by
  rw [sub_eq a b (isNaN_of_finite hb), sval_add a (neg b) ha (by rw [isFinite_neg]; exact hb), sval_neg,
    sub_eq_add_neg]

/-- x − x = +0 for every finite x. -/
theorem sub_self (a : Bits) (ha : isFinite a = true) : sub a a = posZero := by
  rw [sub_eq a a (isNaN_of_finite ha), add_eq a (neg a) ha (by rw [isFinite_neg]; exact ha), sval_neg,
    add_neg_cancel, if_pos rfl, signBit_neg]
  cases signBit a <;> rfl

theorem sub_exact (a b x : Bits) (ha : isFinite a = true) (hb : isFinite b = true)
    (hx : isFinite x = true) (zx : isZero x = false) (h : sval x = sval a - sval b) : sub a b = x := by
  rw [sub_eq a b (isNaN_of_finite hb)]
  apply add_exact a (neg b) x ha (by rw [isFinite_neg]; exact hb) hx zx
  rw [sval_neg, h, sub_eq_add_neg]

/-- `float64(i)` is the rounded integer (i = 0 gives +0 = `roundQ 0`). -/
theorem ofInt_eq (i : Int) : ofInt i = roundQ (i : ℚ) := by
  unfold ofInt
  by_cases h0 : i = 0
  · subst h0; simp [roundQ_zero]
  · have hb : (i == 0) = false := by simpa using h0
    simp only [hb, Bool.false_eq_true, if_false]
    rw [roundRat_int i _ _ (Int.natAbs_pos.mpr h0) (by decide) 1
      (by rw [Nat.cast_one, div_one, _root_.mul_one, Nat.cast_natAbs, Int.cast_abs]), _root_.mul_one]

theorem two_pow_53_lt : ((2 : ℚ) ^ 53) < (2 : ℚ) ^ (1024 : Int) := by
  have : (2 : ℚ) ^ 53 = (2 : ℚ) ^ (53 : Int) := by norm_num
  rw [this]; exact zpow_lt_zpow_right₀ (by norm_num) (by norm_num)

theorem ofInt_exact (i : Int) (h : i.natAbs < 2 ^ 53) : Is (ofInt i) i := by
  rw [ofInt_eq]
  apply roundQ_dyadic (i : ℚ) i.natAbs 0 h (by norm_num)
  · rw [zpow_zero, _root_.mul_one, Nat.cast_natAbs, Int.cast_abs]
  · have : |(i : ℚ)| = ((i.natAbs : Nat) : ℚ) := by rw [Nat.cast_natAbs, Int.cast_abs]
    rw [this]
    have : ((i.natAbs : Nat) : ℚ) < ((2 ^ 53 : Nat) : ℚ) := by exact_mod_cast h
    push_cast at this
    exact lt_trans this two_pow_53_lt

theorem ofInt_mono (i j : Int) (h : i ≤ j) : sval (ofInt i) ≤ sval (ofInt j) := by
  rw [ofInt_eq, ofInt_eq]; exact roundQ_mono _ _ (by exact_mod_cast h)

theorem val_lt_two_zpow (x : Bits) : val x < (2 : ℚ) ^ (53 + expo x) := by
  rw [zpow_add₀ two_ne_zero, zpow_ofNat]
  exact mul_lt_mul_of_pos_right (by exact_mod_cast mant_lt x) (two_zpow_pos _)

theorem roundQ_scale (x : Bits) (k : Int) (he : -1074 ≤ expo x + k) (hk : expo x + k ≤ 971) :
    Is (roundQ (sval x * (2 : ℚ) ^ k)) (sval x * (2 : ℚ) ^ k) := by
  apply roundQ_dyadic _ (mant x) (expo x + k) (mant_lt x) he
  · rw [abs_mul, abs_sval, abs_of_pos (two_zpow_pos k)]
    unfold val; rw [mul_assoc, ← zpow_add₀ two_ne_zero]
  · rw [abs_mul, abs_sval, abs_of_pos (two_zpow_pos k)]
    calc val x * (2 : ℚ) ^ k < (2 : ℚ) ^ (53 + expo x) * (2 : ℚ) ^ k :=
          mul_lt_mul_of_pos_right (val_lt_two_zpow x) (two_zpow_pos k)
      _ = (2 : ℚ) ^ (53 + expo x + k) := (zpow_add₀ two_ne_zero _ _).symm
      _ ≤ (2 : ℚ) ^ (1024 : Int) := zpow_le_zpow_right₀ one_le_two (by omega)

/-- doubling is exact for every finite x whose exponent field is below 2046
(i.e. unless 2x overflows); subnormals included. -/
theorem mul_two_exact (x : Bits) (hx : isFinite x = true) (he : expField x < 2046) :
    sval (mul x two) = 2 * sval x ∧ isFinite (mul x two) = true := by
  have h := roundQ_scale x 1 (by have := expo_ge x; omega) (by rw [expo_eq]; split <;> omega)
  have e := sval_mul x two hx (by decide)
  rw [sval_two, ← zpow_one (2 : ℚ)] at e
  exact ⟨e.trans (h.val.trans (by rw [zpow_one, _root_.mul_comm])), isFinite_of_sval_eq e h.fin⟩

/-- halving is exact for every finite x with exponent field ≥ 2 (no underflow). -/
theorem div_two (x : Bits) (hx : isFinite x = true) (he : 2 ≤ expField x) :
    sval (div x two) = sval x / 2 ∧ isFinite (div x two) = true := by
  have hEx : expo x = (expField x : Int) - 1075 := by rw [expo_eq, if_neg (by omega)]
  have hfin := (isFinite_iff x).mp hx
  have hE : expField x ≤ 2046 := by
    have := fracField_lt x; unfold magOf at hfin; omega
  have h := roundQ_scale x (-1) (by omega) (by omega)
  have e := sval_div x two hx (by decide) (by decide)
  rw [sval_two, div_eq_mul_inv, ← zpow_neg_one] at e
  exact ⟨e.trans (h.val.trans (by rw [zpow_neg_one, div_eq_mul_inv])), isFinite_of_sval_eq e h.fin⟩

example : sub 0x3FF0000000000000 0x3FF0000000000000 = posZero := sub_self _ (by decide)
example : add negZero negZero = negZero := by decide +kernel
example : sval (mul 0x0000000000000003 two) = 2 * sval 0x0000000000000003 :=
  (mul_two_exact _ (by decide) (by decide)).1
example : sval (div 0x4008000000000000 two) = sval 0x4008000000000000 / 2 :=
  (div_two _ (by decide) (by decide)).1
example : sval (ofInt 9007199254740991) = 9007199254740991 := by
  have := (ofInt_exact 9007199254740991 (by decide)).val
  simpa using this

end F64
