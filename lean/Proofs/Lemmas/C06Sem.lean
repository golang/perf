/-
The specification ⟦e⟧ (Model/Spec/FilterSem.lean) by itself: its list recursions are `List.all` / `List.any`, and it
reads the oracle, the result and the index only at the leaves.
-/
import Model.Spec.FilterSem

namespace C06
open Proc.FilterEval Spec.FilterSem

theorem any_termHolds_lit (re : ReOracle) (res : Res) (i : Nat) (kv : Bytes) (hk : kv ≠ Proc.Extract.dotUnit) (vs : List Bytes) :
    vs.any (fun v => termHolds re res i kv (.lit v)) = decide (keyValue kv res ∈ vs) := by
  simp only [termHolds, hk, if_false, valueHolds]
  induction vs with
  | nil => rfl
  | cons v vs ih => simp [ih]

theorem denoteAll_eq_all (re : ReOracle) (res : Res) (i : Nat) (es : List Filter) :
    denoteAll re res i es = es.all (denote re res i) := by
  induction es with
  | nil => rfl
  | cons e es ih => rw [denoteAll, ih, List.all_cons]

theorem denoteAny_eq_any (re : ReOracle) (res : Res) (i : Nat) (es : List Filter) :
    denoteAny re res i es = es.any (denote re res i) := by
  induction es with
  | nil => rfl
  | cons e es ih => rw [denoteAny, ih, List.any_cons]

mutual
theorem denote_congr {re re' : ReOracle} {res res' : Res} {i j : Nat}
    (h : ∀ key mt, termHolds re res i key mt = termHolds re' res' j key mt) :
    ∀ e, denote re res i e = denote re' res' j e
  | .and es => by simp only [denote]; exact (denoteList_congr h es).1
  | .or es => by simp only [denote]; exact (denoteList_congr h es).2
  | .not e => by simp only [denote]; rw [denote_congr h e]
  | .mtch key off mt => by simp only [denote]; exact h key mt
theorem denoteList_congr {re re' : ReOracle} {res res' : Res} {i j : Nat}
    (h : ∀ key mt, termHolds re res i key mt = termHolds re' res' j key mt) :
    ∀ es, denoteAll re res i es = denoteAll re' res' j es ∧ denoteAny re res i es = denoteAny re' res' j es
  | [] => ⟨rfl, rfl⟩
  | e :: es => by simp only [denoteAll, denoteAny, denote_congr h e, denoteList_congr h es, and_self]
end

theorem termHolds_local (re : ReOracle) (res res' : Res) (i j : Nat)
    (hn : res.name = res'.name) (hc : res.config = res'.config) (hv : res.values[i]? = res'.values[j]?)
    (key : Bytes) (mt : Matcher) : termHolds re res i key mt = termHolds re res' j key mt := by
  simp only [termHolds, keyValue, Res.view, hn, hc, hv]

theorem denote_local (re : ReOracle) (res res' : Res) (i j : Nat)
    (hn : res.name = res'.name) (hc : res.config = res'.config) (hv : res.values[i]? = res'.values[j]?) :
    ∀ e, denote re res i e = denote re res' j e :=
  denote_congr (termHolds_local re res res' i j hn hc hv)

end C06
