/-
C19 helper lemmas (continuing C19SplitWords.lean): parseQueryString and SplitWords cut at the same places.
The parts parseQueryString ends at a blank hold only bytes of the input and are "closed" for
SplitWords (quotes balanced, no pending escape), so the words of a storage query are the words of
its parts, one after the other.
-/
import Model.Analysis.Parse
import Model.Analysis.Quote
import Proofs.Lemmas.C19SplitWords

namespace C19
open Storage.Query Analysis.Quote Analysis.Parse

theorem tokGo_true_cons (cur : Bytes) (c : UInt8) (rest : Bytes) :
    tokGo true cur (c :: rest) =
      if c == cQuote then tokGo false (cur ++ [c]) rest
      else if c == cBackslash then
        (match rest with
        | [] => ([], cur ++ [c])
        | d :: rest' => tokGo true (cur ++ [c, d]) rest')
      else tokGo true (cur ++ [c]) rest := by
  rw [tokGo.eq_def]; rfl

theorem tokGo_false_cons (cur : Bytes) (c : UInt8) (rest : Bytes) :
    tokGo false cur (c :: rest) =
      if c == cQuote then tokGo true (cur ++ [c]) rest
      else if c == cSpace || c == cTab then ((cur :: (tokGo false [] rest).1), (tokGo false [] rest).2)
      else if c == cBackslash then
        (match rest with
        | [] => ([], cur ++ [c])
        | d :: rest' => tokGo false (cur ++ [c, d]) rest')
      else tokGo false (cur ++ [c]) rest := by
  rw [tokGo.eq_def]; rfl

theorem tokGo_blank (cur rest : Bytes) :
    tokGo false cur (cSpace :: rest) = (cur :: (tokGo false [] rest).1, (tokGo false [] rest).2) := by
  rw [tokGo_false_cons]; rfl

theorem tokGo_true_enc (c : UInt8) (cur rest : Bytes) :
    tokGo true cur (enc c ++ rest) = tokGo true (cur ++ enc c) rest := by
  unfold enc
  split
  · rfl
  · split
    · rfl
    · rename_i hb hq
      rw [List.singleton_append, tokGo_true_cons, if_neg hq, if_neg hb]

theorem tokGo_quoted (s cur rest : Bytes) :
    tokGo true cur (s.flatMap enc ++ rest) = tokGo true (cur ++ s.flatMap enc) rest := by
  induction s generalizing cur with
  | nil => simp
  | cons c s ih => rw [List.flatMap_cons, List.append_assoc, tokGo_true_enc, ih, List.append_assoc]

theorem tokGo_plain (s cur rest : Bytes) (h : needsQuote s = false) :
    tokGo false cur (s ++ rest) = tokGo false (cur ++ s) rest := by
  induction s generalizing cur with
  | nil => simp
  | cons c s ih =>
    simp only [needsQuote, List.any_cons, Bool.or_eq_false_iff] at h
    obtain ⟨⟨⟨⟨h1, h2⟩, h3⟩, h4⟩, hs⟩ := h
    rw [List.cons_append, tokGo_false_cons]
    simp only [h1, h2, h3, h4, Bool.false_eq_true, if_false, Bool.or_self]
    rw [ih _ hs, List.append_assoc, List.singleton_append]

theorem tokGo_quote (s cur rest : Bytes) :
    tokGo false cur (quote s ++ rest) = tokGo false (cur ++ quote s) rest := by
  unfold quote
  split
  · simp only [escape_eq, List.cons_append, List.nil_append, List.append_assoc]
    rw [tokGo_false_cons, if_pos (beq_self_eq_true _), tokGo_quoted, tokGo_true_cons,
      if_pos (beq_self_eq_true _)]
    simp
  · rename_i h
    exact tokGo_plain s cur rest (Bool.not_eq_true _ ▸ h)

theorem tokGo_quote_blank (s rest : Bytes) :
    tokGo false [] (quote s ++ cSpace :: rest) =
      (quote s :: (tokGo false [] rest).1, (tokGo false [] rest).2) := by
  rw [tokGo_quote, List.nil_append, tokGo_blank]

theorem tokGo_bytes (b : Bool) (cur q : Bytes) :
    ∀ x ∈ (tokGo b cur q).1.flatten ++ (tokGo b cur q).2, x ∈ cur ++ q := by
  fun_induction tokGo b cur q
  -- case numbers: see `tokens_closed`
  case case7 ts last hts ih =>
    -- a blank: `cur` is a part, the rest is scanned from scratch
    rw [hts] at ih
    intro x hx
    simp only [List.flatten_cons, List.append_assoc, List.mem_append] at hx
    rcases hx with hx | hx
    · exact List.mem_append_left _ hx
    · exact List.mem_append_right _ (List.mem_cons_of_mem _ (ih x (List.mem_append.mpr hx)))
  case case1 | case3 | case8 => simp
  all_goals (rename_i ih; simpa only [List.append_assoc, List.cons_append, List.nil_append] using ih)

theorem quote_ne_word (add w : Bytes) (hw : needsQuote w = false) (h : quote add = w) : add = w := by
  unfold quote at h
  split at h
  · have : needsQuote w = true :=
      List.any_eq_true.mpr ⟨cQuote, by rw [← h]; simp, by simp⟩
    rw [hw] at this; cases this
  · exact h

theorem quote_ne_nil (add : Bytes) (h : add ≠ []) : quote add ≠ [] := by
  unfold quote; split
  · simp
  · exact h

/-- `t`, met at a word boundary and followed by a blank, contributes exactly its own words -/
def Closed (t : Bytes) : Prop :=
  ∀ ws rest, swGo false [] ws (t ++ cSpace :: rest) = swGo false [] (ws ++ splitWords t) rest

/-- scanning `cur` from a word boundary leaves SplitWords in state (`b`, word so far `w`) -/
def SwReach (b : Bool) (cur w : Bytes) : Prop :=
  ∀ ws X, swGo false [] ws (cur ++ X) = swGo b w ws X

theorem swreach_nil : SwReach false [] [] := fun _ _ => rfl

theorem SwReach.append {b b' : Bool} {cur w w' : Bytes} (hr : SwReach b cur w) (s : Bytes)
    (hstep : ∀ ws X, swGo b w ws (s ++ X) = swGo b' w' ws X) : SwReach b' (cur ++ s) w' := by
  intro ws X
  rw [List.append_assoc, hr, hstep]

theorem closed_of_swreach (cur w : Bytes) (h : SwReach false cur w) : Closed cur := by
  intro ws rest
  have h2 := h [] []
  rw [List.append_nil, swGo_nil] at h2
  unfold splitWords
  rw [h ws (cSpace :: rest), swGo_blank, h2, ← flush_append, List.append_nil]

/-- the two loops step through quotes and escapes alike, so every part `tokGo` ends at a blank is
left by `swGo` outside quotes -/
theorem tokens_closed (b : Bool) (cur q : Bytes) :
    ∀ w, SwReach b cur w → ∀ t ∈ (tokGo b cur q).1, Closed t := by
  fun_induction tokGo b cur q
  -- cases in the order of the branches of `tokGo` (the same as those of `swGo`): 1 end of input;
  -- inside quotes: 2 closing quote, 3 lone backslash at the end, 4 escaped byte, 5 other byte;
  -- outside quotes: 6 opening quote, 7 blank, 8 lone backslash at the end, 9 escaped byte, 10 other byte
  case case1 | case3 | case8 => simp
  case case2 h ih =>
    exact fun w hr => ih w (hr.append [_] fun ws X => by simp [swGo_true_cons, h])
  case case4 hq hb d _ ih =>
    exact fun w hr => ih (w ++ [d]) (hr.append [_, d] fun ws X => by simp [swGo_true_cons, hq, hb])
  case case5 c _ hq hb ih =>
    exact fun w hr => ih (w ++ [c]) (hr.append [c] fun ws X => by simp [swGo_true_cons, hq, hb])
  case case6 h ih =>
    exact fun w hr => ih w (hr.append [_] fun ws X => by simp [swGo_false_cons, h])
  case case7 hts ih =>
    intro w hr t ht
    rcases List.mem_cons.mp ht with rfl | ht
    · exact closed_of_swreach _ w hr
    · exact ih [] swreach_nil t (hts ▸ ht)
  case case9 hq hs hb d _ ih =>
    exact fun w hr => ih (w ++ [d]) (hr.append [_, d] fun ws X => by simp [swGo_false_cons, hq, hs, hb])
  case case10 c _ hq hs hb ih =>
    exact fun w hr => ih (w ++ [c]) (hr.append [c] fun ws X => by simp [swGo_false_cons, hq, hs, hb])

theorem parts_closed (q : Bytes) : ∀ t ∈ (tokGo false [] q).1, Closed t :=
  tokens_closed false [] q [] swreach_nil

theorem closed_quote (add : Bytes) : Closed (quote add) :=
  closed_of_swreach _ add fun ws X => swGo_quote add [] ws X

theorem closed_bar : Closed wBar :=
  closed_of_swreach _ wBar fun ws X => swGo_plain wBar [] ws X (by decide)

theorem splitWords_closed (p rest : Bytes) (hp : Closed p) :
    splitWords (p ++ cSpace :: rest) = splitWords p ++ splitWords rest := by
  unfold splitWords
  rw [hp [] rest, swGo_acc]
  rfl

theorem words_joinSp (ps : List Bytes) (hc : ∀ t ∈ ps.dropLast, Closed t) :
    splitWords (joinSp ps) = ps.flatMap splitWords := by
  induction ps with
  | nil => rfl
  | cons p rest ih =>
    cases rest with
    | nil => simp [joinSp]
    | cons p2 rest2 =>
      rw [show joinSp (p :: p2 :: rest2) = p ++ cSpace :: joinSp (p2 :: rest2) from rfl,
        splitWords_closed _ _ (hc p (by simp [List.dropLast])),
        ih (fun t ht => hc t (by simpa [List.dropLast] using Or.inr ht))]
      rfl

theorem words_pref (ps : List Bytes) (hc : ∀ t ∈ ps, Closed t) (x : Bytes) :
    splitWords (joinSp ps ++ cSpace :: x) = ps.flatMap splitWords ++ splitWords x := by
  induction ps with
  | nil => unfold splitWords; rw [joinSp, List.nil_append, swGo_blank]; rfl
  | cons p rest ih =>
    cases rest with
    | nil => simp [joinSp, splitWords_closed _ _ (hc p (by simp))]
    | cons p2 rest2 =>
      rw [show joinSp (p :: p2 :: rest2) ++ cSpace :: x =
          p ++ cSpace :: (joinSp (p2 :: rest2) ++ cSpace :: x) by simp [joinSp],
        splitWords_closed _ _ (hc p (by simp)), ih (fun t ht => hc t (by simp [ht]))]
      simp only [List.flatMap_cons, List.append_assoc]

end C19
