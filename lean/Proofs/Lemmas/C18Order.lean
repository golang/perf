/-
C18: the order hypotheses of the series theorems — `TotalOrder env.le` on the string comparison,
`StrictOrder env.lt` on the comparison of normalised dates (Go's string order `Series.bytesLe` satisfies
both) — and `latest`, the element a left-to-right scan for the maximum keeps.
-/
import Model.Series.Builder

namespace C18
open Series

/-- hypothesis on `env.lt` (which compares the normalised dates): a strict total order on byte strings -/
structure StrictOrder (lt : Bytes → Bytes → Bool) : Prop where
  irrefl : ∀ a, lt a a = false
  trans : ∀ a b c, lt a b = true → lt b c = true → lt a c = true
  total : ∀ a b, lt a b = false → lt b a = false → a = b

theorem StrictOrder.asymm {lt : Bytes → Bytes → Bool} (ho : StrictOrder lt) {a b : Bytes} (h : lt a b = true) :
    lt b a = false := by
  cases h' : lt b a with
  | false => rfl
  | true => rw [← ho.irrefl a, ho.trans _ _ _ h h']

theorem StrictOrder.not_lt_trans {lt : Bytes → Bytes → Bool} (ho : StrictOrder lt) {a b c : Bytes}
    (h1 : lt a b = false) (h2 : lt b c = false) : lt a c = false := by
  cases hac : lt a c with
  | false => rfl
  | true =>
    cases hba : lt b a with
    | true => rw [ho.trans _ _ _ hba hac] at h2; exact h2
    | false => rw [ho.total a b h1 hba] at hac; rw [hac] at h2; exact h2

/-- the element a left-to-right scan keeps when it moves on only to a strictly later one -/
def latest {α} (lt : Bytes → Bytes → Bool) (f : α → Bytes) (x0 : α) (xs : List α) : α :=
  xs.foldl (fun m x => if lt (f m) (f x) then x else m) x0

theorem latest_cons {α} (lt : Bytes → Bytes → Bool) (f : α → Bytes) (x0 y : α) (ys : List α) :
    latest lt f x0 (y :: ys) = latest lt f (if lt (f x0) (f y) then y else x0) ys := rfl

theorem latest_mem {α} (lt : Bytes → Bytes → Bool) (f : α → Bytes) (x0 : α) (xs : List α) :
    latest lt f x0 xs ∈ x0 :: xs := by
  induction xs generalizing x0 with
  | nil => exact List.mem_singleton.mpr rfl
  | cons y ys ih =>
    rw [latest_cons]
    rcases List.mem_cons.mp (ih (if lt (f x0) (f y) then y else x0)) with h | h
    · rw [h]; split <;> simp
    · exact List.mem_cons_of_mem _ (List.mem_cons_of_mem _ h)

theorem latest_max {α} {lt : Bytes → Bytes → Bool} (ho : StrictOrder lt) (f : α → Bytes) (x0 : α) (xs : List α) :
    ∀ x ∈ x0 :: xs, lt (f (latest lt f x0 xs)) (f x) = false := by
  induction xs generalizing x0 with
  | nil => intro x hx; rw [List.mem_singleton.mp hx]; exact ho.irrefl _
  | cons y ys ih =>
    -- the scan continues from `m`, the later of `x0` and `y`; what it keeps does not precede `m`
    rw [latest_cons]
    have hm := ih (if lt (f x0) (f y) then y else x0)
    have hr := hm _ (List.mem_cons_self ..)
    intro x hx
    rcases List.mem_cons.mp hx with rfl | hx
    · refine ho.not_lt_trans hr ?_
      split
      · exact ho.asymm ‹_›
      · exact ho.irrefl _
    rcases List.mem_cons.mp hx with rfl | hx
    · refine ho.not_lt_trans hr ?_
      split
      · exact ho.irrefl _
      · exact Bool.eq_false_iff.mpr ‹_›
    · exact hm x (List.mem_cons_of_mem _ hx)

theorem latest_perm {α} {lt : Bytes → Bytes → Bool} (ho : StrictOrder lt) (f : α → Bytes) {x0 y0 : α} {xs ys : List α}
    (p : (x0 :: xs).Perm (y0 :: ys)) : f (latest lt f x0 xs) = f (latest lt f y0 ys) :=
  ho.total _ _ (latest_max ho f x0 xs _ (p.mem_iff.mpr (latest_mem lt f y0 ys)))
    (latest_max ho f y0 ys _ (p.mem_iff.mp (latest_mem lt f x0 xs)))

/-- hypothesis on the string comparison `env.le`: a total order on byte strings
(`bytesLe_totalOrder`: Go's string order is one) -/
structure TotalOrder (le : Bytes → Bytes → Bool) : Prop where
  trans : ∀ a b c, le a b = true → le b c = true → le a c = true
  total : ∀ a b, (le a b || le b a) = true
  antisymm : ∀ a b, le a b = true → le b a = true → a = b

theorem bytesLe_iff : ∀ (a b : Bytes), bytesLe a b = true ↔ a ≤ b
  | [], _ => by simp [bytesLe]
  | _ :: _, [] => by simp [bytesLe]
  | x :: xs, y :: ys => by
    simp only [bytesLe, Bool.or_eq_true, Bool.and_eq_true, decide_eq_true_eq, beq_iff_eq, List.cons_le_cons_iff,
      bytesLe_iff xs ys]

theorem bytesLe_totalOrder : TotalOrder bytesLe :=
  { trans := fun a b c h1 h2 =>
      (bytesLe_iff a c).mpr (List.le_trans ((bytesLe_iff a b).mp h1) ((bytesLe_iff b c).mp h2))
    total := fun a b => by rw [Bool.or_eq_true, bytesLe_iff, bytesLe_iff]; exact List.le_total a b
    antisymm := fun a b h1 h2 => List.le_antisymm ((bytesLe_iff a b).mp h1) ((bytesLe_iff b a).mp h2) }

theorem strictOrder_of_total (env : Env) (ho : TotalOrder env.le) : StrictOrder env.lt := by
  have refl : ∀ a, env.le a a = true := fun a => by simpa using ho.total a a
  refine ⟨?_, ?_, ?_⟩
  · intro a; simp [Env.lt, refl]
  · intro a b c h1 h2
    simp only [Env.lt, Bool.not_eq_true'] at h1 h2 ⊢
    -- ¬ b ≤ a, ¬ c ≤ b ⊢ ¬ c ≤ a
    cases hca : env.le c a with
    | false => rfl
    | true =>
      have hab : env.le a b = true := by
        have := ho.total a b
        rw [h1] at this; simpa using this
      have := ho.trans c a b hca hab
      rw [h2] at this; exact absurd this (by simp)
  · intro a b h1 h2
    simp only [Env.lt, Bool.not_eq_false'] at h1 h2
    exact ho.antisymm a b h2 h1

end C18
