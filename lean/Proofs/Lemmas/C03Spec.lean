/-
C03 helper lemmas: what the specification says about plain digit strings.
-/
import Proofs.Lemmas.C03Underscore
import Proofs.Lemmas.Shared.List

namespace C03
open Num Spec.NumText

theorem specialSpec_digit_head (c : UInt8) (x : Bytes) (h : isDec c = true) :
    specialSpec (c :: x) = none := by
  have ne : ∀ k : UInt8, isDec k = false → (k == c) = false := fun k hk => by simpa using (ne_of_class h hk).symm
  simp [specialSpec, specials, List.find?, lowerc_dec h, List.cons_beq_cons, ne 105 rfl, ne 43 rfl, ne 45 rfl, ne 110 rfl]

theorem underscoresOK_digits (x : Bytes) (h : x.all isDec = true) (prev : Bool) : underscoresOK isDec prev x = true :=
  underscoresOK_no_us isDec x (fun c hc => ne_of_class (List.all_eq_true.mp h c hc) rfl) prev

theorem underscoreOK_digits (s : Bytes) (hs : s.all isDec = true) : underscoreOK s = true :=
  underscoreOK_no_us s fun c hc => ne_of_class (List.all_eq_true.mp hs c hc) rfl

theorem strip_digits (x : Bytes) (h : x.all isDec = true) : strip x = x := by
  unfold strip
  rw [List.filter_eq_self]
  intro c hc
  simpa using ne_of_class (k := 95) (List.all_eq_true.mp h c hc) rfl

theorem parseBody_digits (x : Bytes) (hne : x ≠ []) (h : x.all isDec = true) :
    parseBody isDec 10 101 1 false x = some (valOf 10 x, 0) := by
  unfold parseBody
  simp only [Shared.takeWhile_of_all x h, Shared.dropWhile_of_all x h]
  cases x with
  | nil => exact absurd rfl hne
  | cons c x => simp

theorem isHexPrefix_digits (x : Bytes) (h : x.all isDec = true) : isHexPrefix x = false := by
  unfold isHexPrefix
  split
  · rename_i y _
    simp only [List.all_cons, Bool.and_eq_true] at h
    rw [lowerc_dec h.2.1]; simpa using ne_of_class (k := 120) h.2.1 rfl
  · rfl

theorem splitSign_other (c : UInt8) (x : Bytes) (h1 : c ≠ 43) (h2 : c ≠ 45) :
    splitSign (c :: x) = (false, c :: x) := by
  unfold splitSign
  split
  · rename_i heq; injection heq with h _; exact absurd h h1
  · rename_i heq; injection heq with h _; exact absurd h h2
  · rfl

/-- the text after the optional sign, as the Go parsers pick it off (`if s[0] == '+' || s[0] == '-'`) -/
def bodyOf (c0 : UInt8) (tl : Bytes) : Bytes := if c0 == 43 || c0 == 45 then tl else c0 :: tl

theorem splitSign_cons (c0 : UInt8) (tl : Bytes) : splitSign (c0 :: tl) = (c0 == 45, bodyOf c0 tl) := by
  unfold bodyOf
  by_cases hp : c0 = 43
  · subst hp; rfl
  · by_cases hm : c0 = 45
    · subst hm; rfl
    · rw [splitSign_other c0 tl hp hm]
      have e1 : (c0 == 43) = false := by simpa using hp
      have e2 : (c0 == 45) = false := by simpa using hm
      simp [e1, e2]

theorem bodyOf_length_le (c0 : UInt8) (tl : Bytes) : (bodyOf c0 tl).length ≤ tl.length + 1 := by
  unfold bodyOf; split <;> simp

theorem bodyOf_ne_nil (c0 : UInt8) (tl : Bytes) (h : (c0 == 43 || c0 == 45) = false) : bodyOf c0 tl ≠ [] := by
  unfold bodyOf; rw [h]; exact List.cons_ne_nil _ _

/-- `parseIntSpec` after the sign has been picked off -/
def specIntBody (neg : Bool) (ds : Bytes) : Except NumErr Int :=
  if ds.isEmpty || !ds.all isDec then .error .syntax
  else
    let v : Int := if neg then -(valOf 10 ds : Int) else (valOf 10 ds : Int)
    if v < -(2 ^ 63 : Int) || v > (2 ^ 63 : Int) - 1 then .error .range else .ok v

theorem parseIntSpec_eq (s : Bytes) : parseIntSpec s = specIntBody (splitSign s).1 (splitSign s).2 := rfl

theorem recognise_digits (x : Bytes) (hne : x ≠ []) (h : x.all isDec = true) :
    recognise x = some { neg := false, hex := false, mant := valOf 10 x, exp := 0 } := by
  cases x with
  | nil => exact absurd rfl hne
  | cons c x =>
    have hc : isDec c = true := by simp only [List.all_cons, Bool.and_eq_true] at h; exact h.1
    unfold recognise
    rw [splitSign_other c x (ne_of_class hc rfl) (ne_of_class hc rfl)]
    simp only [isHexPrefix_digits _ h, underscoresOK_digits _ h, strip_digits _ h,
      parseBody_digits _ hne h]
    simp

/-- A non-empty digit string whose value is below the overflow threshold denotes, by the
specification, the correctly rounded value of that integer. -/
theorem parseFloatSpec_digits (x : Bytes) (hne : x ≠ []) (h : x.all isDec = true)
    (hlt : valOf 10 x < overflowThreshold) :
    parseFloatSpec x = .ok (F64.ofDecimal false (valOf 10 x) 0) := by
  unfold parseFloatSpec
  cases x with
  | nil => exact absurd rfl hne
  | cons c x =>
    have hc : isDec c = true := by simp only [List.all_cons, Bool.and_eq_true] at h; exact h.1
    rw [specialSpec_digit_head c x hc]
    simp only [recognise_digits _ hne h, Parsed.eval]
    have : overflows 10 (valOf 10 (c :: x)) 0 = false := by
      unfold overflows; simp; exact hlt
    simp [this]

/-- `float64(int64)` of a non-negative integer is ONE rounding of that integer: the same
`roundRat` call the specification makes. -/
theorem ofInt_eq_ofDecimal (n : Nat) : F64.ofInt (n : Int) = F64.ofDecimal false n 0 := by
  unfold F64.ofInt F64.ofDecimal F64.zero
  by_cases h : n = 0
  · subst h; simp
  · have h1 : ((n : Int) == 0) = false := by simp [h]
    have h2 : (n == 0) = false := by simp [h]
    have h3 : decide ((n : Int) < 0) = false := by simp
    simp [h1, h2, h3]

end C03
