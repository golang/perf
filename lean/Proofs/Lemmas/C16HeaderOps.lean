/-
C16 — ToText's header assembly: the level loop over the KeyHeader nodes never moves the cursor
backwards and places one centred cell per node over exactly the node's key columns.
-/
import Proofs.Lemmas.C16RenderText
import Proofs.Lemmas.C16Header

namespace C16
open Tab.TextTab Tab.Render Tab.KeyHeader

/-- the texttab cell ToText adds for a header node on row `row` -/
def hdrCell (row : Nat) (n : Node) : Cell :=
  { row := row, col := textStartCol n.start,
    span := textStartCol (n.start + n.len) - textStartCol n.start,
    value := n.value, margin := barMargin, align := .center }

def nodeOps (n : Node) : List Op :=
  [Op.col (textStartCol n.start),
   Op.span (textStartCol (n.start + n.len) - textStartCol n.start) n.value [.center, .margin barMargin]]

theorem nodes_run : ∀ (nodes : List Node) (s e : Nat) (t : Table),
    Tiles s e (nodeSpans nodes) → t.curCol ≤ textStartCol s →
    ∃ t', Adds t (nodes.flatMap nodeOps) (nodes.map (hdrCell t.curRow)) t' ∧ t'.curCol ≤ textStartCol e := by
  intro nodes
  induction nodes with
  | nil =>
    intro s e t h hc
    obtain rfl : s = e := h
    exact ⟨t, Adds.nil t, hc⟩
  | cons n rest ih =>
    intro s e t h hc
    obtain ⟨hs, hlen, hrest⟩ := h
    obtain rfl : n.start = s := hs
    have hmono : textStartCol n.start ≤ textStartCol (n.start + n.len) := textStartCol_mono (Nat.le_add_right ..)
    have a := Adds.col_span hc (textStartCol (n.start + n.len) - textStartCol n.start) n.value
      [.center, .margin barMargin]
    obtain ⟨t', h, h3⟩ := ih (n.start + n.len) e
      (({ t with curCol := textStartCol n.start } : Table).span
        (textStartCol (n.start + n.len) - textStartCol n.start) n.value [.center, .margin barMargin])
      hrest (by show textStartCol n.start + _ ≤ _; omega)
    exact ⟨t', a.append h, h3⟩

theorem levelOps_eq (rEdge : Nat) (nodes : List Node) :
    levelOps rEdge nodes = Op.row :: (nodes.flatMap nodeOps ++ [Op.col rEdge, Op.span 1 [] [.margin edgeMargin]]) := by
  have : (fun n : Node => [Op.col (textStartCol n.start),
      Op.span (textStartCol (n.start + n.len) - textStartCol n.start) n.value [Opt.center, Opt.margin barMargin]])
      = nodeOps := rfl
  simp [levelOps, this]

/-- the right-edge cell of a header row -/
def edgeCell (row rEdge : Nat) : Cell :=
  { row := row, col := rEdge, span := 1, value := [], margin := edgeMargin, align := .left }

theorem level_run (rEdge ncols : Nat) (hre : textStartCol ncols ≤ rEdge) (nodes : List Node) (t : Table)
    (h : Tiles 0 ncols (nodeSpans nodes)) :
    ∃ t', Rows t (levelOps rEdge nodes)
      (nodes.map (hdrCell t.row.curRow) ++ [edgeCell t.row.curRow rEdge]) 1 t' := by
  obtain ⟨t1, h1, h3⟩ := nodes_run nodes 0 ncols t.row h (Nat.zero_le _)
  have a := h1.append (h1.row ▸ Adds.col_span (Nat.le_trans h3 hre) 1 [] [.margin edgeMargin])
  exact ⟨_, levelOps_eq rEdge nodes ▸ a.rows (by simp)⟩

/-- the cells of all header rows, starting at row `row` -/
def hdrCells (rEdge : Nat) : Nat → Nat → List Node → List Cell
  | 0, _, _ => []
  | fuel + 1, row, nodes =>
    if nodes.isEmpty then [] else
      nodes.map (hdrCell row) ++ [edgeCell row rEdge] ++ hdrCells rEdge fuel (row + 1) (nodes.flatMap Node.children)

/-- number of header rows the loop writes -/
def levelCount : Nat → List Node → Nat
  | 0, _ => 0
  | fuel + 1, nodes => if nodes.isEmpty then 0 else 1 + levelCount fuel (nodes.flatMap Node.children)

theorem header_nil (rEdge k r : Nat) :
    headerOps rEdge k [] = [] ∧ hdrCells rEdge k r [] = [] ∧ levelCount k [] = 0 := by
  cases k <;> exact ⟨rfl, rfl, rfl⟩

/-- the header loop over one level and everything below it: on a level of a good forest, `fuel`
levels above its leaves, the loop with any fuel `k > fuel` writes exactly `hdrCells`, one row per level -/
theorem header_run (keys : List (List Bytes)) (rEdge ncols : Nat) (hre : textStartCol ncols ≤ rEdge) :
    ∀ (fuel k lvl : Nat) (nodes : List Node) (t : Table), fuel < k → Level keys fuel lvl 0 ncols nodes →
    ∃ t', Rows t (headerOps rEdge k nodes) (hdrCells rEdge k t.row.curRow nodes) (levelCount k nodes) t' := by
  intro fuel k
  induction k generalizing fuel with
  | zero => intro _ _ _ hk; omega
  | succ k ih =>
    intro lvl nodes t hk hl
    by_cases hn : nodes.isEmpty = true
    · simp only [headerOps, hdrCells, levelCount, if_pos hn]
      exact ⟨t, Rows.nil t⟩
    · obtain ⟨t1, a⟩ := level_run rEdge ncols hre nodes t hl.1
      -- the levels below: none when `fuel = 0` (the loop stops at the empty level)
      obtain ⟨t2, b⟩ : ∃ t2, Rows t1 (headerOps rEdge k (nodes.flatMap Node.children))
          (hdrCells rEdge k t1.row.curRow (nodes.flatMap Node.children))
          (levelCount k (nodes.flatMap Node.children)) t2 := by
        cases fuel with
        | zero =>
          obtain ⟨n1, n2, n3⟩ := header_nil rEdge k t1.row.curRow
          rw [List.flatMap_eq_nil_iff.mpr hl.2, n1, n2, n3]
          exact ⟨t1, Rows.nil t1⟩
        | succ fuel => exact ih fuel (lvl + 1) _ t1 (by omega) hl.children
      rw [a.next] at b
      simp only [headerOps, hdrCells, levelCount, if_neg hn]
      exact ⟨t2, a.append b⟩

theorem newKeyHeader_run (keys : List (List Bytes)) (nf rEdge : Nat) (hre : textStartCol keys.length ≤ rEdge)
    (t : Table) :
    ∃ t', Rows t (headerOps rEdge (nf + 1) (newKeyHeader keys nf))
      (hdrCells rEdge (nf + 1) t.row.curRow (newKeyHeader keys nf)) (levelCount (nf + 1) (newKeyHeader keys nf)) t' := by
  have hg : Good keys nf 0 0 keys.length (newKeyHeader keys nf) :=
    newKeyHeader_eq_walk keys nf ▸ walk_good keys nf 0 0 keys.length
  cases nf with
  | zero =>
    rw [show newKeyHeader keys 0 = [] from hg]
    exact ⟨t, Rows.nil t⟩
  | succ f =>
    have hl := hg.level
    rw [Nat.zero_add, Nat.zero_add] at hl
    exact header_run keys rEdge keys.length hre f _ 1 _ t (by omega) hl

end C16
