/-
C19 helper lemmas towards the integrity of reachable database states (`Inv`, which holds the `WF` that
`query_result_spec` assumes): every result the server reads from a file carries the `upload` label;
the primary-key test. The upload request as a whole is in C19Store.
-/
import Model.Storage.Query
import Model.Storage.Fmt
import Proofs.Lemmas.C19Rel
import Proofs.Lemmas.C19Assoc
import Proofs.Lemmas.C19Reader

namespace C19
open Storage.Query Storage.Fmt

/-- `l` binds `k` to `v` and to nothing else -/
def Binds (l : Labels) (k v : Bytes) : Prop := (k, v) ∈ l ∧ ∀ x ∈ l, x.1 = k → x = (k, v)

theorem binds_set_other {l : Labels} {k v : Bytes} (h : Binds l k v) (k' v' : Bytes) (hk : k' ≠ k) :
    Binds (l.set k' v') k v :=
  ⟨mem_set_of_mem _ _ _ _ h.1 hk.symm, fun x hx hxk =>
    (mem_set_cases _ _ _ _ hx).elim (fun e => absurd (by subst e; exact hxk) hk) (h.2 x · hxk)⟩

theorem binds_ite_set {l : Labels} {k v : Bytes} (h : Binds l k v) (c : Prop) [Decidable c]
    (k' v' : Bytes) (hk : k' ≠ k) : Binds (if c then l else l.set k' v') k v := by
  split
  · exact h
  · exact binds_set_other h k' v' hk

theorem metaLabels_upload (id : Bytes) (i : Nat) (user fname : Bytes) :
    Binds (metaLabels id i user fname) uploadKey id := by
  have base : Binds (Labels.set [] (Bytes.ofString "upload") id) uploadKey id :=
    ⟨List.mem_singleton.mpr rfl, fun x hx _ => List.mem_singleton.mp hx⟩
  exact binds_ite_set (binds_ite_set
    (binds_set_other (binds_set_other base (Bytes.ofString "upload-part") _ (by decide +kernel))
      (Bytes.ofString "upload-time") _ (by decide +kernel))
    _ (Bytes.ofString "upload-file") _ (by decide +kernel)) _ (Bytes.ofString "by") _ (by decide +kernel)

/-- reader invariant: `upload` is a permanent label with value `id` -/
def RInv (id : Bytes) (r : Reader) : Prop :=
  (∃ p, r.perm = some p ∧ Labels.has p uploadKey = true) ∧ (uploadKey, id) ∈ r.labels

theorem all_upload (id : Bytes) (l : Labels) (h : Binds l uploadKey id) (content : Bytes) :
    ∀ res ∈ (Reader.addLabels {} l).all content, (uploadKey, id) ∈ res.labels := by
  -- a permanent label is never overwritten by a configuration line
  have hkey : ∀ (rd : Reader) (k : Bytes), RInv id rd → ¬ (rd.perm.getD []).has k = true →
      uploadKey ≠ k := by
    rintro rd k ⟨⟨p, hp, hhas⟩, _⟩ hnot rfl
    rw [hp] at hnot
    exact hnot hhas
  have rule : ReaderRule (RInv id) (fun _ => True) (fun res => (uploadKey, id) ∈ res.labels) :=
    { erase := fun rd k h hnot => ⟨h.1, mem_erase_of_mem _ _ _ h.2 (hkey rd k h hnot)⟩
      set := fun rd _ k v h _ _ hnot _ => ⟨h.1, mem_set_of_mem _ _ _ _ h.2 (hkey rd k h hnot)⟩
      num := fun _ _ h => h
      perm := Or.inl fun rd h => by obtain ⟨⟨p, hp, _⟩, _⟩ := h; simp [hp]
      result := fun rd line name h _ _ => by rw [newResult_eq]; exact ⟨h.2, h.1, h.2⟩ }
  exact rule.all _ content ⟨⟨l, rfl, has_of_mem l _ h.1⟩, mem_setAll_of_mem _ _ l [] (Or.inr h.1) h.2⟩
    (fun _ _ => trivial)

theorem pkClash_nodup (ls : List LabelRow) (h : pkClash ls = false) :
    (ls.map fun l => (l.rid, l.name)).Nodup := by
  induction ls with
  | nil => simp
  | cons l rest ih =>
    unfold pkClash at h
    simp only [Bool.or_eq_false_iff] at h
    simp only [List.map_cons, List.nodup_cons]
    refine ⟨?_, ih h.2⟩
    intro hm
    obtain ⟨m, hmr, hme⟩ := List.mem_map.mp hm
    have hany := h.1
    rw [List.any_eq_false] at hany
    have := hany m hmr
    simp only [Prod.mk.injEq] at hme
    simp [hme.1, hme.2] at this

/-- what every reachable state satisfies: `WF`, distinct upload ids, and every record belongs to a
registered upload -/
structure Inv (db : DB) : Prop where
  wf : WF db
  upNodup : (db.uploads.map (·.id)).Nodup
  recUp : ∀ r ∈ db.records, r.upload ∈ db.uploads.map (·.id)

theorem inv_empty : Inv {} :=
  ⟨⟨by simp, by simp, by simp, by simp⟩, by simp, by simp⟩

theorem inv_add_upload (db : DB) (h : Inv db) (row : UploadRow)
    (hfresh : row.id ∉ db.uploads.map (·.id)) :
    Inv { db with uploads := db.uploads ++ [row] } := by
  refine ⟨⟨h.wf.recNodup, h.wf.labelPK, h.wf.fk, h.wf.uploadLabel⟩, ?_, ?_⟩
  · rw [List.map_append, List.map_singleton, ← List.concat_eq_append]
    exact List.Nodup.concat hfresh h.upNodup
  · intro r hr
    simp only [List.map_append, List.mem_append]
    exact Or.inl (h.recUp r hr)

end C19
