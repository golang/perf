/-
C18 helper: the output layout of NormalizeDateString is order preserving — fixed-width
zero-padded fields compare like numbers, and the variable-width fraction compares correctly
because '+' (0x2B) < '.' (0x2E) < '0'..'9'.
-/
import Model.Series.Date
import Mathlib.Tactic.Linarith

namespace C18
open Series.Date

theorem lex_of_lt_same_len {a b : List Nat} (h : a < b) (hl : a.length = b.length) (r1 r2 : List Nat) :
    a ++ r1 < b ++ r2 := by
  induction h with
  | nil => simp at hl
  | rel hab => exact List.Lex.rel hab
  | cons _ ih => exact List.Lex.cons (ih (by simpa using hl))

theorem div_mod_lt {a b : Nat} (d : Nat) (h : a < b) : a / d < b / d ∨ (a / d = b / d ∧ a % d < b % d) := by
  rcases Nat.lt_or_eq_of_le (Nat.div_le_div_right (c := d) h.le) with hlt | e
  · exact Or.inl hlt
  · have ha := Nat.div_add_mod a d
    have hb := Nat.div_add_mod b d
    rw [e] at ha
    exact Or.inr ⟨e, by omega⟩

theorem lex_field {p q r r' : List Nat} (h : p < q ∨ (p = q ∧ r < r')) (hl : p.length = q.length) :
    p ++ r < q ++ r' := by
  rcases h with h | ⟨rfl, h⟩
  · exact lex_of_lt_same_len h hl _ _
  · exact List.append_left_lt h

theorem pad2_lt {a b : Nat} (h : a < b) (hb : b < 100) : pad2 a < pad2 b := by
  rcases div_mod_lt 10 h with h1 | ⟨e, h0⟩
  · exact List.Lex.rel (by omega)
  · rw [pad2, pad2, e]
    exact List.Lex.cons (List.Lex.rel (Nat.add_lt_add_left h0 48))

theorem pad2_length (a : Nat) : (pad2 a).length = 2 := rfl
theorem pad4_length (a : Nat) : (pad4 a).length = 4 := rfl

theorem pad4_eq (n : Nat) : pad4 n = pad2 (n / 100) ++ pad2 (n % 100) := by
  rw [pad4, pad2, pad2, Nat.div_div_eq_div_mul, Nat.mod_mod_of_dvd n (by decide : 10 ∣ 100),
    show n % 100 / 10 % 10 = n / 10 % 10 by omega]
  rfl

theorem pad4_lt {a b : Nat} (h : a < b) (hb : b < 10000) : pad4 a < pad4 b := by
  rw [pad4_eq, pad4_eq]
  rcases div_mod_lt 100 h with h1 | ⟨e, h0⟩
  · exact lex_field (Or.inl (pad2_lt h1 (by omega))) rfl
  · exact lex_field (Or.inr ⟨by rw [e], pad2_lt h0 (by omega)⟩) rfl

theorem pad2_field {a b : Nat} (hb : b < 100) (sep : List Nat) {r r' : List Nat} (h : a < b ∨ (a = b ∧ r < r')) :
    pad2 a ++ (sep ++ r) < pad2 b ++ (sep ++ r') := by
  rcases h with h | ⟨rfl, h⟩
  · exact lex_field (Or.inl (pad2_lt h hb)) rfl
  · exact List.append_left_lt (List.append_left_lt h)

theorem all_zero_digs : ∀ {k n : Nat}, n < 10 ^ k → (digs k n).all (· = 0) = decide (n = 0)
  | 0, n, h => by simp at h; simp [digs, h]
  | k + 1, n, h => by
    have hp : 0 < 10 ^ k := Nat.pow_pos (by norm_num)
    have := Nat.div_add_mod n (10 ^ k)
    rw [digs, List.all_cons, all_zero_digs (Nat.mod_lt _ hp), ← Bool.decide_and]
    exact decide_eq_decide.mpr ⟨fun ⟨h1, h2⟩ => by rw [h1, h2] at this; omega, fun h => by subst h; simp⟩

/-- zero prints as "+00:00" alone; any other fraction starts with its leading digit -/
theorem fracTail_digs {k n : Nat} (h : n < 10 ^ (k + 1)) :
    fracTail (digs (k + 1) n) =
      if n = 0 then [43, 48, 48, 58, 48, 48] else (48 + n / 10 ^ k) :: fracTail (digs k (n % 10 ^ k)) := by
  have := all_zero_digs h
  rw [digs] at this ⊢
  rw [fracTail, this]
  simp only [decide_eq_true_eq]

theorem fracTail_lt : ∀ (k n1 n2 : Nat), n1 < n2 → n2 < 10 ^ k →
    fracTail (digs k n1) < fracTail (digs k n2)
  | 0, n1, n2, h, h2 => by simp at h2; omega
  | k + 1, n1, n2, h, h2 => by
    rw [fracTail_digs h2, if_neg (by omega), fracTail_digs (h.trans h2)]
    split
    · exact List.Lex.rel (Nat.lt_add_right _ (by decide))
    · rcases div_mod_lt (10 ^ k) h with hd | ⟨e, hm⟩
      · exact List.Lex.rel (Nat.add_lt_add_left hd 48)
      · rw [e]
        exact List.Lex.cons (fracTail_lt k _ _ hm (Nat.mod_lt _ (Nat.pow_pos (by norm_num))))

theorem fracPart_lt {n1 n2 : Nat} (h : n1 < n2) (h2 : n2 < 10 ^ 9) : fracPart n1 < fracPart n2 := by
  simp only [fracPart, nanoDigits, all_zero_digs h2, all_zero_digs (h.trans h2), decide_eq_true_eq]
  rw [if_neg (show ¬ n2 = 0 by omega)]
  split
  · exact List.Lex.rel (by decide)
  · exact List.Lex.cons (fracTail_lt 9 n1 n2 h h2)

theorem fmtYear_of_range {y : Int} (h0 : 0 ≤ y) (h1 : y < 10000) : fmtYear y = pad4 y.natAbs := by
  unfold fmtYear
  have : y.natAbs < 10000 := by omega
  simp [this, not_lt.mpr h0]

end C18
