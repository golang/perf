/-
C02 helper lemmas: the reader's scanning algorithms (ASCII bit-mask fast path, rune slow path,
skip counters, fuel) compute the declarative single-line grammar of `Model/Spec/Format.lean`; hence the
specification's streams over the model's line parsers (`Spec.FormatM`) are the specification's (`lineRecs_eq`,
on which the reader's proofs rest).
-/
import Model.Spec.Format
import Proofs.Lemmas.C02SpecM
import Proofs.Lemmas.C02Split
import Proofs.Lemmas.Shared.Runes

namespace Spec.Format
open Fmt

theorem runesFrom_zero_cons (c : UInt8) (rest : Bytes) :
    runesFrom 0 (c :: rest) =
      ((decodeRune (c :: rest)).1, (c :: rest).take (decodeRune (c :: rest)).2) ::
        runesFrom ((decodeRune (c :: rest)).2 - 1) rest := rfl

@[simp] theorem enc_nil : enc [] = [] := rfl
@[simp] theorem enc_cons (r : RuneB) (rs : List RuneB) : enc (r :: rs) = r.2 ++ enc rs := by
  simp [enc]

theorem runesFrom_drop : ∀ (x : Bytes) (k : Nat), runesFrom k x = runes (x.drop k) := by
  intro x
  induction x with
  | nil => intro k; cases k <;> rfl
  | cons c x ih =>
    intro k
    cases k with
    | zero => rfl
    | succ k => exact ih k

theorem runes_eq (x : Bytes) : runes x = Shared.R x := by
  induction x using Shared.length_induction with
  | _ x ih =>
    cases x with
    | nil => rfl
    | cons c rest =>
      have hpos := decodeRune_width_pos c rest
      have hlt := Shared.drop_rune_lt c rest
      rw [← Shared.fmt_decodeRune_eq] at hlt
      unfold runes
      rw [runesFrom_zero_cons, Shared.R_cons, ← Shared.fmt_decodeRune_eq, runesFrom_drop]
      generalize (decodeRune (c :: rest)).2 = w at hpos hlt
      obtain ⟨m, rfl⟩ : ∃ m, w = m + 1 := ⟨w - 1, by omega⟩
      rw [List.drop_succ_cons] at hlt
      rw [Nat.add_sub_cancel, ih (rest.drop m) hlt]
      rfl

theorem enc_runesFrom (x : Bytes) (k : Nat) : enc (runesFrom k x) = x.drop k := by
  rw [runesFrom_drop, runes_eq]
  exact Shared.R_flat _

theorem enc_runes (x : Bytes) : enc (runes x) = x := enc_runesFrom x 0

theorem runesFrom_enc_pos (x : Bytes) (k : Nat) : ∀ r ∈ runesFrom k x, r.2 ≠ [] := by
  rw [runesFrom_drop, runes_eq]
  exact Shared.R_pos _

theorem runes_split {x : Bytes} {a b : List RuneB} (h : runes x = a ++ b) :
    runes (enc a) = a ∧ runes (enc b) = b := by
  rw [runes_eq] at h
  rw [runes_eq, runes_eq]
  exact Shared.R_split x a b h

/-- the runes after the first white-space rune -/
def afterSp (uc : UC) (rs : List RuneB) : List RuneB :=
  match rs.dropWhile (fun r => !isSp uc r) with
  | [] => []
  | _ :: m => m

theorem takeField_spec (uc : UC) (x : Bytes) : ∀ k,
    takeField uc k x =
      (x.take k ++ enc ((runesFrom k x).takeWhile (fun r => !isSp uc r)), enc (afterSp uc (runesFrom k x))) := by
  induction x with
  | nil => intro k; simp [takeField, runesFrom, enc, afterSp]
  | cons c rest ih =>
    intro k
    cases k with
    | succ k =>
      simp only [takeField, runesFrom, ih k, List.take_succ_cons, List.cons_append]
    | zero =>
      rw [runesFrom_zero_cons, takeField_zero]
      have hw := decodeRune_width_pos c rest
      generalize decodeRune (c :: rest) = d at hw ⊢
      obtain ⟨r, n⟩ := d
      obtain ⟨m, rfl⟩ : ∃ m, n = m + 1 := ⟨n - 1, by omega⟩
      cases hs : uc.space r
      · simp [isSp, hs, afterSp, enc, ih m]
      · simp [isSp, hs, afterSp, enc_runesFrom]

theorem skipSpaces_spec (uc : UC) (x : Bytes) : ∀ k,
    skipSpaces uc k x = enc ((runesFrom k x).dropWhile (isSp uc)) := by
  induction x with
  | nil => intro k; simp [skipSpaces, runesFrom, enc]
  | cons c rest ih =>
    intro k
    cases k with
    | succ k => simp only [skipSpaces, runesFrom, ih k]
    | zero =>
      have hall : enc (runesFrom 0 (c :: rest)) = c :: rest := enc_runesFrom (c :: rest) 0
      rw [runesFrom_zero_cons] at hall ⊢
      rw [skipSpaces_zero]
      cases hs : uc.space (decodeRune (c :: rest)).1
      · rw [List.dropWhile_cons_of_neg (by simp [isSp, hs])]
        exact hall.symm
      · simp [hs, isSp, ih]

theorem splitAtSep_eq (sp : RuneB → Bool) (l : List RuneB) :
    splitAtSep sp l = l.takeWhile (fun r => !sp r) ::
      (match l.dropWhile (fun r => !sp r) with
       | [] => []
       | _ :: m => splitAtSep sp m) := by
  induction l with
  | nil => simp [splitAtSep]
  | cons r rs ih =>
    rw [show splitAtSep sp (r :: rs) = (if sp r then [] :: splitAtSep sp rs
          else match splitAtSep sp rs with
            | w :: ws => (r :: w) :: ws
            | [] => [[r]]) from rfl]
    by_cases h : sp r = true
    · simp [h]
    · have h' : sp r = false := by simpa using h
      simp only [h', Bool.false_eq_true, ↓reduceIte]
      rw [ih]
      simp [h']

/-- the non-empty pieces, as bytes -/
def wordsB (uc : UC) (l : List RuneB) : List Bytes :=
  ((splitAtSep (isSp uc) l).filter (fun p => !p.isEmpty)).map enc

theorem wordsB_dropWhile (uc : UC) (l : List RuneB) :
    wordsB uc (l.dropWhile (isSp uc)) = wordsB uc l := by
  induction l with
  | nil => rfl
  | cons r rs ih =>
    by_cases h : isSp uc r = true
    · rw [List.dropWhile_cons_of_pos h, ih]
      simp [wordsB, splitAtSep, h]
    · rw [List.dropWhile_cons_of_neg h]

theorem afterSp_nil (uc : UC) : afterSp uc [] = [] := rfl

theorem wordsB_step (uc : UC) (r : RuneB) (l : List RuneB) (h : isSp uc r = false) :
    wordsB uc (r :: l) =
      enc ((r :: l).takeWhile (fun r => !isSp uc r)) :: wordsB uc (afterSp uc (r :: l)) := by
  unfold wordsB
  rw [splitAtSep_eq]
  have hne : (r :: l).takeWhile (fun r => !isSp uc r) ≠ [] := by simp [h]
  simp only [List.filter_cons]
  have : (!((r :: l).takeWhile (fun r => !isSp uc r)).isEmpty) = true := by
    cases hh : (r :: l).takeWhile (fun r => !isSp uc r) with
    | nil => exact absurd hh hne
    | cons _ _ => rfl
  simp only [this, ↓reduceIte, List.map_cons]
  congr 1
  unfold afterSp
  cases (r :: l).dropWhile (fun r => !isSp uc r) with
  | nil => simp [splitAtSep]
  | cons _ m => rfl

theorem afterSp_eq_tail (uc : UC) (rs : List RuneB) :
    afterSp uc rs = (rs.dropWhile fun r => !isSp uc r).tail := by
  unfold afterSp
  cases rs.dropWhile (fun r => !isSp uc r) <;> rfl

theorem afterSp_suffix (uc : UC) (rs : List RuneB) : ∃ a, rs = a ++ afterSp uc rs := by
  obtain ⟨a, h⟩ := (List.tail_suffix _).trans (List.dropWhile_suffix (l := rs) fun r => !isSp uc r)
  exact ⟨a, by rw [afterSp_eq_tail, h]⟩

theorem splitField_spec (uc : UC) (x : Bytes) :
    splitField uc x =
      (enc ((runes x).takeWhile (fun r => !isSp uc r)),
       enc ((afterSp uc (runes x)).dropWhile (isSp uc))) := by
  unfold splitField
  rw [takeField_spec uc x 0]
  simp only [List.take_zero, List.nil_append]
  rw [skipSpaces_spec]
  obtain ⟨a, ha⟩ := afterSp_suffix uc (runes x)
  have hr : runes (enc (afterSp uc (runes x))) = afterSp uc (runes x) := (runes_split ha).2
  unfold runes at hr ⊢
  rw [hr]

theorem runes_rest (uc : UC) (y : Bytes) :
    runes (enc ((afterSp uc (runes y)).dropWhile (isSp uc))) = (afterSp uc (runes y)).dropWhile (isSp uc) := by
  obtain ⟨a, ha⟩ := afterSp_suffix uc (runes y)
  obtain ⟨b, hb⟩ := List.dropWhile_suffix (l := afterSp uc (runes y)) (isSp uc)
  exact (runes_split (a := a ++ b) (by rw [List.append_assoc, hb, ← ha])).2

theorem dropWhile_head (uc : UC) (l : List RuneB) : ∀ r ∈ (l.dropWhile (isSp uc)).head?, isSp uc r = false := by
  intro r hr
  have := List.head?_dropWhile_not (isSp uc) l
  rwa [Option.mem_def.1 hr] at this

theorem fieldsN_spec (uc : UC) : ∀ (n : Nat) (y : Bytes),
    (∀ r ∈ (runes y).head?, isSp uc r = false) → y.length < n →
    fieldsN uc n y = wordsB uc (runes y) := by
  intro n
  induction n with
  | zero => intro y _ h; omega
  | succ n ih =>
    intro y hs hl
    have hsf := splitField_spec uc y
    have hlen := splitField_length uc y
    have hrest := runes_rest uc y
    have hall := enc_runes y
    have hpos := runesFrom_enc_pos y 0
    change ∀ r ∈ runes y, r.2 ≠ [] at hpos
    generalize runes y = m at hs hsf hrest hall hpos
    cases m with
    | nil =>
      rw [← hall]
      simp [fieldsN, splitField, takeField, skipSpaces, wordsB, splitAtSep]
    | cons r l =>
      have hr := hs r rfl
      simp only [fieldsN]
      rw [hsf] at hlen ⊢
      simp only at hlen ⊢
      have hne : enc ((r :: l).takeWhile (fun r => !isSp uc r)) ≠ [] := by
        have : (r :: l).takeWhile (fun r => !isSp uc r) = r :: l.takeWhile (fun r => !isSp uc r) := by
          simp [hr]
        rw [this, enc_cons]
        intro h0
        exact hpos r List.mem_cons_self (List.append_eq_nil_iff.1 h0).1
      have hne' : (enc ((r :: l).takeWhile (fun r => !isSp uc r))).isEmpty = false := by
        cases hh : enc ((r :: l).takeWhile (fun r => !isSp uc r)) with
        | nil => exact absurd hh hne
        | cons _ _ => rfl
      simp only [hne', Bool.false_eq_true, ↓reduceIte]
      rw [wordsB_step uc r l hr]
      congr 1
      rw [ih _ (by rw [hrest]; exact dropWhile_head uc _) ?_, hrest, wordsB_dropWhile]
      have : 0 < (enc ((r :: l).takeWhile (fun r => !isSp uc r))).length := by
        cases hh : enc ((r :: l).takeWhile (fun r => !isSp uc r)) with
        | nil => exact absurd hh hne
        | cons _ _ => simp
      omega

theorem fields_after_split (uc : UC) (x : Bytes) :
    fields uc (splitField uc x).2 = wordsB uc (afterSp uc (runes x)) := by
  rw [splitField_spec]
  unfold fields
  rw [fieldsN_spec uc _ _ (by rw [runes_rest]; exact dropWhile_head uc _) (Nat.lt_succ_self _), runes_rest,
    wordsB_dropWhile]

theorem firstAndFields_eq (uc : UC) (x : Bytes) :
    firstAndFields uc x =
      (enc ((runes x).takeWhile (fun r => !isSp uc r)),
       !((runes x).dropWhile (fun r => !isSp uc r)).isEmpty,
       wordsB uc (afterSp uc (runes x))) := by
  unfold firstAndFields
  rw [splitAtSep_eq]
  simp only
  unfold afterSp wordsB
  cases (runes x).dropWhile (fun r => !isSp uc r) with
  | nil => simp [splitAtSep]
  | cons s m =>
    have := splitAtSep_eq (isSp uc) m
    simp [this]

theorem fieldsN_ne_nil (uc : UC) : ∀ (n : Nat) (x : Bytes), ∀ f ∈ fieldsN uc n x, f ≠ []
  | 0, _, _, hf => nomatch hf
  | n + 1, x, f, hf => by
    simp only [fieldsN] at hf
    split at hf
    · cases hf
    · rename_i hne
      rcases List.mem_cons.1 hf with rfl | hf
      · exact fun e => hne (by rw [e]; rfl)
      · exact fieldsN_ne_nil uc n _ f hf

theorem firstAndFields_ne_nil (uc : UC) (x : Bytes) : ∀ f ∈ (firstAndFields uc x).2.2, f ≠ [] := by
  rw [firstAndFields_eq, ← fields_after_split]
  exact fieldsN_ne_nil uc _ _

theorem mkVal_eq (O : Oracles) (val : UInt64) (unit : Bytes) :
    (match O.tidy val unit with
      | (tidyVal, tidyUnit) =>
        (if tidyUnit == unit then { value := val, unit := unit, origValue := 0, origUnit := [] }
         else { value := tidyVal, unit := tidyUnit, origValue := val, origUnit := unit } : Val))
      = mkVal O val unit := by
  unfold mkVal
  cases O.tidy val unit with
  | mk a b => rfl

theorem parseValues_eq (O : Oracles) : ∀ (fs : List Bytes) (acc : List Val),
    parseValues O fs acc =
      if fs = [] then (if acc.isEmpty then .error msgMissingMeasurements else .ok acc.reverse)
      else match measurements O fs with
        | .error m => .error m
        | .ok vs => .ok (acc.reverse ++ vs)
  | [], acc => by simp [parseValues, msgMissingMeasurements]
  | [f], acc => by
    simp only [parseValues, measurements, msgMissingUnits]
    cases O.atof f <;> simp
  | f :: u :: fs', acc => by
    simp only [parseValues, measurements]
    cases hf : O.atof f with
    | error e => simp
    | ok val =>
      simp only
      have hv := mkVal_eq O val u
      simp only at hv
      rw [hv, parseValues_eq O fs' (mkVal O val u :: acc)]
      by_cases hfs : fs' = []
      · subst hfs; simp [measurements]
      · simp only [hfs, ↓reduceIte, reduceCtorEq]
        cases measurements O fs' <;> simp

/-- `parseBenchmarkLine`'s test for "the name is the whole line" fails exactly when the line has a
white-space rune: the name then is strictly shorter than the line. -/
theorem splitField_skip (uc : UC) (x : Bytes) :
    ((splitField uc x).2.isEmpty && (splitField uc x).1.length == x.length) =
      ((runes x).dropWhile fun r => !isSp uc r).isEmpty := by
  rw [splitField_spec]
  have hall : enc (runes x) = x := enc_runes x
  have hpos : ∀ r ∈ runes x, r.2 ≠ [] := runesFrom_enc_pos x 0
  have hcat := List.takeWhile_append_dropWhile (p := fun r => !isSp uc r) (l := runes x)
  generalize runes x = rs at hall hpos hcat ⊢
  cases hd : rs.dropWhile (fun r => !isSp uc r) with
  | nil =>
    rw [hd, List.append_nil] at hcat
    simp [afterSp, hd, hcat, hall]
  | cons sp m =>
    rw [hd] at hcat
    have hsp : sp.2 ≠ [] := hpos sp (by rw [← hcat]; simp)
    have hl : (enc rs).length =
        (enc (rs.takeWhile fun r => !isSp uc r)).length + (sp.2.length + (enc m).length) := by
      conv => lhs; rw [← hcat]
      simp [enc]
    rw [hall] at hl
    have : 0 < sp.2.length := List.length_pos_iff.2 hsp
    have hne : ((enc (rs.takeWhile fun r => !isSp uc r)).length == x.length) = false := by
      simpa using (by omega : (enc (rs.takeWhile fun r => !isSp uc r)).length ≠ x.length)
    simp [hne]

theorem benchLine_eq (O : Oracles) (line : Bytes) : benchLine O line = parseBenchmarkLine O line := by
  unfold benchLine parseBenchmarkLine
  rw [firstAndFields_eq]
  simp only
  rw [splitField_skip, fields_after_split, splitField_spec]
  cases (runes (line.drop 9)).dropWhile (fun r => !isSp O.uc r) with
  | nil => rfl
  | cons sp m =>
    simp only [List.isEmpty_cons, Bool.false_eq_true, ↓reduceIte, Bool.not_false]
    cases wordsB O.uc (afterSp O.uc (runes (line.drop 9))) with
    | nil => rfl
    | cons it ms =>
      simp only
      cases O.atoi it with
      | error e => rfl
      | ok n =>
        simp only
        rw [parseValues_eq]
        cases ms with
        | nil => simp
        | cons a b =>
          simp only [List.isEmpty_cons, Bool.false_eq_true, ↓reduceIte, reduceCtorEq, List.reverse_nil,
            List.nil_append]
          cases measurements O (a :: b) <;> rfl

/-- What `measurements` accepts: value/unit pairs, each value read by `atof` and reported by `mkVal`. -/
inductive Meas (O : Oracles) : List Bytes → List Val → Prop
  | nil : Meas O [] []
  | cons {v u : Bytes} {ms : List Bytes} {x : UInt64} {vals : List Val} :
      O.atof v = .ok x → Meas O ms vals → Meas O (v :: u :: ms) (mkVal O x u :: vals)

theorem measurements_ok (O : Oracles) : ∀ (ms : List Bytes) (vals : List Val),
    measurements O ms = .ok vals → Meas O ms vals
  | [], vals, h => by
    cases h; exact .nil
  | [v], vals, h => by
    simp only [measurements] at h
    cases ha : O.atof v <;> rw [ha] at h <;> cases h
  | v :: u :: ms, vals, h => by
    simp only [measurements] at h
    cases ha : O.atof v with
    | error e => rw [ha] at h; cases h
    | ok x =>
      rw [ha] at h
      cases hm : measurements O ms with
      | error m => rw [hm] at h; cases h
      | ok vs =>
        rw [hm] at h
        cases h
        exact .cons ha (measurements_ok O ms vs hm)

theorem benchLine_ok {O : Oracles} {line name : Bytes} {n : Int} {vals : List Val}
    (h : benchLine O line = .ok name n vals) :
    ∃ it ms, firstAndFields O.uc (line.drop 9) = (name, true, it :: ms) ∧ O.atoi it = .ok n ∧
      ms ≠ [] ∧ Meas O ms vals := by
  unfold benchLine at h
  split at h
  · cases h
  · cases h
  · rename_i nm it ms hf
    split at h
    · cases h
    · rename_i k ha
      split at h
      · cases h
      · rename_i hme
        split at h
        · cases h
        · rename_i vs hm
          cases h
          exact ⟨it, ms, hf, ha, fun e => hme (by rw [e]; rfl), measurements_ok O ms _ hm⟩

theorem unitLine_eq (uc : UC) (line : Bytes) :
    unitLine uc line = (isUnitLine uc line).map (fields uc) := by
  unfold unitLine isUnitLine
  rw [firstAndFields_eq]
  have hf := fields_after_split uc line
  have hs := splitField_spec uc line
  rw [hs] at hf
  rw [hs]
  simp only
  split <;> simp [hf]

theorem unitStep_eq (fn : Bytes) (n : Nat) (unit tidy : Bytes) (units : UnitMap) (acc : List SRec)
    (f : Bytes) :
    unitStep fn n unit tidy (units, acc) f =
      ((unitField fn n unit tidy units f).1, acc ++ (unitField fn n unit tidy units f).2.map ofRecNoResult) := by
  unfold unitStep unitField unitKV
  rw [Shared.span_eq]
  simp only
  cases hd : f.dropWhile (fun c => !(c == 61)) with
  | nil => simp [msgExpectedKV, ofRecNoResult]
  | cons e v =>
    simp only [List.isEmpty_cons, Bool.false_or, List.drop_succ_cons, List.drop_zero]
    by_cases hk : (f.takeWhile fun c => !(c == 61)).isEmpty = true
    · simp [hk, msgExpectedKV, ofRecNoResult]
    · have hk' : (f.takeWhile fun c => !(c == 61)).isEmpty = false := by simpa using hk
      simp only [hk', Bool.false_eq_true, ↓reduceIte]
      cases units.get tidy (f.takeWhile fun c => !(c == 61)) with
      | none => simp [ofRecNoResult, UnitMap.insert]
      | some h =>
        simp only
        split <;> simp [ofRecNoResult]

theorem unitFields_foldl (fn : Bytes) (n : Nat) (unit tidy : Bytes) (fs : List Bytes) :
    ∀ (units : UnitMap) (acc : List SRec),
      fs.foldl (unitStep fn n unit tidy) (units, acc) =
        ((unitFields fn n unit tidy units fs).1,
         acc ++ (unitFields fn n unit tidy units fs).2.map ofRecNoResult) := by
  induction fs with
  | nil => intro units acc; simp [unitFields]
  | cons f fs ih =>
    intro units acc
    simp only [List.foldl_cons, unitFields]
    rw [unitStep_eq, ih]
    simp

theorem unitRecs_eq (O : Oracles) (fn : Bytes) (n : Nat) (units : UnitMap) (rest : Bytes) :
    unitRecs O fn n units (fields O.uc rest) =
      ((parseUnitLine O fn n units rest).1, (parseUnitLine O fn n units rest).2.map ofRecNoResult) := by
  unfold unitRecs parseUnitLine
  cases fields O.uc rest with
  | nil => simp [msgMissingUnit, ofRecNoResult]
  | cons u fs =>
    simp only
    rw [unitFields_foldl]
    simp

def _root_.Fmt.KVScan.prepend (bs : Bytes) : KVScan → KVScan
  | .found k v => .found (bs ++ k) v
  | x => x

/-- the rune loop of `parseKeyValueLine` after its first rune, declaratively -/
def kvD (uc : UC) (rs : List RuneB) : KVScan :=
  if (rs.takeWhile fun r => !isColon r).all (fun r => !uc.space r.1 && !uc.upper r.1) then
    match rs.dropWhile (fun r => !isColon r) with
    | [] => .noColon
    | _ :: v => .found (enc (rs.takeWhile fun r => !isColon r)) (enc v)
  else .reject

theorem kvD_colon (uc : UC) (r : RuneB) (rs : List RuneB) (h : isColon r = true) :
    kvD uc (r :: rs) = .found [] (enc rs) := by
  simp [kvD, h]

theorem kvD_cons (uc : UC) (r : RuneB) (rs : List RuneB) (h : isColon r = false) :
    kvD uc (r :: rs) = if uc.space r.1 || uc.upper r.1 then .reject else (kvD uc rs).prepend r.2 := by
  unfold kvD
  simp only [h, Bool.not_false, List.takeWhile_cons_of_pos, List.dropWhile_cons_of_pos, List.all_cons]
  cases uc.space r.1 <;> cases uc.upper r.1 <;> try rfl
  simp only [Bool.not_false, Bool.true_and, Bool.or_false, Bool.false_eq_true, ↓reduceIte]
  split
  · cases rs.dropWhile fun r => !isColon r <;> rfl
  · rfl

theorem consKey_prepend (c : UInt8) (bs : Bytes) (s : KVScan) :
    (s.prepend bs).consKey c = s.prepend (c :: bs) := by
  cases s <;> rfl

theorem lower58 (uc : UC) : uc.lower 58 = false := by simp [UC.lower]

theorem kvScan_spec (uc : UC) (x : Bytes) : ∀ k,
    kvScan uc false k x = (kvD uc (runesFrom k x)).prepend (x.take k) := by
  induction x with
  | nil => intro k; rfl
  | cons c rest ih =>
    intro k
    cases k with
    | succ k => simp only [kvScan, runesFrom, ih k, consKey_prepend, List.take_succ_cons]
    | zero =>
      rw [runesFrom_zero_cons]
      unfold kvScan
      by_cases h58 : (decodeRune (c :: rest)).1 = 58
      · -- a colon is one ASCII byte
        have hc : c < 0x80 := Decidable.byContradiction fun hc => by
          have := decodeRune_nonascii c rest hc
          omega
        rw [decodeRune_ascii c rest hc] at h58 ⊢
        simp only at h58
        simp [kvD_colon, isColon, h58, UC.space, UC.upper, enc_runesFrom, KVScan.prepend]
      · have hw := decodeRune_width_pos c rest
        rw [kvD_cons _ _ _ (by simpa [isColon] using h58)]
        generalize decodeRune (c :: rest) = d at h58 hw ⊢
        obtain ⟨r, n⟩ := d
        have h58' : (r == 58) = false := by simpa using h58
        simp only [Bool.false_and, Bool.false_eq_true, ↓reduceIte, Bool.not_false, Bool.true_and, h58',
          List.take_zero]
        split
        · rfl
        · obtain ⟨m, rfl⟩ : ∃ m, n = m + 1 := ⟨n - 1, by omega⟩
          rw [Nat.add_sub_cancel, ih, consKey_prepend]
          cases kvD uc (runesFrom m rest) <;> rfl

theorem kvScan_runes (uc : UC) (x : Bytes) :
    kvScan uc true 0 x =
      match runes x with
      | [] => .noColon
      | r :: rs => if uc.lower r.1 then kvD uc (r :: rs) else .reject := by
  cases x with
  | nil => rfl
  | cons c rest =>
    have hs := kvScan_spec uc (c :: rest) 0
    rw [List.take_zero, show ∀ s : KVScan, s.prepend [] = s from fun s => by cases s <;> rfl] at hs
    unfold runes
    rw [runesFrom_zero_cons] at hs ⊢
    show _ = if uc.lower (decodeRune (c :: rest)).1 = true then kvD uc _ else _
    rw [← hs]
    unfold kvScan
    generalize decodeRune (c :: rest) = d
    obtain ⟨r, n⟩ := d
    cases hl : uc.lower r
    · simp [hl]
    · have : (r == 58) = false := by
        simpa using fun e : r = 58 => by rw [e, lower58] at hl; exact Bool.noConfusion hl
      simp [hl, this]

theorem kvLine_eq (uc : UC) (line : Bytes) : kvLine uc line = parseKeyValueLine uc line := by
  unfold kvLine parseKeyValueLine
  rw [kvScan_runes]
  have hpos : ∀ r ∈ runes line, r.2 ≠ [] := runesFrom_enc_pos line 0
  generalize runes line = rs0 at hpos ⊢
  cases rs0 with
  | nil => rfl
  | cons r0 rs =>
    obtain ⟨r, b⟩ := r0
    have hpos : b ≠ [] := hpos _ (List.mem_cons_self ..)
    simp only
    by_cases hl : uc.lower r = true
    · have hcol : isColon (r, b) = false := by
        simpa [isColon] using fun e : r = 58 => by rw [e, lower58] at hl; exact Bool.noConfusion hl
      rw [kvD_cons _ _ _ hcol]
      simp only [hl, ↓reduceIte, hcol, Bool.not_false, List.takeWhile_cons_of_pos, List.dropWhile_cons_of_pos,
        List.all_cons, Bool.true_and]
      unfold kvD
      generalize rs.takeWhile (fun r => !isColon r) = tw
      generalize (tw.all fun r => !uc.space r.1 && !uc.upper r.1) = good
      obtain ⟨b0, b', rfl⟩ := List.exists_cons_of_ne_nil hpos
      rw [← Bool.not_or]
      generalize (uc.space r || uc.upper r) = bad
      -- at this point both sides are cascades of the same tests (`bad`, `good`, a colon found, `enc after`)
      -- in different orders; they give the same answer in each case
      cases rs.dropWhile (fun r => !isColon r) with
      | nil => cases bad <;> cases good <;> rfl
      | cons _ after =>
        cases bad <;> cases good <;> try rfl
        simp only [Bool.not_false, Bool.and_self, ↓reduceIte]
        cases enc after <;> rfl
    · rw [if_neg hl]
      have hl : uc.lower r = false := by simpa using hl
      simp only [List.takeWhile_cons, List.dropWhile_cons]
      cases isColon (r, b)
      · simp only [Bool.not_false, ↓reduceIte, hl, Bool.false_and, Bool.false_eq_true]
        cases rs.dropWhile fun r => !isColon r <;> rfl
      · rfl

theorem classify_eq (O : Oracles) (line : Bytes) :
    classify O line = Spec.FormatM.classify O line := by
  unfold classify Spec.FormatM.classify
  rw [benchLine_eq, unitLine_eq, kvLine_eq]
  cases isUnitLine O.uc line <;> rfl

theorem lineRecs_eq (O : Oracles) (fn : Bytes) (cfg : CMap) (units : UnitMap) (n : Nat) (line : Bytes) :
    lineRecs O fn cfg units n line = Spec.FormatM.lineRecs O fn cfg units n line := by
  unfold lineRecs Spec.FormatM.lineRecs
  rw [classify_eq, benchLine_eq, unitLine_eq, kvLine_eq]
  cases Spec.FormatM.classify O line with
  | ignored => rfl
  | kv => rfl
  | bench => rfl
  | unit =>
    simp only
    cases isUnitLine O.uc line with
    | none => rfl
    | some rest =>
      simp only [Option.map_some]
      rw [unitRecs_eq]

theorem readFrom_eq (O : Oracles) (fn : Bytes) (ls : List Bytes) :
    ∀ (cfg : CMap) (units : UnitMap) (n : Nat),
      readFrom O fn cfg units n ls = Spec.FormatM.readFrom O fn cfg units n ls := by
  induction ls with
  | nil => intro cfg units n; rfl
  | cons l ls ih =>
    intro cfg units n
    simp only [readFrom, Spec.FormatM.readFrom, lineRecs_eq, ih]

theorem read_eq (O : Oracles) (fn : Bytes) (labels : CMap) (units : UnitMap) (text : Bytes) :
    read O fn labels units text = Spec.FormatM.read O fn labels units text := by
  unfold read Spec.FormatM.read
  exact readFrom_eq O _ _ _ _ _

theorem readFiles_eq (O : Oracles) (fs : FS) (inputs : List (Bytes × Bytes × Bool)) :
    ∀ (units : UnitMap) (stdin : Bytes),
      readFiles O fs units stdin inputs = Spec.FormatM.readFiles O fs units stdin inputs := by
  induction inputs with
  | nil => intro units stdin; rfl
  | cons i rest ih =>
    intro units stdin
    obtain ⟨label, path, isStdin⟩ := i
    simp only [readFiles, Spec.FormatM.readFiles, read_eq, ih]
    cases (if isStdin = true then some stdin else fs.open path) <;> rfl

end Spec.Format
