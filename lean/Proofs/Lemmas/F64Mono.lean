/-
The binary scaling `scaled`, the normalising shift `shiftOf` and monotonicity of `roundMag`. The main
statements (`shiftOf_spec`, `shiftOf_antitone`, `roundMag_mono`) are given on the model's own Nat/Int
vocabulary (cross-multiplied fractions); the proofs go through the rational number `(num/den)·2^s : ℚ`
(`scaled_ratio`).
-/
import Model.Base.F64
import Proofs.Lemmas.F64Round
import Mathlib.Algebra.Order.Field.Rat
import Mathlib.Algebra.Order.Field.Basic
import Mathlib.Algebra.Order.Field.Power
import Mathlib.Tactic.Linarith
import Mathlib.Tactic.Ring
import Mathlib.Tactic.FieldSimp
import Mathlib.Tactic.Positivity

namespace F64

theorem scaled_fst (num den : Nat) (s : Int) : (scaled num den s).1 = num * 2 ^ s.toNat := rfl
theorem scaled_snd (num den : Nat) (s : Int) : (scaled num den s).2 = den * 2 ^ (-s).toNat := rfl

theorem scaled_fst_pos {num : Nat} (den : Nat) (s : Int) (h : 0 < num) : 0 < (scaled num den s).1 :=
  Nat.mul_pos h (Nat.pow_pos (by decide))

theorem scaled_snd_pos (num : Nat) {den : Nat} (s : Int) (h : 0 < den) : 0 < (scaled num den s).2 :=
  Nat.mul_pos h (Nat.pow_pos (by decide))

/-- raising the shift from `s` to `s'` multiplies the fraction by `2^(s'-s)`. -/
theorem scaled_shift (num den : Nat) (s s' : Int) (h : s ≤ s') :
    (scaled num den s').1 * (scaled num den s).2
      = (scaled num den s).1 * (scaled num den s').2 * 2 ^ (s' - s).toNat := by
  simp only [scaled_fst, scaled_snd]
  have e : s'.toNat + (-s).toNat = s.toNat + (-s').toNat + (s' - s).toNat := by omega
  have mul_pow : ∀ a b : Nat, num * 2 ^ a * (den * 2 ^ b) = num * den * 2 ^ (a + b) := fun a b => by
    rw [Nat.mul_mul_mul_comm, Nat.pow_add]
  rw [mul_pow, mul_pow, Nat.mul_assoc (num * den), ← Nat.pow_add, e]

theorem two_zpow_pos (k : Int) : (0 : ℚ) < (2 : ℚ) ^ k := zpow_pos (by norm_num) k

theorem zpow_mul_neg (s : Int) : (2 : ℚ) ^ s * (2 : ℚ) ^ (-s) = 1 := by
  rw [← zpow_add₀ two_ne_zero, add_neg_cancel, zpow_zero]

theorem two_zpow_eq (s : Int) : (2 : ℚ) ^ s = (2 : ℚ) ^ s.toNat / (2 : ℚ) ^ (-s).toNat := by
  rw [← zpow_natCast, ← zpow_natCast, ← zpow_sub₀ (by norm_num : (2 : ℚ) ≠ 0), Int.toNat_sub_toNat_neg]

theorem scaled_ratio (num den : Nat) (s : Int) :
    ((scaled num den s).1 : ℚ) / ((scaled num den s).2 : ℚ) = (num : ℚ) / den * (2 : ℚ) ^ s := by
  rw [scaled_fst, scaled_snd, Nat.cast_mul, Nat.cast_mul, Nat.cast_pow, Nat.cast_pow, Nat.cast_ofNat,
    mul_div_mul_comm, two_zpow_eq]

theorem scaled_lt_iff (num den : Nat) (s : Int) (hd : 0 < den) (c : Nat) :
    (scaled num den s).1 < c * (scaled num den s).2 ↔ (num : ℚ) / den * (2 : ℚ) ^ s < c := by
  have hp : (0 : ℚ) < ((scaled num den s).2 : ℚ) := by exact_mod_cast scaled_snd_pos num s hd
  rw [← scaled_ratio, div_lt_iff₀ hp]
  exact_mod_cast Iff.rfl

theorem scaled_le_iff (num den : Nat) (s : Int) (hd : 0 < den) (c : Nat) :
    c * (scaled num den s).2 ≤ (scaled num den s).1 ↔ (c : ℚ) ≤ (num : ℚ) / den * (2 : ℚ) ^ s := by
  have hp : (0 : ℚ) < ((scaled num den s).2 : ℚ) := by exact_mod_cast scaled_snd_pos num s hd
  rw [← scaled_ratio, le_div_iff₀ hp]
  exact_mod_cast Iff.rfl

theorem ratio_succ (q : ℚ) (s : Int) : q * (2 : ℚ) ^ (s + 1) = 2 * (q * (2 : ℚ) ^ s) := by
  rw [zpow_add_one₀ (by norm_num : (2 : ℚ) ≠ 0)]; ring

theorem ratio_mono (q : ℚ) (hq : 0 ≤ q) {s s' : Int} (h : s ≤ s') :
    q * (2 : ℚ) ^ s ≤ q * (2 : ℚ) ^ s' :=
  mul_le_mul_of_nonneg_left (zpow_le_zpow_right₀ (by norm_num) h) hq

theorem shift_le_of_bounds {q₁ q₂ : ℚ} (hq : 0 ≤ q₁) (h : q₁ ≤ q₂) {s s' : Int}
    (lo : (2 : ℚ) ^ 52 ≤ q₁ * (2 : ℚ) ^ s) (hi : q₂ * (2 : ℚ) ^ s' < 2 ^ 53) : s' ≤ s := by
  by_contra hlt
  have h1 : (2 : ℚ) ^ 53 ≤ q₂ * (2 : ℚ) ^ s' :=
    calc (2 : ℚ) ^ 53 = 2 * 2 ^ 52 := pow_succ' 2 52
      _ ≤ 2 * (q₁ * (2 : ℚ) ^ s) := mul_le_mul_of_nonneg_left lo zero_le_two
      _ = q₁ * (2 : ℚ) ^ (s + 1) := (ratio_succ q₁ s).symm
      _ ≤ q₁ * (2 : ℚ) ^ s' := ratio_mono q₁ hq (not_le.mp hlt)
      _ ≤ q₂ * (2 : ℚ) ^ s' := mul_le_mul_of_nonneg_right h (two_zpow_pos s').le
  exact absurd hi (not_lt.mpr h1)

/-- `s` is the normalising shift of the positive rational `q`: `q·2^s` lies in the binade
`[2^52, 2^53)`, or below it at the cap `s = 1074` (the subnormals) -/
def IsShift (q : ℚ) (s : Int) : Prop :=
  s ≤ 1074 ∧ q * (2 : ℚ) ^ s < 2 ^ 53 ∧ (s < 1074 → (2 : ℚ) ^ 52 ≤ q * (2 : ℚ) ^ s)

/-- a larger value has a smaller (or equal) shift -/
theorem IsShift.le_of_le {q₁ q₂ : ℚ} {s₁ s₂ : Int} (h₁ : IsShift q₁ s₁) (h₂ : IsShift q₂ s₂) (hq : 0 ≤ q₁)
    (h : q₁ ≤ q₂) : s₂ ≤ s₁ := by
  by_contra hlt
  exact hlt (shift_le_of_bounds hq h (h₁.2.2 (lt_of_lt_of_le (not_le.mp hlt) h₂.1)) h₂.2.1)

theorem IsShift.unique {q : ℚ} {s₁ s₂ : Int} (h₁ : IsShift q s₁) (h₂ : IsShift q s₂) (hq : 0 ≤ q) : s₁ = s₂ :=
  le_antisymm (h₂.le_of_le h₁ hq le_rfl) (h₁.le_of_le h₂ hq le_rfl)

theorem shiftOf_def (num den : Nat) (s0 s1 : Int)
    (h0 : s0 = 52 - ((Nat.log2 num : Int) - (Nat.log2 den : Int)))
    (h1 : s1 = if (scaled num den s0).1 / (scaled num den s0).2 < 2 ^ 52 then s0 + 1 else s0) :
    shiftOf num den = if s1 > 1074 then 1074 else s1 := by
  subst h0 h1; rfl

theorem log2_boundsQ (n : Nat) (hn : 0 < n) :
    (2 : ℚ) ^ (Nat.log2 n : Int) ≤ n ∧ (n : ℚ) < (2 : ℚ) ^ ((Nat.log2 n : Int) + 1) := by
  have h1 := Nat.log2_self_le (Nat.pos_iff_ne_zero.mp hn)
  have h2 := @Nat.lt_log2_self n
  constructor
  · rw [zpow_natCast]; exact_mod_cast h1
  · have : ((Nat.log2 n : Int) + 1) = ((Nat.log2 n + 1 : Nat) : Int) := by push_cast; rfl
    rw [this, zpow_natCast]; exact_mod_cast h2

/-- the first guess `s0 = 52 − (log2 num − log2 den)` puts the ratio strictly between 2^51 and 2^53 -/
theorem shift0_boundsQ (num den : Nat) (hn : 0 < num) (hd : 0 < den) :
    (2 : ℚ) ^ 51 < (num : ℚ) / den * (2 : ℚ) ^ (52 - ((Nat.log2 num : Int) - (Nat.log2 den : Int))) ∧
    (num : ℚ) / den * (2 : ℚ) ^ (52 - ((Nat.log2 num : Int) - (Nat.log2 den : Int))) < (2 : ℚ) ^ 53 := by
  obtain ⟨na, nb⟩ := log2_boundsQ num hn
  obtain ⟨da, db⟩ := log2_boundsQ den hd
  generalize (Nat.log2 num : Int) = a at *
  generalize (Nat.log2 den : Int) = b at *
  have hdq : (0 : ℚ) < den := by exact_mod_cast hd
  have two_ne : (2 : ℚ) ≠ 0 := by norm_num
  constructor
  · -- 2^51 = 2^a / 2^(b+1) * 2^s0 < num / den * 2^s0
    have e : (2 : ℚ) ^ 51 = (2 : ℚ) ^ a / (2 : ℚ) ^ (b + 1) * (2 : ℚ) ^ (52 - (a - b)) := by
      rw [← zpow_sub₀ two_ne, ← zpow_add₀ two_ne, ← zpow_natCast]; congr 1; omega
    rw [e]
    apply mul_lt_mul_of_pos_right _ (two_zpow_pos _)
    calc (2 : ℚ) ^ a / (2 : ℚ) ^ (b + 1) < (2 : ℚ) ^ a / den :=
          div_lt_div_of_pos_left (two_zpow_pos _) hdq db
      _ ≤ num / den := div_le_div_of_nonneg_right na hdq.le
  · have e : (2 : ℚ) ^ 53 = (2 : ℚ) ^ (a + 1) / (2 : ℚ) ^ b * (2 : ℚ) ^ (52 - (a - b)) := by
      rw [← zpow_sub₀ two_ne, ← zpow_add₀ two_ne, ← zpow_natCast]; congr 1; omega
    rw [e]
    apply mul_lt_mul_of_pos_right _ (two_zpow_pos _)
    calc (num : ℚ) / den < (2 : ℚ) ^ (a + 1) / den := div_lt_div_of_pos_right nb hdq
      _ ≤ (2 : ℚ) ^ (a + 1) / (2 : ℚ) ^ b :=
          div_le_div_of_nonneg_left (two_zpow_pos _).le (two_zpow_pos _) da

theorem shiftOf_isShift (num den : Nat) (hn : 0 < num) (hd : 0 < den) :
    IsShift ((num : ℚ) / den) (shiftOf num den) := by
  unfold IsShift
  obtain ⟨lo, hi⟩ := shift0_boundsQ num den hn hd
  have hq : (0 : ℚ) ≤ (num : ℚ) / den := div_nonneg (Nat.cast_nonneg _) (Nat.cast_nonneg _)
  have hcond : (scaled num den (52 - ((Nat.log2 num : Int) - (Nat.log2 den : Int)))).1 /
      (scaled num den (52 - ((Nat.log2 num : Int) - (Nat.log2 den : Int)))).2 < 2 ^ 52 ↔
      (num : ℚ) / den * (2 : ℚ) ^ (52 - ((Nat.log2 num : Int) - (Nat.log2 den : Int))) < 2 ^ 52 := by
    rw [Nat.div_lt_iff_lt_mul (scaled_snd_pos num _ hd), scaled_lt_iff num den _ hd, Nat.cast_pow,
      Nat.cast_ofNat]
  rw [shiftOf_def num den _ _ rfl rfl]
  generalize (52 - ((Nat.log2 num : Int) - (Nat.log2 den : Int))) = s0 at *
  generalize (num : ℚ) / den = q at *
  -- the corrected shift `s1` puts the ratio into `[2^52, 2^53)`; capping keeps the upper bound
  suffices h : ∀ s1 : Int, (2 : ℚ) ^ 52 ≤ q * (2 : ℚ) ^ s1 → q * (2 : ℚ) ^ s1 < 2 ^ 53 →
      (if s1 > 1074 then 1074 else s1) ≤ 1074 ∧
      q * (2 : ℚ) ^ (if s1 > 1074 then 1074 else s1) < 2 ^ 53 ∧
      ((if s1 > 1074 then 1074 else s1) < 1074 →
        (2 : ℚ) ^ 52 ≤ q * (2 : ℚ) ^ (if s1 > 1074 then 1074 else s1)) by
    by_cases hc : (scaled num den s0).1 / (scaled num den s0).2 < 2 ^ 52
    · rw [if_pos hc]
      apply h <;> rw [ratio_succ]
      · rw [pow_succ' 2 51]; exact (mul_lt_mul_of_pos_left lo two_pos).le
      · rw [pow_succ' 2 52]; exact mul_lt_mul_of_pos_left (hcond.mp hc) two_pos
    · rw [if_neg hc]
      exact h s0 (not_lt.mp fun h' => hc (hcond.mpr h')) hi
  intro s1 lo1 hi1
  split
  · rename_i hgt
    exact ⟨le_refl _, lt_of_le_of_lt (ratio_mono q hq (le_of_lt hgt)) hi1, fun h => absurd h (lt_irrefl _)⟩
  · rename_i hgt
    exact ⟨not_lt.mp hgt, hi1, fun _ => lo1⟩

/-- on the model's own vocabulary. -/
theorem shiftOf_spec (num den : Nat) (hn : 0 < num) (hd : 0 < den) :
    shiftOf num den ≤ 1074 ∧
    (scaled num den (shiftOf num den)).1 < 2 ^ 53 * (scaled num den (shiftOf num den)).2 ∧
    (shiftOf num den < 1074 →
      2 ^ 52 * (scaled num den (shiftOf num den)).2 ≤ (scaled num den (shiftOf num den)).1) := by
  obtain ⟨h1, h2, h3⟩ := shiftOf_isShift num den hn hd
  refine ⟨h1, ?_, fun h => ?_⟩
  · rw [scaled_lt_iff num den _ hd]; exact_mod_cast h2
  · rw [scaled_le_iff num den _ hd]; exact_mod_cast h3 h

theorem shiftOf_eq (num den : Nat) (hn : 0 < num) (hd : 0 < den) (s : Int) (h : IsShift ((num : ℚ) / den) s) :
    shiftOf num den = s :=
  (shiftOf_isShift num den hn hd).unique h (div_nonneg (Nat.cast_nonneg _) (Nat.cast_nonneg _))

theorem frac_le_iff (n1 d1 n2 d2 : Nat) (hd1 : 0 < d1) (hd2 : 0 < d2) :
    n1 * d2 ≤ n2 * d1 ↔ (n1 : ℚ) / d1 ≤ (n2 : ℚ) / d2 := by
  have h1 : (0 : ℚ) < d1 := by exact_mod_cast hd1
  have h2 : (0 : ℚ) < d2 := by exact_mod_cast hd2
  rw [div_le_div_iff₀ h1 h2]
  exact_mod_cast Iff.rfl

theorem pos_of_cross_le {n1 d1 n2 d2 : Nat} (hn1 : 0 < n1) (hd2 : 0 < d2) (h : n1 * d2 ≤ n2 * d1) :
    0 < n2 :=
  Nat.pos_of_mul_pos_right (Nat.lt_of_lt_of_le (Nat.mul_pos hn1 hd2) h)

/-- a larger positive fraction needs a smaller (or equal) shift. -/
theorem shiftOf_antitone (n1 d1 n2 d2 : Nat) (hn1 : 0 < n1) (hd1 : 0 < d1) (hd2 : 0 < d2)
    (h : n1 * d2 ≤ n2 * d1) : shiftOf n2 d2 ≤ shiftOf n1 d1 :=
  (shiftOf_isShift n1 d1 hn1 hd1).le_of_le (shiftOf_isShift n2 d2 (pos_of_cross_le hn1 hd2 h) hd2)
    (div_nonneg (Nat.cast_nonneg _) (Nat.cast_nonneg _)) ((frac_le_iff n1 d1 n2 d2 hd1 hd2).mp h)

/-- the (unsaturated) magnitude bits `(1074 − s)·2^52 + rne((num/den)·2^s)` -/
def magBits (num den : Nat) : Nat :=
  (1074 - shiftOf num den).toNat * 2 ^ 52 +
    rne (scaled num den (shiftOf num den)).1 (scaled num den (shiftOf num den)).2

theorem roundMag_eq (num den : Nat) (hn : 0 < num) (hd : 0 < den) :
    roundMag num den =
      if magBits num den ≥ 0x7FF0000000000000 then posInf else UInt64.ofNat (magBits num den) := by
  have h1 : (num == 0) = false := by simp; omega
  have h2 : (den == 0) = false := by simp; omega
  unfold roundMag
  simp only [h1, h2, Bool.or_self, Bool.false_eq_true, if_false]
  rfl

theorem roundMag_toNat (num den : Nat) (hn : 0 < num) (hd : 0 < den) :
    (roundMag num den).toNat = min (magBits num den) 0x7FF0000000000000 := by
  rw [roundMag_eq num den hn hd]
  split
  · rename_i h
    have : posInf.toNat = 0x7FF0000000000000 := by decide
    rw [this]; omega
  · rename_i h
    rw [UInt64.toNat_ofNat']
    have : magBits num den < 2 ^ 64 := by omega
    rw [Nat.mod_eq_of_lt this]; omega

theorem magBits_mono (n1 d1 n2 d2 : Nat) (hn1 : 0 < n1) (hd1 : 0 < d1) (hd2 : 0 < d2)
    (h : n1 * d2 ≤ n2 * d1) : magBits n1 d1 ≤ magBits n2 d2 := by
  have hn2 : 0 < n2 := pos_of_cross_le hn1 hd2 h
  have hs := shiftOf_antitone n1 d1 n2 d2 hn1 hd1 hd2 h
  obtain ⟨a1, a2, a3⟩ := shiftOf_spec n1 d1 hn1 hd1
  obtain ⟨b1, b2, b3⟩ := shiftOf_spec n2 d2 hn2 hd2
  unfold magBits
  rcases Int.lt_or_eq_of_le hs with hlt | heq
  · -- strictly larger shift for the smaller number: q1 ≤ 2^53, q2 ≥ 2^52, exponent gap ≥ 1
    have q1 := rne_le_of_le_mul _ _ (2 ^ 53) (scaled_snd_pos n1 _ hd1) (Nat.le_of_lt a2)
    have q2 := le_rne_of_mul_le _ _ (2 ^ 52) (scaled_snd_pos n2 _ hd2) (b3 (by omega))
    have e : (1074 - shiftOf n1 d1).toNat + 1 ≤ (1074 - shiftOf n2 d2).toNat := by omega
    have := Nat.mul_le_mul_right (2 ^ 52) e
    omega
  · rw [heq]
    apply Nat.add_le_add_left
    apply rne_mono_rat _ _ _ _ (scaled_snd_pos n1 _ hd1) (scaled_snd_pos n2 _ hd2)
    rw [scaled_fst, scaled_snd, scaled_fst, scaled_snd, Nat.mul_mul_mul_comm, Nat.mul_mul_mul_comm n2]
    exact Nat.mul_le_mul_right _ h

/-- rounding is monotone in the rational value (as unsigned bit patterns;
the saturation to +Inf is monotone as well). -/
theorem roundMag_mono (n1 d1 n2 d2 : Nat) (hn1 : 0 < n1) (hd1 : 0 < d1) (hd2 : 0 < d2)
    (h : n1 * d2 ≤ n2 * d1) : (roundMag n1 d1).toNat ≤ (roundMag n2 d2).toNat := by
  have hn2 : 0 < n2 := pos_of_cross_le hn1 hd2 h
  rw [roundMag_toNat n1 d1 hn1 hd1, roundMag_toNat n2 d2 hn2 hd2]
  have := magBits_mono n1 d1 n2 d2 hn1 hd1 hd2 h
  omega

example : (roundMag 1 3).toNat ≤ (roundMag 1 2).toNat :=
  roundMag_mono 1 3 1 2 (by decide) (by decide) (by decide) (by decide)
example : shiftOf 1 10 = 56 := by decide +kernel
example : shiftOf 1 2 ≤ shiftOf 1 3 := shiftOf_antitone 1 3 1 2 (by decide) (by decide) (by decide) (by decide)

end F64
