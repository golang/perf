/-
The number hypothesis (`NumOKFor`) derived from `GoFmtOK` alone, the one assumption: a correspondence-level
fact about the `%v` output of Go's formatter.
-/
import Proofs.Lemmas.F64Dec
import Proofs.Lemmas.C01Num
import Proofs.Lemmas.C01ReaderWF
import Proofs.C03

namespace C01
open Fmt F64 Spec.NumText Spec.RoundTrip

theorem isNaN_eq (x : UInt64) : Spec.RoundTrip.isNaN x = F64.isNaN x := by
  unfold Spec.RoundTrip.isNaN F64.isNaN F64.expField F64.fracField
  rfl

/-- a value that rounds to a finite float is below the overflow threshold -/
theorem inRound_lt_threshold (x : Bits) (hx : PosFin x) (q : ℚ) (h : InRound x q) :
    q < (2 : ℚ) ^ 1024 - (2 : ℚ) ^ 970 :=
  (le_abs_self q).trans_lt
    ((isFinite_roundQ_iff q).1 (by rw [roundQ_of_inRound x hx q h]; exact hx.isFinite))

theorem not_overflows (m : Nat) (e : Int) (h : (m : ℚ) * (10 : ℚ) ^ e < (2 : ℚ) ^ 1024 - (2 : ℚ) ^ 970) :
    overflows 10 m e = false := by
  rw [← Bool.not_eq_true, C03.overflows_iff 10 m e (by decide), Nat.cast_ofNat]
  exact not_le.2 h

/-- **a reading-back decimal numeral parses to `x`** (specification level): a text that is not
one of the special spellings, that the grammar recognises as the plain decimal `m·10^e` with the
sign of `x`, and whose value lies in the rounding interval of `x`. -/
theorem reads_back_spec (x : Bits) (hx : isFinite x = true) (zx : isZero x = false) (t : Bytes)
    (m : Nat) (e : Int) (hs : specialSpec t = none)
    (hr : recognise t = some { neg := signBit x, hex := false, mant := m, exp := e })
    (hin : InRound (F64.abs x) ((m : ℚ) * (10 : ℚ) ^ e)) : parseFloatSpec t = .ok x := by
  have hov := not_overflows m e (inRound_lt_threshold _ (posFin_abs x hx zx) _ hin)
  unfold parseFloatSpec
  simp only [hs, hr, Parsed.eval, Bool.false_eq_true, ↓reduceIte, hov]
  rw [parse_of_inRound x hx zx m e hin]

/-- … and through C03's model of the reader's `atof` (integer fast path, else `ParseFloat`) -/
theorem reads_back_reader (x : Bits) (hx : isFinite x = true) (zx : isZero x = false) (t : Bytes)
    (m : Nat) (e : Int) (hne : t ≠ []) (hs : specialSpec t = none)
    (hr : recognise t = some { neg := signBit x, hex := false, mant := m, exp := e })
    (hin : InRound (F64.abs x) ((m : ℚ) * (10 : ℚ) ^ e))
    (hN3 : Num.inClassN3 t = false) (hlit : C03.expLit t < 10000) :
    C03.liftF (Num.readerAtof t) = .ok x := by
  have h := C03.reader_atof_correct t hne hN3 (Or.inl (by omega))
  rw [reads_back_spec x hx zx t m e hs hr hin] at h
  unfold Num.FloatRes.toExcept at h
  unfold C03.liftF
  cases he : (Num.readerAtof t).err with
  | none => rw [he] at h; simpa using h
  | some err => rw [he] at h; cases h

theorem valOf_dec : ∀ (l : Bytes), (∀ c ∈ l, isDec c = true) → ∀ acc,
    l.foldl (fun a c => a * 10 + digVal c) acc = l.foldl (fun a c => a * 10 + (c.toNat - 48)) acc := by
  intro l
  induction l with
  | nil => intro _ _; rfl
  | cons c cs ih =>
    intro h acc
    simp only [List.foldl_cons, digVal, h c List.mem_cons_self, if_true]
    exact ih (fun c' hc' => h c' (List.mem_cons_of_mem _ hc')) _

theorem decimalDigits_spec (n : Nat) :
    valOf 10 (decimalDigits n) = n ∧ (decimalDigits n).all isDec = true ∧ decimalDigits n ≠ [] := by
  have hdec : ∀ c ∈ Shared.dec n, isDec c = true := fun c hc => by
    simp only [isDec, Bool.and_eq_true, decide_eq_true_eq, UInt8.le_iff_toNat_le]
    exact Shared.dec_digit n c hc
  exact ⟨(valOf_dec _ hdec 0).trans (Shared.dec_val n), List.all_eq_true.2 hdec, Shared.dec_ne_nil n⟩

theorem parseIntSpec_digits {s : Bytes} {neg : Bool} (m : Nat) (hs : splitSign s = (neg, decimalDigits m))
    {v : Int} (hv : v = if neg then -(m : Int) else (m : Int)) (h1 : -(2 ^ 63 : Int) ≤ v)
    (h2 : v ≤ (2 ^ 63 : Int) - 1) : parseIntSpec s = .ok v := by
  obtain ⟨hval, hall, hne⟩ := decimalDigits_spec m
  have he : (decimalDigits m).isEmpty = false := by
    cases h : decimalDigits m with
    | nil => exact absurd h hne
    | cons _ _ => rfl
  simp only [parseIntSpec, hs, he, hall, Bool.not_true, Bool.or_self, Bool.false_eq_true, if_false, hval, ← hv,
    Bool.or_eq_true, decide_eq_true_eq]
  rw [if_neg (by omega)]

/-- **`%d` then `Atoi`**: every int64 comes back -/
theorem parseIntSpec_fmtInt (n : Int) (h1 : -(2 ^ 63 : Int) ≤ n) (h2 : n ≤ (2 ^ 63 : Int) - 1) :
    parseIntSpec (fmtInt n) = .ok n := by
  unfold fmtInt
  split
  · exact parseIntSpec_digits n.natAbs rfl (by show n = -((n.natAbs : Nat) : Int); omega) h1 h2
  · refine parseIntSpec_digits (neg := false) n.toNat ?_ (by show n = ((n.toNat : Nat) : Int); omega) h1 h2
    -- the first digit is neither '+' nor '-'
    obtain ⟨_, hall, hne⟩ := decimalDigits_spec n.toNat
    cases hd : decimalDigits n.toNat with
    | nil => exact absurd hd hne
    | cons c cs =>
      have hc : isDec c = true := by
        rw [hd] at hall; exact (Bool.and_eq_true _ _ ▸ hall : isDec c = true ∧ _).1
      unfold splitSign
      split
      · rename_i r heq; injection heq with e1 _; rw [e1] at hc; exact nomatch hc
      · rename_i r heq; injection heq with e1 _; rw [e1] at hc; exact nomatch hc
      · rfl

/-- an iteration count in `int` range -/
def inInt64 (n : Int) : Prop := -(2 ^ 63 : Int) ≤ n ∧ n ≤ (2 ^ 63 : Int) - 1

theorem intGood_c03 (uc : UC) (tidy : UInt64 → Bytes → UInt64 × Bytes) (n : Int) (h : inInt64 n) :
    IntGood (C03.oracles uc tidy) n := by
  unfold IntGood
  have := (C03.atoi_correct (fmtInt n)).1 n (parseIntSpec_fmtInt n h.1 h.2)
  simp [C03.oracles, C03.liftI, this]

theorem intGood_spec (uc : UC) (tidy : UInt64 → Bytes → UInt64 × Bytes) (n : Int) (h : inInt64 n) :
    IntGood (specOracles uc tidy) n := by
  unfold IntGood
  simp [specOracles, parseIntSpec_fmtInt n h.1 h.2]

/-- `t` is a reading-back numeral for the finite non-zero `x`: one non-empty field, not a special
spelling, recognised by the grammar as a plain decimal `m·10^e` with the sign of `x` whose value
lies in the rounding interval of `x`; and it is of the size for which C03's model of the
reader's `atof` is proved against the specification (fewer than 800 mantissa digits, exponent
literal below 10000 — a `%v` text has at most 17 digits and 3 exponent digits). -/
structure ReadsBack (uc : UC) (x : Bits) (t : Bytes) : Prop where
  field : t ≠ [] ∧ tokenOK uc t = true
  plain : specialSpec t = none
  dec : ∃ (m : Nat) (e : Int), recognise t = some { neg := signBit x, hex := false, mant := m, exp := e } ∧
    InRound (F64.abs x) ((m : ℚ) * (10 : ℚ) ^ e)
  small : Num.inClassN3 t = false ∧ C03.expLit t < 10000

/-- **The correspondence-level fact about Go's `%v`** (and nothing more): special values print as
`NaN`, `+Inf`, `-Inf`, `0`, `-0`; for every other value the text is a reading-back numeral.
K checks it for every value it generates (`obs fmt=`: the text equals `Spec.FmtFloat.fmtNumSpec`,
whose candidates are accepted only if `parseFloatSpec` maps them back to the value). -/
def GoFmtOK (uc : UC) (P : WParams) : Prop :=
  ∀ x : Bits,
    if F64.isNaN x then P.fmtNum x = [78, 97, 78]
    else if F64.isInf x then P.fmtNum x = (if signBit x then [45, 73, 110, 102] else [43, 73, 110, 102])
    else if F64.isZero x then P.fmtNum x = (if signBit x then [45, 48] else [48])
    else ReadsBack uc x (P.fmtNum x)

theorem normNum_of_not_nan (x : Bits) (h : F64.isNaN x = false) : normNum x = x := by
  unfold normNum; rw [isNaN_eq, h]; rfl

theorem eq_signed (x pos neg : Bits) {m : Nat} (hm : magOf x = m) (hp : signBit pos = false ∧ magOf pos = m)
    (hn : signBit neg = true ∧ magOf neg = m) : x = if signBit x then neg else pos := by
  cases hs : signBit x
  · exact eq_of_sign_mag _ _ (hs.trans hp.1.symm) (hm.trans hp.2.symm)
  · exact eq_of_sign_mag _ _ (hs.trans hn.1.symm) (hm.trans hn.2.symm)

/-- `t` is one non-empty field that both C03's model of the reader's `atof` and the specification
`parseFloatSpec` read as `y` -/
def ReadsAs (uc : UC) (t : Bytes) (y : Bits) : Prop :=
  (t ≠ [] ∧ tokenOK uc t = true) ∧ C03.liftF (Num.readerAtof t) = .ok y ∧ parseFloatSpec t = .ok y

/-- the decidable form of `ReadsAs` for an ASCII text without blanks -/
abbrev EvalsAs (t : Bytes) (y : Bits) : Prop :=
  (t ≠ [] ∧ ∀ c ∈ t, c < 0x80 ∧ asciiSpace c = false) ∧
    C03.liftF (Num.readerAtof t) = .ok y ∧ parseFloatSpec t = .ok y

theorem EvalsAs.readsAs (uc : UC) {t : Bytes} {y : Bits} (h : EvalsAs t y) : ReadsAs uc t y :=
  ⟨⟨h.1.1, tokenOK_ascii uc t h.1.2⟩, h.2⟩

theorem special_reads :
    EvalsAs [78, 97, 78] F64.nan ∧ EvalsAs [45, 73, 110, 102] negInf ∧
    EvalsAs [43, 73, 110, 102] posInf ∧ EvalsAs [45, 48] negZero ∧ EvalsAs [48] posZero := by
  decide +kernel

/-- the number hypothesis for one value, from the fact about the formatter alone; `hatof` says
that the oracle's `atof` is one of the two readers below -/
theorem numGood_go (O : Oracles) (P : WParams) (hgo : GoFmtOK O.uc P)
    (hatof : (∀ t, O.atof t = C03.liftF (Num.readerAtof t)) ∨
      (∀ t, O.atof t = match parseFloatSpec t with
        | .ok v => .ok v
        | .error e => .error (liftErr e)))
    (x : Bits) : NumGood O P x := by
  have hx := hgo x
  obtain ⟨hnanR, hninfR, hpinfR, hnzeroR, hpzeroR⟩ := special_reads
  suffices h : ∃ y, ReadsAs O.uc (P.fmtNum x) y ∧ normNum y = normNum x by
    obtain ⟨y, ⟨hf, h1, h2⟩, h3⟩ := h
    refine ⟨⟨y, ?_, h3⟩, hf.1, hf.2⟩
    rcases hatof with ha | ha
    · rw [ha, h1]
    · rw [ha, h2]
  -- ±Inf and ±0: the text and the value are both chosen by the sign
  have signed : ∀ {tp tn : Bytes} {pos neg : Bits}, ReadsAs O.uc tp pos → ReadsAs O.uc tn neg →
      P.fmtNum x = (if signBit x then tn else tp) → x = (if signBit x then neg else pos) →
      ∃ y, ReadsAs O.uc (P.fmtNum x) y ∧ normNum y = normNum x := by
    intro tp tn pos neg hp hn ht hxe
    cases hs : signBit x
    · simp only [hs, Bool.false_eq_true, if_false] at ht hxe
      exact ⟨pos, ht ▸ hp, by rw [← hxe]⟩
    · simp only [hs, if_true] at ht hxe
      exact ⟨neg, ht ▸ hn, by rw [← hxe]⟩
  by_cases hnan : F64.isNaN x = true
  · simp only [hnan, ↓reduceIte] at hx
    refine ⟨F64.nan, hx ▸ hnanR.readsAs O.uc, ?_⟩
    unfold normNum
    rw [isNaN_eq, isNaN_eq, hnan]
    rfl
  have hnan' : F64.isNaN x = false := by simpa using hnan
  simp only [hnan', Bool.false_eq_true, ↓reduceIte] at hx
  by_cases hinf : F64.isInf x = true
  · simp only [hinf, ↓reduceIte] at hx
    exact signed (hpinfR.readsAs O.uc) (hninfR.readsAs O.uc) hx
      (eq_signed x posInf negInf ((isInf_iff x).1 hinf) (by decide) (by decide))
  have hinf' : F64.isInf x = false := by simpa using hinf
  simp only [hinf', Bool.false_eq_true, ↓reduceIte] at hx
  by_cases hz : F64.isZero x = true
  · simp only [hz, ↓reduceIte] at hx
    exact signed (hpzeroR.readsAs O.uc) (hnzeroR.readsAs O.uc) hx
      (eq_signed x posZero negZero ((isZero_iff x).1 hz) (by decide) (by decide))
  have hz' : F64.isZero x = false := by simpa using hz
  simp only [hz', Bool.false_eq_true, ↓reduceIte] at hx
  have hfin := isFinite_of_not_nan_inf hnan' hinf'
  obtain ⟨m, e, hr, hin⟩ := hx.dec
  exact ⟨x, ⟨hx.field,
    reads_back_reader x hfin hz' _ m e hx.field.1 hx.plain hr hin hx.small.1 hx.small.2,
    reads_back_spec x hfin hz' _ m e hx.plain hr hin⟩, rfl⟩

theorem parseIntSpec_range (f : Bytes) (v : Int) (h : parseIntSpec f = .ok v) : inInt64 v := by
  unfold parseIntSpec at h
  simp only at h
  by_cases hc : ((splitSign f).2.isEmpty || !(splitSign f).2.all isDec) = true
  · rw [if_pos hc] at h; cases h
  · rw [if_neg hc] at h
    generalize (if (splitSign f).1 = true then -((valOf 10 (splitSign f).2 : Nat) : Int)
      else ((valOf 10 (splitSign f).2 : Nat) : Int)) = v0 at h
    by_cases hr : (decide (v0 < -(2 ^ 63 : Int)) || decide (v0 > (2 ^ 63 : Int) - 1)) = true
    · rw [if_pos hr] at h; cases h
    · rw [if_neg hr] at h
      simp only [Except.ok.injEq] at h
      subst h
      simp only [Bool.or_eq_true, decide_eq_true_eq, not_or, not_lt] at hr
      exact ⟨hr.1, by have := hr.2; omega⟩

theorem atoi_range_c03 (f : Bytes) (v : Int) (h : C03.liftI (Num.atoi f) = .ok v) : inInt64 v := by
  unfold C03.liftI at h
  cases he : (Num.atoi f).err with
  | none => rw [he] at h; cases h; exact parseIntSpec_range f _ (C03.IntRes.sound (C03.atoi_correct f) he)
  | some e => rw [he] at h; cases h

theorem iters_inInt64 (O : Oracles) (hatoi : ∀ t, O.atoi t = C03.liftI (Num.atoi t))
    (st : RState) (ls : List Bytes) (r : Res) (hr : Rec.result r ∈ readLines O st ls) : inInt64 r.iters := by
  obtain ⟨f, hf⟩ := readLines_iters O ls st _ hr
  rw [hatoi] at hf
  exact atoi_range_c03 f _ hf

theorem numOKFor_go (uc : UC) (tidy : UInt64 → Bytes → UInt64 × Bytes) (P : WParams)
    (hgo : GoFmtOK uc P) (h : List Rec) (hit : ∀ r, Rec.result r ∈ h → inInt64 r.iters) :
    NumOKFor (C03.oracles uc tidy) P h := by
  intro r hr
  refine ⟨intGood_c03 uc tidy r.iters (hit r hr), fun v _ => ?_⟩
  exact numGood_go (C03.oracles uc tidy) P hgo (Or.inl fun _ => rfl) _

end C01
