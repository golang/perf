/-
C20 helper lemmas: a whole request and histories of requests. The invariant of reachable states (`WfSys`),
the three ways `processUpload` ends (`UploadEnd`), and read off them: the ids given out, the state after a
failed request and the index after a successful one.
-/
import Proofs.Lemmas.C20Parts
import Proofs.Lemmas.C20Ids

namespace C20
open Storage.Upload

/-- invariant of every state reachable by uploads from the empty system -/
structure WfSys (s : Sys) : Prop where
  recs : ∀ row ∈ s.db.records, row.up ∈ s.db.uploads
  files : ∀ e ∈ s.fs, e.1.up ∈ s.db.uploads
  contig : Contig s.db.uploads
  nodup : s.db.uploads.Nodup

/-- the part of the invariant that does not speak about numbering (kept by ReplaceUpload of any id) -/
structure WfCore (s : Sys) : Prop where
  recs : ∀ row ∈ s.db.records, row.up ∈ s.db.uploads
  files : ∀ e ∈ s.fs, e.1.up ∈ s.db.uploads

theorem WfSys.core {s : Sys} (w : WfSys s) : WfCore s := ⟨w.recs, w.files⟩

theorem WfSys.empty : WfSys {} :=
  ⟨by simp, by simp, by intro k hk; simp at hk, by simp⟩

/-- The ways `processUpload` ends; `r` is the state the parts loop ended in. -/
inductive UploadEnd (env : Env) (req : Req) (s : Sys) : Outcome → Prop
  /-- an error before any file part: no id was given out -/
  | rejected {r : Run} {eo : Option Err} (e : Err) :
      Parts env req.fault req.parts 0 ⟨s.db.uploads, s.fs, none, 0, [], [], none⟩ r eo →
      r.tx = none → r.uploads = s.db.uploads → r.fs = s.fs → UploadEnd env req s (abortOutcome s r e)
  /-- an error after `NewUpload`: the Uploads row stays, the record transaction is rolled back -/
  | aborted {r : Run} {eo : Option Err} {t : Tx} (e : Err) :
      Parts env req.fault req.parts 0 ⟨s.db.uploads, s.fs, none, 0, [], [], none⟩ r eo →
      r.tx = some t → allocId env.day s.db.uploads = some t.id → r.uploads = s.db.uploads ++ [t.id] →
      FsStep t.id s.fs r.fs → UploadEnd env req s (abortOutcome s r e)
  /-- commit: the rows `recs` of the transaction, which hold the benchmark lines of the parts, are added -/
  | committed {r : Run} {t : Tx} {recs : List RRow} :
      Parts env req.fault req.parts 0 ⟨s.db.uploads, s.fs, none, 0, [], [], none⟩ r none →
      req.endErr = false → r.tx = some t → allocId env.day s.db.uploads = some t.id →
      r.uploads = s.db.uploads ++ [t.id] → FsStep t.id s.fs r.fs → (∀ row ∈ recs, row.up = t.id) →
      recs.flatMap (·.lines) = partsLines req.parts →
      UploadEnd env req s
        { sys := { db := { uploads := r.uploads, records := s.db.records ++ recs }, fs := r.fs },
          resp := .ok (t.id, r.fileids), trace := r.trace, inprog := none, alloc := some t.id }

theorem processUpload_end (env : Env) (req : Req) (s : Sys) : UploadEnd env req s (processUpload env req s) := by
  have hp := runParts_parts env req.fault req.parts 0 ⟨s.db.uploads, s.fs, none, 0, [], [], none⟩
  unfold processUpload
  dsimp only
  generalize runParts env req.fault req.parts 0 ⟨s.db.uploads, s.fs, none, 0, [], [], none⟩ = res at hp ⊢
  obtain ⟨r, eo⟩ := res
  dsimp only at hp ⊢
  have abort : ∀ e, UploadEnd env req s (abortOutcome s r e) := by
    intro e
    rcases hp.step.fresh rfl with ⟨h1, h2, h3⟩ | ⟨t, h1, h2, h3, h4⟩
    · exact .rejected e hp h1 h2 h3
    · exact .aborted e hp h1 h2 h3 h4
  cases eo with
  | some e => exact abort e
  | none =>
    cases hE : req.endErr with
    | true => exact abort _
    | false =>
      simp only [Bool.false_eq_true, if_false]
      cases htx : r.tx with
      | none => exact abort _
      | some t =>
        dsimp only
        cases hf : t.flush with
        | none => exact abort _
        | some t' =>
          rcases hp.step.fresh rfl with ⟨h1, _⟩ | ⟨t1, h1, h2, h3, h4⟩
          · cases h1.symm.trans htx
          · cases h1.symm.trans htx
            obtain ⟨_, t0, hs, ext⟩ := hp.ext rfl htx
            cases hs with
            | cont h0 => cases h0
            | @fresh k _ _ =>
              obtain rfl : k = t.id := ext.id.symm
              obtain ⟨hrows, hlines⟩ := ext.flushed hf
              exact .committed hp hE htx h2 h3 h4 hrows hlines

theorem alloc_spec (env : Env) (req : Req) (s : Sys) :
    ((processUpload env req s).alloc = none ∧ (processUpload env req s).sys.db.uploads = s.db.uploads) ∨
    (∃ k, (processUpload env req s).alloc = some k ∧ allocId env.day s.db.uploads = some k ∧
      (processUpload env req s).sys.db.uploads = s.db.uploads ++ [k]) := by
  have h := processUpload_end env req s
  generalize processUpload env req s = o at h ⊢
  cases h with
  | rejected e _ htx hup _ => exact Or.inl ⟨by simp [abortOutcome, htx], hup⟩
  | aborted e _ htx hal hup _ => exact Or.inr ⟨_, by simp [abortOutcome, htx], hal, hup⟩
  | committed _ _ _ hal hup _ _ _ => exact Or.inr ⟨_, rfl, hal, hup⟩

theorem alloc_eq_some {env : Env} {req : Req} {s : Sys} {k : UKey} (h : (processUpload env req s).alloc = some k) :
    allocId env.day s.db.uploads = some k := by
  rcases alloc_spec env req s with ⟨h1, _⟩ | ⟨k', h1, h2, _⟩ <;> rw [h1] at h <;> cases h
  exact h2

theorem processUpload_core (env : Env) (req : Req) (s : Sys) (w : WfCore s) : WfCore (processUpload env req s).sys := by
  have grown : ∀ {k : UKey} {fs : Store}, FsStep k s.fs fs → WfCore ⟨⟨s.db.uploads ++ [k], s.db.records⟩, fs⟩ := by
    intro k fs hfs
    refine ⟨fun row hr => List.mem_append_left _ (w.recs row hr), fun e he => ?_⟩
    rcases hfs.1 e he with h | h
    · exact List.mem_append_left _ (w.files e h)
    · simp [h]
  have h := processUpload_end env req s
  generalize processUpload env req s = o at h ⊢
  cases h with
  | rejected e _ _ hup hfs =>
    simp only [abortOutcome, hup, hfs]
    exact w
  | aborted e _ _ _ hup hfs =>
    simp only [abortOutcome, hup]
    exact grown hfs
  | committed _ _ _ _ hup hfs hrows _ =>
    simp only [hup]
    refine ⟨fun row hrow => ?_, (grown hfs).files⟩
    rcases List.mem_append.mp hrow with hrow | hrow
    · exact (grown hfs).recs row hrow
    · rw [hrows row hrow]
      exact List.mem_append_right _ (List.mem_singleton.mpr rfl)

theorem processUpload_wf (env : Env) (req : Req) (s : Sys) (w : WfSys s) : WfSys (processUpload env req s).sys := by
  have c := processUpload_core env req s w.core
  rcases alloc_spec env req s with ⟨_, h⟩ | ⟨k, _, hal, h⟩
  · exact ⟨c.recs, c.files, h ▸ w.contig, h ▸ w.nodup⟩
  · refine ⟨c.recs, c.files, h ▸ allocId_contig w.contig hal, h ▸ List.nodup_append.mpr ⟨w.nodup, by simp, ?_⟩⟩
    intro a ha b hb hab
    obtain rfl := List.mem_singleton.mp hb
    exact allocId_fresh hal (hab ▸ ha)

theorem abort_resp (s : Sys) (r : Run) (e : Err) : (abortOutcome s r e).resp = .error e := rfl

/-- after a failed request -/
structure FailedPost (s : Sys) (o : Outcome) : Prop where
  /-- the index is exactly what it was: every query and listing answers as before -/
  records : o.sys.db.records = s.db.records
  /-- nothing is queryable or listed under the id the failed upload was given -/
  own : ∀ k, o.alloc = some k → k ∉ s.db.uploads ∧ o.sys.db.queryUpload k = [] ∧ ∀ c, (k, c) ∉ o.sys.db.listing
  /-- the file being written when the failure happened is not in the store -/
  inprog : ∀ p, o.inprog = some p → p ∉ o.sys.fs.map Prod.fst
  /-- files of earlier uploads are untouched -/
  files : ∀ x ∈ s.fs, x ∈ o.sys.fs
  /-- anything new in the store belongs to the failed upload's own id -/
  files_new : ∀ x ∈ o.sys.fs, x ∈ s.fs ∨ o.alloc = some x.1.up

theorem queryUpload_append {db : DB} {old new : List RRow} (k : UKey) (h : db.records = old ++ new)
    (ho : ∀ row ∈ old, row.up ≠ k) (hn : ∀ row ∈ new, row.up = k) :
    (db.queryUpload k).map (·.2) = new.flatMap (·.lines) := by
  have none : (old.flatMap fun r => r.lines.map fun l => (r, l)).filter (fun x => x.1.up == k) = [] := by
    rw [List.filter_eq_nil_iff]
    intro x hx
    obtain ⟨row, hrow, hl⟩ := List.mem_flatMap.mp hx
    obtain ⟨_, _, rfl⟩ := List.mem_map.mp hl
    simpa using ho row hrow
  simp only [DB.queryUpload, DB.results, h, List.flatMap_append, List.filter_append, none, List.nil_append]
  clear h
  induction new with
  | nil => rfl
  | cons r rs ih =>
    have hk : r.up = k := hn r List.mem_cons_self
    simp [List.filter_map, Function.comp_def, hk, ih fun row hr => hn row (List.mem_cons_of_mem _ hr)]

theorem not_listed {db : DB} {k : UKey} (h : ∀ row ∈ db.records, row.up ≠ k) :
    db.queryUpload k = [] ∧ ∀ c, (k, c) ∉ db.listing := by
  refine ⟨List.map_eq_nil_iff.mp (queryUpload_append k (List.append_nil _).symm h nofun), fun c hc => ?_⟩
  simp only [DB.listing, List.mem_filter, List.mem_map] at hc
  obtain ⟨⟨k', _, hk'⟩, hpos⟩ := hc
  simp at hk'
  obtain ⟨rfl, rfl⟩ := hk'
  have : db.count k' = 0 := by
    simp only [DB.count, List.length_eq_zero_iff, List.filter_eq_nil_iff]
    intro row hrow
    simpa using h row hrow
  simp [this] at hpos

theorem failed_post (env : Env) (req : Req) (s : Sys) (w : WfCore s) (e : Err)
    (h : (processUpload env req s).resp = .error e) : FailedPost s (processUpload env req s) := by
  have hend := processUpload_end env req s
  generalize processUpload env req s = o at h hend ⊢
  cases hend with
  | @rejected r _ e' hp htx _ hfs =>
    exact ⟨rfl, fun k hk => by simp [abortOutcome, htx] at hk, fun p hp' => (hp.step.inprog rfl p hp').2,
      fun x hx => show x ∈ r.fs from hfs ▸ hx, fun x hx => Or.inl (hfs ▸ (show x ∈ r.fs from hx))⟩
  | @aborted r _ t e' hp htx hal _ hfs =>
    -- the new id is no Uploads row of `s`, so no record and no file of `s` carries it
    have hfresh := allocId_fresh hal
    refine ⟨rfl, fun k hk => ?_, fun p hp' => (hp.step.inprog rfl p hp').2,
      fun x hx => hfs.2 x hx fun hk => hfresh (hk ▸ w.files x hx),
      fun x hx => (hfs.1 x hx).imp id fun h => by simp [abortOutcome, htx, h]⟩
    obtain rfl : t.id = k := by simpa [abortOutcome, htx] using hk
    exact ⟨hfresh, not_listed fun row hr hk' => hfresh (hk' ▸ w.recs row hr)⟩
  | committed => cases h

/-- ids handed out along a history, in creation order (also those of uploads that failed later) -/
def allocs : List (Env × Req) → Sys → List UKey
  | [], _ => []
  | (env, req) :: rest, s =>
    (match (processUpload env req s).alloc with
      | some k => [k]
      | none => []) ++ allocs rest (processUpload env req s).sys

theorem uploads_grow (hist : List (Env × Req)) (s : Sys) : ∀ k ∈ s.db.uploads, k ∈ (runHistory hist s).db.uploads := by
  induction hist generalizing s with
  | nil => intro k hk; exact hk
  | cons a rest ih =>
    intro k hk
    refine ih _ k ?_
    rcases alloc_spec a.1 a.2 s with ⟨_, h⟩ | ⟨k', _, _, h⟩
    · rw [h]; exact hk
    · rw [h]; exact List.mem_append_left _ hk

theorem allocs_spec (hist : List (Env × Req)) (s : Sys) (w : WfSys s) :
    (allocs hist s).Pairwise (fun a b => a.day = b.day → a.seq < b.seq) ∧
    ∀ k ∈ allocs hist s, 1 ≤ k.seq ∧ (∀ k' ∈ s.db.uploads, k'.day = k.day → k'.seq < k.seq) ∧
      k ∈ (runHistory hist s).db.uploads := by
  induction hist generalizing s with
  | nil => simp [allocs]
  | cons a rest ih =>
    obtain ⟨env, req⟩ := a
    obtain ⟨ih1, ih2⟩ := ih _ (processUpload_wf env req s w)
    simp only [allocs, runHistory]
    rcases alloc_spec env req s with ⟨h1, h2⟩ | ⟨k, h1, h2, h3⟩
    · rw [h1]
      exact ⟨ih1, fun k hk => h2 ▸ ih2 k hk⟩
    · rw [h1]
      simp only [List.singleton_append]
      have hgt := allocId_gt w.contig h2
      -- a later id is numbered after the rows this request leaves, `k` among them
      have later : ∀ b ∈ allocs rest (processUpload env req s).sys, ∀ k' ∈ s.db.uploads ++ [k],
          k'.day = b.day → k'.seq < b.seq := fun b hb => h3 ▸ (ih2 b hb).2.1
      refine ⟨List.pairwise_cons.mpr ⟨fun b hb => later b hb k (by simp), ih1⟩, fun b hb => ?_⟩
      rcases List.mem_cons.mp hb with rfl | hb
      · exact ⟨hgt.1, hgt.2.1, uploads_grow rest _ _ (by rw [h3]; simp)⟩
      · exact ⟨(ih2 b hb).1, fun k' hk' => later b hb k' (List.mem_append_left _ hk'), (ih2 b hb).2.2⟩

theorem success_records (env : Env) (req : Req) (s : Sys) (w : WfCore s) (k : UKey) (fids : List Path)
    (h : (processUpload env req s).resp = .ok (k, fids)) :
    ((processUpload env req s).sys.db.queryUpload k).map (·.2) = partsLines req.parts ∧ k ∉ s.db.uploads := by
  have hend := processUpload_end env req s
  generalize processUpload env req s = o at h hend ⊢
  cases hend with
  | rejected | aborted => cases h
  | @committed r t recs _ _ _ hal _ _ hrows hlines =>
    cases h
    have hfresh := allocId_fresh hal
    exact ⟨(queryUpload_append t.id rfl (fun row hr hk => hfresh (hk ▸ w.recs row hr)) hrows).trans hlines, hfresh⟩

end C20
