/-
C18: the maps of the series builder (`alookup`, `aset`) are the association lists of `Shared/AL`; what the
C18 proofs use of them, in the builder's own names.  `perm_nil_or_cons`: the case split for the model's
`match l with | [] => none | x :: _ => some ..` on two permuted lists.
-/
import Model.Series.Builder
import Proofs.Lemmas.Shared.AL

namespace C18
open Series

theorem alookup_eq {κ ν : Type} [DecidableEq κ] (k : κ) (l : List (κ × ν)) : alookup k l = Tab.AL.lookup k l := by
  induction l with
  | nil => rfl
  | cons p l ih =>
    by_cases h : k = p.1
    · simp [alookup, Tab.AL.lookup, h]
    · simp [alookup, Tab.AL.lookup, h, Ne.symm h, ih]

theorem aset_eq {κ ν : Type} [DecidableEq κ] (k : κ) (v : ν) (l : List (κ × ν)) :
    aset k v l = Tab.AL.upsert k (fun _ => v) l := by
  induction l with
  | nil => rfl
  | cons p l ih =>
    by_cases h : k = p.1
    · subst h; simp [aset, Tab.AL.upsert]
    · simp [aset, Tab.AL.upsert, h, Ne.symm h, ih]

theorem alookup_aset {κ ν : Type} [DecidableEq κ] (k k' : κ) (v : ν) (l : List (κ × ν)) :
    alookup k (aset k' v l) = if k = k' then some v else alookup k l := by
  rw [alookup_eq, alookup_eq, aset_eq, C14L.lookup_upsert]

theorem mem_of_alookup {κ ν : Type} [DecidableEq κ] {k : κ} {v : ν} {l : List (κ × ν)} (h : alookup k l = some v) :
    (k, v) ∈ l :=
  C14L.lookup_mem (alookup_eq k l ▸ h)

theorem alookup_of_mem {κ ν : Type} [DecidableEq κ] {k : κ} {v : ν} {l : List (κ × ν)} (hm : (k, v) ∈ l)
    (hn : (l.map Prod.fst).Nodup) : alookup k l = some v :=
  alookup_eq k l ▸ C14L.mem_lookup hn hm

theorem aset_keys_nodup {κ ν : Type} [DecidableEq κ] (k : κ) (v : ν) {l : List (κ × ν)} (h : (l.map Prod.fst).Nodup) :
    ((aset k v l).map Prod.fst).Nodup :=
  aset_eq k v l ▸ C14L.nodup_keys_upsert k _ l h

theorem perm_nil_or_cons {α} {l1 l2 : List α} (p : l1.Perm l2) :
    (l1 = [] ∧ l2 = []) ∨ ∃ x xs y ys, l1 = x :: xs ∧ l2 = y :: ys := by
  cases l1 with
  | nil => exact Or.inl ⟨rfl, p.symm.eq_nil⟩
  | cons x xs =>
    cases l2 with
    | nil => exact absurd p.eq_nil (List.cons_ne_nil _ _)
    | cons y ys => exact Or.inr ⟨x, xs, y, ys, rfl, rfl⟩

end C18
