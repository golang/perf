/-
C11: palindromic tie vectors. A tie vector that reads the same in both directions has a symmetric null
distribution (`palindromic_symmetric`, C11Relabel), so for it the code's two-sided value is the
specification's.
-/
import Model.Stats.UDist
import Model.Stats.UStat
import Model.Spec.UExact
import Proofs.Lemmas.C11Groups
import Proofs.Lemmas.C11GroupsEnum
import Proofs.Lemmas.C11Relabel
import Proofs.Lemmas.C11PFormulas
import Proofs.Lemmas.C11TiedCdf
import Mathlib.Data.List.Perm.Basic
import Mathlib.Tactic.Ring
import Mathlib.Tactic.Linarith

namespace C11
open Spec.UExact

/-- **for a tied palindromic tie vector the code's two-sided value is the specification's** -/
theorem two_sided_spec_palindromic (T : List Nat) (hpos : ∀ t ∈ T, 0 < t) (hK : 2 ≤ T.length)
    (hpal : T.reverse = T) (n1 n2 : Nat) (hT : Stats.UDist.hasTies T = true)
    (hN : T.sum = n1 + n2) (u : Nat) (hu : u ≤ 2 * (n1 * n2)) :
    Stats.UStat.exactP (Stats.UDist.cdfPure n1 n2 T) .differs (u : Int)
        (((2 * (n1 * n2) : Nat) : Int) - (u : Int))
      = Spec.UExact.pTwoSided (Spec.UExact.nullDistOf n1 (poolOf T)) u := by
  refine two_sided_spec_partial _ _ (2 * (n1 * n2)) (tied_cdf_is_cdf T hpos hK n1 n2 hT hN)
    (nullDistOf_ne_nil n1 n2 (poolOf T) (by rw [poolOf_length, hN])) ?_ u hu
  intro v
  have h := palindromic_symmetric T hpal n1 v
  rw [hN, Nat.add_sub_cancel_left] at h
  exact h

/-- the palindromic vector [2,1,2], n1 = 2, n2 = 3: the enumeration is symmetric about 6
    (doubled: 12) at every threshold that matters -/
example : ∀ v ∈ List.range 14,
    ((Spec.UExact.nullDistOf 2 (poolOf [2, 1, 2])).filter (· ≤ v)).length
      = ((Spec.UExact.nullDistOf 2 (poolOf [2, 1, 2])).filter
          (fun d => decide (d + v ≥ 12))).length := by
  decide +kernel

/-- an instance of `two_sided_spec_palindromic` (T = [2,1,2], n1 = 2, n2 = 3, 2U = 3) -/
example :
    Stats.UStat.exactP (Stats.UDist.cdfPure 2 3 [2, 1, 2]) .differs ((3 : Nat) : Int)
        (((2 * (2 * 3) : Nat) : Int) - ((3 : Nat) : Int))
      = Spec.UExact.pTwoSided (Spec.UExact.nullDistOf 2 (poolOf [2, 1, 2])) 3 :=
  two_sided_spec_palindromic [2, 1, 2] (by decide) (by decide) (by decide) 2 3 (by decide +kernel)
    (by decide) 3 (by decide)

/-- the hypothesis is not vacuous: for the non-palindromic T = [1,2] (n = 1, N − n = 2, the N5
    witness) the null distribution is [0,3,3], and the symmetry about 2 (doubled: 4) fails at
    v = 0 -/
example :
    ¬ (∀ v : Nat, ((Spec.UExact.nullDistOf 1 (poolOf [1, 2])).filter (· ≤ v)).length
        = ((Spec.UExact.nullDistOf 1 (poolOf [1, 2])).filter
            (fun d => decide (d + v ≥ 2 * (1 * ([1, 2].sum - 1))))).length) := by
  intro h
  exact absurd (h 0) (by decide +kernel)

/-- palindromicity is sufficient, not necessary: for the non-palindromic T = [1,3] with n = 2,
    N − n = 2 the null distribution is [2,2,2,6,6,6], symmetric about 4 (doubled: 8) -/
example : ∀ v ∈ List.range 10,
    ((Spec.UExact.nullDistOf 2 (poolOf [1, 3])).filter (· ≤ v)).length
      = ((Spec.UExact.nullDistOf 2 (poolOf [1, 3])).filter
          (fun d => decide (d + v ≥ 8))).length := by
  decide +kernel

end C11

