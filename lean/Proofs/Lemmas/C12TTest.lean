/-
C12 helper lemmas: the t-tests of ttest.go (exact instance) share one shape — size check, variance
check, statistic — and are characterised through it.
-/
import Proofs.Lemmas.C12Descr
import Model.Stats.TTest

namespace C12
open Stats Stats.TTest

/-- the common shape of the tests: size check, then variance check, then the statistic -/
def guarded (c1 c2 : Prop) [Decidable c1] [Decidable c2] (r : TStat ℚ) : Except TErr (TStat ℚ) :=
  if c1 then .error .sampleSize else if c2 then .error .zeroVariance else .ok r

theorem guarded_eq_sampleSize (c1 c2 : Prop) [Decidable c1] [Decidable c2] (r : TStat ℚ) :
    guarded c1 c2 r = .error .sampleSize ↔ c1 := by
  unfold guarded
  by_cases h1 : c1 <;> by_cases h2 : c2 <;> simp [h1, h2]

theorem guarded_eq_zeroVariance (c1 c2 : Prop) [Decidable c1] [Decidable c2] (r : TStat ℚ) :
    guarded c1 c2 r = .error .zeroVariance ↔ ¬ c1 ∧ c2 := by
  unfold guarded
  by_cases h1 : c1 <;> by_cases h2 : c2 <;> simp [h1, h2]

theorem guarded_ok {c1 c2 : Prop} [Decidable c1] [Decidable c2] (r : TStat ℚ) (h1 : ¬ c1) (h2 : ¬ c2) :
    guarded c1 c2 r = .ok r := by
  rw [guarded, if_neg h1, if_neg h2]

theorem guarded_ne_mismatched (c1 c2 : Prop) [Decidable c1] [Decidable c2] (r : TStat ℚ) :
    guarded c1 c2 r ≠ .error .mismatched := by
  unfold guarded
  by_cases h1 : c1 <;> by_cases h2 : c2 <;> simp [h1, h2]

theorem welch_eq (sqrt : ℚ → ℚ) (n1 m1 v1 n2 m2 v2 : ℚ) :
    welch sqrt n1 m1 v1 n2 m2 v2 = guarded (n1 ≤ 1 ∨ n2 ≤ 1) (v1 = 0 ∧ v2 = 0)
      ⟨(m1 - m2) / sqrt (v1 / n1 + v2 / n2),
       (v1 / n1 + v2 / n2) * (v1 / n1 + v2 / n2) /
         (v1 / n1 * (v1 / n1) / (n1 - 1) + v2 / n2 * (v2 / n2) / (n2 - 1))⟩ := by
  simp only [welch, guarded, TTest.sq, Bool.or_eq_true, le_rat, Bool.and_eq_true, eq_rat, ofNat_rat,
    Nat.cast_one, Nat.cast_zero, add_rat, div_rat, mul_rat, sub_rat]

theorem pooled_eq (sqrt : ℚ → ℚ) (n1 m1 v1 n2 m2 v2 : ℚ) :
    pooled sqrt n1 m1 v1 n2 m2 v2 = guarded (n1 = 0 ∨ n2 = 0) (v1 = 0 ∧ v2 = 0)
      ⟨(m1 - m2) / sqrt (((n1 - 1) * v1 + (n2 - 1) * v2) / (n1 + n2 - 2) * (1 / n1 + 1 / n2)),
       n1 + n2 - 2⟩ := by
  simp only [pooled, guarded, Bool.or_eq_true, Bool.and_eq_true, eq_rat, ofNat_rat, Nat.cast_one,
    Nat.cast_zero, Nat.cast_ofNat, add_rat, div_rat, mul_rat, sub_rat]

theorem oneSample_eq (sqrt : ℚ → ℚ) (n m v μ0 : ℚ) :
    oneSample sqrt n m v μ0 = guarded (n = 0) (v = 0) ⟨(m - μ0) * sqrt n / sqrt v, n - 1⟩ := by
  simp only [oneSample, guarded, eq_rat, ofNat_rat, Nat.cast_zero, Nat.cast_one, div_rat, mul_rat,
    sub_rat]

theorem pairedCore_eq (sqrt : ℚ → ℚ) (len : ℕ) (md sd μ0 : ℚ) :
    pairedCore sqrt len md sd μ0 =
      guarded False (sd = 0) ⟨(md - μ0) * sqrt len / sd, ((len - 1 : ℕ) : ℚ)⟩ := by
  simp only [pairedCore, guarded, eq_rat, ofNat_rat, Nat.cast_zero, div_rat, mul_rat, sub_rat,
    if_false]

end C12
