/-
C12 helper lemmas: the R8 interpolation on a sorted list (exact instance).
-/
import Proofs.Lemmas.C12Descr
import Proofs.Lemmas.Shared.Lerp

namespace C12
open Stats Stats.Descr

/-- the interpolation as a function of the position n = 1/3 + p(N+1/3) -/
def posVal (xs : List ℚ) (n : ℚ) : ℚ :=
  if n.floor ≤ 0 then xs.getD 0 0
  else if n.floor ≥ (xs.length : ℤ) then xs.getD (xs.length - 1) 0
  else xs.getD (n.floor.toNat - 1) 0 +
    (n - (n.floor : ℚ)) * (xs.getD n.floor.toNat 0 - xs.getD (n.floor.toNat - 1) 0)

theorem modf_rat (q : ℚ) (h : 0 ≤ q) : Arith.modf q = (q.floor, q - (q.floor : ℚ)) :=
  if_pos h

def posOf (xs : List ℚ) (p : ℚ) : ℚ := (1 : ℚ) / 3 + p * ((xs.length : ℚ) + 1 / 3)

theorem posOf_mono (xs : List ℚ) {p q : ℚ} (h : p ≤ q) : posOf xs p ≤ posOf xs q :=
  add_le_add le_rfl
    (mul_le_mul_of_nonneg_right h (add_nonneg (Nat.cast_nonneg _) (by norm_num)))

theorem interp_eq_posVal (xs : List ℚ) {p : ℚ} (hp : 0 ≤ p) : interp xs p = posVal xs (posOf xs p) := by
  have h : 0 ≤ posOf xs p :=
    add_nonneg (by norm_num) (mul_nonneg hp (add_nonneg (Nat.cast_nonneg _) (by norm_num)))
  rw [interp_eq xs p (posOf xs p) rfl, posVal, modf_rat _ h]
  simp only [ofNat_rat, add_rat, mul_rat, sub_rat, Nat.cast_zero]

theorem floor_frac (n : ℚ) : 0 ≤ n - (n.floor : ℚ) ∧ n - (n.floor : ℚ) < 1 :=
  ⟨Int.fract_nonneg n, Int.fract_lt_one n⟩

/-- **the interpolation reads the sample at the 0-based rank n − 1** (`Lerp.lerp`: ranks below 0 read the
first element, ranks beyond the last index the last) -/
theorem posVal_eq_lerp (xs : List ℚ) (hne : 0 < xs.length) (n : ℚ) : posVal xs n = Lerp.lerp xs (n - 1) := by
  obtain ⟨f0, f1⟩ := floor_frac n
  unfold posVal
  generalize n.floor = k at f0 f1
  split
  · have hk : (k : ℚ) ≤ 0 := Int.cast_nonpos.mpr ‹_›
    rw [Lerp.lerp_of_nonpos xs (by linarith), Lerp.at'_of_lt hne]
  · split
    · have hk : ((xs.length : ℤ) : ℚ) ≤ k := Int.cast_le.mpr ‹_›
      rw [Lerp.lerp_of_ge xs (by rw [Nat.cast_pred hne]; push_cast at hk; linarith),
        Lerp.at'_of_lt (Nat.sub_lt hne Nat.one_pos)]
    · have hk : ((k.toNat - 1 : ℕ) : ℚ) = k - 1 := by
        rw [Nat.cast_pred (by omega), ← Int.cast_natCast, Int.toNat_of_nonneg (by omega)]
      rw [show n - 1 = ((k.toNat - 1 : ℕ) : ℚ) + (n - k) by rw [hk]; ring, Lerp.lerp_add xs _ f0 f1, Lerp.seg,
        Lerp.at'_of_lt (by omega), show k.toNat - 1 + 1 = k.toNat by omega, Lerp.at'_of_lt (by omega)]

theorem posVal_interior (xs : List ℚ) (n : ℚ) (k : ℕ) (hk : n.floor = (k : ℤ)) (hk1 : 1 ≤ k)
    (hkN : k < xs.length) :
    posVal xs n = xs.getD (k - 1) 0 + (n - k) * (xs.getD k 0 - xs.getD (k - 1) 0) := by
  rw [posVal, hk, if_neg (by omega), if_neg (by omega), Int.toNat_natCast, Int.cast_natCast]

theorem sampleBounds_sorted {α : Type} [Arith α] (xs : List α) (d : α) (hne : xs ≠ []) :
    sampleBounds xs true = some (xs.getD 0 d, xs.getD (xs.length - 1) d) := by
  cases xs with
  | nil => exact absurd rfl hne
  | cons x t =>
    simp only [sampleBounds, if_true, List.getD_cons_zero, List.length_cons, Nat.add_sub_cancel]
    congr 2
    rw [List.getLastD_eq_getLast?, List.getLast?_eq_getElem?, List.getD_eq_getElem?_getD]
    simp

/-- outside 0 < p < 1 the rank `posOf xs p − 1` lies below 0 or beyond the last index, where `lerp` reads the
ends: the clamps of `Percentile` are `lerp` at that rank too -/
theorem lerp_posOf_of_nonpos (xs : List ℚ) {p : ℚ} (hp : p ≤ 0) :
    Lerp.lerp xs (posOf xs p - 1) = Lerp.at' xs 0 := by
  have h0 : posOf xs 0 ≤ 1 := by rw [posOf, zero_mul, add_zero]; norm_num
  exact Lerp.lerp_of_nonpos xs (sub_nonpos.mpr ((posOf_mono xs hp).trans h0))

theorem lerp_posOf_of_one_le (xs : List ℚ) (hne : 0 < xs.length) {p : ℚ} (hp : 1 ≤ p) :
    Lerp.lerp xs (posOf xs p - 1) = Lerp.at' xs (xs.length - 1) := by
  have h1 : (xs.length : ℚ) ≤ posOf xs 1 := by
    rw [posOf, one_mul, add_left_comm]
    exact le_add_of_nonneg_right (by norm_num)
  refine Lerp.lerp_of_ge xs ?_
  rw [Nat.cast_pred hne]
  exact sub_le_sub_right (h1.trans (posOf_mono xs hp)) 1

end C12
