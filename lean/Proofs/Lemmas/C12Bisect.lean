/-
C12 helper lemmas: bisectBool, the bracketing loops of the generic InvCDF and what a finite answer of
InvCDF is (exact instance).
-/
import Proofs.Lemmas.C12Dist

namespace C12
open Stats Stats.Dists

/-- one iteration of `bisectBool` on a proper interval: the midpoint differs from both ends, so
the `mid == high || mid == low` exit is not taken -/
theorem bisectLoop_succ (f : ℚ → Bool) (xtol : ℚ) (n : ℕ) {low high : ℚ} (flow : Bool)
    (h : low < high) :
    bisectLoop f xtol (n + 1) low high flow =
      if high - low ≤ xtol then (low, high)
      else if f ((high + low) / 2) = flow then bisectLoop f xtol n ((high + low) / 2) high flow
      else bisectLoop f xtol n low ((high + low) / 2) flow := by
  have hne : ¬ ((high + low) / 2 = high ∨ (high + low) / 2 = low) := by
    rintro (e | e) <;> linarith
  rw [bisectLoop]
  simp only [sub_rat, le_rat, add_rat, div_rat, ofNat_rat, Bool.or_eq_true, eq_rat, beq_iff_eq,
    Nat.cast_ofNat, if_neg hne]

theorem half_width {w t : ℚ} {n : ℕ} (h : w ≤ t * 2 ^ (n + 1)) : w / 2 ≤ t * 2 ^ n := by
  rw [pow_succ] at h; linarith

theorem bisectLoop_spec (f : ℚ → Bool) (xtol : ℚ) : ∀ (fuel : ℕ) (low high : ℚ) (flow : Bool),
    low < high → f low = flow → f high = !flow →
    low ≤ (bisectLoop f xtol fuel low high flow).1 ∧
    (bisectLoop f xtol fuel low high flow).1 < (bisectLoop f xtol fuel low high flow).2 ∧
    (bisectLoop f xtol fuel low high flow).2 ≤ high ∧
    f (bisectLoop f xtol fuel low high flow).1 = flow ∧
    f (bisectLoop f xtol fuel low high flow).2 = !flow ∧
    (high - low ≤ xtol * 2 ^ fuel →
      (bisectLoop f xtol fuel low high flow).2 - (bisectLoop f xtol fuel low high flow).1 ≤ xtol) := by
  intro fuel
  induction fuel with
  | zero =>
    intro low high flow h hl hh
    exact ⟨le_refl _, h, le_refl _, hl, hh, fun hw => by rwa [pow_zero, mul_one] at hw⟩
  | succ n ih =>
    intro low high flow h hl hh
    have hm1 : low < (high + low) / 2 := by linarith
    have hm2 : (high + low) / 2 < high := by linarith
    have hw1 : high - (high + low) / 2 = (high - low) / 2 := by ring
    have hw2 : (high + low) / 2 - low = (high - low) / 2 := by ring
    rw [bisectLoop_succ f xtol n flow h]
    split
    · exact ⟨le_refl _, h, le_refl _, hl, hh, fun _ => ‹_›⟩
    · split
      · obtain ⟨a, b, c, d, e, g⟩ := ih _ high flow hm2 ‹_› hh
        exact ⟨hm1.le.trans a, b, c, d, e, fun hw => g (hw1 ▸ half_width hw)⟩
      · obtain ⟨a, b, c, d, e, g⟩ := ih low _ flow hm1 hl (Bool.eq_not_of_ne ‹_›)
        exact ⟨a, b, c.trans hm2.le, d, e, fun hw => g (hw2 ▸ half_width hw)⟩

/-- upward bracketing: as long as cdf hi < y the pair moves to (hi, hi + xd), so from the first
move on cdf lo < y and lo < hi -/
theorem bracketUp_spec (cdf : ℚ → ℚ) (y : ℚ) : ∀ (fuel : ℕ) (lo hi xd : ℚ) (a b : ℚ),
    0 < xd → (cdf hi < y ∨ (cdf lo < y ∧ lo < hi)) →
    bracketUp cdf y fuel lo hi (cdf hi) xd = some (a, b) → cdf a < y ∧ y ≤ cdf b ∧ a < b := by
  intro fuel
  induction fuel with
  | zero => intro lo hi xd a b _ _ h; exact absurd h (by simp [bracketUp])
  | succ n ih =>
    intro lo hi xd a b hxd hinv h
    rw [bracketUp] at h
    simp only [lt_rat, isInf_rat, Bool.not_false, Bool.and_true, add_rat, mul_rat] at h
    split at h
    · exact ih _ _ _ a b (mul_pos hxd (by norm_num)) (Or.inr ⟨‹_›, lt_add_of_pos_right _ hxd⟩) h
    · obtain ⟨rfl, rfl⟩ := Prod.mk.inj (Option.some.inj h)
      rcases hinv with h1 | ⟨h1, h2⟩
      · exact absurd h1 ‹_›
      · exact ⟨h1, not_lt.mp ‹_›, h2⟩

/-- downward bracketing, the mirror image: as long as y ≤ cdf lo the pair moves to (lo − xd, lo) -/
theorem bracketDown_spec (cdf : ℚ → ℚ) (y : ℚ) : ∀ (fuel : ℕ) (lo hi xd : ℚ) (a b : ℚ),
    0 < xd → (y ≤ cdf lo ∨ (y ≤ cdf hi ∧ lo < hi)) →
    bracketDown cdf y fuel lo (cdf lo) hi xd = some (a, b) → cdf a < y ∧ y ≤ cdf b ∧ a < b := by
  intro fuel
  induction fuel with
  | zero => intro lo hi xd a b _ _ h; exact absurd h (by simp [bracketDown])
  | succ n ih =>
    intro lo hi xd a b hxd hinv h
    rw [bracketDown] at h
    simp only [le_rat, isInf_rat, Bool.not_false, Bool.and_true, sub_rat, mul_rat] at h
    split at h
    · exact ih _ _ _ a b (mul_pos hxd (by norm_num)) (Or.inr ⟨‹_›, sub_lt_self _ hxd⟩) h
    · obtain ⟨rfl, rfl⟩ := Prod.mk.inj (Option.some.inj h)
      rcases hinv with h1 | ⟨h1, h2⟩
      · exact absurd h1 ‹_›
      · exact ⟨not_le.mp ‹_›, h1, h2⟩

theorem invCDF_val (cdf : ℚ → ℚ) (bl bh y x : ℚ) (fuel : ℕ) (hy : 0 < y ∧ y < 1)
    (h : invCDF cdf bl bh fuel y = .val x) :
    ∃ lo hi x1, cdf lo < y ∧ y ≤ cdf hi ∧ lo < hi ∧
      bisectBool (fun x => Arith.lt (cdf x) y) lo hi (xtol : ℚ) fuel = some (x1, x) := by
  have c1 : ¬ (y < 0 ∨ 1 < y) := not_or.mpr ⟨hy.1.le.not_gt, hy.2.le.not_gt⟩
  have c2 : ¬ y = 0 := ne_of_gt hy.1
  have c3 : ¬ y = 1 := ne_of_lt hy.2
  simp only [invCDF, Bool.or_eq_true, lt_rat, ofNat_rat, Nat.cast_zero, Nat.cast_one, c1, if_false,
    eq_rat, c2, c3, isInf_rat, Bool.false_eq_true] at h
  split at h
  · simp at h
  · rename_i lo hi hbr
    have hb : cdf lo < y ∧ y ≤ cdf hi ∧ lo < hi := by
      by_cases hc : cdf 0 < y
      · rw [if_pos hc] at hbr
        exact bracketUp_spec cdf y fuel 0 0 1 lo hi one_pos (Or.inl hc) hbr
      · rw [if_neg hc] at hbr
        exact bracketDown_spec cdf y fuel 0 0 1 lo hi one_pos (Or.inl (not_lt.mp hc)) hbr
    split at h
    · simp at h
    · rename_i x1 x2 hbis
      obtain rfl : x2 = x := IRes.val.inj h
      exact ⟨lo, hi, x1, hb.1, hb.2.1, hb.2.2, hbis⟩

end C12
