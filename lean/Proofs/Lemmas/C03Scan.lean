/-
The mantissa scanners of atof.go (`readFloat`, `decimal.set`) with their state abstracted (`scan`):
`_` skipped, one `.`, digits, stop. One walk (`scan_lex`) relates any such scanner to the digit lists
it has read (`Lex`); the mantissa loop of `readFloat` is an instance.
-/
import Proofs.Lemmas.C03MantLoop
import Proofs.Lemmas.C03Underscore

namespace C03
open Num Spec.NumText

/-- the mantissa loops of `readFloat` and `decimal.set` with the state abstracted: `_` is skipped,
a `.` goes to `dot` (which may fail), a digit to `push`, anything else ends the scan -/
def scan {σ : Type} (dig : UInt8 → Bool) (dot : σ → Option σ) (push : UInt8 → σ → σ) :
    Bytes → σ → Option (σ × Bytes)
  | [], st => some (st, [])
  | c :: cs, st =>
    if c == 95 then scan dig dot push cs st
    else if c == 46 then (dot st).bind (scan dig dot push cs)
    else if dig c then scan dig dot push cs (push c st)
    else some (st, c :: cs)

def Stop (dig : UInt8 → Bool) (r : Bytes) : Prop :=
  r = [] ∨ ∃ c r', r = c :: r' ∧ c ≠ 95 ∧ c ≠ 46 ∧ dig c = false

section
variable {σ : Type} (dig : UInt8 → Bool) (dot : σ → Option σ) (push : UInt8 → σ → σ)

theorem scan_us (cs : Bytes) (st : σ) : scan dig dot push (95 :: cs) st = scan dig dot push cs st := by
  conv => lhs; unfold scan
  simp

theorem scan_dot (cs : Bytes) (st : σ) :
    scan dig dot push (46 :: cs) st = (dot st).bind (scan dig dot push cs) := by
  conv => lhs; unfold scan
  simp

theorem scan_dig (c : UInt8) (cs : Bytes) (st : σ) (h95 : c ≠ 95) (h46 : c ≠ 46) (h : dig c = true) :
    scan dig dot push (c :: cs) st = scan dig dot push cs (push c st) := by
  conv => lhs; unfold scan
  simp [h95, h46, h]

theorem scan_stop (r : Bytes) (st : σ) (h : Stop dig r) : scan dig dot push r st = some (st, r) := by
  rcases h with rfl | ⟨c, r', rfl, h95, h46, hd⟩
  · rfl
  · conv => lhs; unfold scan
    simp [h95, h46, hd]

theorem scan_cases (P : Bytes → Prop) (c : UInt8) (cs : Bytes)
    (hus : c = 95 → P (c :: cs)) (hdot : c = 46 → P (c :: cs))
    (hdig : c ≠ 95 → c ≠ 46 → dig c = true → P (c :: cs))
    (hstop : c ≠ 95 → c ≠ 46 → dig c = false → Stop dig (c :: cs) → P (c :: cs)) : P (c :: cs) := by
  by_cases h95 : c = 95
  · exact hus h95
  by_cases h46 : c = 46
  · exact hdot h46
  by_cases hd : dig c = true
  · exact hdig h95 h46 hd
  · simp only [Bool.not_eq_true] at hd
    exact hstop h95 h46 hd (Or.inr ⟨c, cs, rfl, h95, h46, hd⟩)

theorem scan_strip (t : Bytes) : ∀ st : σ,
    scan dig dot push (strip t) st = (scan dig dot push t st).map (fun p => (p.1, strip p.2)) := by
  induction t with
  | nil => intro st; rfl
  | cons c cs ih =>
    intro st
    refine scan_cases dig (fun t => scan dig dot push (strip t) st = (scan dig dot push t st).map (fun p => (p.1, strip p.2)))
      c cs ?_ ?_ ?_ ?_
    · rintro rfl; rw [strip_us, scan_us]; exact ih st
    · rintro rfl
      rw [strip_cons _ _ (by decide), scan_dot, scan_dot]
      cases dot st with
      | none => rfl
      | some st' => exact ih st'
    · intro h95 h46 hd
      rw [strip_cons _ _ h95, scan_dig dig dot push c _ st h95 h46 hd, scan_dig dig dot push c _ st h95 h46 hd]
      exact ih _
    · intro h95 h46 hd hs
      rw [scan_stop dig dot push _ st hs, strip_cons _ _ h95,
        scan_stop dig dot push _ st (Or.inr ⟨c, strip cs, rfl, h95, h46, hd⟩)]
      simp [strip_cons _ _ h95]

theorem scan_rest (t : Bytes) : ∀ (st st' : σ) (rest : Bytes),
    scan dig dot push t st = some (st', rest) →
    Stop dig rest ∧ ∀ prev, underscoresOK dig prev t = true → ∃ prev', underscoresOK dig prev' rest = true := by
  induction t with
  | nil =>
    intro st st' rest h
    simp [scan] at h
    rw [h.2]
    exact ⟨Or.inl rfl, fun prev hu => ⟨prev, hu⟩⟩
  | cons c cs ih =>
    intro st st' rest
    refine scan_cases dig (fun t => scan dig dot push t st = some (st', rest) →
      Stop dig rest ∧ ∀ prev, underscoresOK dig prev t = true → ∃ prev', underscoresOK dig prev' rest = true)
      c cs ?_ ?_ ?_ ?_
    · rintro rfl h
      rw [scan_us] at h
      obtain ⟨k1, k2⟩ := ih _ _ _ h
      refine ⟨k1, fun prev hu => ?_⟩
      rw [uOK_us, Bool.and_eq_true] at hu
      exact k2 _ hu.2
    · rintro rfl h
      rw [scan_dot] at h
      cases hdt : dot st with
      | none => rw [hdt] at h; cases h
      | some s2 =>
        rw [hdt] at h
        obtain ⟨k1, k2⟩ := ih _ _ _ h
        exact ⟨k1, fun prev hu => k2 _ (by rw [uOK_other _ _ _ _ (by decide)] at hu; exact hu)⟩
    · intro h95 h46 hd h
      rw [scan_dig dig dot push c cs st h95 h46 hd] at h
      obtain ⟨k1, k2⟩ := ih _ _ _ h
      exact ⟨k1, fun prev hu => k2 _ (by rw [uOK_other _ _ _ _ h95] at hu; exact hu)⟩
    · intro _ _ _ hs h
      rw [scan_stop dig dot push _ st hs] at h
      injection h with h; injection h with _ h2
      rw [← h2]
      exact ⟨hs, fun prev hu => ⟨prev, hu⟩⟩

end

/-- what a mantissa scan has read: the digits before the point and, once it has been read, those after it -/
inductive Lex where
  | int (ip : Bytes)
  | frac (ip fp : Bytes)

def Lex.ip : Lex → Bytes
  | .int ip => ip
  | .frac ip _ => ip
def Lex.fp : Lex → Bytes
  | .int _ => []
  | .frac _ fp => fp
def Lex.dot : Lex → Bool
  | .int _ => false
  | .frac _ _ => true

def dotL : Lex → Option Lex
  | .int ip => some (.frac ip [])
  | .frac _ _ => none
def pushL (c : UInt8) : Lex → Lex
  | .int ip => .int (ip ++ [c])
  | .frac ip fp => .frac ip (fp ++ [c])
/-- the scan that only collects the digits: the reference every other scanner is compared with -/
def scanL (dig : UInt8 → Bool) : Bytes → Lex → Option (Lex × Bytes) := scan dig dotL pushL

theorem Lex.fp_nil {L : Lex} (h : L.dot = false) : L.fp = [] := by
  cases L with
  | int _ => rfl
  | frac _ _ => cases h

theorem pushL_dot (c : UInt8) (L : Lex) : (pushL c L).dot = L.dot := by cases L <;> rfl

theorem pushL_all (c : UInt8) (L : Lex) : (pushL c L).ip ++ (pushL c L).fp = (L.ip ++ L.fp) ++ [c] := by
  cases L <;> simp [pushL, Lex.ip, Lex.fp]

theorem pushL_fp (c : UInt8) (L : Lex) :
    (pushL c L).fp.length = if L.dot then L.fp.length + 1 else L.fp.length := by
  cases L <;> simp [pushL, Lex.fp, Lex.dot]

theorem pushL_nonempty (c : UInt8) (L : Lex) : ((pushL c L).ip.isEmpty && (pushL c L).fp.isEmpty) = false := by
  cases L <;> simp [pushL, Lex.ip, Lex.fp]

/-- `R` ties the state of a scanner (`dot`, `push`) to the digit lists it has read: it is kept at a digit and at the first
point, and under it a second point fails -/
structure Sim {σ : Type} (dig : UInt8 → Bool) (dot : σ → Option σ) (push : UInt8 → σ → σ) (R : σ → Lex → Prop) : Prop where
  point : ∀ a ip, R a (.int ip) → ∃ a', dot a = some a' ∧ R a' (.frac ip [])
  point2 : ∀ a ip fp, R a (.frac ip fp) → dot a = none
  digit : ∀ a L c, R a L → dig c = true → R (push c a) (pushL c L)

theorem scan_lex {σ : Type} {dig : UInt8 → Bool} {dot : σ → Option σ} {push : UInt8 → σ → σ} {R : σ → Lex → Prop}
    (sim : Sim dig dot push R) (t : Bytes) : ∀ a L, R a L →
    (scanL dig t L = none → scan dig dot push t a = none) ∧
    (∀ L' rest, scanL dig t L = some (L', rest) → ∃ a', scan dig dot push t a = some (a', rest) ∧ R a' L') := by
  unfold scanL
  induction t with
  | nil =>
    intro a L h
    refine ⟨fun h' => by simp [scan] at h', fun L' rest h' => ?_⟩
    simp only [scan, Option.some.injEq, Prod.mk.injEq] at h'
    exact ⟨a, by rw [← h'.2]; rfl, h'.1 ▸ h⟩
  | cons c cs ih =>
    intro a L h
    refine scan_cases dig (fun t => (scan dig dotL pushL t L = none → scan dig dot push t a = none) ∧
      (∀ L' rest, scan dig dotL pushL t L = some (L', rest) →
        ∃ a', scan dig dot push t a = some (a', rest) ∧ R a' L'))
      c cs ?_ ?_ ?_ ?_
    · rintro rfl; simp only [scan_us]; exact ih a L h
    · rintro rfl
      simp only [scan_dot]
      cases L with
      | frac ip fp => simp [dotL, sim.point2 a ip fp h]
      | int ip =>
        obtain ⟨a', e, h'⟩ := sim.point a ip h
        simp only [dotL, e, Option.bind_some]
        exact ih a' _ h'
    · intro h95 h46 hd
      simp only [scan_dig dig _ _ c cs _ h95 h46 hd]
      exact ih _ _ (sim.digit a L c h hd)
    · intro _ _ _ hs
      simp only [scan_stop dig _ _ _ _ hs]
      refine ⟨fun h' => (by cases h'), fun L' rest h' => ?_⟩
      injection h' with h'; injection h' with e1 e2
      exact ⟨a, by rw [e2], e1 ▸ h⟩

theorem scanL_block (dig : UInt8 → Bool) (hd95 : dig 95 = false) (hd46 : dig 46 = false) (ds : Bytes)
    (hds : ds.all dig = true) : ∀ (L : Lex) (r : Bytes),
    scanL dig (ds ++ r) L = scanL dig r (match L with
      | .int ip => .int (ip ++ ds)
      | .frac ip fp => .frac ip (fp ++ ds)) := by
  unfold scanL
  induction ds with
  | nil => intro L r; cases L <;> simp
  | cons c ds ih =>
    intro L r
    rw [List.all_cons, Bool.and_eq_true] at hds
    rw [List.cons_append, scan_dig dig _ _ c _ L (fun h => by rw [h, hd95] at hds; cases hds.1)
      (fun h => by rw [h, hd46] at hds; cases hds.1) hds.1, ih hds.2]
    cases L <;> simp [pushL]

theorem mantLoop_us (hex : Bool) (cs : Bytes) (st : MS) : mantLoop hex (95 :: cs) st = mantLoop hex cs st := by
  conv => lhs; unfold mantLoop
  simp

theorem mantLoop_dot (hex : Bool) (cs : Bytes) (st : MS) :
    mantLoop hex (46 :: cs) st = (dotM st).bind (mantLoop hex cs) := by
  conv => lhs; unfold mantLoop
  unfold dotM
  cases st.sawdot <;> simp

theorem mantLoop_dig (hex : Bool) (c : UInt8) (cs : Bytes) (st : MS) (h : digS hex c = true) :
    mantLoop hex (c :: cs) st = mantLoop hex cs (pushM hex (digVal c) st) := by
  have hb1 : (48 ≤ c && c ≤ 57) = isDec c := rfl
  have e95 : (c == 95) = false := by simpa using digS_ne (k := 95) h rfl
  have e46 : (c == 46) = false := by simpa using digS_ne (k := 46) h rfl
  conv => lhs; unfold mantLoop
  unfold pushM maxDOf baseOf
  simp only [e95, e46, Bool.false_eq_true, if_false, hb1]
  by_cases hdec : isDec c = true
  · have h0 := digVal_eq_zero hdec
    rw [if_pos hdec, sub48 hdec]
    by_cases hz : digVal c = 0 ∧ st.nd = 0
    · rw [if_pos hz, if_pos (by simp [h0.mpr hz.1, hz.2])]
    · rw [if_neg hz, if_neg (by simpa [h0] using hz)]
      by_cases hroom : st.ndMant < (if hex = true then 16 else 19)
      · rw [if_pos hroom, if_pos hroom]
      · rw [if_neg hroom, if_neg hroom]
        by_cases h48 : (c == 48) = true
        · have hne : ¬ (c != 48) = true := by simp only [bne, h48]; decide
          rw [if_neg hne, h0.mp h48, bne_self_eq_false, Bool.or_false]
        · have hd0 : (digVal c != 0) = true := by simpa [h0] using h48
          rw [if_pos (by simpa using h48), hd0, Bool.or_true]
  · simp only [Bool.not_eq_true] at hdec
    have hh : hex = true := by
      cases hex
      · exact absurd (show isDec c = true from h) (by rw [hdec]; decide)
      · rfl
    subst hh
    have hx : isHexDig c = true := h
    have hpos := (hexLetter_range hdec hx).1
    have hd0 : (digVal c != 0) = true := by simpa using Nat.pos_iff_ne_zero.mp (Nat.lt_of_lt_of_le (by decide) hpos)
    have hz : ¬ (digVal c = 0 ∧ st.nd = 0) := fun hz => by simp [hz.1] at hd0
    rw [if_neg (by simp [hdec]), Bool.true_and, hexLetter_test c hdec, hx, if_pos rfl, hexLetter_val c hdec hx, if_neg hz,
      hd0, Bool.or_true]
    by_cases hroom : st.ndMant < (if true = true then 16 else 19)
    · rw [if_pos hroom, if_pos hroom]; rfl
    · rw [if_neg hroom, if_neg hroom]

theorem mantLoop_stop (hex : Bool) (r : Bytes) (st : MS) (h : Stop (digS hex) r) : mantLoop hex r st = some (st, r) := by
  rcases h with h | ⟨c, r', h, h95, h46, hd⟩
  · subst h; rfl
  · subst h
    have e95 : (c == 95) = false := by simpa using h95
    have e46 : (c == 46) = false := by simpa using h46
    have hdm := digM_eq hex c
    rw [hd, Bool.or_eq_false_iff] at hdm
    conv => lhs; unfold mantLoop
    simp only [e95, e46, Bool.false_eq_true, if_false, hdm.1, hdm.2]

theorem mantLoop_eq_scan (hex : Bool) (t : Bytes) : ∀ st,
    mantLoop hex t st = scan (digS hex) dotM (fun c => pushM hex (digVal c)) t st := by
  induction t with
  | nil => intro st; rfl
  | cons c cs ih =>
    intro st
    refine scan_cases (digS hex) (fun t => mantLoop hex t st = scan (digS hex) dotM (fun c => pushM hex (digVal c)) t st)
      c cs ?_ ?_ ?_ ?_
    · rintro rfl; rw [mantLoop_us, scan_us]; exact ih st
    · rintro rfl
      rw [mantLoop_dot, scan_dot]
      cases dotM st with
      | none => rfl
      | some st' => exact ih st'
    · intro h95 h46 hd
      rw [mantLoop_dig hex c cs st hd, scan_dig _ _ _ c cs st h95 h46 hd]
      exact ih _
    · intro _ _ _ hs
      rw [mantLoop_stop hex _ st hs, scan_stop _ _ _ _ _ hs]

theorem digS_95 (hex : Bool) : digS hex 95 = false := by cases hex <;> decide
theorem digS_46 (hex : Bool) : digS hex 46 = false := by cases hex <;> decide

theorem digS_lt (hex : Bool) (c : UInt8) (h : digS hex c = true) : digVal c < baseOf hex := by
  by_cases hd : isDec c = true
  · have := digVal_le9 hd
    cases hex
    · show digVal c < 10; omega
    · show digVal c < 16; omega
  · simp only [Bool.not_eq_true] at hd
    cases hex
    · rw [show digS false c = isDec c from rfl, hd] at h; cases h
    · have := (hexLetter_range hd h).2
      show digVal c < 16; omega

/-- loop state of `readFloat` against the digits read: the invariant `Inv` for M = all digits as one
number, F = the digits after the point -/
def RM (hex : Bool) (st : MS) (L : Lex) : Prop :=
  (∃ D, Inv hex st (valOf (baseOf hex) (L.ip ++ L.fp)) L.fp.length D) ∧ L.dot = st.sawdot ∧
  st.sawdigits = !(L.ip.isEmpty && L.fp.isEmpty)

theorem RM_init (hex : Bool) : RM hex {} (.int []) := ⟨⟨0, inv_init hex⟩, rfl, rfl⟩

theorem RM_sim (hex : Bool) : Sim (digS hex) dotM (fun c => pushM hex (digVal c)) (RM hex) where
  point := by
    rintro a ip ⟨⟨D, i⟩, e, sd⟩
    have hs : a.sawdot = false := e.symm
    unfold dotM
    rw [hs]
    exact ⟨_, rfl, ⟨D, i.dot hs⟩, rfl, sd⟩
  point2 := by
    rintro a ip fp ⟨_, e, _⟩
    unfold dotM
    rw [← e]
    rfl
  digit := by
    rintro a L c ⟨⟨D, i⟩, e, _⟩ hd
    obtain ⟨f1, f2⟩ := pushM_flags hex (digVal c) a
    unfold RM
    rw [pushL_all, valOf_push, pushL_fp, pushL_dot, pushL_nonempty, e, f1, f2]
    exact ⟨i.push (digVal c) (digS_lt hex c hd), rfl, rfl⟩

/-- **the mantissa loop computes the value of the digits read**: it fails, or stops, where the scan
of the digit lists does, and its state satisfies the invariant `Inv` for those digits -/
theorem mantLoop_inv (hex : Bool) (t : Bytes) :
    (scanL (digS hex) t (.int []) = none → mantLoop hex t {} = none) ∧
    (∀ L rest, scanL (digS hex) t (.int []) = some (L, rest) → ∃ st, mantLoop hex t {} = some (st, rest) ∧ RM hex st L) := by
  rw [mantLoop_eq_scan]
  exact scan_lex (RM_sim hex) t {} (.int []) (RM_init hex)

theorem refMant_lex (hex : Bool) (t : Bytes) : ∀ (L L' : Lex) (rest : Bytes), scanL (digS hex) t L = some (L', rest) →
    refMant hex t (valOf (baseOf hex) (L.ip ++ L.fp)) L.fp.length L.dot =
      (valOf (baseOf hex) (L'.ip ++ L'.fp), L'.fp.length) := by
  unfold scanL
  induction t with
  | nil => intro L L' rest h; injection h with h; injection h with h _; rw [← h]; rfl
  | cons c cs ih =>
    intro L L' rest
    have hdig : (isDec c || (hex && isHexDig c)) = digS hex c := by
      cases hex
      · simp [digS]
      · cases h : isDec c <;> simp [digS, isHexDig, h]
    unfold refMant
    refine scan_cases (digS hex) (fun t => scan (digS hex) dotL pushL t L = some (L', rest) → _ = _) c cs ?_ ?_ ?_ ?_
    · rintro rfl h; rw [scan_us] at h; simpa using ih L L' rest h
    · rintro rfl h
      rw [scan_dot] at h
      cases L with
      | frac ip fp => cases h
      | int ip => simpa [Lex.ip, Lex.fp, Lex.dot] using ih (.frac ip []) L' rest h
    · intro h95 h46 hd h
      rw [scan_dig _ _ _ c cs _ h95 h46 hd] at h
      have := ih _ L' rest h
      rw [pushL_all, valOf_push, pushL_fp, pushL_dot] at this
      simpa [h95, h46, hdig, hd, baseOf] using this
    · intro h95 h46 hd hs h
      rw [scan_stop _ _ _ _ _ hs] at h
      injection h with h; injection h with h _
      simp [h95, h46, hdig, hd, ← h]

theorem mant_value (hex : Bool) (t : Bytes) (st : MS) (rest : Bytes) (hm : mantLoop hex t {} = some (st, rest)) :
    st.mant < 2 ^ 64 ∧
    (st.trunc = false → (refMant hex t 0 0 false).1 = st.mant * baseOf hex ^ (st.nd - st.ndMant)) ∧
    ((if !st.sawdot then (st.nd : Int) else st.dp) - st.ndMant
        = ((st.nd - st.ndMant : Nat) : Int) - ((refMant hex t 0 0 false).2 : Nat)) := by
  obtain ⟨k1, k2⟩ := mantLoop_inv hex t
  cases hL : scanL (digS hex) t (.int []) with
  | none => rw [k1 hL] at hm; cases hm
  | some p =>
    obtain ⟨st', e, hR⟩ := k2 p.1 p.2 hL
    rw [hm] at e
    injection e with e; injection e with e1 _; subst e1
    have hr : refMant hex t 0 0 false = (valOf (baseOf hex) (p.1.ip ++ p.1.fp), p.1.fp.length) :=
      refMant_lex hex t (.int []) p.1 p.2 hL
    rw [hr]
    obtain ⟨D, inv⟩ := hR.1
    exact ⟨inv.value.1, inv.value.2.1, inv.value.2.2.2⟩

end C03
