/-
C11: the ingredients of the normal approximation against their textbook form; `Outcome.p?`, the
p-value of an exact outcome (for the witness of finding N5).
-/
import Model.Stats.UDist
import Model.Stats.UStat
import Model.Spec.UExact
import Mathlib.Algebra.BigOperators.Intervals
import Mathlib.Algebra.Order.Field.Rat
import Mathlib.Tactic.Ring
import Mathlib.Tactic.Linarith
import Mathlib.Tactic.FieldSimp

namespace C11
open Stats Stats.UStat Stats.UDist

theorem tieCorrection_eq (T : List Nat) : tieCorrection T = (T.map fun t => t * t * t - t).sum := by
  rw [List.sum_eq_foldl_nat, List.foldl_map]
  rfl

/-- the model's μ, σ² and continuity-corrected numerator are the textbook ones (as exact rationals):
    σ² = n1·n2/12·((N+1) − Σ(t³−t)/(N(N−1))); numerator 2(U−μ) moved ½ toward the mean (two-sided),
    +½ (less), −½ (greater) -/
theorem approx_formula (twoU n1 n2 : Nat) (T : List Nat) :
    sigma2 n1 n2 T = Spec.UExact.sigma2 n1 n2 ((T.map fun t => t * t * t - t).sum) ∧
    twoNumer .less (twoU : Int) n1 n2 = Spec.UExact.twoNumerLess twoU n1 n2 ∧
    twoNumer .greater (twoU : Int) n1 n2 = Spec.UExact.twoNumerGreater twoU n1 n2 ∧
    twoNumer .differs (twoU : Int) n1 n2 = Spec.UExact.twoNumerTwoSided twoU n1 n2 := by
  refine ⟨?_, rfl, rfl, ?_⟩
  · unfold sigma2 Spec.UExact.sigma2
    rw [tieCorrection_eq]
    ring
  · unfold twoNumer Spec.UExact.twoNumerTwoSided
    simp only
    split_ifs <;> omega

def Outcome.p? : Outcome → Option Rat
  | .exact _ p => some p
  | _ => none

end C11
