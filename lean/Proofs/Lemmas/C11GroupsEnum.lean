/-
C11: counting assignments per tie group is the same as enumerating them.

`groupCount T n1 twoU` (r-vectors weighted by ∏ C(t_k, r_k)) equals the number of splits of the pooled
sample `poolOf T` whose pair-counting statistic is ≤ twoU.
-/
import Model.Spec.UExact
import Proofs.Lemmas.C11Groups
import Proofs.Lemmas.C11Labelings
import Mathlib.Data.Nat.Choose.Basic
import Mathlib.Algebra.BigOperators.Group.Finset.Basic
import Mathlib.Algebra.BigOperators.Intervals
import Mathlib.Algebra.BigOperators.Ring.List
import Mathlib.Tactic.Ring
import Mathlib.Tactic.Linarith

namespace C11

section
open Spec.UExact

theorem sum_filter_flatMap_cons (L : List Nat) (g : Nat → List (List Nat))
    (p : List Nat → Bool) (w : List Nat → Nat) :
    (((L.flatMap fun r => (g r).map (r :: ·)).filter p).map w).sum
      = (L.map fun r => (((g r).filter fun rs => p (r :: rs)).map fun rs => w (r :: rs)).sum).sum := by
  induction L with
  | nil => simp
  | cons a L ih =>
    simp only [List.flatMap_cons, List.filter_append, List.map_append, List.sum_append, ih,
      List.map_cons, List.sum_cons, List.filter_map, List.map_map, Function.comp_def]

/-- value v repeated T[0] times, v+1 repeated T[1] times, … -/
def poolFrom : Nat → List Nat → List Nat
  | _, [] => []
  | v, t :: ts => List.replicate t v ++ poolFrom (v + 1) ts

theorem mem_poolFrom (T : List Nat) : ∀ v, ∀ x ∈ poolFrom v T, v ≤ x ∧ x < v + T.length := by
  induction T with
  | nil => intro v x hx; simp [poolFrom] at hx
  | cons t ts ih =>
    intro v x hx
    simp only [poolFrom, List.mem_append] at hx
    rw [List.length_cons]
    rcases hx with hx | hx
    · rw [List.eq_of_mem_replicate hx]; omega
    · have := ih (v + 1) x hx; omega

theorem poolFrom_eq (T : List Nat) : ∀ v,
    poolFrom v T = ((List.range T.length).map fun k => List.replicate (T.getD k 0) (v + k)).flatten := by
  induction T with
  | nil => intro v; rfl
  | cons t ts ih =>
    intro v
    rw [poolFrom, ih (v + 1), List.length_cons, List.range_succ_eq_map, List.map_cons,
      List.flatten_cons, List.map_map]
    congr 2
    apply List.map_congr_left
    intro k _
    simp only [Function.comp_def, List.getD_cons_succ]
    congr 1
    omega

theorem poolOf_eq (T : List Nat) : poolOf T = poolFrom 0 T := by
  rw [poolFrom_eq]
  simp [poolOf]

theorem poolFrom_length (T : List Nat) : ∀ v, (poolFrom v T).length = T.sum := by
  induction T with
  | nil => intro v; rfl
  | cons t ts ih =>
    intro v
    rw [poolFrom, List.length_append, List.length_replicate, ih, List.sum_cons]

theorem poolFrom_append (A B : List Nat) : ∀ v,
    poolFrom v (A ++ B) = poolFrom v A ++ poolFrom (v + A.length) B := by
  induction A with
  | nil => intro v; simp [poolFrom]
  | cons a as ih =>
    intro v
    rw [List.cons_append, poolFrom, poolFrom, ih (v + 1), List.append_assoc, List.length_cons]
    congr 3
    omega

theorem poolFrom_snoc (T : List Nat) (t v : Nat) :
    poolFrom v (T ++ [t]) = poolFrom v T ++ List.replicate t (v + T.length) := by
  rw [poolFrom_append, poolFrom, poolFrom, List.append_nil]

theorem poolOf_length (T : List Nat) : (poolOf T).length = T.sum := by
  rw [poolOf_eq, poolFrom_length]

/-- weighted count of r-vectors = count of splits, for any predicate on the statistic; `below`
    second-sample values lie below the pool, each first-sample member beats them all -/
theorem rvecs_count_splits (T : List Nat) :
    ∀ (v n below : Nat) (P : Nat → Bool),
      (((rvecs T n).filter fun r => P (twoUofRAux below T r)).map (weight T)).sum
        = (splits n (poolFrom v T)).countP fun p => P (twoUPairs p.1 p.2 + 2 * below * n) := by
  induction T with
  | nil =>
    intro v n below P
    cases n with
    | zero => cases h : P 0 <;> simp [rvecs, twoUofRAux, weight, poolFrom, splits, twoUPairs_nil_left, h]
    | succ n => simp [rvecs, poolFrom, splits]
  | cons t ts ih =>
    intro v n below P
    have hrest : ∀ x ∈ poolFrom (v + 1) ts, v < x := fun x hx => (mem_poolFrom ts (v + 1) x hx).1
    rw [poolFrom, countP_splits_replicate]
    rw [← sum_range_min_choose]
    change _ = ((List.range (min t n + 1)).map fun r => _).sum
    rw [rvecs, sum_filter_flatMap_cons]
    congr 1
    apply List.map_congr_left
    intro r hr
    have hr' : r ≤ t ∧ r ≤ n := by
      have := List.mem_range.1 hr
      omega
    simp only [twoUofRAux, weight]
    rw [List.sum_map_mul_left,
      ih (v + 1) (n - r) (below + (t - r)) (fun x => P (2 * r * below + r * (t - r) + x))]
    congr 1
    apply List.countP_congr
    intro p hp
    obtain ⟨hc, hd⟩ := splits_mem_forall hrest hp
    rw [tup_block v r (t - r) p.1 p.2 hc hd, (splits_mem_length hp).1]
    have e : 2 * r * below + r * (t - r) + (twoUPairs p.1 p.2 + 2 * (below + (t - r)) * (n - r))
        = r * (t - r) + 2 * (n - r) * (t - r) + twoUPairs p.1 p.2 + 2 * below * n := by
      obtain ⟨m, rfl⟩ : ∃ m, n = r + m := ⟨n - r, by omega⟩
      have : r + m - r = m := by omega
      rw [this]
      ring
    rw [e]

end

/-- counting assignments per tie group is the same as enumerating them (the filter runs over the
    `Nat` values of the enumeration) -/
theorem groups_count_labelings (T : List Nat) (n1 : Nat) (twoU : Int) :
    groupCount T n1 twoU
      = ((Spec.UExact.nullDistOf n1 (poolOf T)).filter
          fun (d : Nat) => decide ((d : Int) ≤ twoU)).length := by
  unfold groupCount twoUofR
  rw [rvecs_count_splits T 0 n1 0 (fun x => decide ((x : Int) ≤ twoU)),
    ← poolOf_eq, ← List.countP_eq_length_filter, countP_nullDistOf]
  apply List.countP_congr
  intro p _
  simp

/-- the K = 2 case with the statement as written without a binder type: Lean elaborates the filter
    over the enumeration coerced elementwise to `List Int` -/
theorem k2_counts_labelings (t0 t1 n1 : Nat) (twoU : Int) :
    groupCount [t0, t1] n1 twoU
      = ((Spec.UExact.nullDistOf n1 (poolOf [t0, t1])).filter
          fun d => decide ((d : Int) ≤ twoU)).length := by
  rw [groups_count_labelings]
  generalize Spec.UExact.nullDistOf n1 (poolOf [t0, t1]) = L
  induction L with
  | nil => rfl
  | cons a L ih =>
    have e : (do let x ← a :: L; pure (x : Int) : List Int)
        = (a : Int) :: (do let x ← L; pure (x : Int) : List Int) := by
      simp [List.flatMap_cons]
    rw [e, List.filter_cons, List.filter_cons]
    by_cases h : (a : Int) ≤ twoU
    · simp only [h, decide_true, if_true, List.length_cons, ih]
    · simp only [h, decide_false, Bool.false_eq_true, if_false, ih]

end C11
