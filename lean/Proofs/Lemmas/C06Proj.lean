/-
Parse with a filter: fixed-order value lists conjoin a membership test onto the caller's filter.
-/
import Proofs.Lemmas.C06Eval

namespace C06
open Proc.FilterEval Spec.FilterSem

theorem filterParts_wf (excl : List Bytes) (fields : List ProjField) (res : Res) (n : Nat) :
    ∀ f, f ∈ filterParts excl fields → OutWF n (f res) := by
  intro f hf
  simp only [filterParts, List.mem_filterMap] at hf
  obtain ⟨fld, _, h⟩ := hf
  cases hfx : fld.fixed with
  | none => simp [hfx] at h
  | some l =>
    simp [hfx] at h
    rw [← h]; exact nofun

theorem filterParts_all (excl : List Bytes) (fields : List ProjField) (res : Res) (n i : Nat) (hi : i < n) :
    (filterParts excl fields).all (fun f => outTest n (f res) i) = fields.all (inFixed excl · res) := by
  induction fields with
  | nil => simp [filterParts]
  | cons fld fs ih =>
    simp only [filterParts, List.all_cons] at ih ⊢
    rw [List.filterMap_cons]
    cases hfx : fld.fixed with
    | none => simp [inFixed, hfx, ih]
    | some l =>
      simp only [Option.map_some, List.all_cons, ih]
      simp [inFixed, hfx, fixedFn, outTest_none _ _ _ hi]

theorem Denotes.parseInto {n : Nat} {user : FilterFn} {res : Res} {P : Nat → Bool} (hu : Denotes n (user res) P)
    (excl : List Bytes) (fields : List ProjField) :
    Denotes n (Proc.FilterEval.parseInto excl fields user res) (fun i => fields.all (inFixed excl · res) && P i) := by
  unfold Proc.FilterEval.parseInto
  split
  · rename_i he
    refine hu.congr fun i hi => ?_
    have := filterParts_all excl fields res n i hi
    have hnil : filterParts excl fields = [] := by simpa using he
    rw [hnil] at this
    simp [← this]
  · have hw : ∀ f, f ∈ filterParts excl fields ++ [user] → OutWF n (f res) := by
      intro f hf
      rcases List.mem_append.mp hf with h | h
      · exact filterParts_wf excl fields res n f h
      · simp at h; rw [h]; exact hu.1
    refine Denotes.and hw fun i hi => ?_
    rw [List.all_append, filterParts_all excl fields res n i hi]
    simp [hu.2 i hi]

/-- fixed-order value lists conjoin their membership tests onto what the caller's filter denotes -/
theorem Denotes.parseAll {n : Nat} {res : Res} (excl : List Bytes) : ∀ (projs : List (List ProjField)) {user : FilterFn}
    {P : Nat → Bool}, Denotes n (user res) P →
    Denotes n (Proc.FilterEval.parseAll excl projs user res) (fun i => projs.flatten.all (inFixed excl · res) && P i)
  | [], _, _, hu => hu.congr fun i _ => by simp
  | fs :: rest, _, _, hu =>
    (Denotes.parseAll excl rest (hu.parseInto excl fs)).congr fun i _ => by
      simp only [List.flatten_cons, List.all_append]
      cases List.all fs (inFixed excl · res) <;> cases List.all rest.flatten (inFixed excl · res) <;> simp

theorem parseLoop_eq (excl : List Bytes) : ∀ (fields : List ProjField) (parts : List FilterFn),
    parseLoop excl fields parts =
      match checkFields fields with
      | .error e => .error e
      | .ok () => .ok (parts ++ filterParts excl fields)
  | [], parts => by simp [parseLoop, checkFields, filterParts]
  | f :: fs, parts => by
    rw [parseLoop, checkFields]
    cases hc : checkField f with
    | error e => rfl
    | ok u =>
      cases u
      simp only
      rw [parseLoop_eq excl fs]
      cases checkFields fs with
      | error e => rfl
      | ok u =>
        cases u
        simp only [filterParts, List.filterMap_cons]
        cases f.fixed <;> simp

theorem parseCall_accepted (excl : List Bytes) (fields : List ProjField) (user : FilterFn)
    (h : checkFields fields = .ok ()) : parseCall excl fields user = (parseInto excl fields user, none) := by
  rw [parseCall, parseLoop_eq, h]
  simp [parseInto]

theorem parseCall_rejected (excl : List Bytes) (fields : List ProjField) (user : FilterFn) (e : ProjErr)
    (h : checkFields fields = .error e) : parseCall excl fields user = (user, some e) := by
  rw [parseCall, parseLoop_eq, h]

theorem parseHistory_eq (excl : List Bytes) : ∀ (projs : List (List ProjField)) (user : FilterFn),
    parseHistory excl projs user = parseAll excl (acceptedOf projs) user
  | [], user => rfl
  | fs :: rest, user => by
    rw [parseHistory]
    cases hc : checkFields fs with
    | error e =>
      rw [parseCall_rejected excl fs user e hc, parseHistory_eq excl rest]
      simp [acceptedOf, hc]
    | ok u =>
      cases u
      rw [parseCall_accepted excl fs user hc, parseHistory_eq excl rest]
      simp [acceptedOf, hc, parseAll]

end C06
