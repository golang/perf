/-
C19 helper lemmas: record insertion (`InsertRecord`, `insertLabel`, flush) of the legacy storage model.
-/
import Model.Storage.Fmt

namespace C19
open Storage.Query Storage.Fmt

/-- `len(u.insertLabelArgs)` after `k` more calls of `insertLabel` from `n` queued arguments -/
def argsAfter : Nat → Nat → Nat
  | n, 0 => n
  | n, k + 1 => argsAfter ((if n ≥ 990 then 0 else n) + 4) k

/-- whether one of these `k` calls flushed -/
def flushes : Nat → Nat → Bool
  | _, 0 => false
  | n, k + 1 => decide (n ≥ 990) || flushes ((if n ≥ 990 then 0 else n) + 4) k

theorem argsAfter_noflush (n k : Nat) (h : n + 4 * k ≤ 990) :
    argsAfter n k = n + 4 * k ∧ flushes n k = false := by
  induction k generalizing n with
  | zero => exact ⟨rfl, rfl⟩
  | succ k ih =>
    have hn : ¬ n ≥ 990 := by omega
    obtain ⟨h1, h2⟩ := ih (n + 4) (by omega)
    simp only [argsAfter, flushes, hn, if_false, h1, h2, decide_false, Bool.or_false]
    exact ⟨by omega, trivial⟩

theorem flushes_of_ge (n k : Nat) (hk : k ≠ 0) (h : n + 4 * (k - 1) ≥ 990) : flushes n k = true := by
  induction k generalizing n with
  | zero => exact absurd rfl hk
  | succ k ih =>
    by_cases hn : n ≥ 990
    · simp [flushes, hn]
    · have hk' : k ≠ 0 := by rintro rfl; omega
      simp only [flushes, hn, if_false, decide_false, Bool.false_or]
      exact ih (n + 4) hk' (by omega)

/-- the labels of a result are queued one by one -/
def queue (u : Upload) (l : Labels) : Upload :=
  l.foldl (fun (u : Upload) kv => u.insertLabel kv.1 kv.2) u

theorem queue_eq (l : Labels) (u : Upload) :
    queue u l = { u with
      labels := u.labels ++ l.map fun kv => (⟨u.id, u.recordid, kv.1, kv.2⟩ : LabelRow)
      labelArgs := argsAfter u.labelArgs l.length
      lastResult := if flushes u.labelArgs l.length then none else u.lastResult } := by
  induction l generalizing u with
  | nil => simp [queue, argsAfter, flushes]
  | cons kv rest ih =>
    have := ih (u.insertLabel kv.1 kv.2)
    unfold queue at this ⊢
    rw [List.foldl_cons, this]
    by_cases hn : u.labelArgs ≥ 990 <;>
      simp [Upload.insertLabel, Upload.flush, hn, argsAfter, flushes]

/-- number of label rows `InsertRecord` queues for a new record -/
def nLabels (r : Result) : Nat := (r.labels ++ r.nameL).length

/-- the label rows `InsertRecord` queues for a new record -/
def rowsFor (id : Bytes) (rid : Nat) (h : Result) : List LabelRow :=
  (h.labels ++ h.nameL).map fun kv => ⟨id, rid, kv.1, kv.2⟩

theorem insertNew_eq (u : Upload) (r : Result) :
    u.insertNew r =
      { id := u.id, recordid := u.recordid + 1,
        records := u.records ++ [⟨u.id, u.recordid, (printResult [] r).1⟩],
        labels := u.labels ++ rowsFor u.id u.recordid r,
        labelArgs := argsAfter u.labelArgs (nLabels r),
        lastResult := if flushes u.labelArgs (nLabels r) then none else some r } := by
  have := queue_eq (r.labels ++ r.nameL)
    { u with lastResult := some r, records := u.records ++ [⟨u.id, u.recordid, (printResult [] r).1⟩] }
  unfold queue at this
  rw [List.foldl_append] at this
  unfold Upload.insertNew
  simp only [this]
  rfl

theorem insertNew_id (u : Upload) (r : Result) : (u.insertNew r).id = u.id := by rw [insertNew_eq]

theorem insertNew_recordid (u : Upload) (r : Result) : (u.insertNew r).recordid = u.recordid + 1 := by
  rw [insertNew_eq]

theorem insertNew_records (u : Upload) (r : Result) :
    (u.insertNew r).records = u.records ++ [⟨u.id, u.recordid, (printResult [] r).1⟩] := by rw [insertNew_eq]

theorem insertNew_labels (u : Upload) (r : Result) :
    (u.insertNew r).labels = u.labels ++ rowsFor u.id u.recordid r := by
  rw [insertNew_eq]

theorem insertRecord_same (u : Upload) (r last : Result) (hl : u.lastResult = some last)
    (hs : last.sameLabels r = true) :
    u.insertRecord r = { u with records := appendToLast u.records (r.content ++ [nl]) } := by
  unfold Upload.insertRecord
  rw [hl]
  exact if_pos hs

theorem insertRecord_new (u : Upload) (r : Result)
    (h : ∀ last, u.lastResult = some last → last.sameLabels r = false) :
    u.insertRecord r = u.insertNew r := by
  unfold Upload.insertRecord
  cases hl : u.lastResult with
  | none => rfl
  | some last => exact if_neg (by rw [h last hl]; exact Bool.false_ne_true)

theorem insertRecord_cases (u : Upload) (r : Result) :
    (∃ last, u.lastResult = some last ∧ last.sameLabels r = true ∧
      u.insertRecord r = { u with records := appendToLast u.records (r.content ++ [nl]) }) ∨
    u.insertRecord r = u.insertNew r := by
  rcases Option.eq_none_or_eq_some u.lastResult with hl | ⟨last, hl⟩
  · exact Or.inr (insertRecord_new u r fun last h => by rw [hl] at h; cases h)
  · cases hs : last.sameLabels r with
    | true => exact Or.inl ⟨last, hl, hs, insertRecord_same u r last hl hs⟩
    | false => exact Or.inr (insertRecord_new u r fun l h => by rw [hl] at h; cases h; exact hs)

theorem insertRecord_id (u : Upload) (r : Result) : (u.insertRecord r).id = u.id := by
  rcases insertRecord_cases u r with ⟨_, _, _, e⟩ | e <;> rw [e]
  · exact insertNew_id u r

theorem foldl_insertRecord_id (rs : List Result) (u : Upload) : (rs.foldl Upload.insertRecord u).id = u.id := by
  induction rs generalizing u with
  | nil => rfl
  | cons r rs ih => exact (ih _).trans (insertRecord_id u r)

end C19
