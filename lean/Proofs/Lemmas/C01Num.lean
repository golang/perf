/-
An INSTANCE of the number hypothesis. Number parsing is C03's
specification (`Spec.NumText.parseFloatSpec`, `parseIntSpec`), number printing is the
specification of `%v` (`Spec.FmtFloat.fmtNumSpec`) and `fmtInt`. For every value for which the
search of `fmtNumSpec?` succeeds — a decidable condition, and what the correspondence run
observes for every value it meets — the printed text is one field and parses back to the value.
-/
import Proofs.Lemmas.C01Tokens
import Model.Spec.FmtFloat

namespace C01
open Fmt Spec.RoundTrip Spec.FmtFloat Spec.NumText

def liftErr : Spec.NumText.NumErr → Fmt.NumErr
  | .syntax => .syntax
  | .range => .range

/-- oracles whose number parsers are the SPECIFICATIONS of `strconv.Atoi` / `ParseFloat` -/
def specOracles (uc : UC) (tidy : UInt64 → Bytes → UInt64 × Bytes) : Oracles :=
  { uc := uc
    tidy := tidy
    atoi := fun t => match parseIntSpec t with
      | .ok v => .ok v
      | .error e => .error (liftErr e)
    atof := fun t => match parseFloatSpec t with
      | .ok v => .ok v
      | .error e => .error (liftErr e) }

/-- the writer's number text is the specification of `%v` -/
def specParams : WParams := ⟨fmtNumSpec⟩

theorem normNum_idem (x : UInt64) : normNum (normNum x) = normNum x := by
  unfold normNum
  by_cases h : isNaN x = true
  · simp only [h, ↓reduceIte]
    have : isNaN 0x7FF8000000000001 = true := by decide
    simp [this]
  · simp [h]

theorem fmtNumSpec?_accept {x : UInt64} {t : Bytes} (h : fmtNumSpec? x = some t) : accept x t = true := by
  unfold fmtNumSpec? at h
  exact List.find?_some h

/-- **the printed text parses back.** Whenever the specification of `%v` yields a text for
`x`, that text is non-empty, is a single field, and `parseFloatSpec` maps it to `x` (NaNs
identified). -/
theorem fmtNumSpec_good (uc : UC) (tidy : UInt64 → Bytes → UInt64 × Bytes) (x : UInt64)
    (h : (fmtNumSpec? x).isSome = true) : NumGood (specOracles uc tidy) specParams x := by
  obtain ⟨t, ht⟩ := Option.isSome_iff_exists.1 h
  have hacc := fmtNumSpec?_accept ht
  have hfmt : specParams.fmtNum x = t := by simp [specParams, fmtNumSpec, ht]
  unfold accept at hacc
  simp only [Bool.and_eq_true, Bool.not_eq_true', List.all_eq_true, decide_eq_true_eq] at hacc
  obtain ⟨⟨hne, hall⟩, hparse⟩ := hacc
  unfold NumGood
  rw [hfmt]
  refine ⟨?_, ?_, ?_⟩
  · cases hp : parseFloatSpec t with
    | error e => rw [hp] at hparse; simp at hparse
    | ok y =>
      rw [hp] at hparse
      simp only [beq_iff_eq] at hparse
      refine ⟨y, by simp [specOracles, hp], ?_⟩
      rw [hparse, normNum_idem]
  · intro e; rw [e] at hne; simp at hne
  · apply tokenOK_ascii
    intro c hc
    have := hall c hc
    refine ⟨this.2, asciiSpace_high c ?_⟩
    have h1 := this.1
    rw [UInt8.le_iff_toNat_le] at h1
    exact h1

/-- `%d` then `Atoi` gives the number back (decidable per number) -/
def intCheck (n : Int) : Bool :=
  match parseIntSpec (fmtInt n) with
  | .ok v => v == n
  | .error _ => false

theorem intGood_of_check (uc : UC) (tidy : UInt64 → Bytes → UInt64 × Bytes) (n : Int)
    (h : intCheck n = true) : IntGood (specOracles uc tidy) n := by
  unfold intCheck at h
  unfold IntGood
  cases hp : parseIntSpec (fmtInt n) with
  | error e => rw [hp] at h; simp at h
  | ok v =>
    rw [hp] at h
    simp only [beq_iff_eq] at h
    simp [specOracles, hp, h]

/-- the decidable form of `NumOKFor` for the specification oracles -/
def numCheck (h : List Rec) : Bool :=
  h.all fun r => match r with
    | .result res => intCheck res.iters && res.values.all (fun v => (fmtNumSpec? v.written.1).isSome)
    | _ => true

theorem numOKFor_of_check (uc : UC) (tidy : UInt64 → Bytes → UInt64 × Bytes) (h : List Rec)
    (hc : numCheck h = true) : NumOKFor (specOracles uc tidy) specParams h := by
  intro r hr
  simp only [numCheck, List.all_eq_true] at hc
  have := hc _ hr
  simp only [Bool.and_eq_true, List.all_eq_true] at this
  exact ⟨intGood_of_check uc tidy _ this.1, fun v hv => fmtNumSpec_good uc tidy _ (this.2 v hv)⟩

end C01
