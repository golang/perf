/-
Word- and mask-level facts for property C06: the exact uint32 expressions of filter.go
(`x & (1 << k)`, `x | (0xffffffff << s)`, `x &^ (0xffffffff << s)`) in terms of single bits, by
extensionality over bits (no `bv_decide`), and what every mask helper does to bit `i` of a mask.
-/
import Model.Proc.FilterEval

namespace C06
open Proc.FilterEval

theorem ones_eq : ones = BitVec.allOnes 32 := by decide

theorem ones_getLsbD (i : Nat) : ones.getLsbD i = decide (i < 32) := by
  rw [ones_eq, BitVec.getLsbD_allOnes]

theorem shl_one_getLsbD (k i : Nat) (hk : k < 32) : (1#32 <<< k).getLsbD i = decide (i = k) := by
  simp only [BitVec.getLsbD_shiftLeft, BitVec.getLsbD_one]
  by_cases h : i = k
  · subst h; simp [hk]
  · simp [h]; omega

theorem testBit_word (x : Word) (k : Nat) (hk : k < 32) :
    ((x &&& (1#32 <<< k)) != 0#32) = x.getLsbD k := by
  rw [Bool.eq_iff_iff, bne_iff_ne, Ne, BitVec.eq_of_getLsbD_eq_iff, Classical.not_forall]
  simp only [BitVec.getLsbD_and, shl_one_getLsbD k _ hk, BitVec.getLsbD_zero]
  constructor
  · rintro ⟨b, h⟩
    by_cases hbk : b = k
    · subst hbk; exact (by simpa using h : _ ∧ _).2
    · simp [hbk] at h
  · intro h
    exact ⟨k, by simp [h, hk]⟩

theorem shl_ones_getLsbD (s i : Nat) : (ones <<< s).getLsbD i = (decide (i < 32) && decide (s ≤ i)) := by
  simp only [BitVec.getLsbD_shiftLeft, ones_getLsbD]
  by_cases h1 : i < 32 <;> by_cases h2 : i < s <;> simp [h1, h2] <;> omega

theorem all_word (x : Word) (s : Nat) :
    ((x ||| (ones <<< s)) != ones) = false ↔ ∀ b, b < 32 → b < s → x.getLsbD b = true := by
  rw [bne_eq_false_iff_eq, BitVec.eq_of_getLsbD_eq_iff]
  refine forall_congr' fun b => forall_congr' fun hb => ?_
  rw [BitVec.getLsbD_or, shl_ones_getLsbD, ones_getLsbD]
  by_cases hs : s ≤ b
  · simp [hb, hs, Nat.not_lt.mpr hs]
  · simp [hb, hs, Nat.lt_of_not_le hs]

theorem any_word (x : Word) (s : Nat) :
    ((x &&& ~~~(ones <<< s)) != 0#32) = true ↔ ∃ b, b < 32 ∧ b < s ∧ x.getLsbD b = true := by
  rw [bne_iff_ne, Ne, BitVec.eq_of_getLsbD_eq_iff, Classical.not_forall]
  refine exists_congr fun b => ?_
  rw [BitVec.getLsbD_and, BitVec.getLsbD_not, shl_ones_getLsbD, BitVec.getLsbD_zero]
  by_cases hb : b < 32 <;> by_cases hs : s ≤ b
  all_goals simp [hb, hs, Nat.not_lt.mpr, Nat.lt_of_not_le]

/-- bit `i` of a mask (word `i/32`, bit `i%32`) -/
def bit (m : Mask) (i : Nat) : Bool := (m[i / 32]?.getD 0#32).getLsbD (i % 32)

/-- the number of words `newMask n` allocates -/
def words (n : Nat) : Nat := (n + 31) / 32

theorem test_of_ge {mt : Match} {i : Nat} (h : mt.n ≤ i) : mt.test i = false := by
  simp [Match.test, h]

theorem test_none (n : Nat) (x : Bool) (i : Nat) :
    (Match.mk n none x).test i = (decide (i < n) && x) := by
  unfold Match.test
  by_cases h : i ≥ n
  · have : ¬ i < n := by omega
    simp [h, this]
  · have : i < n := by omega
    simp [h, this]

theorem test_some (n : Nat) (m : Mask) (x : Bool) (i : Nat) :
    (Match.mk n (some m) x).test i = (decide (i < n) && bit m i) := by
  unfold Match.test bit
  by_cases h : i ≥ n
  · have : ¬ i < n := by omega
    simp [h, this]
  · have : i < n := by omega
    simp only [h, if_false, this, decide_true, Bool.true_and, List.getD_eq_getElem?_getD]
    exact testBit_word _ _ (Nat.mod_lt _ (by decide))

theorem length_newMask (n : Nat) : (newMask n).length = words n := by
  simp [newMask, words]

theorem bit_newMask (n i : Nat) : bit (newMask n) i = false := by
  rw [bit, newMask, List.getElem?_replicate]
  split <;> exact BitVec.getLsbD_zero

theorem modifyAt_eq (f : Word → Word) (m : Mask) (k : Nat) : modifyAt f m k = m.modify k f := by
  induction m generalizing k with
  | nil => simp [modifyAt]
  | cons x xs ih => cases k <;> simp [modifyAt, ih]

theorem length_modifyAt (f : Word → Word) (m : Mask) (k : Nat) : (modifyAt f m k).length = m.length := by
  rw [modifyAt_eq, List.length_modify]

theorem getD_modifyAt (f : Word → Word) (m : Mask) (k j : Nat) (hk : k < m.length) :
    (modifyAt f m k)[j]?.getD 0#32 = if j = k then f (m[k]?.getD 0#32) else m[j]?.getD 0#32 := by
  rw [modifyAt_eq, List.getElem?_modify]
  by_cases h : j = k
  · subst h; simp [List.getElem?_eq_getElem hk]
  · cases m[j]? <;> simp [h, Ne.symm h]

theorem length_maskSet (m : Mask) (i : Nat) : (maskSet m i).length = m.length :=
  length_modifyAt _ _ _

theorem bit_maskSet (m : Mask) (i j : Nat) (hi : i / 32 < m.length) :
    bit (maskSet m i) j = (bit m j || decide (j = i)) := by
  unfold bit maskSet
  rw [getD_modifyAt _ _ _ _ hi]
  by_cases hw : j / 32 = i / 32
  · simp only [hw, if_true, BitVec.getLsbD_or]
    rw [shl_one_getLsbD _ _ (Nat.mod_lt _ (by decide))]
    by_cases hb : j % 32 = i % 32
    · have : j = i := by omega
      simp [this]
    · have : j ≠ i := by intro h; exact hb (by rw [h])
      simp [hb, this]
  · have : j ≠ i := by intro h; exact hw (by rw [h])
    simp [hw, this]

theorem length_maskAnd (a b : Mask) (h : a.length = b.length) : (maskAnd a b).length = a.length := by
  simp [maskAnd, h]

theorem length_maskOr (a b : Mask) (h : a.length = b.length) : (maskOr a b).length = a.length := by
  simp [maskOr, h]

theorem length_maskNot (a : Mask) : (maskNot a).length = a.length := by
  simp [maskNot]

theorem getD_zipWith (f : Word → Word → Word) (hf : f 0#32 0#32 = 0#32) (a b : Mask) (k : Nat)
    (h : a.length = b.length) :
    (List.zipWith f a b)[k]?.getD 0#32 = f (a[k]?.getD 0#32) (b[k]?.getD 0#32) := by
  by_cases hk : k < a.length
  · simp [List.getElem?_zipWith, List.getElem?_eq_getElem hk, List.getElem?_eq_getElem (h ▸ hk)]
  · have hk' : a.length ≤ k := Nat.le_of_not_lt hk
    simp [List.getElem?_zipWith, List.getElem?_eq_none hk', List.getElem?_eq_none (h ▸ hk'), hf]

theorem bit_maskAnd (a b : Mask) (i : Nat) (h : a.length = b.length) :
    bit (maskAnd a b) i = (bit a i && bit b i) := by
  rw [bit, maskAnd, getD_zipWith (· &&& ·) rfl a b _ h, BitVec.getLsbD_and]; rfl

theorem bit_maskOr (a b : Mask) (i : Nat) (h : a.length = b.length) :
    bit (maskOr a b) i = (bit a i || bit b i) := by
  rw [bit, maskOr, getD_zipWith (· ||| ·) rfl a b _ h, BitVec.getLsbD_or]; rfl

theorem bit_maskNot (a : Mask) (i : Nat) (h : i / 32 < a.length) :
    bit (maskNot a) i = !bit a i := by
  simp [bit, maskNot, List.getElem?_eq_getElem h, Nat.mod_lt]

theorem div32_lt_words {i n : Nat} (h : i < n) : i / 32 < words n := by
  unfold words; omega

end C06
