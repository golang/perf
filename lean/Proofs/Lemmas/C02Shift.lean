/-
C02 helper lemmas: a line the format ignores shifts line numbers and nothing else. Two reader states that differ
only in the line counter and in the line numbers recorded in the unit metadata (`RSim`) deliver the same records,
line numbers shifted (`Rec.bump`, `readLines_sim`); an ignored line leaves such a state behind (`scanLine_ignored`).
-/
import Proofs.Lemmas.C02Reader

namespace Fmt
open Spec.Format

/-- add `d` to the line number a record reports -/
def Rec.bump (d : Nat) : Rec → Rec
  | .result r => .result { r with line := r.line + d }
  | .err e => .err { e with line := e.line + d }
  | .unit u => .unit { u with line := u.line + d }

def UnitMeta.noLine (u : UnitMeta) : UnitMeta := { u with line := 0 }

/-- the same unit metadata, line numbers aside -/
def unitsSim (a b : UnitMap) : Prop := a.map UnitMeta.noLine = b.map UnitMeta.noLine

theorem get_sim {a b : UnitMap} (h : unitsSim a b) (t k : Bytes) :
    (a.get t k).map UnitMeta.noLine = (b.get t k).map UnitMeta.noLine := by
  unfold UnitMap.get
  have key : ∀ l : UnitMap, (l.find? fun u => u.unit == t && u.key == k).map UnitMeta.noLine =
      (l.map UnitMeta.noLine).find? (fun u => u.unit == t && u.key == k) := fun l =>
    (List.find?_map (p := fun u : UnitMeta => u.unit == t && u.key == k) (f := UnitMeta.noLine) (l := l)).symm
  rw [key a, key b, h]

theorem unitField_sim (fn : Bytes) (ln d : Nat) (unit tidy : Bytes) {ua ub : UnitMap}
    (h : unitsSim ua ub) (f : Bytes) :
    unitsSim (unitField fn ln unit tidy ua f).1 (unitField fn (ln + d) unit tidy ub f).1 ∧
    (unitField fn (ln + d) unit tidy ub f).2 = (unitField fn ln unit tidy ua f).2.map (Rec.bump d) := by
  unfold unitField
  simp only
  split
  · exact ⟨h, by simp [Rec.bump]⟩
  · have hg := get_sim h tidy (f.span fun c => !(c == 61)).1
    cases ha : ua.get tidy (f.span fun c => !(c == 61)).1 with
    | none =>
      cases hb : ub.get tidy (f.span fun c => !(c == 61)).1 with
      | none =>
        simp only
        refine ⟨?_, by simp [Rec.bump]⟩
        unfold unitsSim UnitMap.insert at *
        simp [h, UnitMeta.noLine]
      | some v => rw [ha, hb] at hg; simp at hg
    | some u =>
      cases hb : ub.get tidy (f.span fun c => !(c == 61)).1 with
      | none => rw [ha, hb] at hg; simp at hg
      | some v =>
        rw [ha, hb] at hg
        have hv : u.value = v.value := by
          have := congrArg (Option.map UnitMeta.value) hg
          simpa [UnitMeta.noLine] using this
        simp only [hv]
        split
        · exact ⟨h, rfl⟩
        · exact ⟨h, by simp [Rec.bump]⟩

theorem unitFields_sim (fn : Bytes) (ln d : Nat) (unit tidy : Bytes) (fs : List Bytes) :
    ∀ {ua ub : UnitMap}, unitsSim ua ub →
      unitsSim (unitFields fn ln unit tidy ua fs).1 (unitFields fn (ln + d) unit tidy ub fs).1 ∧
      (unitFields fn (ln + d) unit tidy ub fs).2 = (unitFields fn ln unit tidy ua fs).2.map (Rec.bump d) := by
  induction fs with
  | nil => intro ua ub h; exact ⟨h, rfl⟩
  | cons f fs ih =>
    intro ua ub h
    obtain ⟨h1, q1⟩ := unitField_sim fn ln d unit tidy h f
    obtain ⟨h2, q2⟩ := ih h1
    simp only [unitFields]
    exact ⟨h2, by rw [q1, q2, List.map_append]⟩

theorem parseUnitLine_sim (O : Oracles) (fn : Bytes) (ln d : Nat) {ua ub : UnitMap}
    (h : unitsSim ua ub) (line : Bytes) :
    unitsSim (parseUnitLine O fn ln ua line).1 (parseUnitLine O fn (ln + d) ub line).1 ∧
    (parseUnitLine O fn (ln + d) ub line).2 = (parseUnitLine O fn ln ua line).2.map (Rec.bump d) := by
  unfold parseUnitLine
  split
  · exact ⟨h, by simp [Rec.bump]⟩
  · exact unitFields_sim _ _ _ _ _ _ h

/-- Two reader states that differ only in the line counter (by `d`) and in the line numbers
recorded inside the unit metadata. -/
structure RSim (d : Nat) (a b : RState) : Prop where
  store : a.store = b.store
  fileName : a.fileName = b.fileName
  line : b.line = a.line + d
  units : unitsSim a.units b.units

theorem scanLine_sim (O : Oracles) (d : Nat) {a b : RState} (h : RSim d a b) (l : Bytes) :
    RSim d (scanLine O a l).1 (scanLine O b l).1 ∧
    (scanLine O b l).2 = (scanLine O a l).2.map (Rec.bump d) := by
  obtain ⟨hs, hf, hl, hu⟩ := h
  have hl' : b.line + 1 = a.line + 1 + d := by omega
  rcases scanLine_cases O l with ⟨_, e⟩ | ⟨rest, _, _, e⟩ | ⟨k, v, _, _, _, e⟩ | ⟨_, _, _, e⟩
  · rw [e a, e b]
    refine ⟨⟨hs, hf, hl', hu⟩, ?_⟩
    cases parseBenchmarkLine O l
    · rfl
    · simp [Rec.bump, hf, hl']
    · simp [Rec.bump, hs, hf, hl']
  · obtain ⟨h1, q1⟩ := parseUnitLine_sim O a.fileName (a.line + 1) d hu rest
    rw [e a, e b, ← hf, hl']
    exact ⟨⟨hs, rfl, rfl, h1⟩, q1⟩
  · rw [e a, e b]
    exact ⟨⟨by simp [hs], hf, hl', hu⟩, rfl⟩
  · rw [e a, e b]
    exact ⟨⟨hs, hf, hl', hu⟩, rfl⟩

theorem readLines_sim (O : Oracles) (d : Nat) (ls : List Bytes) :
    ∀ {a b : RState}, RSim d a b → readLines O b ls = (readLines O a ls).map (Rec.bump d) := by
  induction ls with
  | nil => intro a b _; rfl
  | cons l ls ih =>
    intro a b h
    obtain ⟨h1, q1⟩ := scanLine_sim O d h l
    simp only [readLines, List.map_append]
    rw [q1, ih h1]

theorem scanLine_ignored (O : Oracles) (st : RState) (l : Bytes) (h : classify O l = .ignored) :
    scanLine O st l = ({ st with line := st.line + 1 }, []) := by
  rw [classify_eq] at h
  unfold Spec.FormatM.classify at h
  rcases scanLine_cases O l with ⟨hp, e⟩ | ⟨rest, hp, hu, _⟩ | ⟨k, v, hp, hu, hk, _⟩ | ⟨_, _, _, e⟩
  · rw [e st]
    rw [hp] at h
    cases hb : parseBenchmarkLine O l <;> simp_all
  · simp [hp, hu] at h
  · simp [hp, hu, hk] at h
  · exact e st

end Fmt
