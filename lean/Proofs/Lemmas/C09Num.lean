/-
Helper lemmas for C09 `parseNum_spec_order`: the lexicographic order on (class, exact rational
value) ranks is a strict total order, so the comparator it induces is the sign function of a
strict weak order.
-/
import Model.Spec.ParseNum
import Proofs.Lemmas.C09Order

namespace C09
open Proc.Sort

theorem rat_lt_asymm {a b : Rat} (h : a < b) : ¬ b < a := by
  intro h'
  have h1 := Rat.lt_iff_le_and_ne.mp h
  have h2 := Rat.le_of_lt h'
  exact h1.2 (Rat.le_antisymm h1.1 h2)

/-- Lexicographic order on (class, value). -/
def lexLt (x y : Nat × Rat) : Prop := x.1 < y.1 ∨ (x.1 = y.1 ∧ x.2 < y.2)

instance (x y : Nat × Rat) : Decidable (lexLt x y) := by unfold lexLt; exact inferInstance

theorem lexLt_irrefl (x : Nat × Rat) : ¬ lexLt x x := by
  rintro (h | ⟨_, h⟩)
  · omega
  · exact Rat.lt_irrefl h

theorem lexLt_trans {x y z : Nat × Rat} (h1 : lexLt x y) (h2 : lexLt y z) : lexLt x z := by
  rcases h1 with h1 | ⟨e1, h1⟩ <;> rcases h2 with h2 | ⟨e2, h2⟩
  · exact Or.inl (by omega)
  · exact Or.inl (by omega)
  · exact Or.inl (by omega)
  · exact Or.inr ⟨e1.trans e2, Std.lt_trans h1 h2⟩

theorem lexLt_eq_of_not {x y : Nat × Rat} (h1 : ¬ lexLt x y) (h2 : ¬ lexLt y x) : x = y := by
  unfold lexLt at h1 h2
  have e1 : x.1 = y.1 := by
    rcases Nat.lt_trichotomy x.1 y.1 with h | h | h
    · exact absurd (Or.inl h) h1
    · exact h
    · exact absurd (Or.inl h) h2
  have e2 : x.2 = y.2 :=
    Rat.le_antisymm (Rat.not_lt.mp fun h => h2 (Or.inr ⟨e1.symm, h⟩))
      (Rat.not_lt.mp fun h => h1 (Or.inr ⟨e1, h⟩))
  exact Prod.ext e1 e2

/-- The comparator induced by a rank into (class, exact value). -/
def cmpByRank (rk : Bytes → Nat × Rat) (a b : Bytes) : Int :=
  if lexLt (rk a) (rk b) then -1 else if lexLt (rk b) (rk a) then 1 else 0

theorem cmpByRank_weak (rk : Bytes → Nat × Rat) : SignOfWeakOrder (cmpByRank rk) := by
  refine .ofKey lexLt rk lexLt_irrefl (fun _ _ _ => lexLt_trans)
    (fun x y h => Classical.byContradiction fun hn =>
      h (lexLt_eq_of_not (fun h1 => hn (.inl h1)) fun h2 => hn (.inr h2)))
    (fun a b => ?_) (fun a b => ?_)
  · unfold cmpByRank
    by_cases h1 : lexLt (rk a) (rk b)
    · simp [h1]
    · by_cases h2 : lexLt (rk b) (rk a) <;> simp [h1, h2]
  · unfold cmpByRank
    by_cases h1 : lexLt (rk a) (rk b)
    · have : rk a ≠ rk b := fun e => lexLt_irrefl _ (e ▸ h1)
      simp [h1, this]
    · by_cases h2 : lexLt (rk b) (rk a)
      · have : rk a ≠ rk b := fun e => lexLt_irrefl _ (e ▸ h2)
        simp [h1, h2, this]
      · simpa [h1, h2] using lexLt_eq_of_not h1 h2

end C09
