/-
Round-half-even on naturals (`F64.rne`), used for decimal printing (C10) and, through `roundMag`,
for float arithmetic. Everything follows from `rne_spec`: the result is nearest to the quotient
(`NearInt`) and even at a tie. Also: the denominators `toFrac` produces are positive.
-/
import Model.Base.F64

namespace F64

theorem rne_def (n d : Nat) :
    rne n d = if 2 * (n % d) > d ∨ (2 * (n % d) = d ∧ (n / d) % 2 = 1) then n / d + 1 else n / d := by
  unfold rne
  simp only [Bool.or_eq_true, decide_eq_true_eq, Bool.and_eq_true, beq_iff_eq]

/-- `M` is an integer nearest to `n / d`; a tie was resolved to the even side, or upwards if `up`
(`up = false`: round-half-even; `up = true`: what `RoundedInteger` does when non-zero digits were dropped) -/
def NearInt (up : Bool) (M n d : Nat) : Prop :=
  (2 * (M * d) < 2 * n + d ∨ (2 * (M * d) = 2 * n + d ∧ (M % 2 = 0 ∨ up = true))) ∧
  (2 * n < 2 * (M * d) + d ∨ (2 * n = 2 * (M * d) + d ∧ M % 2 = 0 ∧ up = false))

theorem NearInt.of_exact (up : Bool) (M : Nat) : NearInt up M M 1 := ⟨Or.inl (by omega), Or.inl (by omega)⟩

theorem NearInt.zero (up : Bool) {n d : Nat} (h : 2 * n < d) : NearInt up 0 n d := ⟨Or.inl (by omega), Or.inl (by omega)⟩

theorem rne_spec (n d : Nat) (hd : 0 < d) : NearInt false (rne n d) n d := by
  have hdiv := Nat.div_add_mod n d
  have hmod := Nat.mod_lt n hd
  simp only [NearInt, Bool.false_eq_true, or_false, and_true]
  rw [rne_def, Nat.mul_comm d] at *
  generalize n / d = q at *
  generalize n % d = r at *
  split
  · rw [Nat.add_one_mul q d]; omega
  · omega

/-- A number nearest to `n'/d` is not below one nearest to `n/d ≤ n'/d`:
one apart, both would be ties, hence both even. -/
theorem near_not_lt {n n' d A B : Nat} (hd : 0 < d) (hn : n ≤ n') (h : A < B)
    (hB : NearInt false B n d) (hA : NearInt false A n' d) : False := by
  simp only [NearInt, Bool.false_eq_true, or_false, and_true] at hB hA
  have h1 : A * d + d ≤ B * d := Nat.add_one_mul A d ▸ Nat.mul_le_mul_right d h
  have h2 : (A + 1) * d = B * d := by rw [Nat.add_one_mul]; omega
  have := Nat.eq_of_mul_eq_mul_right hd h2
  omega

theorem rne_eq_of_near (n d M : Nat) (hd : 0 < d) (h : NearInt false M n d) : rne n d = M := by
  rcases Nat.lt_trichotomy (rne n d) M with h' | h' | h'
  · exact (near_not_lt hd (Nat.le_refl n) h' h (rne_spec n d hd)).elim
  · exact h'
  · exact (near_not_lt hd (Nat.le_refl n) h' (rne_spec n d hd) h).elim

/-- The rounded value is within half a unit: `2·|k·d − n| ≤ d`. -/
theorem rne_half_unit (n d : Nat) (hd : 0 < d) :
    2 * ((rne n d : Int) * d - n).natAbs ≤ d := by
  have h := rne_spec n d hd
  simp only [NearInt, Bool.false_eq_true, or_false, and_true] at h
  have : ((rne n d * d : Nat) : Int) = (rne n d : Int) * d := Int.natCast_mul _ _
  omega

theorem rne_scale (n d c : Nat) (hc : 0 < c) : rne (n * c) (d * c) = rne n d := by
  rw [rne_def, rne_def, Nat.mul_div_mul_right _ _ hc, Nat.mul_mod_mul_right]
  have h1 : 2 * (n % d * c) > d * c ↔ 2 * (n % d) > d := by
    rw [← Nat.mul_assoc]; exact Nat.mul_lt_mul_right hc
  have h2 : 2 * (n % d * c) = d * c ↔ 2 * (n % d) = d := by
    rw [← Nat.mul_assoc]; exact Nat.mul_right_cancel_iff hc
  simp only [h1, h2]

theorem rne_mono (n n' d : Nat) (hd : 0 < d) (h : n ≤ n') : rne n d ≤ rne n' d :=
  Nat.le_of_not_lt fun hlt => near_not_lt hd h hlt (rne_spec n d hd) (rne_spec n' d hd)

/-- Monotone in the rational value: n/d ≤ n'/d' → rne n d ≤ rne n' d'. -/
theorem rne_mono_rat (n d n' d' : Nat) (hd : 0 < d) (hd' : 0 < d') (h : n * d' ≤ n' * d) :
    rne n d ≤ rne n' d' := by
  rw [← rne_scale n d d' hd', ← rne_scale n' d' d hd, Nat.mul_comm d' d]
  exact rne_mono _ _ _ (Nat.mul_pos hd hd') h

theorem rne_exact (m d : Nat) (hd : 0 < d) : rne (m * d) d = m :=
  rne_eq_of_near _ _ _ hd ⟨Or.inl (by omega), Or.inl (by omega)⟩

theorem rne_one (x : Nat) : rne x 1 = x := by
  simpa using rne_exact x 1 (by decide)

theorem rne_le_of_le_mul (n d c : Nat) (hd : 0 < d) (h : n ≤ c * d) : rne n d ≤ c :=
  rne_exact c d hd ▸ rne_mono n (c * d) d hd h

theorem le_rne_of_mul_le (n d c : Nat) (hd : 0 < d) (h : c * d ≤ n) : c ≤ rne n d :=
  rne_exact c d hd ▸ rne_mono (c * d) n d hd h

theorem toFrac_snd_pos (m : Nat) (e : Int) : 0 < (toFrac m e).2 := by
  unfold toFrac; split
  · exact Nat.one_pos
  · exact Nat.pow_pos (by decide)

end F64
