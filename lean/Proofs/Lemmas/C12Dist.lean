/-
C12 helper lemmas and theorems about the distribution-function layer (exact instance).
-/
import Proofs.Lemmas.C12Descr
import Model.Stats.Beta
import Model.Stats.Dists

namespace C12
open Stats Stats.Dists

@[simp] theorem half_rat : (half : ℚ) = 1 / 2 := by
  show ((1 : ℕ) : ℚ) / ((2 : ℕ) : ℚ) = 1 / 2
  norm_num

theorem half_range {i : ℚ} (h0 : 0 ≤ i) (h1 : i ≤ 1) :
    (1 / 2 ≤ 1 / 2 + 1 / 2 * i ∧ 1 / 2 + 1 / 2 * i ≤ 1) ∧
    (1 / 2 ≤ 1 - 1 / 2 * i ∧ 1 - 1 / 2 * i ≤ 1) := by
  have a : 0 ≤ 1 / 2 * i := mul_nonneg (by norm_num) h0
  have b : 1 / 2 * i ≤ 1 / 2 := mul_le_of_le_one_right (by norm_num) h1
  have c : (1 : ℚ) / 2 + 1 / 2 = 1 := by norm_num
  exact ⟨⟨le_add_of_nonneg_right a, (add_le_add le_rfl b).trans_eq c⟩,
    le_sub_iff_add_le.mpr ((add_le_add le_rfl b).trans_eq c), sub_le_self _ a⟩

theorem tcdfPos_range (I : ℚ → ℚ → ℚ → ℚ) (hI : ∀ z a b, 0 ≤ I z a b ∧ I z a b ≤ 1) (ν x : ℚ) :
    1 / 2 ≤ tcdfPos I ν x ∧ tcdfPos I ν x ≤ 1 := by
  unfold tcdfPos
  simp only [mul_rat, lt_rat, add_rat, half_rat, sub_rat, ofNat_rat, Nat.cast_one]
  split
  · exact (half_range (hI _ _ _).1 (hI _ _ _).2).1
  · exact (half_range (hI _ _ _).1 (hI _ _ _).2).2

/-- the value of `TDist.CDF`; over ℚ the three comparisons of the code are exhaustive -/
def tcdfVal (I : ℚ → ℚ → ℚ → ℚ) (ν x : ℚ) : ℚ :=
  if x = 0 then 1 / 2 else if 0 < x then tcdfPos I ν x else 1 - tcdfPos I ν (-x)

theorem tcdf_eq (I : ℚ → ℚ → ℚ → ℚ) (ν x : ℚ) : tcdf I ν x = some (tcdfVal I ν x) := by
  unfold tcdf tcdfVal
  simp only [eq_rat, lt_rat, ofNat_rat, Nat.cast_zero, Nat.cast_one, half_rat, sub_rat, neg_rat]
  split
  · rfl
  · split
    · rfl
    · rw [if_pos (lt_of_le_of_ne (not_lt.mp ‹_›) ‹_›)]

theorem tcdfVal_neg (I : ℚ → ℚ → ℚ → ℚ) (ν x : ℚ) : tcdfVal I ν (-x) = 1 - tcdfVal I ν x := by
  unfold tcdfVal
  rcases lt_trichotomy x 0 with hx | rfl | hx
  · rw [if_neg (neg_ne_zero.mpr hx.ne), if_pos (neg_pos.mpr hx), if_neg hx.ne, if_neg hx.not_gt,
      sub_sub_cancel]
  · rw [neg_zero, if_pos rfl]; norm_num
  · rw [if_neg (neg_ne_zero.mpr hx.ne'), if_neg (neg_pos.not.mpr hx.not_gt), if_neg hx.ne', if_pos hx,
      neg_neg]

/-- all that the theorems assume about the `erfc` parameter: antitone, `erfc(−z) = 2 − erfc z`,
non-negative (true of the real erfc; its accuracy in Go's math package is not a theorem) -/
structure ErfcLike (erfc : ℚ → ℚ) : Prop where
  anti : ∀ a b, a ≤ b → erfc b ≤ erfc a
  refl : ∀ z, erfc (-z) = 2 - erfc z
  nonneg : ∀ z, 0 ≤ erfc z

theorem ErfcLike.le_two {erfc : ℚ → ℚ} (E : ErfcLike erfc) (z : ℚ) : erfc z ≤ 2 :=
  sub_nonneg.mp (E.refl z ▸ E.nonneg (-z))

theorem ncdf_eq (erfc : ℚ → ℚ) (s2 μ σ x : ℚ) :
    ncdf erfc s2 μ σ x = erfc (-(x - μ) / (σ * s2)) / 2 := by
  simp [ncdf]

theorem switch_threshold (a b : ℚ) (hab : a + b + 2 ≠ 0) :
    (b + 1) / (b + a + 2) = 1 - (a + 1) / (a + b + 2) := by
  rw [eq_sub_iff_add_eq', show b + a + 2 = a + b + 2 by ring, ← add_div, div_eq_one_iff_eq hab]
  ring

theorem betaInc_eq (bt : ℚ → ℚ → ℚ → ℚ) (cf : ℚ → ℚ → ℚ → Option ℚ) (x a b : ℚ)
    (hx : 0 ≤ x ∧ x ≤ 1) :
    Beta.betaInc bt cf x a b =
      if x < (a + 1) / (a + b + 2) then
        (cf x a b).elim .panic fun v => .val ((if 0 < x ∧ x < 1 then bt x a b else 0) * v / a)
      else
        (cf (1 - x) b a).elim .panic fun v =>
          .val (1 - (if 0 < x ∧ x < 1 then bt x a b else 0) * v / b) := by
  have h1 : ¬ (x < 0 ∨ 1 < x) := not_or.mpr ⟨hx.1.not_gt, hx.2.not_gt⟩
  simp only [Beta.betaInc, Stats.Beta.one, Stats.Beta.two, Bool.or_eq_true, Bool.and_eq_true, lt_rat,
    ofNat_rat, Nat.cast_zero, Nat.cast_one, Nat.cast_ofNat, h1, if_false, add_rat, div_rat,
    sub_rat, mul_rat]
  split
  · cases cf x a b <;> rfl
  · cases cf (1 - x) b a <;> rfl

end C12
