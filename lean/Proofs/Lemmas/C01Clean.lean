/-
Every line the writer prints for a well-formed history holds no LF
and does not end in CR (`Clean`), so that `bufio.ScanLines`, with or without the line limit, gives the lines
back from the bytes.
-/
import Proofs.Lemmas.C01Tokens
import Proofs.Lemmas.C02Limit

namespace C01
open Fmt Spec.RoundTrip
open Spec.Format (joinSp)

theorem asciiSpace_10 : asciiSpace 10 = true := by decide

theorem noAsciiSpace_mem {t : Bytes} (h : noAsciiSpace t = true) {c : UInt8} (hc : c ∈ t) :
    asciiSpace c = false := by
  simp only [noAsciiSpace, List.all_eq_true, Bool.not_eq_true'] at h
  exact h c hc

theorem noLF_of_noAsciiSpace {t : Bytes} (h : noAsciiSpace t = true) : Bytes.hasByte t 10 = false := by
  simp only [Bytes.hasByte, List.any_eq_false, beq_iff_eq]
  intro c hc he
  have := noAsciiSpace_mem h hc
  rw [he, asciiSpace_10] at this
  exact absurd this (by simp)

theorem clean_blank : Clean [] := ⟨rfl, by simp⟩

theorem clean_delLine {k : Bytes} (h : Bytes.hasByte k 10 = false) : Clean (delLine k) := by
  refine ⟨?_, ?_⟩
  · rw [delLine, Bytes.hasByte_append, h]; rfl
  · simp [delLine]

theorem clean_kvLine {k v : Bytes} (hk : Bytes.hasByte k 10 = false) (hv : valueOKnoCR v = true)
    (hcr : endsCR v = false) : Clean (kvLine k v) := by
  simp only [valueOKnoCR, Bool.and_eq_true, Bool.not_eq_true'] at hv
  refine ⟨?_, ?_⟩
  · rw [kvLine, Bytes.hasByte_append, Bytes.hasByte_append, hk, hv.1.2]; rfl
  · have hne : v ≠ [] := by intro e; rw [e] at hv; simp at hv
    simp only [endsCR, beq_eq_false_iff_ne, ne_eq] at hcr
    simp only [kvLine, List.getLast?_append]
    cases hl : v.getLast? with
    | none => rw [List.getLast?_eq_none_iff] at hl; exact absurd hl hne
    | some c => rw [hl] at hcr; simpa using hcr

theorem clean_of_noSpace {l : Bytes} (h : ∀ c ∈ l, c = 32 ∨ asciiSpace c = false) : Clean l := by
  refine ⟨Bytes.hasByte_false_iff.2 fun c hc e => ?_, fun e => ?_⟩
  · rcases h c hc with h | h <;> rw [e] at h <;> exact absurd h (by decide)
  · rcases h 13 (List.mem_of_getLast? e) with h | h <;> exact absurd h (by decide)

theorem mem_joinSp {c : UInt8} : ∀ {ts : List Bytes}, c ∈ joinSp ts → c = 32 ∨ ∃ t ∈ ts, c ∈ t
  | [], h => nomatch h
  | [t], h => .inr ⟨t, List.mem_cons_self, h⟩
  | t :: t2 :: ts, h => by
    rcases List.mem_append.1 (show c ∈ t ++ 32 :: joinSp (t2 :: ts) from h) with h | h
    · exact .inr ⟨t, List.mem_cons_self, h⟩
    · rcases List.mem_cons.1 h with h | h
      · exact .inl h
      · exact (mem_joinSp h).imp id fun ⟨t', ht', hc⟩ => ⟨t', List.mem_cons_of_mem _ ht', hc⟩

theorem tokenOK_noSpace {uc : UC} {t : Bytes} (h : tokenOK uc t = true) : noAsciiSpace t = true :=
  Spec.Format.noAsciiSpace_of_runes (Spec.Format.tokenOK_iff.1 h)

theorem clean_joinSp {uc : UC} {pre : Bytes} (hpre : ∀ c ∈ pre, asciiSpace c = false) {ts : List Bytes}
    (htoks : ∀ t ∈ ts, tokenOK uc t = true) : Clean (pre ++ 32 :: joinSp ts) :=
  clean_of_noSpace fun c hc => by
    rcases List.mem_append.1 hc with h | h
    · exact .inr (hpre c h)
    · rcases List.mem_cons.1 h with h | h
      · exact .inl h
      · exact (mem_joinSp h).imp id fun ⟨t, ht, hct⟩ => noAsciiSpace_mem (tokenOK_noSpace (htoks t ht)) hct

theorem clean_benchLine (O : Oracles) (P : WParams) (r : Res) (hnum : ResNumOK O P r)
    (hname : tokenOK O.uc r.name = true)
    (hunits : ∀ v ∈ r.values, v.written.2 ≠ [] ∧ tokenOK O.uc v.written.2 = true) :
    Clean (benchLine P r) := by
  rw [benchLine_eq, ← List.append_assoc]
  have hpre : ∀ c ∈ benchmarkPrefix, asciiSpace c = false := by decide
  exact clean_joinSp (fun c hc => (List.mem_append.1 hc).elim (hpre c)
    (noAsciiSpace_mem (tokenOK_noSpace hname))) fun t ht => (benchLine_tokens O P r hnum hunits t ht).2

theorem clean_unitLine (O : Oracles) (u : UnitMeta) (h : unitOK O u = true) : Clean (unitLine u) := by
  rw [unitLine_eq]
  exact clean_joinSp (by decide) fun t ht => (unitLine_tokens O u h t ht).2

/-- the keys the writer knows hold no LF -/
def KeysClean (w : WState) : Prop := ∀ k ∈ w.order, Bytes.hasByte k 10 = false

def CfgClean (c : Cfg) : Prop :=
  Bytes.hasByte c.key 10 = false ∧ (c.file = true → valueOKnoCR c.value = true ∧ endsCR c.value = false)

theorem writeFileConfig_clean (w : WState) (config : List Cfg) (hk : KeysClean w)
    (hc : ∀ c ∈ config, CfgClean c) : ∀ l ∈ (writeFileConfig w config).2, Clean l := by
  intro l hl
  rcases writeFileConfig_lines w config l hl with rfl | ⟨k, hko, rfl⟩ | ⟨k, c, hkc, hcm, hf, rfl⟩
  · exact clean_blank
  · exact clean_delLine (hk k hko)
  · exact clean_kvLine (hkc.elim (hk k) fun e => e ▸ (hc c hcm).1) ((hc c hcm).2 hf).1 ((hc c hcm).2 hf).2

theorem cfgClean_of_ok (O : Oracles) (c : Cfg) (h : cfgOKnoCR O c = true)
    (hcr : (c.file && endsCR c.value) = false) : CfgClean c := by
  unfold cfgOKnoCR at h
  by_cases hf : c.file = true
  · simp only [hf, ↓reduceIte, Bool.and_eq_true] at h
    simp only [hf, Bool.true_and] at hcr
    exact ⟨noLF_of_noAsciiSpace (keyOK_noSpace h.1), fun _ => ⟨h.2, hcr⟩⟩
  · have hf' : c.file = false := by simpa using hf
    simp only [hf', Bool.false_eq_true, ↓reduceIte, internalKeyOK, Bool.and_eq_true, Bool.not_eq_true'] at h
    exact ⟨h.1, fun hh => absurd hh (by simp [hf'])⟩

theorem history_clean (O : Oracles) (P : WParams) :
    ∀ (h : List Rec) (w : WState), NumOKFor O P h → WInv w → KeysClean w → (∀ r ∈ h, recOKnoCR O r = true) →
      hasCRValue h = false →
      ∀ l ∈ Writer.writeFrom P w h, Clean l := by
  intro h
  induction h with
  | nil => intro w _ _ _ _ _ l hl; simp [Writer.writeFrom] at hl
  | cons rec rest ih =>
    intro w hnum hw hk hok hcr l hl
    have hnum' : NumOKFor O P rest := fun r hr => hnum r (List.mem_cons_of_mem _ hr)
    have hrest : ∀ r ∈ rest, recOKnoCR O r = true := fun r hr => hok r (List.mem_cons_of_mem _ hr)
    have hrec := hok rec List.mem_cons_self
    simp only [hasCRValue, List.any_cons, Bool.or_eq_false_iff] at hcr
    have hcr' : hasCRValue rest = false := by simpa [hasCRValue] using hcr.2
    simp only [Writer.writeFrom, List.mem_append] at hl
    cases rec with
    | err e =>
      simp only [Writer.write, List.not_mem_nil, false_or] at hl
      exact ih w hnum' hw hk hrest hcr' l hl
    | unit u =>
      simp only [Writer.write, List.mem_singleton] at hl
      rcases hl with hl | hl
      · rw [hl]; exact clean_unitLine O u hrec
      · exact ih w hnum' hw hk hrest hcr' l hl
    | result r =>
      obtain ⟨hd, hc, _, hn, hu⟩ := resOKnoCR_iff.1 hrec
      have hcrr : ∀ c ∈ r.config, (c.file && endsCR c.value) = false := by
        have := hcr.1
        simp only [List.any_eq_false] at this
        intro c hcm
        have := this c hcm
        simpa using this
      have hclean : ∀ c ∈ r.config, CfgClean c := fun c hcm => cfgClean_of_ok O c (hc c hcm) (hcrr c hcm)
      have hunits : ∀ v ∈ r.values, v.written.2 ≠ [] ∧ tokenOK O.uc v.written.2 = true :=
        fun v hvm => written_unit_of_ok (hu v hvm)
      rcases hl with hl | hl
      · simp only [Writer.write, writeResult, List.mem_append, List.mem_singleton] at hl
        rcases hl with hl | hl
        · split at hl
          · exact writeFileConfig_clean w r.config hk hclean l hl
          · cases hl
        · rw [hl]; exact clean_benchLine O P r (hnum r List.mem_cons_self) hn hunits
      · -- afterwards the writer knows exactly the keys of `r`
        obtain ⟨hfc, hw', _⟩ := writeResult_state P w r hw hd
        refine ih _ hnum' hw' (fun k hko => ?_) hrest hcr' l hl
        rw [hw'.order_iff, hfc, cfgGet_isSome_iff] at hko
        obtain ⟨c, hcm, rfl⟩ := List.mem_map.1 hko
        exact (hclean c hcm).1

theorem splitLines_render (ls : List Bytes) (h : ∀ l ∈ ls, Clean l) : splitLines (render ls) = ls :=
  splitLines_flatMap ls h

theorem splitLinesLim_render (ls : List Bytes) (h : ∀ l ∈ ls, Clean l) (hlen : ∀ l ∈ ls, l.length < maxToken) :
    splitLinesLim (render ls) = (ls, false) := by
  rw [Spec.Format.splitLinesLim_short, splitLines_render ls h]
  rw [← Spec.Format.rawFrom_text, render, Spec.Format.rawFrom_flatMap ls fun l hl => Bytes.hasByte_false_iff.1 (h l hl).1]
  exact hlen

end C01
