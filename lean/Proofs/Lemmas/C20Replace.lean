/-
C20: db.ReplaceUpload as an operation of the histories (`runOps`, of which `runHistory` is the case without it):
what it does to a state (`replace_shape`) and that it keeps `WfCore` and `WfSys`.
-/
import Proofs.Lemmas.C20Files

namespace C20
open Storage.Upload

theorem replace_shape (k : UKey) (rs : List Res) (commit : Bool) (db : DB) :
    ∃ new : List RRow,
      (replaceUpload k rs commit db).records = db.records.filter (fun r => !(r.up == k)) ++ new ∧
      (∀ row ∈ new, row.up = k) ∧
      (replaceUpload k rs commit db).uploads = (if k ∈ db.uploads then db.uploads else db.uploads ++ [k]) ∧
      new.flatMap (·.lines) =
        (match ({ id := k } : Tx).insertRecords rs with
         | none => []
         | some t1 => if commit && (t1.flush).isSome then rs.map (·.line) else []) := by
  unfold replaceUpload
  simp only
  cases h1 : ({ id := k } : Tx).insertRecords rs with
  | none => exact ⟨[], by simp, by simp, rfl, by simp⟩
  | some t1 =>
    simp only
    have ext := TxExt.insertRecords h1
    cases commit with
    | false => exact ⟨[], by simp, by simp, rfl, by simp⟩
    | true =>
      simp only [if_true, Bool.true_and]
      cases h2 : t1.flush with
      | none => exact ⟨[], by simp, by simp, rfl, by simp⟩
      | some t2 =>
        exact ⟨t2.txRec, rfl, (ext.flushed h2).1, rfl, (ext.flushed h2).2⟩

theorem replace_core (k : UKey) (rs : List Res) (commit : Bool) (s : Sys) (w : WfCore s) :
    WfCore { s with db := replaceUpload k rs commit s.db } := by
  obtain ⟨new, h1, h2, h3, _⟩ := replace_shape k rs commit s.db
  have hsub : ∀ x ∈ s.db.uploads, x ∈ (replaceUpload k rs commit s.db).uploads := by
    intro x hx; rw [h3]; split
    · exact hx
    · exact List.mem_append_left _ hx
  have hk : k ∈ (replaceUpload k rs commit s.db).uploads := by
    rw [h3]; split
    · assumption
    · simp
  refine ⟨?_, fun e he => hsub _ (w.files e he)⟩
  intro row hr
  simp only at hr
  rw [h1] at hr
  rcases List.mem_append.mp hr with h | h
  · exact hsub _ (w.recs row (List.mem_filter.mp h).1)
  · rw [h2 row h]; exact hk

theorem replace_wf (k : UKey) (rs : List Res) (commit : Bool) (s : Sys) (w : WfSys s) (hk : k ∈ s.db.uploads) :
    WfSys { s with db := replaceUpload k rs commit s.db } := by
  have c := replace_core k rs commit s w.core
  obtain ⟨_, _, _, h3, _⟩ := replace_shape k rs commit s.db
  rw [if_pos hk] at h3
  exact ⟨c.recs, c.files, by simp only; rw [h3]; exact w.contig, by simp only; rw [h3]; exact w.nodup⟩

/-- every reindex in the history names an upload that exists at that moment -/
def ReplacesExisting : List HOp → Sys → Prop
  | [], _ => True
  | HOp.upload env req :: rest, s => ReplacesExisting rest (processUpload env req s).sys
  | HOp.replace k rs commit :: rest, s =>
    k ∈ s.db.uploads ∧ ReplacesExisting rest { s with db := replaceUpload k rs commit s.db }

theorem runOps_core (ops : List HOp) (s : Sys) (w : WfCore s) : WfCore (runOps ops s) := by
  induction ops generalizing s with
  | nil => exact w
  | cons op rest ih =>
    cases op with
    | upload env req => exact ih _ (processUpload_core env req s w)
    | replace k rs commit => exact ih _ (replace_core k rs commit s w)

theorem runOps_wf (ops : List HOp) (s : Sys) (w : WfSys s) (h : ReplacesExisting ops s) : WfSys (runOps ops s) := by
  induction ops generalizing s with
  | nil => exact w
  | cons op rest ih =>
    cases op with
    | upload env req => exact ih _ (processUpload_wf env req s w) h
    | replace k rs commit => exact ih _ (replace_wf k rs commit s w h.1) h.2

theorem runHistory_eq_runOps (hist : List (Env × Req)) (s : Sys) :
    runHistory hist s = runOps (hist.map fun a => HOp.upload a.1 a.2) s := by
  induction hist generalizing s with
  | nil => rfl
  | cons a rest ih => exact ih _

theorem replacesExisting_uploads (hist : List (Env × Req)) (s : Sys) :
    ReplacesExisting (hist.map fun a => HOp.upload a.1 a.2) s := by
  induction hist generalizing s with
  | nil => trivial
  | cons a rest ih => exact ih _

end C20
