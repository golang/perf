/-
C12 — the float64 INSTANCE of `Descr.interp` (the R8 interpolation of Sample.Percentile) stays
between the neighbouring order statistics, hence within [min, max].
-/
import Proofs.Lemmas.F64Interp
import Proofs.Lemmas.C12Descr

namespace C12
open Stats F64

theorem zero_frac (s : Bool) :
    isFinite (zero s) = true ∧ 0 ≤ sval (zero s) ∧ sval (zero s) < 1 :=
  ⟨isFinite_zero s, (sval_zero s).ge, (sval_zero s).trans_lt one_pos⟩

theorem roundRat_frac (r sh : ℕ) (hr0 : 0 < r) (hlt : r < 2 ^ sh) (hM : r < 2 ^ 53) (hsh : sh ≤ 1074) :
    isFinite (roundRat false r (2 ^ sh)) = true ∧ 0 ≤ sval (roundRat false r (2 ^ sh)) ∧
      sval (roundRat false r (2 ^ sh)) < 1 := by
  have hpow : 0 < 2 ^ sh := Nat.pow_pos (by decide)
  have hq0 : (0 : ℚ) < (r : ℚ) / ((2 ^ sh : ℕ) : ℚ) :=
    div_pos (Nat.cast_pos.mpr hr0) (Nat.cast_pos.mpr hpow)
  have hq1 : (r : ℚ) / ((2 ^ sh : ℕ) : ℚ) < 1 :=
    (div_lt_one (Nat.cast_pos.mpr hpow)).mpr (Nat.cast_lt.mpr hlt)
  have hq : (r : ℚ) / ((2 ^ sh : ℕ) : ℚ) = r * (2 : ℚ) ^ (-(sh : Int)) := by
    rw [Nat.cast_pow, Nat.cast_ofNat, zpow_neg, zpow_natCast, div_eq_mul_inv]
  obtain ⟨h2, h1⟩ := roundQ_dyadic _ r (-(sh : Int)) hM (by omega) (by rw [abs_of_pos hq0]; exact hq)
    (by rw [abs_of_pos hq0]; exact hq1.trans (lt_trans (by norm_num) two_pow_53_lt))
  rw [roundRat_false_eq _ _ hpow, h1]
  exact ⟨h2, hq0.le, hq1⟩

/-- `math.Modf` on the model: whenever the integer part is ≥ 1 the fraction is a finite float in [0, 1) -/
theorem modf_frac (x : Fl) (hk : 1 ≤ (Fl.modf x).1) :
    isFinite (Fl.modf x).2.bits = true ∧ 0 ≤ sval (Fl.modf x).2.bits ∧ sval (Fl.modf x).2.bits < 1 := by
  have hml := mant_lt x.bits
  have hex := expo_ge x.bits
  generalize hr : Fl.modf x = r at hk ⊢
  unfold Fl.modf at hr
  dsimp only at hr
  generalize mant x.bits = m at hr hml
  generalize expo x.bits = e at hr hex
  generalize signBit x.bits = s at hr
  split at hr
  · subst hr
    exact absurd hk (by decide : ¬ (1 : Int) ≤ 0)
  · split at hr
    · subst hr
      exact zero_frac s
    · subst hr
      -- a negative value has integer part ≤ 0
      obtain rfl : s = false := by
        cases s
        · rfl
        · have := Int.natCast_nonneg (m / 2 ^ (-e).toNat)
          exact absurd hk (by simp only [if_true]; omega)
      dsimp only
      split
      · exact zero_frac false
      · rename_i h
        exact roundRat_frac _ _ (Nat.pos_of_ne_zero fun h0 => h (beq_iff_eq.mpr h0))
          (Nat.mod_lt _ (Nat.pow_pos (by decide))) (lt_of_le_of_lt (Nat.mod_le _ _) hml) (by omega)

/-- ascending order of a list of floats (by signed value), all finite, and no adjacent difference
overflows -/
structure FloatSorted (xs : List Fl) : Prop where
  fin : ∀ i, i < xs.length → isFinite (xs.getD i ⟨posZero⟩).bits = true
  sorted : ∀ i j, i ≤ j → j < xs.length →
    sval (xs.getD i ⟨posZero⟩).bits ≤ sval (xs.getD j ⟨posZero⟩).bits
  noOverflow : ∀ i, i + 1 < xs.length →
    isFinite (F64.sub (xs.getD (i + 1) ⟨posZero⟩).bits (xs.getD i ⟨posZero⟩).bits) = true

theorem FloatSorted.le {xs : List Fl} (hs : FloatSorted xs) {i j : ℕ} (hij : i ≤ j)
    (hj : j < xs.length) :
    F64.le (xs.getD i ⟨posZero⟩).bits (xs.getD j ⟨posZero⟩).bits = true :=
  le_of_sval (hs.fin i (lt_of_le_of_lt hij hj)) (hs.fin j hj) (hs.sorted i j hij hj)

/-- the hypotheses in a form that evaluation can check on a concrete list -/
theorem FloatSorted.of_fin (xs : List Fl)
    (fin : ∀ i : Fin xs.length, isFinite (xs.getD i ⟨posZero⟩).bits = true)
    (le : ∀ i j : Fin xs.length, i ≤ j →
      F64.le (xs.getD i ⟨posZero⟩).bits (xs.getD j ⟨posZero⟩).bits = true)
    (ov : ∀ i : Fin (xs.length - 1),
      isFinite (F64.sub (xs.getD (i + 1) ⟨posZero⟩).bits (xs.getD i ⟨posZero⟩).bits) = true) :
    FloatSorted xs :=
  ⟨fun i hi => fin ⟨i, hi⟩,
    fun i j hij hj => (le_iff_sval _ _ (isNaN_of_finite (fin ⟨i, lt_of_le_of_lt hij hj⟩))
      (isNaN_of_finite (fin ⟨j, hj⟩))).mp (le ⟨i, lt_of_le_of_lt hij hj⟩ ⟨j, hj⟩ hij),
    fun i hi => ov ⟨i, Nat.lt_sub_of_add_lt hi⟩⟩

theorem modf_fl (n : Fl) : (Arith.modf n : Int × Fl) = Fl.modf n := rfl

/-- **percentile_float_within_min_max** — the float64 instance of the model of the interpolation in
`Sample.Percentile` (`Descr.interp`: position 1/3 + p(N+1/3), `Modf`, clamps, interpolation): for
every ascending list of finite floats (any signs) whose adjacent differences do not overflow and
EVERY float p (NaN, ±Inf included) the result lies between xs[0] and xs[N−1] and is not NaN. -/
theorem percentile_float_within_min_max (xs : List Fl) (hne : 0 < xs.length)
    (hs : FloatSorted xs) (p : Fl) :
    F64.le (xs.getD 0 ⟨posZero⟩).bits (Descr.interp xs p).bits = true ∧
    F64.le (Descr.interp xs p).bits (xs.getD (xs.length - 1) ⟨posZero⟩).bits = true := by
  have hl1 : xs.length - 1 < xs.length := Nat.sub_lt hne Nat.one_pos
  suffices h : sval (xs.getD 0 ⟨posZero⟩).bits ≤ sval (Descr.interp xs p).bits ∧
      sval (Descr.interp xs p).bits ≤ sval (xs.getD (xs.length - 1) ⟨posZero⟩).bits ∧
      isFinite (Descr.interp xs p).bits = true from
    ⟨le_of_sval (hs.fin 0 hne) h.2.2 h.1, le_of_sval h.2.2 (hs.fin _ hl1) h.2.1⟩
  have h0l := hs.sorted 0 (xs.length - 1) (Nat.zero_le _) hl1
  rw [interp_eq xs p _ rfl]
  generalize Arith.add (Arith.ofFrac 1 3 : Fl)
    (Arith.mul p (Arith.add (Arith.ofNat xs.length) (Arith.ofFrac 1 3))) = n
  rw [modf_fl]
  split
  · exact ⟨le_refl _, h0l, hs.fin 0 hne⟩
  · split
    · exact ⟨h0l, le_refl _, hs.fin _ hl1⟩
    · obtain ⟨f1, f2, f3⟩ := modf_frac n (by omega)
      generalize (Fl.modf n).1 = k at *
      generalize (Fl.modf n).2 = frac at f1 f2 f3 ⊢
      -- the two neighbours xs[k−1] ≤ xs[k] bound the result, and lie within [xs[0], xs[N−1]]
      have hkl : k.toNat < xs.length := by omega
      have hov := hs.noOverflow (k.toNat - 1) (by omega)
      rw [show k.toNat - 1 + 1 = k.toNat by omega] at hov
      obtain ⟨b1, b2, b3⟩ := interp_bounded _ _ frac.bits (hs.fin (k.toNat - 1) (by omega))
        (hs.fin _ hkl) (hs.sorted (k.toNat - 1) k.toNat (Nat.sub_le _ _) hkl) hov f1 f2 f3
      -- the model's `Fl` operations are the float64 ones on the bit patterns
      dsimp only [Arith.add, Arith.mul, Arith.sub, instArithFl]
      exact ⟨(hs.sorted 0 (k.toNat - 1) (Nat.zero_le _) (by omega)).trans b1,
        b2.trans (hs.sorted k.toNat (xs.length - 1) (by omega) (by omega)), b3⟩

end C12
