/-
C16 — footnote numbering of the text rendering, and that the warnings stream of the CSV rendering
carries the same messages.
-/
import Proofs.Lemmas.C16RenderText
import Proofs.Lemmas.C16ToCsv
import Proofs.Lemmas.Shared.FirstOcc

namespace C16
open Tab.TextTab Tab.Render

/-- append `m` unless it is already listed -/
def addNew (l : List Bytes) (m : Bytes) : List Bytes := if m ∈ l then l else l ++ [m]

theorem addNew_eq : addNew = FirstOcc.add := rfl

theorem findIdx_eq (l : List Bytes) (m : Bytes) : findIdx l m = l.idxOf? m := by
  induction l with
  | nil => rfl
  | cons a as ih => rw [findIdx, List.idxOf?_cons, ih]

theorem findIdx_none (l : List Bytes) (m : Bytes) : findIdx l m = none ↔ m ∉ l := by
  rw [findIdx_eq]
  exact List.idxOf?_eq_none_iff

theorem getElem?_of_findIdx {l : List Bytes} {m : Bytes} {i : Nat} (h : findIdx l m = some i) : l[i]? = some m := by
  rw [findIdx_eq, List.idxOf?_eq_some_iff] at h
  obtain ⟨hi, he, _⟩ := h
  rw [List.getElem?_eq_getElem hi, he]

theorem mem_of_findIdx (l : List Bytes) (m : Bytes) (i : Nat) (h : findIdx l m = some i) : m ∈ l :=
  List.mem_of_getElem? (getElem?_of_findIdx h)

theorem findIdx_append_or (l x : List Bytes) (m : Bytes) :
    findIdx (l ++ x) m = (findIdx l m).or ((findIdx x m).map (· + l.length)) := by
  simp only [findIdx_eq, List.idxOf?]
  exact List.findIdx?_append

theorem findIdx_append (l x : List Bytes) (m : Bytes) (h : m ∈ l) : findIdx (l ++ x) m = findIdx l m := by
  rw [findIdx_append_or]
  cases hf : findIdx l m with
  | none => exact absurd h ((findIdx_none l m).mp hf)
  | some i => rfl

theorem findIdx_new (l : List Bytes) (m : Bytes) (h : m ∉ l) : findIdx (l ++ [m]) m = some l.length := by
  rw [findIdx_append_or, (findIdx_none l m).mpr h]
  simp [findIdx]

theorem warnStep_eq (st : List Bytes × List Bytes) (m : Bytes) :
    ∃ i, findIdx (addNew st.1 m) m = some i ∧
      warnStep st m = (addNew st.1 m, st.2 ++ [superscript (i + 1)]) := by
  unfold warnStep addNew
  cases hf : findIdx st.1 m with
  | none =>
    have hn := (findIdx_none st.1 m).mp hf
    exact ⟨st.1.length, by rw [if_neg hn]; exact findIdx_new _ _ hn, by rw [if_neg hn]⟩
  | some i =>
    have hm := mem_of_findIdx _ _ _ hf
    exact ⟨i, by rw [if_pos hm]; exact hf, by rw [if_pos hm]⟩

/-- `warn(msgs)`: the list gains the new messages in order of first appearance, and each mark is
the number of its message IN ANY LATER LIST `fin` (numbers never change: lists only grow at the
end) -/
theorem warn_fold (msgs : List Bytes) : ∀ (wl acc fin x : List Bytes), fin = msgs.foldl addNew wl ++ x →
    msgs.foldl warnStep (wl, acc) =
      (msgs.foldl addNew wl, acc ++ msgs.map fun m => superscript ((findIdx fin m).getD 0 + 1)) := by
  induction msgs with
  | nil => intro wl acc fin x _; simp
  | cons m rest ih =>
    intro wl acc fin x hfin
    obtain ⟨i, hi, hstep⟩ := warnStep_eq (wl, acc) m
    obtain ⟨y, hy⟩ : addNew wl m <+: rest.foldl addNew (addNew wl m) := addNew_eq ▸ FirstOcc.foldl_add_prefix rest _
    have hfi : findIdx fin m = some i := by
      rw [hfin, List.foldl_cons, ← hy, List.append_assoc,
        findIdx_append (addNew wl m) _ _ (addNew_eq ▸ FirstOcc.mem_add.mpr (Or.inr rfl))]
      exact hi
    rw [List.foldl_cons, hstep, ih _ _ fin x hfin, List.map_cons, hfi]
    simp

theorem footnoteLines_append (wl : List Bytes) (m : Bytes) :
    footnoteLines (wl ++ [m]) = footnoteLines wl ++ (superscript (wl.length + 1) ++ [0x20] ++ m ++ [0x0A]) := by
  unfold footnoteLines
  simp only [List.length_append, List.length_singleton, List.range_succ]
  rw [List.zip_append (by simp)]
  simp

/-- messages `warn` is called with for the cell of logical column `exp`, in call order -/
def cellMsgs (exp : Nat) (c : DataCell) : List Bytes :=
  c.warns ++ match (if exp > 0 then c.delta else none) with
    | some d => d.warns
    | none => []

def colsMsgs : Nat → List (Option DataCell) → List Bytes
  | _, [] => []
  | exp, none :: rest => colsMsgs (exp + 1) rest
  | exp, some c :: rest => cellMsgs exp c ++ colsMsgs (exp + 1) rest

def rowsMsgs (rows : List (Bytes × List (Option DataCell))) : List Bytes := rows.flatMap fun r => colsMsgs 0 r.2

def sumsMsgs : List (Option SumCell) → List Bytes
  | [] => []
  | none :: rest => sumsMsgs rest
  | some s :: rest => s.warns ++ sumsMsgs rest

/-- the messages in the order ToText meets them (row-major; the summary row only if printed) -/
def textWarnStream (v : View) : List Bytes :=
  rowsMsgs v.rows ++ (if v.rows.length > 1 then sumsMsgs v.summary else [])

theorem warnCell_fst (wl msgs : List Bytes) : (warnCell wl msgs).1 = msgs.foldl addNew wl := by
  unfold warnCell
  rw [warn_fold msgs wl [] _ [] (List.append_nil _).symm]

theorem dataCellOps_fst (wl : List Bytes) (exp : Nat) (c : DataCell) :
    (dataCellOps wl exp c).1 = (cellMsgs exp c).foldl addNew wl := by
  unfold dataCellOps cellMsgs
  simp only
  have h1 := warnCell_fst wl c.warns
  cases (if exp > 0 then c.delta else none) with
  | none => rw [List.append_nil]; exact h1
  | some d =>
    dsimp only
    rw [List.foldl_append, ← h1]
    exact warnCell_fst _ d.warns

/-- the warning list after the calls for the cells of a row: when the calls for one cell add its
messages `m e c`, the walk adds those of the present cells in order. `M` is that list of messages,
given by its equations (`colsMsgs`, `sumsMsgs`) -/
theorem colsOps_fst {α : Type} {f : List Bytes → Nat → α → List Bytes × List Op} (m : Nat → α → List Bytes)
    (hf : ∀ wl e c, (f wl e c).1 = (m e c).foldl addNew wl) (M : Nat → List (Option α) → List Bytes)
    (hnil : ∀ e, M e [] = []) (hnone : ∀ e r, M e (none :: r) = M (e + 1) r)
    (hsome : ∀ e c r, M e (some c :: r) = m e c ++ M (e + 1) r) :
    ∀ (cells : List (Option α)) (wl : List Bytes) (e : Nat),
      (colsOps f wl e cells).1 = (M e cells).foldl addNew wl := by
  intro cells
  induction cells with
  | nil => intro wl e; rw [hnil]; rfl
  | cons oc rest ih =>
    intro wl e
    cases oc with
    | none => rw [hnone]; exact ih wl (e + 1)
    | some c => rw [hsome, List.foldl_append, ← hf]; exact ih _ (e + 1)

theorem dataColsOps_fst (cells : List (Option DataCell)) (wl : List Bytes) (exp : Nat) :
    (dataColsOps wl exp cells).1 = (colsMsgs exp cells).foldl addNew wl := by
  rw [dataColsOps_eq]
  exact colsOps_fst cellMsgs dataCellOps_fst colsMsgs (fun _ => rfl) (fun _ _ => rfl) (fun _ _ _ => rfl)
    cells wl exp

theorem dataRowsOps_fst : ∀ (rows : List (Bytes × List (Option DataCell))) (wl : List Bytes),
    (dataRowsOps wl rows).1 = (rowsMsgs rows).foldl addNew wl := by
  intro rows
  induction rows with
  | nil => intro wl; rfl
  | cons r rest ih =>
    intro wl
    simp only [dataRowsOps, rowsMsgs, List.flatMap_cons, List.foldl_append]
    have := ih (dataRowOps wl r).1
    simp only [rowsMsgs] at this
    rw [this]
    simp only [dataRowOps]
    rw [dataColsOps_fst]

theorem sumColsOps_fst (sums : List (Option SumCell)) (wl : List Bytes) (exp : Nat) :
    (sumColsOps wl exp sums).1 = (sumsMsgs sums).foldl addNew wl := by
  rw [sumColsOps_eq]
  exact colsOps_fst (fun _ s => s.warns) (fun wl _ s => warnCell_fst wl s.warns) (fun _ => sumsMsgs)
    (fun _ => rfl) (fun _ _ => rfl) (fun _ _ _ => rfl) sums wl exp

theorem toTextOps_snd (v : View) : (toTextOps v).2 = (textWarnStream v).foldl addNew [] := by
  unfold toTextOps textWarnStream
  simp only
  split
  · simp only [List.foldl_append]
    rw [sumColsOps_fst, dataRowsOps_fst]
  · simp only [List.append_nil]
    exact dataRowsOps_fst v.rows []

theorem cellPairs_msgs (rowNo exp : Nat) (c : DataCell) : (cellPairs rowNo exp c).map (·.2.2) = cellMsgs exp c := by
  unfold cellPairs cellMsgs
  cases (if exp > 0 then c.delta else none) <;> simp [List.map_map, Function.comp_def]

theorem colsPairs_msgs (rowNo : Nat) : ∀ (cells : List (Option DataCell)) (exp : Nat),
    (colsPairs rowNo exp cells).map (·.2.2) = colsMsgs exp cells := by
  intro cells
  induction cells with
  | nil => intro exp; rfl
  | cons oc rest ih =>
    intro exp
    cases oc with
    | none => simpa [colsPairs, colsMsgs] using ih (exp + 1)
    | some c => simp [colsPairs, colsMsgs, cellPairs_msgs, ih]

theorem rowsPairs_msgs : ∀ (rows : List (Bytes × List (Option DataCell))) (n : Nat),
    (rowsPairs n rows).map (·.2.2) = rowsMsgs rows := by
  intro rows
  induction rows with
  | nil => intro n; rfl
  | cons r rest ih =>
    intro n
    have := ih (n + 1)
    simp only [rowsMsgs] at this
    simp [rowsPairs, rowsMsgs, colsPairs_msgs, this]

theorem sumsPairs_msgs (rowNo : Nat) : ∀ (sums : List (Option SumCell)) (exp : Nat),
    (sumsPairs rowNo exp sums).map (·.2.2) = sumsMsgs sums := by
  intro sums
  induction sums with
  | nil => intro exp; rfl
  | cons oc rest ih =>
    intro exp
    cases oc with
    | none => simpa [sumsPairs, sumsMsgs] using ih (exp + 1)
    | some s => simp [sumsPairs, sumsMsgs, ih, List.map_map, Function.comp_def]

end C16
