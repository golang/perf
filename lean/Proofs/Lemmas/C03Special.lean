/-
C03 helper lemmas: `special` (atof.go) = `specialSpec`.
-/
import Proofs.Lemmas.C03Digits

namespace C03
open Num Spec.NumText

theorem foldc_eq_lowerc : foldc = lowerc := rfl

theorem equalIgnoreCase_eq (s : Bytes) : ∀ t : Bytes, (∀ b ∈ t, lowerc b = b) →
    equalIgnoreCase s t = (t == s.map lowerc) := by
  induction s with
  | nil => intro t _; cases t <;> simp [equalIgnoreCase]
  | cons a s ih =>
    intro t ht
    cases t with
    | nil => simp [equalIgnoreCase]
    | cons b t =>
      have hb : lowerc b = b := ht b (by simp)
      have := ih t (fun x hx => ht x (by simp [hx]))
      unfold equalIgnoreCase at this ⊢
      simp only [List.length_cons, List.zip_cons_cons, List.all_cons, List.map_cons, List.cons_beq_cons,
        foldc_eq_lowerc, hb] at this ⊢
      rw [← this]
      by_cases h1 : lowerc a = b
      · simp [h1]
      · have : (b == lowerc a) = false := by simpa using fun h => h1 h.symm
        simp [h1, this]

theorem head_facts (c : UInt8) :
    (lowerc c = 43 ↔ c = 43) ∧ (lowerc c = 45 ↔ c = 45) ∧
    (lowerc c = 110 ↔ (c = 110 ∨ c = 78)) ∧ (lowerc c = 105 ↔ (c = 105 ∨ c = 73)) := by
  revert c; apply byte_forall; decide +kernel

theorem lit_lower : (∀ b ∈ litInf, lowerc b = b) ∧ (∀ b ∈ litInfinity, lowerc b = b) ∧ (∀ b ∈ litNan, lowerc b = b) ∧
    (∀ b ∈ (43 :: litInf), lowerc b = b) ∧ (∀ b ∈ (43 :: litInfinity), lowerc b = b) ∧
    (∀ b ∈ (45 :: litInf), lowerc b = b) ∧ (∀ b ∈ (45 :: litInfinity), lowerc b = b) := by
  decide +kernel

theorem special_eq_spec (s : Bytes) : special s = specialSpec s := by
  obtain ⟨l1, l2, l3, l4, l5, l6, l7⟩ := lit_lower
  cases s with
  | nil => rfl
  | cons c tl =>
    unfold special specialSpec
    simp only [equalIgnoreCase_eq _ _ l1, equalIgnoreCase_eq _ _ l2, equalIgnoreCase_eq _ _ l3,
      equalIgnoreCase_eq _ _ l4, equalIgnoreCase_eq _ _ l5, equalIgnoreCase_eq _ _ l6, equalIgnoreCase_eq _ _ l7]
    -- the first-byte dispatch of `special` in terms of the folded byte, as in the table
    obtain ⟨h43, h45, hn, hi⟩ := head_facts c
    have r43 : (c == 43) = (43 == lowerc c) := by rw [Bool.eq_iff_iff, beq_iff_eq, beq_iff_eq, eq_comm (a := (43 : UInt8)), h43]
    have r45 : (c == 45) = (45 == lowerc c) := by rw [Bool.eq_iff_iff, beq_iff_eq, beq_iff_eq, eq_comm (a := (45 : UInt8)), h45]
    have rn : (c == 110 || c == 78) = (110 == lowerc c) := by
      rw [Bool.eq_iff_iff, Bool.or_eq_true, beq_iff_eq, beq_iff_eq, beq_iff_eq, eq_comm (a := (110 : UInt8)), hn]
    have ri : (c == 105 || c == 73) = (105 == lowerc c) := by
      rw [Bool.eq_iff_iff, Bool.or_eq_true, beq_iff_eq, beq_iff_eq, beq_iff_eq, eq_comm (a := (105 : UInt8)), hi]
    simp only [r43, r45, rn, ri, specials, litInf, litInfinity, litNan, List.map_cons, List.cons_beq_cons,
      List.find?_cons]
    clear l1 l2 l3 l4 l5 l6 l7 h43 h45 hn hi r43 r45 rn ri
    generalize lowerc c = d
    generalize List.map lowerc tl = L
    generalize ([105, 110, 102] == L) = bA
    generalize ([105, 110, 102, 105, 110, 105, 116, 121] == L) = bB
    generalize ([97, 110] == L) = bC
    generalize ([110, 102] == L) = bD
    generalize ([110, 102, 105, 110, 105, 116, 121] == L) = bE
    -- what is left speaks of the folded first byte and of which tail follows it
    by_cases d43 : 43 = d
    · subst d43; cases bA <;> cases bB <;> rfl
    by_cases d45 : 45 = d
    · subst d45; cases bA <;> cases bB <;> rfl
    by_cases dn : 110 = d
    · subst dn; cases bC <;> rfl
    by_cases di : 105 = d
    · subst di; cases bD <;> cases bE <;> rfl
    simp only [beq_eq_false_iff_ne.mpr d43, beq_eq_false_iff_ne.mpr d45, beq_eq_false_iff_ne.mpr dn,
      beq_eq_false_iff_ne.mpr di, Bool.false_and, Bool.false_eq_true, if_false]
    rfl

end C03
