/-
C19 helper lemmas: record coalescing in InsertRecord at the level of runs, and the flush boundary.
-/
import Model.Storage.Fmt
import Proofs.Lemmas.C19Insert

namespace C19
open Storage.Query Storage.Fmt

/-- consecutive results that `SameLabels` the first result of their group (the Go code compares
with the result that started the record), left to right. The first argument is fuel for the
recursion on `dropWhile`: any value of at least the length of the list gives all runs. -/
def runs : Nat → List Result → List (List Result)
  | 0, _ => []
  | _, [] => []
  | n + 1, h :: rest =>
    (h :: rest.takeWhile (h.sameLabels ·)) :: runs n (rest.dropWhile (h.sameLabels ·))

/-- content of the stored record of one run: the first result printed by a fresh Printer, then the
bare lines of the others -/
def groupContent : List Result → Bytes
  | [] => []
  | h :: t => (printResult [] h).1 ++ t.flatMap fun r => r.content ++ [nl]

/-- the record rows `InsertRecord` stores for a list of runs, with consecutive record ids from `rid` -/
def rowsOf (id : Bytes) : Nat → List (List Result) → List RecordRow
  | _, [] => []
  | rid, g :: gs => ⟨id, rid, groupContent g⟩ :: rowsOf id (rid + 1) gs

/-- total number of labels (file and name labels) of the first results of the runs: each of them
queues four SQL arguments -/
def headLabels : List (List Result) → Nat
  | [] => 0
  | [] :: gs => headLabels gs
  | (h :: _) :: gs => nLabels h + headLabels gs

theorem insertNew_noflush (u : Upload) (r : Result) (h : u.labelArgs + 4 * nLabels r ≤ 990) :
    (u.insertNew r).lastResult = some r ∧ (u.insertNew r).labelArgs = u.labelArgs + 4 * nLabels r := by
  obtain ⟨h1, h2⟩ := argsAfter_noflush u.labelArgs (nLabels r) h
  rw [insertNew_eq]
  refine ⟨?_, h1⟩
  rw [h2]; rfl

theorem insertNew_flush (u : Upload) (r : Result) (hn : nLabels r ≠ 0)
    (h : u.labelArgs + 4 * (nLabels r - 1) ≥ 990) : (u.insertNew r).lastResult = none := by
  rw [insertNew_eq, flushes_of_ge u.labelArgs (nLabels r) hn h]; rfl

theorem appendToLast_snoc (recs : List RecordRow) (row : RecordRow) (e : Bytes) :
    appendToLast (recs ++ [row]) e = recs ++ [{ row with content := row.content ++ e }] := by
  unfold appendToLast
  simp

theorem insert_same (t : List Result) (h : Result) (u : Upload) (recs : List RecordRow) (row : RecordRow)
    (hu : u.lastResult = some h) (hrec : u.records = recs ++ [row])
    (ht : ∀ r ∈ t, h.sameLabels r = true) :
    (t.foldl Upload.insertRecord u).records =
        recs ++ [{ row with content := row.content ++ t.flatMap fun r => r.content ++ [nl] }] ∧
    (t.foldl Upload.insertRecord u).recordid = u.recordid ∧
    (t.foldl Upload.insertRecord u).labelArgs = u.labelArgs ∧
    (t.foldl Upload.insertRecord u).lastResult = u.lastResult := by
  induction t generalizing u row with
  | nil => simp [hrec]
  | cons r rest ih =>
    simp only [List.foldl_cons]
    have hs := ht r (by simp)
    have h1 : u.insertRecord r = { u with records := recs ++ [{ row with content := row.content ++ (r.content ++ [nl]) }] } := by
      rw [insertRecord_same u r h hu hs, hrec, appendToLast_snoc]
    have := ih { u with records := recs ++ [{ row with content := row.content ++ (r.content ++ [nl]) }] }
      { row with content := row.content ++ (r.content ++ [nl]) } hu rfl
      (fun x hx => ht x (by simp [hx]))
    rw [h1]
    refine ⟨?_, this.2.1, this.2.2.1, this.2.2.2⟩
    rw [this.1]; simp [List.append_assoc]

theorem rowsOf_eq (id : Bytes) (k : Nat) (gs : List (List Result)) :
    rowsOf id k gs = (gs.zipIdx k).map fun p => ⟨id, p.2, groupContent p.1⟩ := by
  induction gs generalizing k with
  | nil => rfl
  | cons g gs ih => rw [rowsOf, ih, List.zipIdx_cons, List.map_cons]

theorem rowsOf_length (id : Bytes) (rid : Nat) (gs : List (List Result)) :
    (rowsOf id rid gs).length = gs.length := by
  rw [rowsOf_eq, List.length_map, List.length_zipIdx]

theorem rowsOf_rkey (id : Bytes) (k : Nat) (gs : List (List Result)) :
    (rowsOf id k gs).map RecordRow.rkey = (List.range' k gs.length).map fun i => (id, i) := by
  rw [rowsOf_eq, ← List.zipIdx_map_snd k gs, List.map_map, List.map_map]
  rfl

theorem insert_runs (fuel : Nat) (rs : List Result) (hfuel : rs.length ≤ fuel) (u : Upload)
    (hhead : ∀ l r, u.lastResult = some l → rs.head? = some r → l.sameLabels r = false)
    (hargs : u.labelArgs + 4 * headLabels (runs fuel rs) ≤ 990) :
    (rs.foldl Upload.insertRecord u).records = u.records ++ rowsOf u.id u.recordid (runs fuel rs) ∧
    (rs.foldl Upload.insertRecord u).recordid = u.recordid + (runs fuel rs).length := by
  induction fuel generalizing rs u with
  | zero =>
    have : rs = [] := List.eq_nil_of_length_eq_zero (Nat.le_zero.mp hfuel)
    subst this; simp [runs, rowsOf]
  | succ n ih =>
    cases rs with
    | nil => simp [runs, rowsOf]
    | cons h rest =>
      simp only [runs, headLabels, rowsOf, List.length_cons] at hfuel hargs ⊢
      -- the first result starts a new record
      have hnew : u.insertRecord h = u.insertNew h :=
        insertRecord_new u h fun last hl => hhead last h hl rfl
      have hnf := insertNew_noflush u h (by omega)
      -- the rest of the run is appended to it
      have hfold : ∀ s : Upload, rest.foldl Upload.insertRecord s =
          (rest.dropWhile (h.sameLabels ·)).foldl Upload.insertRecord
            ((rest.takeWhile (h.sameLabels ·)).foldl Upload.insertRecord s) := by
        intro s
        rw [← List.foldl_append, List.takeWhile_append_dropWhile]
      have hsame := insert_same (rest.takeWhile (h.sameLabels ·)) h (u.insertNew h) u.records
        ⟨u.id, u.recordid, (printResult [] h).1⟩ hnf.1 (insertNew_records u h)
        (List.all_eq_true.mp List.all_takeWhile)
      simp only [List.foldl_cons, hnew, hfold]
      -- the remaining results form the following runs
      have hlen : (rest.dropWhile (h.sameLabels ·)).length ≤ n := by
        have := (List.dropWhile_sublist (l := rest) (h.sameLabels ·)).length_le
        omega
      have := ih (rest.dropWhile (h.sameLabels ·)) hlen
        ((rest.takeWhile (h.sameLabels ·)).foldl Upload.insertRecord (u.insertNew h))
        (by
          intro l r hl hr
          rw [hsame.2.2.2, hnf.1] at hl
          simp only [Option.some.injEq] at hl
          subst hl
          have := List.head?_dropWhile_not (h.sameLabels ·) rest
          rw [hr] at this
          simpa using this)
        (by rw [hsame.2.2.1, hnf.2]; omega)
      rw [hsame.1, foldl_insertRecord_id, hsame.2.1, insertNew_recordid, insertNew_id] at this
      refine ⟨?_, ?_⟩
      · rw [this.1]; simp [groupContent, List.append_assoc]
      · rw [this.2]; omega

end C19
