/-
C02 helper lemmas: `Files.init` (label assignment) against `Spec.Format.labels`.
-/
import Model.Fmt.Files
import Model.Spec.Format
import Proofs.Lemmas.Shared.Decimal

namespace Spec.Format
open Fmt

abbrev Entry := Option Bytes × Bytes

/-- number of unlabelled entries with path `p` -/
def same (es : List Entry) (p : Bytes) : Nat :=
  (es.filter (fun e => e.1.isNone && e.2 == p)).length

/-- the label the specification gives entry `e` when `before` are the entries preceding it -/
def labelOf (all before : List Entry) : Entry → Bytes
  | (some l, _) => l
  | (none, p) => if same all p == 1 then p else p ++ [35] ++ decimal (same before p)

theorem labelsFrom_cons (all before : List Entry) (e : Entry) (rest : List Entry) :
    labelsFrom all before (e :: rest) = labelOf all before e :: labelsFrom all (before ++ [e]) rest := by
  obtain ⟨l, p⟩ := e
  cases l <;> simp [labelsFrom, labelOf, same]

theorem labelsFrom_length (all before rest : List Entry) :
    (labelsFrom all before rest).length = rest.length := by
  induction rest generalizing before with
  | nil => simp [labelsFrom]
  | cons e rest ih => rw [labelsFrom_cons]; simp [ih]

theorem labelsFrom_getElem? (all before rest : List Entry) (j : Nat) (e : Entry)
    (he : rest[j]? = some e) :
    (labelsFrom all before rest)[j]? = some (labelOf all (before ++ rest.take j) e) := by
  induction rest generalizing before j with
  | nil => simp at he
  | cons e0 rest ih =>
    rw [labelsFrom_cons]
    cases j with
    | zero => simp at he; subst he; simp
    | succ j =>
      simp only [List.getElem?_cons_succ] at he ⊢
      rw [ih (before ++ [e0]) j he]
      simp

theorem same_append (a b : List Entry) (p : Bytes) : same (a ++ b) p = same a p + same b p := by
  simp [same, List.filter_append]

theorem same_singleton_none (q p : Bytes) : same [(none, q)] p = if q = p then 1 else 0 := by
  by_cases h : q = p <;> simp [same, h]

theorem same_singleton_some (l q p : Bytes) : same [(some l, q)] p = 0 := by
  simp [same]

def toEntry (i : Input) : Entry := (if i.isLabeled then some i.label else none, i.path)

theorem toEntry_parsePath (as al : Bool) (p : Bytes) :
    toEntry (parsePath as al p) = splitEntry al p := by
  unfold parsePath splitEntry toEntry
  simp only
  split <;> simp

theorem parsePath_unlabelled (as al : Bool) (p : Bytes) (h : (parsePath as al p).isLabeled = false) :
    (parsePath as al p).label = (parsePath as al p).path := by
  unfold parsePath at h ⊢
  simp only at h ⊢
  split <;> simp_all

theorem pathCount_eq_same (ins : List Input) (p : Bytes) :
    pathCount ins p = same (ins.map toEntry) p := by
  unfold pathCount same
  induction ins with
  | nil => rfl
  | cons i is ih =>
    simp only [List.filter_cons, List.map_cons, toEntry]
    cases hl : i.isLabeled <;> simp [ih] <;> split <;> simp_all

/-- The loop of `disambiguate` against `labelsFrom`, `before` being the inputs already passed.
The invariant `hseen`: a path that occurs more than once (`count p ≠ 1`; a unique path is never
entered in `seen`) stands in `seen` as often as it occurs unlabelled in `before`, which is the
number `labelsFrom` appends after `#`. -/
theorem disambiguate_eq_labelsFrom (all : List Entry) (count : Bytes → Nat)
    (hcount : ∀ p, count p = same all p)
    (seen : List Bytes) (before rest : List Input)
    (hseen : ∀ p, count p ≠ 1 → seen.count p = same (before.map toEntry) p)
    (hrest : ∀ i ∈ rest, i.isLabeled = false → i.label = i.path) :
    (disambiguate count seen rest).map (·.label) =
      labelsFrom all (before.map toEntry) (rest.map toEntry) := by
  induction rest generalizing seen before with
  | nil => simp [disambiguate, labelsFrom]
  | cons inp rest ih =>
    have hrest' : ∀ i ∈ rest, i.isLabeled = false → i.label = i.path :=
      fun i hi => hrest i (List.mem_cons_of_mem _ hi)
    rw [List.map_cons, labelsFrom_cons]
    unfold disambiguate
    cases hl : inp.isLabeled with
    | true =>
      simp only [Bool.true_or, ↓reduceIte, List.map_cons]
      have hb : before.map toEntry ++ [toEntry inp] = (before ++ [inp]).map toEntry := by simp
      rw [hb, ← ih seen (before ++ [inp]) ?_ hrest']
      · simp [toEntry, hl, labelOf]
      · intro p hp
        rw [hseen p hp, List.map_append, same_append]
        simp [toEntry, hl, same]
    | false =>
      have hlab := hrest inp (List.mem_cons_self ..) hl
      have hb : before.map toEntry ++ [toEntry inp] = (before ++ [inp]).map toEntry := by simp
      by_cases hc : count inp.path = 1
      · simp only [hc, beq_self_eq_true, Bool.or_true, ↓reduceIte, List.map_cons]
        rw [hb, ← ih seen (before ++ [inp]) ?_ hrest']
        · have : same all inp.path = 1 := by rw [← hcount]; exact hc
          simp [toEntry, hl, labelOf, this, hlab]
        · intro p hp
          rw [hseen p hp, List.map_append, same_append]
          have hne : inp.path ≠ p := fun e => hp (e ▸ hc)
          simp [toEntry, hl, same, hne]
      · have hcb : (count inp.path == 1) = false := by simpa using hc
        simp only [hcb, Bool.or_self, Bool.false_eq_true, ↓reduceIte, List.map_cons]
        rw [hb, ← ih (inp.path :: seen) (before ++ [inp]) ?_ hrest']
        · have h1 : ¬ same all inp.path = 1 := by rw [← hcount]; exact hc
          have h1b : (same all inp.path == 1) = false := by simpa using h1
          simp [toEntry, hl, labelOf, h1b, hseen inp.path hc]
        · intro p hp
          rw [List.count_cons, hseen p hp, List.map_append, same_append]
          simp only [List.map_cons, List.map_nil, toEntry, hl, Bool.false_eq_true, ↓reduceIte]
          rw [same_singleton_none]
          by_cases e : inp.path = p <;> simp [e]

theorem init_labels (paths : List Bytes) (as al : Bool) (h : ¬ (as = true ∧ paths = [])) :
    (Files.init paths as al).map (·.label) = labels paths al := by
  unfold Files.init labels
  have hd : (if (as && paths.isEmpty) = true then
      [({ path := [45], label := [45], isStdin := true, isLabeled := false } : Input)] else []) = [] := by
    cases as <;> cases paths <;> simp_all
  simp only [hd, List.nil_append]
  have hm : (paths.map (parsePath as al)).map toEntry = paths.map (splitEntry al) := by
    simp [toEntry_parsePath]
  have := disambiguate_eq_labelsFrom (paths.map (splitEntry al))
    (pathCount (paths.map (parsePath as al)))
    (fun p => by rw [pathCount_eq_same, hm]) [] [] (paths.map (parsePath as al))
    (fun p _ => by simp [same])
    (fun i hi hl => by
      obtain ⟨p, _, rfl⟩ := List.mem_map.1 hi
      exact parsePath_unlabelled as al p hl)
  rw [this, hm]; rfl

theorem init_implicit_stdin (al : Bool) :
    Files.init [] true al = [{ path := [45], label := [45], isStdin := true, isLabeled := false }] := by
  simp [Files.init, disambiguate, pathCount]

theorem hash_not_mem_decimal (n : Nat) : (35 : UInt8) ∉ decimal n := fun h => by
  have := Shared.dec_digit n 35 h
  simp at this

theorem append_hash_inj (a b d1 d2 : Bytes) (h1 : (35 : UInt8) ∉ d1) (h2 : (35 : UInt8) ∉ d2)
    (h : a ++ 35 :: d1 = b ++ 35 :: d2) : a = b ∧ d1 = d2 := by
  have hr := congrArg List.reverse h
  simp only [List.reverse_append, List.reverse_cons, List.append_assoc, List.singleton_append] at hr
  obtain ⟨e1, e2⟩ := Shared.split_at_sep _ _ _ _ (mt List.mem_reverse.1 h1) (mt List.mem_reverse.1 h2) hr
  exact ⟨List.reverse_inj.1 e2, List.reverse_inj.1 e1⟩

/-- No unlabelled path is literally `q#n` for an unlabelled path `q` that occurs more than once
(the excluded shape is the known finding N4, e.g. `a a a#0`). -/
def NoClash (es : List Entry) : Prop :=
  ∀ p q n, (none, p) ∈ es → (none, q) ∈ es → same es q ≠ 1 → p ≠ q ++ [35] ++ decimal n

theorem same_take_succ (es : List Entry) (i : Nat) (p : Bytes) (hi : es[i]? = some (none, p)) :
    same (es.take (i + 1)) p = same (es.take i) p + 1 := by
  rw [List.take_add_one, hi, same_append]
  exact congrArg _ ((same_singleton_none p p).trans (if_pos rfl))

theorem labels_distinct (es : List Entry) (hnc : NoClash es) (i j : Nat) (hij : i < j)
    (p q : Bytes) (hi : es[i]? = some (none, p)) (hj : es[j]? = some (none, q)) :
    (labelsFrom es [] es)[i]? ≠ (labelsFrom es [] es)[j]? := by
  rw [labelsFrom_getElem? es [] es i _ hi, labelsFrom_getElem? es [] es j _ hj]
  simp only [List.nil_append, labelOf]
  have hpm : (none, p) ∈ es := List.mem_of_getElem? hi
  have hqm : (none, q) ∈ es := List.mem_of_getElem? hj
  intro heq
  have heq := Option.some.inj heq
  by_cases hpq : p = q
  · subst hpq
    -- the same path twice: it is a duplicate, both get numbers, the numbers differ
    have ci := same_take_succ es i p hi
    have cj := same_take_succ es j p hj
    have hlt : same (es.take (i + 1)) p ≤ same (es.take j) p :=
      ((List.take_sublist_take_left hij).filter _).length_le
    have hle : same (es.take (j + 1)) p ≤ same es p := ((List.take_sublist _ es).filter _).length_le
    have hdup : ¬ same es p = 1 := by omega
    have hb : (same es p == 1) = false := by simpa using hdup
    simp only [hb, Bool.false_eq_true, ↓reduceIte, List.append_assoc, List.singleton_append] at heq
    have := (append_hash_inj p p _ _ (hash_not_mem_decimal _) (hash_not_mem_decimal _) heq).2
    have := Shared.dec_injective this
    omega
  · by_cases h1 : same es p = 1 <;> by_cases h2 : same es q = 1
    · simp [h1, h2] at heq; exact hpq heq
    · have hb : (same es q == 1) = false := by simpa using h2
      simp only [h1, beq_self_eq_true, ↓reduceIte, hb, Bool.false_eq_true] at heq
      exact hnc p q _ hpm hqm h2 heq
    · have hb : (same es p == 1) = false := by simpa using h1
      simp only [h2, beq_self_eq_true, ↓reduceIte, hb, Bool.false_eq_true] at heq
      exact hnc q p _ hqm hpm h1 heq.symm
    · have hb1 : (same es p == 1) = false := by simpa using h1
      have hb2 : (same es q == 1) = false := by simpa using h2
      simp only [hb1, hb2, Bool.false_eq_true, ↓reduceIte, List.append_assoc, List.singleton_append] at heq
      exact hpq (append_hash_inj p q _ _ (hash_not_mem_decimal _) (hash_not_mem_decimal _) heq).1

end Spec.Format
