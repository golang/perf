/-
C16 — the key-header tree walk (Model/Tab/KeyHeader.lean) returns a `Good` forest; `Level` is one level of it.
-/
import Model.Tab.KeyHeader

namespace C16
open Tab.KeyHeader

/-- `(start, len)` intervals that are non-empty, contiguous, start at `s` and end at `e` -/
def Tiles : Nat → Nat → List (Nat × Nat) → Prop
  | s, e, [] => s = e
  | s, e, (a, n) :: rest => a = s ∧ 0 < n ∧ Tiles (s + n) e rest

def AdjDiffer : List Bytes → Prop
  | [] => True
  | [_] => True
  | a :: b :: rest => a ≠ b ∧ AdjDiffer (b :: rest)

theorem tiles_append : ∀ (l₁ l₂ : List (Nat × Nat)) (s m e : Nat),
    Tiles s m l₁ → Tiles m e l₂ → Tiles s e (l₁ ++ l₂) := by
  intro l₁
  induction l₁ with
  | nil => intro l₂ s m e h1 h2; simp only [Tiles] at h1; subst h1; simpa using h2
  | cons x xs ih =>
    intro l₂ s m e h1 h2
    obtain ⟨a, n⟩ := x
    simp only [Tiles, List.cons_append] at h1 ⊢
    exact ⟨h1.1, h1.2.1, ih l₂ _ m e h1.2.2 h2⟩

theorem tiles_le : ∀ (l : List (Nat × Nat)) (s e : Nat), Tiles s e l → s ≤ e := by
  intro l
  induction l with
  | nil => intro s e h; simp only [Tiles] at h; omega
  | cons x xs ih =>
    intro s e h
    obtain ⟨a, n⟩ := x
    simp only [Tiles] at h
    have := ih _ _ h.2.2
    omega

def runSpans (rs : List Run) : List (Nat × Nat) := rs.map fun r => (r.start, r.len)

theorem freshRun_const (f : Nat → Bytes) (pos i : Nat) (h1 : pos ≤ i) (h2 : i < pos + 1) : f i = f pos := by
  rw [Nat.le_antisymm (Nat.le_of_lt_succ h2) h1]

theorem walkRuns_spec (f : Nat → Bytes) : ∀ (n pos : Nat) (cur : Run),
    cur.start + cur.len = pos → 0 < cur.len →
    (∀ i, cur.start ≤ i → i < pos → f i = cur.value) →
    (∃ r rest, walkRuns f n pos cur = r :: rest ∧ r.value = cur.value) ∧
    Tiles cur.start (pos + n) (runSpans (walkRuns f n pos cur)) ∧
    (∀ r ∈ walkRuns f n pos cur, ∀ i, r.start ≤ i → i < r.start + r.len → f i = r.value) ∧
    AdjDiffer ((walkRuns f n pos cur).map (·.value)) := by
  intro n
  induction n with
  | zero =>
    intro pos cur h1 h2 h3
    refine ⟨⟨cur, [], rfl, rfl⟩, ?_, ?_, ?_⟩
    · simp only [walkRuns, runSpans, List.map_cons, List.map_nil, Tiles]
      exact ⟨trivial, h2, by omega⟩
    · intro r hr i hi1 hi2
      simp only [walkRuns, List.mem_singleton] at hr
      subst hr
      exact h3 i hi1 (by omega)
    · simp [walkRuns, AdjDiffer]
  | succ n ih =>
    intro pos cur h1 h2 h3
    unfold walkRuns
    by_cases hv : (f pos == cur.value) = true
    · rw [if_pos hv]
      have hv' : f pos = cur.value := eq_of_beq hv
      have := ih (pos + 1) { cur with len := cur.len + 1 } (by simp only; omega) (by simp only; omega)
        (by
          intro i hi1 hi2
          by_cases hip : i = pos
          · subst hip; exact hv'
          · exact h3 i hi1 (Nat.lt_of_le_of_ne (Nat.le_of_lt_succ hi2) hip))
      rw [Nat.add_right_comm pos 1 n] at this
      exact this
    · rw [if_neg hv]
      have hne : f pos ≠ cur.value := fun h => hv (beq_iff_eq.mpr h)
      obtain ⟨⟨r, rest, hr, hrv⟩, ht, hm, ha⟩ :=
        ih (pos + 1) { value := f pos, start := pos, len := 1 } (by simp) (by simp)
          (freshRun_const f pos)
      simp only at hrv ht
      refine ⟨⟨cur, _, rfl, rfl⟩, ?_, ?_, ?_⟩
      · simp only [runSpans, List.map_cons, Tiles]
        refine ⟨trivial, h2, ?_⟩
        rw [Nat.add_right_comm pos 1 n] at ht
        rw [h1]
        exact ht
      · intro x hx i hi1 hi2
        rcases List.mem_cons.mp hx with hx | hx
        · subst hx; exact h3 i hi1 (by omega)
        · exact hm x hx i hi1 hi2
      · rw [hr] at ha ⊢
        simp only [List.map_cons, AdjDiffer] at ha ⊢
        exact ⟨by rw [hrv]; exact fun h => hne h.symm, ha⟩

theorem runs_spec (f : Nat → Bytes) (start len : Nat) :
    Tiles start (start + len) (runSpans (runs f start len)) ∧
    (∀ r ∈ runs f start len, ∀ i, r.start ≤ i → i < r.start + r.len → f i = r.value) ∧
    AdjDiffer ((runs f start len).map (·.value)) := by
  cases len with
  | zero => simp [runs, runSpans, Tiles, AdjDiffer]
  | succ n =>
    obtain ⟨_, ht, hm, ha⟩ := walkRuns_spec f n (start + 1) { value := f start, start := start, len := 1 }
      (by simp) (by simp) (freshRun_const f start)
    simp only at ht
    rw [Nat.add_right_comm start 1 n] at ht
    exact ⟨ht, hm, ha⟩

def nodeSpans (ns : List Node) : List (Nat × Nat) := ns.map fun x => (x.start, x.len)

/-- what a correct forest below a parent covering `[start, start+len)` looks like, `fuel` levels deep -/
def Good (keys : List (List Bytes)) : Nat → Nat → Nat → Nat → List Node → Prop
  | 0, _, _, _, ns => ns = []
  | fuel + 1, lvl, start, len, ns =>
    Tiles start (start + len) (nodeSpans ns) ∧
    AdjDiffer (ns.map (·.value)) ∧
    ∀ x ∈ ns, x.field = lvl ∧
      (∀ i, x.start ≤ i → i < x.start + x.len → keyField keys lvl i = x.value) ∧
      Good keys fuel (lvl + 1) x.start x.len x.children

theorem walk_good (keys : List (List Bytes)) : ∀ fuel lvl start len,
    Good keys fuel lvl start len (walk keys fuel lvl start len) := by
  intro fuel
  induction fuel with
  | zero => intro lvl start len; simp [walk, Good]
  | succ fuel ih =>
    intro lvl start len
    obtain ⟨ht, hm, ha⟩ := runs_spec (keyField keys lvl) start len
    simp only [walk, Good]
    refine ⟨?_, ?_, ?_⟩
    · simpa [nodeSpans, runSpans, List.map_map, Function.comp_def, Node.start, Node.len] using ht
    · simpa [List.map_map, Function.comp_def, Node.value] using ha
    · intro x hx
      simp only [List.mem_map] at hx
      obtain ⟨r, hr, rfl⟩ := hx
      exact ⟨rfl, hm r hr, ih _ _ _⟩

theorem newKeyHeader_eq_walk (keys : List (List Bytes)) (nf : Nat) :
    newKeyHeader keys nf = walk keys nf 0 0 keys.length := by
  unfold newKeyHeader
  split
  · rename_i h
    have : keys = [] := by simpa using h
    subst this
    cases nf <;> simp [walk, runs]
  · rfl

/-- one level of a good forest: the nodes tile `[s, e)` and under each hangs a `Good` forest,
`fuel` levels deep, whose nodes are at level `lvl` -/
def Level (keys : List (List Bytes)) (fuel lvl s e : Nat) (ns : List Node) : Prop :=
  Tiles s e (nodeSpans ns) ∧ ∀ x ∈ ns, Good keys fuel lvl x.start x.len x.children

theorem Good.level {keys : List (List Bytes)} {fuel lvl s n : Nat} {ns : List Node}
    (h : Good keys (fuel + 1) lvl s n ns) : Level keys fuel (lvl + 1) s (s + n) ns :=
  ⟨h.1, fun x hx => (h.2.2 x hx).2.2⟩

theorem Level.children {keys : List (List Bytes)} {fuel lvl : Nat} : ∀ {ns : List Node} {s e : Nat},
    Level keys (fuel + 1) lvl s e ns → Level keys fuel (lvl + 1) s e (ns.flatMap Node.children) := by
  intro ns
  induction ns with
  | nil => intro s e h; exact ⟨h.1, fun _ hx => nomatch hx⟩
  | cons x xs ih =>
    intro s e ⟨ht, hg⟩
    obtain ⟨hs, _, hrest⟩ := ht
    have hs : x.start = s := hs
    have hx := (hg x (List.mem_cons_self ..)).level
    obtain ⟨t2, g2⟩ := ih ⟨hrest, fun y hy => hg y (List.mem_cons_of_mem _ hy)⟩
    rw [hs] at hx
    refine ⟨?_, fun y hy => ?_⟩
    · rw [List.flatMap_cons, nodeSpans, List.map_append]
      exact tiles_append _ _ s (s + x.len) e hx.1 t2
    · rcases List.mem_append.mp hy with hy | hy
      · exact hx.2 y hy
      · exact g2 y hy

theorem Level.level {keys : List (List Bytes)} (k : Nat) : ∀ {fuel lvl : Nat} {ns : List Node} {s e : Nat},
    Level keys (fuel + k) lvl s e ns → Level keys fuel (lvl + k) s e (level ns k) := by
  induction k with
  | zero => exact fun h => h
  | succ k ih =>
    intro fuel lvl ns s e h
    rw [show lvl + (k + 1) = lvl + 1 + k by omega]
    exact ih (Level.children h)

end C16
