/-
C02 helper lemmas: the configuration slot store (`Fmt.Store`) against its invariant.
-/
import Model.Fmt.Result

namespace Fmt

theorem lookup_filter_ne {β : Type} (m : List (Bytes × β)) (k k' : Bytes) :
    List.lookup k' (m.filter (fun e => !(e.1 == k))) = if k' = k then none else List.lookup k' m := by
  induction m with
  | nil => simp
  | cons e es ih =>
    rw [List.filter_cons]
    cases hek : e.1 == k
    · -- `e` stays
      rw [Bool.not_false, if_pos rfl, List.lookup_cons, List.lookup_cons, ih]
      cases hke : k' == e.1
      · rfl
      · have hne : k' ≠ k := fun h => by
          rw [beq_iff_eq.1 hke] at h
          rw [h, beq_self_eq_true] at hek
          exact Bool.noConfusion hek
        simp only [if_neg hne]
    · -- `e` goes, and `k'` sees no difference unless it is `k`
      rw [Bool.not_true, if_neg Bool.false_ne_true, ih, List.lookup_cons]
      cases hke : k' == e.1
      · rfl
      · simp only [if_pos ((beq_iff_eq.1 hke).trans (beq_iff_eq.1 hek))]

theorem lookup_cons_filter_ne {β : Type} (m : List (Bytes × β)) (k k' : Bytes) (v : β) :
    List.lookup k' ((k, v) :: m.filter (fun e => !(e.1 == k))) =
      if k' = k then some v else List.lookup k' m := by
  rw [List.lookup_cons, lookup_filter_ne]
  cases h : k' == k
  · simp only [if_neg (beq_eq_false_iff_ne.1 h)]
  · simp only [if_pos (beq_iff_eq.1 h)]
theorem Index.get_erase (m : Index) (k k' : Bytes) :
    (Index.erase m k).get k' = if k' = k then none else m.get k' :=
  lookup_filter_ne m k k'

theorem Index.get_set (m : Index) (k k' : Bytes) (v : Nat) :
    (Index.set m k v).get k' = if k' = k then some v else m.get k' :=
  lookup_cons_filter_ne m k k' v

theorem buildIndexFrom_get (cs : List Cfg) (i : Nat) (m : Index) (k : Bytes) (p : Nat)
    (hnd : (cs.map Cfg.key).Nodup) :
    (buildIndexFrom i cs m).get k = some p ↔
      (∃ j, (cs[j]?).map Cfg.key = some k ∧ p = i + j) ∨
      (k ∉ cs.map Cfg.key ∧ m.get k = some p) := by
  induction cs generalizing i m with
  | nil => simp [buildIndexFrom]
  | cons c cs ih =>
    have hnd' : (cs.map Cfg.key).Nodup := (List.nodup_cons.mp (by simpa using hnd)).2
    have hc : c.key ∉ cs.map Cfg.key := (List.nodup_cons.mp (by simpa using hnd)).1
    unfold buildIndexFrom
    rw [ih (i + 1) (m.set c.key i) hnd', Index.get_set]
    constructor
    · rintro (⟨j, hj, rfl⟩ | ⟨hk, hg⟩)
      · left; exact ⟨j + 1, by simpa using hj, by omega⟩
      · by_cases hkc : k = c.key
        · subst hkc
          simp only [if_true, Option.some.injEq] at hg
          left; exact ⟨0, by simp, by omega⟩
        · simp only [hkc, if_false] at hg
          right
          refine ⟨?_, hg⟩
          simp only [List.map_cons, List.mem_cons, not_or]
          exact ⟨hkc, hk⟩
    · rintro (⟨j, hj, rfl⟩ | ⟨hk, hg⟩)
      · cases j with
        | zero =>
          right
          have : c.key = k := by simpa using hj
          subst this
          exact ⟨hc, by simp⟩
        | succ j => left; exact ⟨j, by simpa using hj, by omega⟩
      · simp only [List.map_cons, List.mem_cons, not_or] at hk
        right
        exact ⟨hk.2, by simp [hk.1, hg]⟩

theorem buildIndex_get (cs : List Cfg) (hnd : (cs.map Cfg.key).Nodup) (k : Bytes) (p : Nat) :
    (buildIndex cs).get k = some p ↔ (cs[p]?).map Cfg.key = some k := by
  rw [buildIndex, buildIndexFrom_get cs 0 [] k p hnd]
  simp [Index.get]

/-- `configPos` is exactly the inverse of the live slots `arr[0..len)`, which lie inside the
backing array. (Distinctness of the live keys follows, see `Inv.keys_inj`.) -/
structure Store.Inv (s : Store) : Prop where
  len_le : s.len ≤ s.arr.length
  idx : ∀ k i, s.index.get k = some i ↔ (i < s.len ∧ (s.arr[i]?).map Cfg.key = some k)

theorem Store.Inv.keys_inj {s : Store} (h : s.Inv) {i j : Nat} {k : Bytes}
    (hi : i < s.len) (hj : j < s.len)
    (hik : (s.arr[i]?).map Cfg.key = some k) (hjk : (s.arr[j]?).map Cfg.key = some k) : i = j := by
  have a := (h.idx k i).2 ⟨hi, hik⟩
  have b := (h.idx k j).2 ⟨hj, hjk⟩
  rw [a] at b; exact Option.some.inj b

theorem Store.live_getElem? (s : Store) (i : Nat) :
    s.live[i]? = if i < s.len then s.arr[i]? else none := by
  simp [Store.live, List.getElem?_take]

theorem Store.inv_iff_live {s : Store} :
    s.Inv ↔ s.len ≤ s.arr.length ∧ ∀ k i, s.index.get k = some i ↔ (s.live[i]?).map Cfg.key = some k := by
  have e : ∀ k i, (s.live[i]?).map Cfg.key = some k ↔ i < s.len ∧ (s.arr[i]?).map Cfg.key = some k := by
    intro k i
    rw [Store.live_getElem?]
    split <;> simp [*]
  exact ⟨fun h => ⟨h.len_le, fun k i => (h.idx k i).trans (e k i).symm⟩,
    fun h => ⟨h.1, fun k i => (h.2 k i).trans (e k i)⟩⟩

theorem Store.inv_empty : Store.empty.Inv := by
  refine ⟨Nat.le_refl _, ?_⟩
  intro k i
  simp [Store.empty, Store.index, Store.live, buildIndex, buildIndexFrom, Index.get]

theorem Store.index_reset (s : Store) : s.reset.index = [] := by
  unfold Store.reset Store.index
  cases s.pos <;> simp [Store.live, buildIndex, buildIndexFrom]

theorem Store.inv_reset (s : Store) : s.reset.Inv := by
  refine ⟨Nat.zero_le _, ?_⟩
  intro k i
  rw [Store.index_reset]
  simp [Store.reset, Index.get]

theorem Store.get_def (s : Store) (k : Bytes) : s.get k = (s.index.get k).bind fun p => s.arr[p]? := by
  unfold Store.get Store.configIndex
  cases s.index.get k <;> rfl

theorem Store.put_core {s s' : Store} (h : s.Inv) (c : Cfg) (p : Nat)
    (hp : s.index.get c.key = some p ∨ (s.index.get c.key = none ∧ p = s.len))
    (hlen : s'.len = max s.len (p + 1))
    (hidx : ∀ k, s'.index.get k = if k = c.key then some p else s.index.get k)
    (hle : s'.len ≤ s'.arr.length)
    (hold : ∀ j : Nat, j < s.len → j ≠ p → s'.arr[j]? = s.arr[j]?)
    (hnew : s'.arr[p]? = some c) :
    s'.Inv ∧ ∀ k, s'.get k = if k = c.key then some c else s.get k := by
  have hpl : p ≤ s.len := by
    rcases hp with hp | ⟨_, hp⟩
    · exact Nat.le_of_lt ((h.idx c.key p).1 hp).1
    · exact Nat.le_of_eq hp
  have hne : ∀ k i, k ≠ c.key → s.index.get k = some i → i < s.len ∧ i ≠ p := by
    intro k i hk hi
    have hi' := (h.idx k i).1 hi
    refine ⟨hi'.1, fun e => ?_⟩
    rcases hp with hp | ⟨_, hp⟩
    · exact hk (Option.some.inj ((hi'.2.symm.trans (e ▸ ((h.idx c.key p).1 hp).2))))
    · omega
  constructor
  · refine ⟨hle, fun k i => ?_⟩
    rw [hidx, hlen]
    by_cases hk : k = c.key
    · rw [if_pos hk, hk]
      constructor
      · intro e
        rw [← Option.some.inj e, hnew]
        exact ⟨by omega, rfl⟩
      · rintro ⟨hi, hki⟩
        by_cases hip : i = p
        · rw [hip]
        · have hil : i < s.len := by omega
          rw [hold i hil hip] at hki
          have := (h.idx c.key i).2 ⟨hil, hki⟩
          rcases hp with hp | ⟨hp, _⟩
          · rw [hp] at this; exact absurd (Option.some.inj this).symm hip
          · rw [hp] at this; exact absurd this nofun
    · rw [if_neg hk, h.idx k i]
      by_cases hip : i = p
      · constructor
        · intro hi
          exact absurd hip (hne k i hk ((h.idx k i).2 hi)).2
        · rintro ⟨_, hki⟩
          rw [hip, hnew] at hki
          exact absurd (Option.some.inj hki).symm hk
      · constructor
        · rintro ⟨hi, hki⟩
          exact ⟨by omega, by rw [hold i hi hip]; exact hki⟩
        · rintro ⟨hi, hki⟩
          have hil : i < s.len := by omega
          exact ⟨hil, by rw [← hold i hil hip]; exact hki⟩
  · intro k
    rw [Store.get_def, hidx]
    by_cases hk : k = c.key
    · rw [if_pos hk, if_pos hk]; exact hnew
    · rw [if_neg hk, if_neg hk, Store.get_def]
      cases hi : s.index.get k with
      | none => rfl
      | some i =>
        obtain ⟨hil, hip⟩ := hne k i hk hi
        exact hold i hil hip

theorem Store.set_nonempty_spec {s : Store} (h : s.Inv) (key value : Bytes) (file : Bool)
    (hv : value ≠ []) :
    (s.set key value file).Inv ∧
    ∀ k, (s.set key value file).get k =
      if k = key then some ⟨key, value, file⟩ else s.get k := by
  have hve : value.isEmpty = false := by cases value <;> simp_all
  unfold Store.set Store.ensureConfig Store.setValue
  simp only [hve, Bool.false_eq_true, ↓reduceIte]
  cases hp : s.index.get key with
  | some p =>
    -- the key is live in slot `p`: that slot is overwritten
    have hpl := (h.idx key p).1 hp
    have hplt : p < s.arr.length := Nat.lt_of_lt_of_le hpl.1 h.len_le
    simp only
    refine Store.put_core h ⟨key, value, file⟩ p (.inl hp) (Nat.max_eq_left hpl.1).symm
      (fun k => ?_) ?_ (fun j _ hj => ?_) ?_
    · split
      · rename_i e; rw [e]; exact hp
      · rfl
    · simpa [List.length_modify] using h.len_le
    · simp [Ne.symm hj]
    · have hkey := hpl.2
      rw [List.getElem?_eq_getElem hplt] at hkey
      simp only [List.getElem?_modify, ↓reduceIte, List.getElem?_eq_getElem hplt]
      rw [← Option.some.inj hkey]
      rfl
  | none =>
    -- the key is new: the next slot is reused if there is a stale one, else appended
    have hlen : s.len + 1 = max s.len (s.len + 1) := by omega
    simp only
    by_cases hlt : s.len < s.arr.length
    · simp only [hlt, ↓reduceIte]
      refine Store.put_core h ⟨key, value, file⟩ s.len (.inr ⟨hp, rfl⟩) hlen
        (fun k => Index.get_set _ _ _ _) ?_ (fun j _ hj => ?_) ?_
      · simp only [List.length_modify]; omega
      · simp [Ne.symm hj]
      · simp [List.getElem?_eq_getElem hlt]
    · simp only [hlt, ↓reduceIte]
      have heq : s.len = s.arr.length := by have := h.len_le; omega
      refine Store.put_core h ⟨key, value, file⟩ s.len (.inr ⟨hp, rfl⟩) hlen
        (fun k => Index.get_set _ _ _ _) ?_ (fun j hj hj' => ?_) ?_
      · simp only [List.length_modify, List.length_append, List.length_singleton]; omega
      · simp [Ne.symm hj', List.getElem?_append, heq ▸ hj]
      · simp [heq]

/-- the transposition of `p` and `l` -/
def swapIdx (p l i : Nat) : Nat := if i = p then l else if i = l then p else i

theorem swapIdx_swapIdx (p l i : Nat) : swapIdx p l (swapIdx p l i) = i := by
  by_cases h1 : i = p
  · by_cases h2 : l = p <;> simp [swapIdx, h1, h2]
  · by_cases h2 : i = l <;> simp [swapIdx, h1, h2]

theorem swapIdx_lt {p l n : Nat} (hp : p < n) (hl : l < n) (i : Nat) : swapIdx p l i < n ↔ i < n := by
  unfold swapIdx; split <;> (try split) <;> omega

theorem swapIdx_eq_left (p l i : Nat) : swapIdx p l i = p ↔ i = l := by
  unfold swapIdx; split <;> (try split) <;> omega

/-- `*cfg, *cfg2 = *cfg2, *cfg` -/
theorem getElem?_swap (xs : List Cfg) {p l : Nat} (hp : p < xs.length) (hl : l < xs.length) (i : Nat) :
    ((xs.set p xs[l]).set l xs[p])[i]? = xs[swapIdx p l i]? := by
  unfold swapIdx
  simp only [List.getElem?_set, List.length_set]
  by_cases h1 : i = p
  · subst h1
    by_cases h2 : l = i
    · subst h2; simp [hl]
    · simp [h2, hp]
  · by_cases h2 : i = l
    · subst h2; simp [h1, hl]
    · simp [h1, h2, Ne.symm h1, Ne.symm h2]

theorem Store.delete_spec {s : Store} (h : s.Inv) (key : Bytes) :
    (s.deleteConfig key).Inv ∧
    ∀ k, (s.deleteConfig key).get k = if k = key then none else s.get k := by
  cases hp : s.index.get key with
  | none =>
    simp only [Store.deleteConfig, hp]
    refine ⟨⟨h.len_le, h.idx⟩, fun k => ?_⟩
    show s.get k = _
    split
    · rename_i e; rw [e, Store.get_def, hp]; rfl
    · rfl
  | some p =>
    obtain ⟨hpl, hpk⟩ := (h.idx key p).1 hp
    have hlen := h.len_le
    have hp' : p < s.arr.length := by omega
    have hl' : s.len - 1 < s.arr.length := by omega
    have hl : s.len - 1 < s.len := by omega
    have hdel : s.deleteConfig key =
        ⟨(s.arr.set p s.arr[s.len - 1]).set (s.len - 1) s.arr[p], s.len - 1,
          some ((s.index.set s.arr[s.len - 1].key p).erase key)⟩ := by
      simp only [Store.deleteConfig, hp, List.getD_eq_getElem?_getD, List.getElem?_eq_getElem hp',
        List.getElem?_eq_getElem hl', Option.getD_some]
    generalize s.deleteConfig key = s' at hdel ⊢
    -- the live slots are those of `s` with `p` and the last one exchanged
    have harr : ∀ i, s'.arr[i]? = s.arr[swapIdx p (s.len - 1) i]? := fun i => by
      rw [hdel]; exact getElem?_swap s.arr hp' hl' i
    have hlast : s.index.get s.arr[s.len - 1].key = some (s.len - 1) :=
      (h.idx _ _).2 ⟨hl, by rw [List.getElem?_eq_getElem hl']; rfl⟩
    -- and so is the index, for every key but the deleted one
    have hidx : ∀ k, k ≠ key → s'.index.get k = (s.index.get k).map (swapIdx p (s.len - 1)) := by
      intro k hk
      rw [hdel]
      show ((s.index.set s.arr[s.len - 1].key p).erase key).get k = _
      rw [Index.get_erase, if_neg hk, Index.get_set]
      split
      · rename_i e
        rw [e, hlast]
        exact congrArg some ((swapIdx_eq_left _ _ _).2 rfl).symm
      · rename_i hkb
        cases hj : s.index.get k with
        | none => rfl
        | some j =>
          obtain ⟨_, hjk⟩ := (h.idx k j).1 hj
          have h1 : j ≠ p := fun e => hk (Option.some.inj ((e ▸ hjk).symm.trans hpk))
          have h2 : j ≠ s.len - 1 := fun e => hkb (Option.some.inj ((e ▸ hjk).symm.trans
            (by rw [List.getElem?_eq_getElem hl']; rfl)))
          simp [swapIdx, h1, h2]
    have hlen' : s'.len = s.len - 1 := by rw [hdel]
    have hnone : s'.index.get key = none := by
      rw [hdel]; exact (Index.get_erase _ _ _).trans (if_pos rfl)
    constructor
    · refine ⟨by rw [hdel]; simpa using Nat.le_trans (Nat.sub_le _ _) hlen, fun k i => ?_⟩
      rw [hlen', harr]
      by_cases hk : k = key
      · -- the deleted key now sits in the last, dead, slot
        rw [hk, hnone]
        refine ⟨nofun, fun ⟨hi, hik⟩ => ?_⟩
        have := h.keys_inj ((swapIdx_lt hpl hl i).2 (by omega)) hpl hik hpk
        rw [swapIdx_eq_left] at this
        omega
      · rw [hidx k hk]
        constructor
        · intro e
          obtain ⟨j, hj, rfl⟩ := Option.map_eq_some_iff.1 e
          rw [swapIdx_swapIdx]
          obtain ⟨hjl, hjk⟩ := (h.idx k j).1 hj
          refine ⟨?_, hjk⟩
          have : swapIdx p (s.len - 1) j ≠ s.len - 1 := fun e' =>
            hk (Option.some.inj ((((swapIdx_swapIdx p _ j) ▸ (swapIdx_eq_left p _ _).2 e') ▸ hjk).symm.trans hpk))
          have := (swapIdx_lt hpl hl j).2 hjl
          omega
        · rintro ⟨hi, hik⟩
          rw [(h.idx k _).2 ⟨(swapIdx_lt hpl hl i).2 (by omega), hik⟩]
          exact congrArg some (swapIdx_swapIdx _ _ _)
    · intro k
      rw [Store.get_def]
      by_cases hk : k = key
      · rw [hk, hnone, if_pos rfl]; rfl
      · rw [if_neg hk, hidx k hk, Store.get_def]
        cases s.index.get k with
        | none => rfl
        | some j => exact (harr _).trans (by rw [swapIdx_swapIdx]; rfl)

/-- A configuration list read as a map (first entry for a key wins; under the invariant
there is only one). -/
def cfgGet (l : List Cfg) (k : Bytes) : Option (Bytes × Bool) :=
  (l.find? (fun c => c.key == k)).map (fun c => (c.value, c.file))

/-- The map a store denotes (through its index, as `GetConfig` does). -/
def Store.toMap (s : Store) (k : Bytes) : Option (Bytes × Bool) :=
  (s.get k).map (fun c => (c.value, c.file))

theorem Store.inv_delete {s : Store} (h : s.Inv) (key : Bytes) : (s.deleteConfig key).Inv :=
  (Store.delete_spec h key).1

theorem Store.toMap_delete {s : Store} (h : s.Inv) (key k : Bytes) :
    (s.deleteConfig key).toMap k = if k = key then none else s.toMap k := by
  unfold Store.toMap
  rw [(Store.delete_spec h key).2 k]
  by_cases hk : k = key <;> simp [hk]

theorem Store.inv_set {s : Store} (h : s.Inv) (key value : Bytes) (file : Bool) : (s.set key value file).Inv := by
  by_cases hv : value = []
  · subst hv; exact Store.inv_delete h key
  · exact (Store.set_nonempty_spec h key value file hv).1

theorem Store.toMap_set {s : Store} (h : s.Inv) (key value : Bytes) (file : Bool) (k : Bytes) :
    (s.set key value file).toMap k =
      if k = key then (if value = [] then none else some (value, file)) else s.toMap k := by
  by_cases hv : value = []
  · subst hv; exact Store.toMap_delete h key k
  · unfold Store.toMap
    rw [(Store.set_nonempty_spec h key value file hv).2 k, if_neg hv]
    by_cases hk : k = key <;> simp [hk]

theorem Store.toMap_reset (s : Store) (k : Bytes) : s.reset.toMap k = none := by
  simp [Store.toMap, Store.get, Store.configIndex, Store.index_reset, Index.get]

theorem Store.get_eq_some_iff {s : Store} (h : s.Inv) (k : Bytes) (c : Cfg) :
    s.get k = some c ↔ c ∈ s.live ∧ c.key = k := by
  rw [Store.get_def, Option.bind_eq_some_iff, List.mem_iff_getElem?]
  constructor
  · rintro ⟨p, hp, hc⟩
    obtain ⟨hpl, hpk⟩ := (h.idx k p).1 hp
    rw [hc] at hpk
    exact ⟨⟨p, by rw [Store.live_getElem?, if_pos hpl]; exact hc⟩, Option.some.inj hpk⟩
  · rintro ⟨⟨i, hi⟩, rfl⟩
    rw [Store.live_getElem?] at hi
    split at hi
    · rename_i hl
      exact ⟨i, (h.idx _ i).2 ⟨hl, by rw [hi]; rfl⟩, hi⟩
    · exact absurd hi nofun

theorem Store.live_keys_nodup {s : Store} (h : s.Inv) : (s.live.map Cfg.key).Nodup := by
  rw [List.Nodup, List.pairwise_iff_getElem]
  intro i j hi hj hij heq
  have hl := (Store.inv_iff_live.1 h).2
  have a := (hl _ i).2 (by rw [← List.getElem?_map, List.getElem?_eq_getElem hi])
  have b := (hl _ j).2 (by rw [← List.getElem?_map, List.getElem?_eq_getElem hj])
  rw [heq, b] at a
  exact absurd (Option.some.inj a) (by omega)

theorem Store.cfgGet_live {s : Store} (h : s.Inv) (k : Bytes) : cfgGet s.live k = s.toMap k := by
  unfold cfgGet Store.toMap
  cases hf : s.live.find? (fun c => c.key == k) with
  | some c =>
    have hk : c.key = k := by simpa using List.find?_some hf
    rw [(Store.get_eq_some_iff h k c).2 ⟨List.mem_of_find?_eq_some hf, hk⟩]
  | none =>
    cases hg : s.get k with
    | none => rfl
    | some c =>
      obtain ⟨hm, hk⟩ := (Store.get_eq_some_iff h k c).1 hg
      exact absurd (beq_iff_eq.2 hk) (by simpa using List.find?_eq_none.1 hf c hm)

end Fmt
