/-
The scan of the digit lists in the terms of the specification's `parseBody`; what follows the mantissa;
both together: a number scanner of atof.go after sign and prefix against `parseBody` (`frame_spec`).
-/
import Proofs.Lemmas.C03Exp
import Proofs.Lemmas.C03Scan

namespace C03
open Num Spec.NumText

/-- fraction digits / remainder after the mantissa, as `parseBody` computes them -/
def spFP (dig : UInt8 → Bool) (u : Bytes) : Bytes :=
  match u.dropWhile dig with
  | 46 :: r' => r'.takeWhile dig
  | _ => []

def spR2 (dig : UInt8 → Bool) (u : Bytes) : Bytes :=
  match u.dropWhile dig with
  | 46 :: r' => r'.dropWhile dig
  | _ => u.dropWhile dig

theorem sp_dot (dig : UInt8 → Bool) (u r' : Bytes) (h : u.dropWhile dig = 46 :: r') :
    spFP dig u = r'.takeWhile dig ∧ spR2 dig u = r'.dropWhile dig := by
  unfold spFP spR2; rw [h]; exact ⟨rfl, rfl⟩

theorem sp_nodot (dig : UInt8 → Bool) (u : Bytes) (h : ∀ r', u.dropWhile dig ≠ 46 :: r') :
    spFP dig u = [] ∧ spR2 dig u = u.dropWhile dig := by
  unfold spFP spR2
  constructor
  · split
    · rename_i r' heq; exact absurd heq (h r')
    · rfl
  · split
    · rename_i r' heq; exact absurd heq (h r')
    · rfl

theorem dot_or_not (r1 : Bytes) : (∃ r', r1 = 46 :: r') ∨ (∀ r', r1 ≠ 46 :: r') := by
  cases r1 with
  | nil => exact Or.inr (fun r' h => by cases h)
  | cons a r =>
    by_cases h : a = 46
    · subst h; exact Or.inl ⟨r, rfl⟩
    · exact Or.inr (fun r' h' => h (by injection h'))

theorem parseBody_eq (dig : UInt8 → Bool) (base : Nat) (ec : UInt8) (bits : Nat) (must : Bool) (u : Bytes) :
    parseBody dig base ec bits must u =
      if (u.takeWhile dig).isEmpty && (spFP dig u).isEmpty then none
      else
        match spR2 dig u with
        | [] => if must then none
                else some (valOf base (u.takeWhile dig ++ spFP dig u), -((bits * (spFP dig u).length : Nat) : Int))
        | c :: r3 =>
          if lowerc c == ec then
            (parseExp r3).map fun e => (valOf base (u.takeWhile dig ++ spFP dig u), e + -((bits * (spFP dig u).length : Nat) : Int))
          else none := by
  rcases dot_or_not (u.dropWhile dig) with ⟨r', h⟩ | h
  · obtain ⟨e1, e2⟩ := sp_dot dig u r' h
    rw [e1, e2]
    unfold parseBody
    simp only [h]
    rfl
  · obtain ⟨e1, e2⟩ := sp_nodot dig u h
    rw [e1, e2]
    unfold parseBody
    simp only []
    split <;> rfl

theorem dropWhile_stop (dig : UInt8 → Bool) (u : Bytes) (hu : ∀ c ∈ u, c ≠ 95)
    (hr : ∀ r', u.dropWhile dig ≠ 46 :: r') : Stop dig (u.dropWhile dig) := by
  cases hd : u.dropWhile dig with
  | nil => exact Or.inl rfl
  | cons c r' =>
    refine Or.inr ⟨c, r', rfl, hu c ((List.dropWhile_sublist _).mem (by rw [hd]; exact List.mem_cons_self)), ?_,
      dropWhile_head u c r' hd⟩
    intro h46; subst h46; exact hr r' hd

theorem scanL_free (dig : UInt8 → Bool) (hd95 : dig 95 = false) (hd46 : dig 46 = false) (u : Bytes)
    (hu : ∀ c ∈ u, c ≠ 95) :
    (scanL dig u (.int []) = none ∧ ∃ r'', spR2 dig u = 46 :: r'') ∨
    ∃ L, scanL dig u (.int []) = some (L, spR2 dig u) ∧ L.ip = u.takeWhile dig ∧ L.fp = spFP dig u := by
  have e1 := scanL_block dig hd95 hd46 _ (List.all_takeWhile (l := u)) (.int []) (u.dropWhile dig)
  rw [List.takeWhile_append_dropWhile] at e1
  simp only [List.nil_append] at e1
  rcases dot_or_not (u.dropWhile dig) with ⟨r', h⟩ | h
  · obtain ⟨f1, f2⟩ := sp_dot dig u r' h
    have hmem : ∀ c ∈ r', c ≠ 95 := fun c hc =>
      hu c ((List.dropWhile_sublist _).mem (by rw [h]; exact List.mem_cons_of_mem _ hc))
    have e2 := scanL_block dig hd95 hd46 _ (List.all_takeWhile (l := r'))
      (.frac (u.takeWhile dig) []) (r'.dropWhile dig)
    rw [List.takeWhile_append_dropWhile] at e2
    simp only [List.nil_append] at e2
    rw [f1, f2, e1, h]
    unfold scanL at e2 ⊢
    rw [scan_dot]
    simp only [dotL, Option.bind_some]
    rw [e2]
    rcases dot_or_not (r'.dropWhile dig) with ⟨r'', h2⟩ | h2
    · left; rw [h2, scan_dot]; exact ⟨rfl, r'', rfl⟩
    · right; exact ⟨_, scan_stop dig _ _ _ _ (dropWhile_stop dig r' hmem h2), rfl, rfl⟩
  · obtain ⟨f1, f2⟩ := sp_nodot dig u h
    right
    rw [f1, f2, e1]
    exact ⟨_, scan_stop dig _ _ _ _ (dropWhile_stop dig u hu h), rfl, rfl⟩

theorem scanL_shape (dig : UInt8 → Bool) (hd95 : dig 95 = false) (hd46 : dig 46 = false) (t : Bytes) :
    (scanL dig t (.int []) = none ∧ ∃ r'', spR2 dig (strip t) = 46 :: r'') ∨
    ∃ L rest, scanL dig t (.int []) = some (L, rest) ∧ strip rest = spR2 dig (strip t) ∧
      L.ip = (strip t).takeWhile dig ∧ L.fp = spFP dig (strip t) := by
  have hs := scan_strip dig dotL pushL t (.int [])
  unfold scanL
  rcases scanL_free dig hd95 hd46 (strip t) (mem_strip t) with ⟨h, r⟩ | ⟨L, h, hL⟩
  · rw [scanL, hs, Option.map_eq_none_iff] at h
    exact Or.inl ⟨h, r⟩
  · rw [scanL, hs, Option.map_eq_some_iff] at h
    obtain ⟨p, hp, e⟩ := h
    injection e with e1 e2
    exact Or.inr ⟨L, p.2, by rw [hp, ← e1], e2, hL⟩

theorem spFP_all (dig : UInt8 → Bool) (u : Bytes) : (spFP dig u).all dig = true := by
  unfold spFP
  split
  · exact List.all_takeWhile
  · rfl

/-- the digits of the exponent literal in an underscore-free text (empty if there is none) -/
def expLitDigits (dig : UInt8 → Bool) (u : Bytes) : Bytes :=
  match spR2 dig u with
  | _ :: r3 => (splitSign r3).2
  | [] => []

/-- what the clamp of the exponent digit loop adds to the exponent the specification reads -/
def expGap (dig : UInt8 → Bool) (u : Bytes) : Int :=
  match spR2 dig u with
  | _ :: r3 => gapInt (splitSign r3).1 (splitSign r3).2
  | [] => 0

/-- what follows the mantissa, in the specification: the signed exponent (0 if absent) -/
def spTail (hex : Bool) (r2 : Bytes) : Option Int :=
  match r2 with
  | [] => if hex then none else some 0
  | c :: r3 => if lowerc c == (if hex then 112 else 101) then parseExp r3 else none

/-- `parseBody` as the recogniser calls it for a decimal (`h = false`) or a hex literal -/
abbrev specBody (h : Bool) (u : Bytes) : Option (Nat × Int) :=
  parseBody (digS h) (baseOf h) (if h then 112 else 101) (if h then 4 else 1) h u

theorem specBody_eq (hex : Bool) (u : Bytes) :
    specBody hex u =
      if (u.takeWhile (digS hex)).isEmpty && (spFP (digS hex) u).isEmpty then none
      else (spTail hex (spR2 (digS hex) u)).map fun x =>
        (valOf (baseOf hex) (u.takeWhile (digS hex) ++ spFP (digS hex) u),
         x + -(((if hex then 4 else 1) * (spFP (digS hex) u).length : Nat) : Int)) := by
  unfold specBody
  rw [parseBody_eq]
  split
  · rfl
  · unfold spTail
    cases spR2 (digS hex) u with
    | nil => cases hex <;> simp
    | cons c r3 =>
      simp only []
      by_cases hc : (lowerc c == if hex = true then 112 else 101) = true
      · simp only [hc, if_true]
      · simp only [hc, Bool.false_eq_true, if_false, Option.map_none]

theorem tailAdj_eq (hex : Bool) (rest : Bytes) (hrest : Stop (digS hex) rest)
    (hu : ∃ prev', underscoresOK (digS hex) prev' rest = true) :
    tailAdj hex rest = (spTail hex (strip rest)).map
      (· + (match strip rest with | _ :: r3 => gapInt (splitSign r3).1 (splitSign r3).2 | [] => 0)) := by
  rcases hrest with h | ⟨c, r1, h, h95, h46, hd⟩
  · subst h
    cases hex <;> simp [strip, spTail, tailAdj]
  · subst h
    obtain ⟨prev', hu⟩ := hu
    obtain ⟨hu1, h951⟩ := uOK_after_nondigit (digS hex) prev' c r1 h95 hd hu
    rw [strip_cons c r1 h95, tailAdj_cons]
    unfold spTail
    simp only []
    have hec : (lower c == if hex = true then 112 else 101) = (lowerc c == if hex = true then 112 else 101) := by
      cases hex
      · exact lower_beq c 101 rfl
      · exact lower_beq c 112 rfl
    rw [hec]
    by_cases hc : (lowerc c == if hex = true then 112 else 101) = true
    · simp only [hc, if_true]
      exact okPart_eq (digS hex) (by cases hex <;> rfl) (by cases hex <;> rfl) r1 hu1 h951
    · simp only [hc, Bool.false_eq_true, if_false, Option.map_none]

theorem spTail_dot (hex : Bool) (r'' : Bytes) : spTail hex (46 :: r'') = none := by
  unfold spTail
  cases hex <;> rfl

/-- a number scanner of atof.go in the specification's terms (`readFloat`, `decimal.set` after sign and prefix, see
`frame`), on a text obeying the underscore rule; the exponent adjustment `x` is the specification's exponent before the
fraction digits are taken off, plus the clamp's gap -/
theorem frame_spec {σ : Type} {hex : Bool} {dot : σ → Option σ} {push : UInt8 → σ → σ} {R : σ → Lex → Prop}
    (sim : Sim (digS hex) dot push R) (sd : σ → Bool) (hsd : ∀ a L, R a L → sd a = !(L.ip.isEmpty && L.fp.isEmpty))
    (a : σ) (ha : R a (.int [])) (t : Bytes) (prev : Bool) (hu : underscoresOK (digS hex) prev t = true) :
    (specBody hex (strip t) = none →
      frame hex sd (scan (digS hex) dot push t a) = none) ∧
    ∀ M E, specBody hex (strip t) = some (M, E) →
      ∃ a' x L, frame hex sd (scan (digS hex) dot push t a) = some (a', x) ∧ R a' L ∧
        L.ip = (strip t).takeWhile (digS hex) ∧ L.fp = spFP (digS hex) (strip t) ∧
        M = valOf (baseOf hex) ((strip t).takeWhile (digS hex) ++ spFP (digS hex) (strip t)) ∧
        x = E + (((if hex then 4 else 1) * (spFP (digS hex) (strip t)).length : Nat) : Int) + expGap (digS hex) (strip t) := by
  rw [specBody_eq]
  obtain ⟨k1, k2⟩ := scan_lex sim t a (.int []) ha
  rcases scanL_shape (digS hex) (digS_95 hex) (digS_46 hex) t with ⟨hL, r'', hr2⟩ | ⟨L, rest, hL, hstrip, hip, hfp⟩
  · -- a second point: the scanner fails, and `parseBody` does not read on
    rw [k1 hL, hr2, spTail_dot]
    exact ⟨fun _ => rfl, fun M E h => by split at h <;> cases h⟩
  · obtain ⟨a', hm, hR⟩ := k2 L rest hL
    obtain ⟨hstop, huk⟩ := scan_rest _ _ _ t a a' rest hm
    have hsd' := hsd a' _ hR
    rw [hip, hfp] at hsd'
    rw [hm]
    unfold frame
    simp only []
    rw [hsd', tailAdj_eq hex rest hstop (huk prev hu), hstrip]
    by_cases hnd : (((strip t).takeWhile (digS hex)).isEmpty && (spFP (digS hex) (strip t)).isEmpty) = true
    · rw [if_pos hnd, hnd]
      exact ⟨fun _ => rfl, fun M E h => by cases h⟩
    · rw [if_neg hnd]
      simp only [Bool.not_eq_true] at hnd
      simp only [hnd, Bool.not_false, Bool.not_true, Bool.false_eq_true, if_false]
      cases hsp : spTail hex (spR2 (digS hex) (strip t)) with
      | none => exact ⟨fun _ => rfl, fun M E h => by cases h⟩
      | some x =>
        refine ⟨fun h => (by cases h), fun M E h => ?_⟩
        simp only [Option.map_some, Option.some.injEq, Prod.mk.injEq] at h
        refine ⟨a', _, L, rfl, hR, hip, hfp, h.1.symm, ?_⟩
        rw [← h.2]
        show x + expGap (digS hex) (strip t) = _
        omega

/-- `0x…`, `0b…`, `0o…` read as a decimal literal (`lower x` a letter, not `e`): the scanner reads the `0`, stops at the
letter and fails -/
theorem frame_zero_letter {σ : Type} (dot : σ → Option σ) (push : UInt8 → σ → σ) (sd : σ → Bool) (a : σ)
    (x : UInt8) (r : Bytes) (hl : lowerLetter x = true) (he : lower x ≠ 101) :
    frame false sd (scan isDec dot push (48 :: x :: r) a) = none := by
  rw [scan_dig _ _ _ 48 _ _ (by decide) (by decide) (by decide),
    scan_stop _ _ _ _ _ (Or.inr ⟨x, r, rfl, ne_of_class hl rfl, ne_of_class hl rfl, not_dec_of_letter hl⟩)]
  unfold frame
  simp only [tailAdj_no_e x r he]
  split <;> rfl

end C03
