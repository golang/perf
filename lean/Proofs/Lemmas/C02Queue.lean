/-
C02 helper lemmas: `Scan` with its `q`/`qPos` queue. What is pending (`Reader.pending`) and what `fill` does to it.
-/
import Model.Fmt.Reader

namespace Fmt

/-- What successive `Scan` calls have yet to deliver. -/
def Reader.pending (O : Oracles) (r : Reader) : List Rec :=
  r.q.drop (r.qPos + 1) ++ readLines O r.st r.lines

theorem fill_spec (O : Oracles) (ls : List Bytes) :
    ∀ st, (fill O st ls).2.2 ++ readLines O (fill O st ls).1 (fill O st ls).2.1 = readLines O st ls := by
  induction ls with
  | nil => intro st; simp [fill, readLines]
  | cons l ls ih =>
    intro st
    simp only [fill, readLines]
    cases hq : (scanLine O st l).2 with
    | nil => simp only [List.isEmpty_nil, ↓reduceIte, List.nil_append]; exact ih _
    | cons a q => simp

theorem fill_empty (O : Oracles) (ls : List Bytes) :
    ∀ st, (fill O st ls).2.2 = [] → (fill O st ls).2.1 = [] := by
  induction ls with
  | nil => intro st _; rfl
  | cons l ls ih =>
    intro st h
    simp only [fill] at h ⊢
    cases hq : (scanLine O st l).2 with
    | nil => simp only [hq, List.isEmpty_nil, ↓reduceIte] at h ⊢; exact ih _ h
    | cons a q => simp [hq] at h

end Fmt
