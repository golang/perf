/-
The first rune of a byte string (`Proc.Tok.decodeRune`, the model of utf8.DecodeRune) is that of `Utf8.decodeRune`
(`Shared.tok_decodeRune_eq`): it reads a valid encoding (`Shared.Enc`) or answers (RuneError, 1); width bounds and
stability under appended bytes.
-/
import Proofs.Lemmas.Shared.Utf8Copies

namespace C07
open Proc.Tok

theorem decodeRune_lo (c : UInt8) (t : Bytes) (h : c < 0x80) : decodeRune (c :: t) = (c.toNat, 1) := by
  simp [decodeRune, h]

theorem decodeRune_enc {c : UInt8} {l : Bytes} {r : Nat} (h : Shared.Enc c l r) (t : Bytes) :
    decodeRune (c :: (l ++ t)) = (r, l.length + 1) := by
  rw [Shared.tok_decodeRune_eq]
  exact Shared.decodeRune_enc h t

theorem decodeRune_cases (c : UInt8) (t : Bytes) :
    Shared.Valid c t ∨ decodeRune (c :: t) = (runeError, 1) := by
  rw [Shared.tok_decodeRune_eq]
  exact (Classical.em (Shared.Valid c t)).imp_right (Shared.decodeRune_invalid c t)

/-- an incomplete sequence stays incomplete -/
theorem decodeRune_append (b0 : UInt8) (u rest : Bytes) (h : Shared.okTail rest) :
    decodeRune (b0 :: u ++ rest) = decodeRune (b0 :: u) := by
  rw [Shared.tok_decodeRune_eq, Shared.tok_decodeRune_eq]
  exact Shared.decodeRune_local b0 u rest h

theorem decodeRune_size (c : UInt8) (t : Bytes) :
    1 ≤ (decodeRune (c :: t)).2 ∧ (decodeRune (c :: t)).2 ≤ (c :: t).length := by
  rw [Shared.tok_decodeRune_eq]
  exact Shared.decodeRune_width c t

theorem decodeRune_hi (c : UInt8) (t : Bytes) (h : ¬ c < 0x80) : 0x80 ≤ (decodeRune (c :: t)).1 := by
  rw [Shared.tok_decodeRune_eq]
  exact Shared.decodeRune_hi c t (Nat.le_of_not_lt fun h' => h (UInt8.lt_iff_toNat_lt.2 h'))

theorem decodeRune_cont (d : UInt8) (r : Bytes) (h : ¬ Shared.nonCont d) : decodeRune (d :: r) = (runeError, 1) := by
  rw [Shared.tok_decodeRune_eq]
  exact Shared.decodeRune_invalid d r fun ⟨_, _, _, _, hl⟩ => h hl.head

end C07
