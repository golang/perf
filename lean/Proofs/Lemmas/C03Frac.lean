/-
C03: vocabulary shared by the hex path, the assembly of the paths and the mirrored slow path: the exact
value of a parse as a fraction (`valueOf`, `decFrac`, `evalFrac`), `clampP`, rounding of tiny fractions, the bit
assembly.
-/
import Proofs.Lemmas.C03Range
import Model.Num.DecSlow

namespace C03
open Num F64 Spec.NumText

theorem assemble (m E : Nat) : (m &&& (2 ^ 52 - 1)) ||| (E <<< 52) = m % 2 ^ 52 + E * 2 ^ 52 := by
  rw [Nat.and_two_pow_sub_one_eq_mod, Nat.shiftLeft_eq, Nat.or_comm, Nat.mul_comm E,
    ← Nat.two_pow_add_eq_or_of_lt (Nat.mod_lt m (by decide : 0 < 2 ^ 52)) E]
  omega

theorem signed_ofNat (neg : Bool) (b : Nat) (hb : b < 2 ^ 63) :
    UInt64.ofNat (if neg then b ||| 2 ^ 63 else b) = signed neg (UInt64.ofNat b) := by
  cases neg
  · rfl
  · have hbt : (UInt64.ofNat b).toNat = b := by rw [UInt64.toNat_ofNat']; exact Nat.mod_eq_of_lt (by omega)
    have hor : b ||| 2 ^ 63 = 2 ^ 63 + b := by
      rw [Nat.or_comm]; simpa only [Nat.mul_one] using (Nat.two_pow_add_eq_or_of_lt hb 1).symm
    rw [← UInt64.toNat_inj, if_pos rfl, signed, if_pos rfl, or_negZero_toNat _ (by rw [hbt]; exact hb), hbt,
      UInt64.toNat_ofNat', hor]
    omega

/-- the exact value a parse denotes -/
def valueOf (p : Parsed) : ℚ := (p.mant : ℚ) * (if p.hex then (2 : ℚ) else 10) ^ p.exp

/-- rounding of a positive fraction with the range rule -/
def evalFrac (neg : Bool) (n d : Nat) : Except NumErr Bits :=
  if overflowThreshold * d ≤ n then .error .range else .ok (signed neg (roundMag n d))

theorem evalFrac_congr (neg : Bool) (n d n' d' : Nat) (hd : 0 < d) (hd' : 0 < d')
    (h : (n : ℚ) / d = (n' : ℚ) / d') : evalFrac neg n d = evalFrac neg n' d' := by
  unfold evalFrac
  rw [roundMag_congr n d n' d' hd hd' h]
  have : (overflowThreshold * d ≤ n) ↔ (overflowThreshold * d' ≤ n') := by
    rw [thr_le_div n d hd, thr_le_div n' d' hd', h]
  by_cases hc : overflowThreshold * d ≤ n
  · rw [if_pos hc, if_pos (this.mp hc)]
  · rw [if_neg hc, if_neg (fun h' => hc (this.mpr h'))]

/-- `evalFrac` of a rational value: what the specification rounds, whichever fraction presents it -/
def evalQ (neg : Bool) (V : ℚ) : Except NumErr Bits := evalFrac neg V.num.natAbs V.den

theorem evalFrac_eq_evalQ (neg : Bool) (n d : Nat) (hd : 0 < d) : evalFrac neg n d = evalQ neg ((n : ℚ) / d) :=
  evalFrac_congr neg n d _ _ hd (Rat.den_pos _) (by rw [natAbs_div_den, abs_of_nonneg (by positivity)])

theorem frac_of_pos {V : ℚ} (h : 0 < V) : 0 < V.num.natAbs ∧ 0 < V.den ∧ ((V.num.natAbs : ℕ) : ℚ) / (V.den : ℚ) = V :=
  ⟨Int.natAbs_pos.mpr (Rat.num_ne_zero.mpr h.ne'), V.den_pos, by rw [natAbs_div_den, abs_of_pos h]⟩

/-- the fraction the specification rounds for a decimal numeral -/
def decFrac (m : Nat) (e : Int) : Nat × Nat :=
  if e ≥ 0 then (m * 10 ^ e.toNat, 1) else (m, 10 ^ (-e).toNat)

theorem decFrac_eq (m : Nat) (e : Int) : decFrac m e = powFrac 10 m e := rfl

theorem decFrac_snd_pos (m : Nat) (e : Int) : 0 < (decFrac m e).2 := powFrac_snd_pos m e (by decide)

theorem decFrac_ratio (m : Nat) (e : Int) :
    (((decFrac m e).1 : Nat) : ℚ) / ((decFrac m e).2 : Nat) = (m : ℚ) * (10 : ℚ) ^ e := by
  rw [decFrac_eq, powFrac_ratio 10 m e (by decide), Nat.cast_ofNat]

theorem hT_pos : 0 < overflowThreshold := by decide +kernel

/-- the numeral as the code reads it: `g` = what the clamp of the exponent digit loop adds to the
exponent (`expGapS`, 0 for every exponent literal below 100000) -/
def clampP (p : Parsed) (g : Int) : Parsed := { p with exp := p.exp + g }

theorem clampP_zero (p : Parsed) : clampP p 0 = p := by
  unfold clampP; simp

theorem roundMag_zero_of_le (n d n0 d0 : Nat) (hd : 0 < d) (hd0 : 0 < d0) (h0 : roundMag n0 d0 = 0)
    (h : n * d0 ≤ n0 * d) : roundMag n d = 0 := by
  rcases Nat.eq_zero_or_pos n with hn | hn
  · subst hn; simp [roundMag]
  · have := roundMag_mono n d n0 d0 hn hd hd0 h
    rw [h0] at this
    exact UInt64.toNat_inj.mp (Nat.le_zero.mp this)

theorem signed_zero (neg : Bool) : signed neg 0 = F64.zero neg := by cases neg <;> decide

theorem evalFrac_big (neg : Bool) (n d : Nat) (hd : 0 < d) (h : (overflowThreshold : ℚ) ≤ (n : ℚ) / d) :
    evalFrac neg n d = .error .range := by
  unfold evalFrac
  rw [if_pos ((thr_le_div n d hd).mpr h)]

theorem tiny2 : roundMag 1 (2 ^ 1076) = 0 := by decide +kernel

theorem evalFrac_small (neg : Bool) (n d : Nat) (hd : 0 < d) (h : (n : ℚ) / d ≤ 1 / (2 : ℚ) ^ 1076) :
    evalFrac neg n d = .ok (F64.zero neg) := by
  -- the value is at most 2^-1076 < 1 ≤ the threshold
  have hno : ¬ overflowThreshold * d ≤ n := fun hge => by
    have h1 : (1 : ℚ) ≤ overflowThreshold := by exact_mod_cast hT_pos
    have h2 : 1 / (2 : ℚ) ^ 1076 < 1 := by
      rw [div_lt_one (by positivity)]; exact one_lt_pow₀ (by norm_num) (by norm_num)
    linarith only [(thr_le_div n d hd).mp hge, h, h1, h2]
  have hdq : (0 : ℚ) < d := by exact_mod_cast hd
  rw [div_le_div_iff₀ hdq (by positivity)] at h
  have hnat : n * 2 ^ 1076 ≤ d := by
    have : ((n * 2 ^ 1076 : Nat) : ℚ) ≤ ((1 * d : Nat) : ℚ) := by push_cast; linarith
    have := (Nat.cast_le (α := ℚ)).mp this
    omega
  unfold evalFrac
  rw [if_neg hno]
  have hz : roundMag n d = 0 :=
    roundMag_zero_of_le n d 1 (2 ^ 1076) hd (Nat.pow_pos (by decide)) tiny2 (by omega)
  rw [hz, signed_zero]

/-- where both bases saturate: 10^309 and 2^1024 are range errors, 10^-331 (and 2^-1076) round to zero -/
theorem thr_le_pow10 : (overflowThreshold : ℚ) ≤ (10 : ℚ) ^ (309 : ℤ) := by
  have : overflowThreshold ≤ 10 ^ 309 := by decide +kernel
  rw [show (309 : ℤ) = ((309 : ℕ) : ℤ) from rfl, zpow_natCast]; exact_mod_cast this

theorem thr_le_pow2 : (overflowThreshold : ℚ) ≤ (2 : ℚ) ^ (1024 : ℤ) := by
  have : overflowThreshold ≤ 2 ^ 1024 := by decide +kernel
  rw [show (1024 : ℤ) = ((1024 : ℕ) : ℤ) from rfl, zpow_natCast]; exact_mod_cast this

theorem tiny_pow10 : (10 : ℚ) ^ (-(331 : ℤ)) ≤ 1 / (2 : ℚ) ^ 1076 := by
  have : 2 ^ 1076 ≤ 10 ^ 331 := by decide +kernel
  rw [zpow_neg, show (331 : ℤ) = ((331 : ℕ) : ℤ) from rfl, zpow_natCast, ← one_div]
  exact one_div_le_one_div_of_le (by positivity) (by exact_mod_cast this)

/-- value and error for unsaturated magnitude bits `B`, as `F64.roundMag` forms them -/
def packed (neg : Bool) (B : Nat) : FloatRes :=
  ⟨signed neg (if B ≥ 0x7FF0000000000000 then posInf else UInt64.ofNat B),
   if B ≥ 0x7FF0000000000000 then some .range else none⟩

theorem packed_magBits (neg : Bool) (n d : Nat) (hn : 0 < n) (hd : 0 < d) :
    packed neg (magBits n d) =
      ⟨signed neg (roundMag n d), if roundMag n d = posInf then some .range else none⟩ := by
  unfold packed
  rw [roundMag_eq n d hn hd]
  by_cases h : magBits n d ≥ 0x7FF0000000000000
  · rw [if_pos h, if_pos h, if_pos rfl]
  · have hne : UInt64.ofNat (magBits n d) ≠ posInf := by
      intro he
      have := congrArg UInt64.toNat he
      rw [UInt64.toNat_ofNat', Nat.mod_eq_of_lt (by omega), show posInf.toNat = 0x7FF0000000000000 from rfl] at this
      omega
    rw [if_neg h, if_neg h, if_neg hne]

theorem packed_toExcept (neg : Bool) (B : Nat) :
    (packed neg B).toExcept =
      if B ≥ 0x7FF0000000000000 then .error .range else .ok (signed neg (UInt64.ofNat B)) := by
  unfold packed FloatRes.toExcept
  by_cases h : B ≥ 0x7FF0000000000000
  · simp only [h, if_true]
  · simp only [h, if_false]

theorem packed_evalFrac (neg : Bool) (n d : Nat) (hn : 0 < n) (hd : 0 < d) :
    (packed neg (magBits n d)).toExcept = evalFrac neg n d := by
  have hiff := roundMag_inf_iff n d hd
  rw [packed_magBits neg n d hn hd]
  unfold evalFrac FloatRes.toExcept
  by_cases hinf : roundMag n d = posInf
  · simp only [hinf, if_true, hiff.mp hinf]
  · have : ¬ overflowThreshold * d ≤ n := fun h => hinf (hiff.mpr h)
    simp only [hinf, if_false, this]

/-- the unsaturated magnitude bits of a positive rational value -/
def magBitsQ (V : ℚ) : Nat := magBits V.num.natAbs V.den

theorem magBitsQ_of_near {V : ℚ} (h0 : 0 < V) (s : Int) (M : Nat) (hs : IsShift V s)
    (hM : NearQ M (V * (2 : ℚ) ^ s)) : magBitsQ V = (1074 - s).toNat * 2 ^ 52 + M := by
  obtain ⟨hn, hd, hV⟩ := frac_of_pos h0
  exact magBits_of_near _ _ hn hd s M (hV.symm ▸ hs) (hV.symm ▸ hM)

theorem packed_evalQ (neg : Bool) {V : ℚ} (hV : 0 < V) : (packed neg (magBitsQ V)).toExcept = evalQ neg V :=
  packed_evalFrac neg _ _ (frac_of_pos hV).1 (frac_of_pos hV).2.1

theorem evalQ_big (neg : Bool) {V : ℚ} (h : (overflowThreshold : ℚ) ≤ V) : evalQ neg V = .error .range := by
  obtain ⟨_, hd, hV⟩ := frac_of_pos (lt_of_lt_of_le (by exact_mod_cast hT_pos) h)
  exact evalFrac_big neg _ _ hd (hV.symm ▸ h)

theorem evalQ_small (neg : Bool) {V : ℚ} (h0 : 0 < V) (h : V ≤ 1 / (2 : ℚ) ^ 1076) : evalQ neg V = .ok (F64.zero neg) := by
  obtain ⟨_, hd, hV⟩ := frac_of_pos h0
  exact evalFrac_small neg _ _ hd (hV.symm ▸ h)

theorem evalQ_of_near (neg : Bool) {V : ℚ} (h0 : 0 < V) (s : Int) (M : Nat) (hs : IsShift V s)
    (hM : NearQ M (V * (2 : ℚ) ^ s)) : evalQ neg V = (packed neg ((1074 - s).toNat * 2 ^ 52 + M)).toExcept := by
  rw [← magBitsQ_of_near h0 s M hs hM]
  exact (packed_evalQ neg h0).symm

theorem bits_pack (neg : Bool) (m E : Nat) (hE : E ≤ 2047) :
    UInt64.ofNat (if neg then (m &&& (2 ^ 52 - 1)) ||| (E <<< 52) ||| 2 ^ 63 else (m &&& (2 ^ 52 - 1)) ||| (E <<< 52)) =
      signed neg (UInt64.ofNat (m % 2 ^ 52 + E * 2 ^ 52)) := by
  have := Nat.mul_le_mul_right (2 ^ 52) hE
  rw [assemble, signed_ofNat neg _ (by omega)]

theorem fbAssemble_mag (neg : Bool) (m : Nat) (e : Int) (hm : m < 2 ^ 53)
    (h : (2 ^ 52 ≤ m ∧ -1022 ≤ e ∧ e ≤ 1023) ∨ (m < 2 ^ 52 ∧ e = -1023)) :
    fbAssemble neg m e = signed neg (UInt64.ofNat ((e + 1022).toNat * 2 ^ 52 + m)) := by
  unfold fbAssemble
  simp only []
  rw [show ((e - -1023) % 2048).toNat = (e + 1023).toNat by omega, bits_pack neg m _ (by omega)]
  congr 2
  rcases h with ⟨h1, h2, h3⟩ | ⟨h1, rfl⟩
  · have : m % 2 ^ 52 = m - 2 ^ 52 := by omega
    omega
  · rw [Nat.mod_eq_of_lt h1]; omega

theorem signed_inf (neg : Bool) : signed neg posInf = F64.inf neg := by cases neg <;> decide

theorem packed_range (neg : Bool) (B : Nat) (h : (packed neg B).err = some .range) :
    (packed neg B).val = F64.inf neg := by
  unfold packed at h ⊢
  split at h
  · rename_i hB; rw [if_pos hB]; exact signed_inf neg
  · cases h

end C03
