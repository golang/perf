/-
Helper lemmas for C08: `makeProjection`, the walk of `Parse` over the parts of an expression,
`ParseWithUnit` and `Residue` in closed form. Whether a part is rejected and what it does to the
parser depend on the part alone; what it does to the projection depends on the projection alone.
-/
import Model.Proc.Projection

namespace C08
open Proc.Sort Proc.Projection Proc.Extract

/-- The parser component of `makeProjection`. -/
def mpParser (p : Parser) (sp : Spec) : Parser :=
  if sp.order == .fixed [] then p
  else if sp.key == dotConfig then
    if isFixed sp.order then p else { p with haveConfig := true }
  else if sp.key == dotFullname then { p with haveFullname := true }
  else if sp.key == dotUnit then p
  else if sp.key == dotName || sp.key.head? == some Fmt.Name.slash then
    { p with fullnameKeys := p.fullnameKeys ++ [sp.key] }
  else if p.configKeys.contains sp.key then p
  else { p with configKeys := p.configKeys ++ [sp.key] }

/-- The error with which `makeProjection` rejects a part, if it does. -/
def partErr (sp : Spec) : Option ParseErr :=
  if sp.order == .fixed [] then some .unknownOrder
  else if sp.key == dotConfig then (if isFixed sp.order then some .fixedConfig else none)
  else if sp.key == dotFullname then none
  else if sp.key == dotUnit then some .unitKey
  else if sp.key.isEmpty then some .emptyKey
  else none

/-- The closure an accepted part adds to the projection `s`. -/
def partOf (s : Proj) (sp : Spec) : Part :=
  if sp.key == dotConfig then .config s.top.length sp.order
  else if sp.key == dotFullname then .fullname s.nFields
  else .key sp.key s.nFields

/-- What an accepted part does to the projection: a new empty group, or a new root field (named
`.fullname` or by the key); and its closure. -/
def partProj (s : Proj) (sp : Spec) : Proj :=
  if sp.key == dotConfig then
    { s with top := s.top ++ [.group dotConfig []], parts := s.parts ++ [partOf s sp] }
  else
    { (s.addRootField (if sp.key == dotFullname then dotFullname else sp.key) sp.order).1 with
      parts := s.parts ++ [partOf s sp] }

theorem makeProjection_eq (p : Parser) (s : Proj) (sp : Spec) :
    makeProjection p s sp =
      (mpParser p sp, match partErr sp with | some e => .error e | none => .ok (partProj s sp)) := by
  unfold makeProjection mpParser partErr partProj partOf
  cases sp.order == .fixed []
  case true => rfl
  cases sp.key == dotConfig
  case true => cases isFixed sp.order <;> rfl
  cases sp.key == dotFullname
  case true => rfl
  cases sp.key == dotUnit
  case true => rfl
  cases sp.key.isEmpty <;> rfl

theorem partProj_parts (s : Proj) (sp : Spec) : (partProj s sp).parts = s.parts ++ [partOf s sp] := by
  unfold partProj
  split <;> rfl

theorem partProj_nodes (s : Proj) (sp : Spec) : (partProj s sp).nodes = s.nodes := by
  unfold partProj
  split <;> rfl

theorem partProj_unitIdx (s : Proj) (sp : Spec) : (partProj s sp).unitIdx = s.unitIdx := by
  unfold partProj
  split <;> rfl

theorem parseParts_cons (pa : Parser) (s : Proj) (sp : Spec) (rest : List Spec) :
    parseParts pa s (sp :: rest) =
      match partErr sp with
      | some e => (mpParser pa sp, .error e)
      | none => parseParts (mpParser pa sp) (partProj s sp) rest := by
  rw [parseParts, makeProjection_eq]
  cases partErr sp <;> rfl

/-- What the parser holds at a rejected part is not said: `Parse` restores it. -/
theorem parseParts_eq (specs : List Spec) (pa : Parser) (s : Proj) :
    match specs.findSome? partErr with
    | some e => (parseParts pa s specs).2 = .error e
    | none => parseParts pa s specs = (specs.foldl mpParser pa, .ok (specs.foldl partProj s)) := by
  induction specs generalizing pa s with
  | nil => rfl
  | cons sp rest ih =>
    rw [parseParts_cons, List.findSome?_cons]
    cases partErr sp with
    | some e => rfl
    | none => exact ih _ _

theorem parse_eq (pa : Parser) (specs : List Spec) :
    pa.parse specs =
      match specs.findSome? partErr with
      | some e => (pa, .error e)
      | none => (specs.foldl mpParser pa, .ok (specs.foldl partProj newProjection)) := by
  have := parseParts_eq specs pa newProjection
  unfold Parser.parse
  cases h : specs.findSome? partErr with
  | some e =>
    rw [h] at this
    cases hp : parseParts pa newProjection specs with
    | mk p' res => rw [hp] at this; cases this; rfl
  | none => rw [h] at this; rw [this]

/-- The projections `Parse` and `Residue` can return: `newProjection` extended by accepted parts. -/
inductive Built : Proj → Prop
  | new : Built newProjection
  | part (s : Proj) (sp : Spec) : Built s → partErr sp = none → Built (partProj s sp)

theorem built_foldl (specs : List Spec) (s : Proj) (hs : Built s) (h : ∀ sp ∈ specs, partErr sp = none) :
    Built (specs.foldl partProj s) := by
  induction specs generalizing s with
  | nil => exact hs
  | cons sp rest ih =>
    exact ih _ (Built.part s sp hs (h sp List.mem_cons_self)) fun x hx => h x (List.mem_cons_of_mem _ hx)

theorem parse_ok_iff (pa : Parser) (specs : List Spec) (pa' : Parser) (s : Proj) :
    pa.parse specs = (pa', .ok s) ↔
      (∀ sp ∈ specs, partErr sp = none) ∧ pa' = specs.foldl mpParser pa ∧
        s = specs.foldl partProj newProjection := by
  rw [parse_eq, ← List.findSome?_eq_none_iff]
  cases specs.findSome? partErr with
  | some e => simp
  | none => simp only [Prod.mk.injEq, Except.ok.injEq, true_and]; exact ⟨fun h => ⟨h.1.symm, h.2.symm⟩, fun h => ⟨h.1.symm, h.2.symm⟩⟩

theorem parse_built (pa : Parser) (specs : List Spec) (pa' : Parser) (s : Proj)
    (hm : pa.parse specs = (pa', .ok s)) : Built s := by
  obtain ⟨h, _, rfl⟩ := (parse_ok_iff pa specs pa' s).mp hm
  exact built_foldl specs _ Built.new h

theorem parseWithUnit_ok (pa : Parser) (specs : List Spec) (pa' : Parser) (s : Proj)
    (hm : pa.parseWithUnit specs = (pa', .ok s)) :
    ∃ s1, pa.parse specs = (pa', .ok s1) ∧
      s = { (s1.addRootField dotUnit .first).1 with unitIdx := some s1.nFields } := by
  unfold Parser.parseWithUnit at hm
  cases hp : pa.parse specs with
  | mk p1 r1 =>
    rw [hp] at hm
    cases r1 with
    | error e => cases hm
    | ok s1 =>
      simp only [Prod.mk.injEq, Except.ok.injEq] at hm
      exact ⟨s1, by rw [hm.1], hm.2.symm⟩

/-- The two parts `Residue` may add. -/
def cfgSpec : Spec := { key := dotConfig, order := .first }
def fullSpec : Spec := { key := dotFullname, order := .first }

theorem partErr_cfgSpec : partErr cfgSpec = none := rfl
theorem partErr_fullSpec : partErr fullSpec = none := rfl

theorem residue_proj (pa : Parser) :
    (pa.residue).2 =
      let s := if pa.haveConfig then newProjection else partProj newProjection cfgSpec
      if pa.haveFullname then s else partProj s fullSpec := by
  have hstep : ∀ (st : Parser × Proj) (sp : Spec), partErr sp = none →
      residueStep st sp = (mpParser st.1 sp, partProj st.2 sp) := by
    intro st sp he
    rw [residueStep, makeProjection_eq, he]
  have hc : ∀ st : Parser × Proj, residueStep st { key := dotConfig, order := .first } =
      (mpParser st.1 cfgSpec, partProj st.2 cfgSpec) := fun st => hstep st cfgSpec partErr_cfgSpec
  have hf : ∀ st : Parser × Proj, residueStep st { key := dotFullname, order := .first } =
      (mpParser st.1 fullSpec, partProj st.2 fullSpec) := fun st => hstep st fullSpec partErr_fullSpec
  have hh : ∀ p : Parser, (mpParser p cfgSpec).haveFullname = p.haveFullname := fun p => rfl
  unfold Parser.residue
  cases h1 : pa.haveConfig <;> cases h2 : pa.haveFullname <;>
    simp only [h1, h2, Bool.not_true, Bool.not_false, Bool.false_eq_true, if_true, if_false, hc, hf, hh]

theorem residue_built (pa : Parser) : Built (pa.residue).2 := by
  rw [residue_proj]
  cases pa.haveConfig <;> cases pa.haveFullname
  · exact Built.part _ _ (Built.part _ _ Built.new partErr_cfgSpec) partErr_fullSpec
  · exact Built.part _ _ Built.new partErr_cfgSpec
  · exact Built.part _ _ Built.new partErr_fullSpec
  · exact Built.new

end C08
