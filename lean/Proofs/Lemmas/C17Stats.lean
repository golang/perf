/-
C17 helper lemmas: fence loop = filter, percentile = R8 at the quartile arguments,
bounds picks elements, bounds are extremal for any order embedding.
-/
import Model.Legacy.Collection
import Model.Spec.Legacy
import Mathlib.Order.Defs.LinearOrder

namespace C17
open Legacy F64

theorem fenceLoop_eq (lo hi : Bits) (vs acc : List Bits) :
    fenceLoop lo hi vs acc = acc ++ vs.filter (inFence lo hi) := by
  unfold fenceLoop
  induction vs generalizing acc with
  | nil => simp
  | cons v vs ih =>
    simp only [List.foldl_cons, List.filter_cons]
    by_cases h : inFence lo hi v = true
    · simp [h, ih]
    · simp [h, ih]

/-- for an argument strictly between 0 and 1 (computeStats uses 0.25 and 0.75) Sample.Percentile
is the R8 formula of the spec: its clamping branches `pctile <= 0`, `pctile >= 1` are not taken -/
theorem percentile_eq_r8 (xs : List Bits) (q : Bits) (h0 : le q posZero = false) (h1 : le one q = false) :
    percentile xs q = Spec.Legacy.r8 xs q := by
  unfold percentile Spec.Legacy.r8
  by_cases hx : xs.isEmpty = true
  · rw [if_pos hx, if_pos hx]
  · rw [if_neg hx, if_neg hx, h0, h1, if_neg Bool.false_ne_true, if_neg Bool.false_ne_true]

theorem fenceOf_eq (xs : List Bits) : fenceOf xs = Spec.Legacy.fence xs := by
  unfold fenceOf Spec.Legacy.fence
  rw [percentile_eq_r8 xs c0_25 (by decide) (by decide), percentile_eq_r8 xs c0_75 (by decide) (by decide)]

def boundsStep (p : Bits × Bits) (x : Bits) : Bits × Bits :=
  (if lt x p.1 then x else p.1, if lt p.2 x then x else p.2)

theorem bounds_cons (x0 : Bits) (xs : List Bits) :
    bounds (x0 :: xs) = (x0 :: xs).foldl boundsStep (x0, x0) := by
  unfold bounds boundsStep
  rfl

theorem foldl_bounds_mem (xs : List Bits) (p : Bits × Bits) (S : List Bits)
    (h1 : p.1 ∈ S) (h2 : p.2 ∈ S) (hs : ∀ x ∈ xs, x ∈ S) :
    (xs.foldl boundsStep p).1 ∈ S ∧ (xs.foldl boundsStep p).2 ∈ S := by
  induction xs generalizing p with
  | nil => exact ⟨h1, h2⟩
  | cons x xs ih =>
    simp only [List.foldl_cons]
    apply ih
    · unfold boundsStep; dsimp only; split
      · exact hs x (List.mem_cons_self ..)
      · exact h1
    · unfold boundsStep; dsimp only; split
      · exact hs x (List.mem_cons_self ..)
      · exact h2
    · intro y hy; exact hs y (List.mem_cons_of_mem _ hy)

theorem foldl_bounds_extremal_on {K : Type} [LinearOrder K] (val : Bits → K) (S : List Bits)
    (hemb : ∀ a ∈ S, ∀ b ∈ S, (lt a b = true ↔ val a < val b)) (xs : List Bits) (p : Bits × Bits)
    (h1 : p.1 ∈ S) (h2 : p.2 ∈ S) (hs : ∀ x ∈ xs, x ∈ S) :
    (val (xs.foldl boundsStep p).1 ≤ val p.1 ∧ val p.2 ≤ val (xs.foldl boundsStep p).2) ∧
    ∀ x ∈ xs, val (xs.foldl boundsStep p).1 ≤ val x ∧ val x ≤ val (xs.foldl boundsStep p).2 := by
  induction xs generalizing p with
  | nil => simp
  | cons x xs ih =>
    simp only [List.foldl_cons]
    have hx : x ∈ S := hs x (List.mem_cons_self ..)
    have hmem : (boundsStep p x).1 ∈ S ∧ (boundsStep p x).2 ∈ S :=
      foldl_bounds_mem [x] p S h1 h2 fun y hy => List.mem_singleton.mp hy ▸ hx
    have hstep1 : val (boundsStep p x).1 ≤ val p.1 ∧ val (boundsStep p x).1 ≤ val x := by
      unfold boundsStep; dsimp only
      by_cases h : lt x p.1 = true
      · rw [if_pos h]; exact ⟨le_of_lt ((hemb _ hx _ h1).mp h), le_refl _⟩
      · rw [if_neg h]; exact ⟨le_refl _, not_lt.mp (fun hh => h ((hemb _ hx _ h1).mpr hh))⟩
    have hstep2 : val p.2 ≤ val (boundsStep p x).2 ∧ val x ≤ val (boundsStep p x).2 := by
      unfold boundsStep; dsimp only
      by_cases h : lt p.2 x = true
      · rw [if_pos h]; exact ⟨le_of_lt ((hemb _ h2 _ hx).mp h), le_refl _⟩
      · rw [if_neg h]; exact ⟨le_refl _, not_lt.mp (fun hh => h ((hemb _ h2 _ hx).mpr hh))⟩
    obtain ⟨⟨a1, a2⟩, a3⟩ := ih (boundsStep p x) hmem.1 hmem.2 (fun y hy => hs y (List.mem_cons_of_mem _ hy))
    refine ⟨⟨le_trans a1 hstep1.1, le_trans hstep2.1 a2⟩, ?_⟩
    intro y hy
    rcases List.mem_cons.mp hy with rfl | hy
    · exact ⟨le_trans a1 hstep1.2, le_trans hstep2.2 a2⟩
    · exact a3 y hy

/-- Min and Max are elements of the list -/
theorem bounds_mem (rv : List Bits) (hne : rv ≠ []) : (bounds rv).1 ∈ rv ∧ (bounds rv).2 ∈ rv := by
  cases rv with
  | nil => exact absurd rfl hne
  | cons x0 xs =>
    rw [bounds_cons]
    exact foldl_bounds_mem (x0 :: xs) (x0, x0) (x0 :: xs) (List.mem_cons_self ..) (List.mem_cons_self ..)
      (fun _ h => h)

/-- … and bound every element, in any linear order that `lt` respects on the list -/
theorem bounds_extremal {K : Type} [LinearOrder K] (val : Bits → K) (rv : List Bits)
    (hemb : ∀ a ∈ rv, ∀ b ∈ rv, (lt a b = true ↔ val a < val b)) :
    ∀ x ∈ rv, val (bounds rv).1 ≤ val x ∧ val x ≤ val (bounds rv).2 := by
  cases rv with
  | nil => exact fun _ h => nomatch h
  | cons x0 xs =>
    rw [bounds_cons]
    exact (foldl_bounds_extremal_on val (x0 :: xs) hemb (x0 :: xs) (x0, x0)
      (List.mem_cons_self ..) (List.mem_cons_self ..) (fun _ h => h)).2

end C17
