/-
C02 helper lemmas: the reader model line by line. What `scanLine` does with each kind of line, a unit line field by
field, the lines against the specification from any state and after `Reset`, and where a result of the stream comes from.
-/
import Model.Fmt.Reader
import Model.Fmt.Files
import Model.Spec.Format
import Proofs.Lemmas.C02Store
import Proofs.Lemmas.C02Spec
import Proofs.Lemmas.C02Grammar

namespace Fmt
open Spec.Format

/-- a result with its configuration as a lookup function: the common form in which a model
record (`Rec.abs`) and a specification record (`SRec.abs`) are compared -/
structure ARes where
  config : Bytes → Option (Bytes × Bool)
  name : Bytes
  iters : Int
  values : List Val
  fileName : Bytes
  line : Nat

inductive ARec where
  | result (r : ARes)
  | err (e : SyntaxErr)
  | unit (u : UnitMeta)

/-- a model record with its `Config` list read as a map -/
def Rec.abs : Rec → ARec
  | .result r => .result ⟨cfgGet r.config, r.name, r.iters, r.values, r.fileName, r.line⟩
  | .err e => .err e
  | .unit u => .unit u

/-- a specification record with its configuration map read as a function -/
def _root_.Spec.Format.SRec.abs : SRec → ARec
  | .result r => .result ⟨CMap.get r.config, r.name, r.iters, r.values, r.fileName, r.line⟩
  | .err e => .err e
  | .unit u => .unit u

def Rec.isResult : Rec → Bool
  | .result _ => true
  | _ => false

/-- A field starts with the line's first byte, so a line whose first field is `Unit` starts with `U`: the test for a
leading `U` in `Scan` only short-cuts `isUnitLine`. -/
theorem isUnitLine_head {uc : UC} {line rest : Bytes} (h : isUnitLine uc line = some rest) :
    line.head? = some 85 := by
  cases line with
  | nil => exact nomatch h
  | cons c tl =>
    by_cases hc : c = 85
    · rw [hc]; rfl
    · unfold isUnitLine splitField at h
      rw [takeField_zero] at h
      by_cases hs : uc.space (decodeRune (c :: tl)).1 = true
      · simp [hs, unitPrefix] at h
      · simp [hs, unitPrefix, hc] at h

theorem scanLine_bench {O : Oracles} {line : Bytes} (hp : Bytes.hasPrefix line benchmarkPrefix = true)
    (st : RState) :
    scanLine O st line = ({ st with line := st.line + 1 },
      match parseBenchmarkLine O line with
      | .ok name iters vals => [.result ⟨st.store.live, name, iters, vals, st.fileName, st.line + 1⟩]
      | .skip => []
      | .err m => [.err ⟨st.fileName, st.line + 1, m⟩]) := by
  unfold scanLine
  rw [if_pos hp]
  cases parseBenchmarkLine O line <;> rfl

theorem scanLine_unit {O : Oracles} {line rest : Bytes} (hp : Bytes.hasPrefix line benchmarkPrefix = false)
    (hu : isUnitLine O.uc line = some rest) (st : RState) :
    scanLine O st line =
      ({ st with line := st.line + 1,
                 units := (parseUnitLine O st.fileName (st.line + 1) st.units rest).1 },
        (parseUnitLine O st.fileName (st.line + 1) st.units rest).2) := by
  unfold scanLine
  rw [if_neg (by rw [hp]; exact Bool.false_ne_true), isUnitLine_head hu, beq_self_eq_true, if_pos rfl, hu]

theorem scanLine_kv {O : Oracles} {line : Bytes} (hp : Bytes.hasPrefix line benchmarkPrefix = false)
    (hu : isUnitLine O.uc line = none) (st : RState) :
    scanLine O st line =
      match parseKeyValueLine O.uc line with
      | some (k, v) => ({ st with line := st.line + 1, store := st.store.set k v true }, [])
      | none => ({ st with line := st.line + 1 }, []) := by
  unfold scanLine
  rw [if_neg (by rw [hp]; exact Bool.false_ne_true), hu, ite_self]
  cases parseKeyValueLine O.uc line <;> rfl

theorem unitField_cases (fn : Bytes) (n : Nat) (unit tidy : Bytes) (units : UnitMap) (f : Bytes) :
    unitField fn n unit tidy units f = (units, []) ∨
    (∃ m, unitField fn n unit tidy units f = (units, [.err ⟨fn, n, m⟩])) ∨
    ∃ key value, f = key ++ 61 :: value ∧ key.isEmpty = false ∧ Bytes.hasByte key 61 = false ∧
      units.get tidy key = none ∧
      unitField fn n unit tidy units f =
        (units.insert ⟨tidy, key, unit, value, fn, n⟩, [.unit ⟨tidy, key, unit, value, fn, n⟩]) := by
  obtain ⟨hsp1, hsp2, hsp3⟩ := span_spec (fun c => !(c == 61)) f
  unfold unitField
  generalize f.span (fun c => !(c == 61)) = ab at hsp1 hsp2 hsp3
  obtain ⟨ka, kb⟩ := ab
  dsimp only at hsp1 hsp2 hsp3 ⊢
  split
  · exact Or.inr (Or.inl ⟨_, rfl⟩)
  · rename_i hcond
    simp only [Bool.or_eq_true, not_or, Bool.not_eq_true] at hcond
    split
    · split
      · exact Or.inl rfl
      · exact Or.inr (Or.inl ⟨_, rfl⟩)
    · rename_i hnone
      cases kb with
      | nil => exact absurd hcond.1 (by simp)
      | cons c value =>
        have hc : c = 61 := by simpa using hsp3 c rfl
        subst hc
        refine Or.inr (Or.inr ⟨ka, value, hsp1, hcond.2, ?_, hnone, rfl⟩)
        simp only [Bytes.hasByte, List.any_eq_false]
        exact fun x hx => by simpa using hsp2 x hx

theorem parseUnitLine_ind (O : Oracles) (fn : Bytes) (n : Nat) {P : UnitMap → UnitMap → List Rec → Prop}
    (nil : ∀ u, P u u []) (err : ∀ u m, P u u [.err ⟨fn, n, m⟩])
    (app : ∀ {u u1 u2 q1 q2}, P u u1 q1 → P u1 u2 q2 → P u u2 (q1 ++ q2)) (line : Bytes)
    (ins : ∀ unit fs, fields O.uc line = unit :: fs → ∀ key value, key ++ 61 :: value ∈ fs →
      key.isEmpty = false → Bytes.hasByte key 61 = false →
      ∀ u, u.get (O.tidy 0x3FF0000000000000 unit).2 key = none →
        P u (u.insert ⟨(O.tidy 0x3FF0000000000000 unit).2, key, unit, value, fn, n⟩)
          [.unit ⟨(O.tidy 0x3FF0000000000000 unit).2, key, unit, value, fn, n⟩])
    (units : UnitMap) : P units (parseUnitLine O fn n units line).1 (parseUnitLine O fn n units line).2 := by
  unfold parseUnitLine
  cases hf : fields O.uc line with
  | nil => exact err units _
  | cons unit fs =>
    have key : ∀ gs : List Bytes, (∀ f ∈ gs, f ∈ fs) → ∀ u,
        P u (unitFields fn n unit (O.tidy 0x3FF0000000000000 unit).2 u gs).1
          (unitFields fn n unit (O.tidy 0x3FF0000000000000 unit).2 u gs).2 := by
      intro gs
      induction gs with
      | nil => exact fun _ u => nil u
      | cons f gs ih =>
        intro hsub u
        simp only [unitFields]
        refine app ?_ (ih (fun g hg => hsub g (List.mem_cons_of_mem _ hg)) (unitField fn n unit _ u f).1)
        rcases unitField_cases fn n unit (O.tidy 0x3FF0000000000000 unit).2 u f with
          h | ⟨m, h⟩ | ⟨k, v, hfe, hk, hk61, hnone, h⟩ <;> rw [h]
        · exact nil u
        · exact err u m
        · exact ins unit fs hf k v (hfe ▸ hsub f List.mem_cons_self) hk hk61 u hnone
    exact key fs (fun _ h => h) units

theorem parseUnitLine_shape (O : Oracles) (fn : Bytes) (ln : Nat) (units : UnitMap) (line : Bytes) :
    (∃ more, (parseUnitLine O fn ln units line).1 = units ++ more) ∧
      ∀ r ∈ (parseUnitLine O fn ln units line).2, r.isResult = false :=
  parseUnitLine_ind O fn ln (P := fun u u' q => (∃ more, u' = u ++ more) ∧ ∀ r ∈ q, r.isResult = false)
    (fun _ => ⟨⟨[], by simp⟩, nofun⟩) (fun _ _ => ⟨⟨[], by simp⟩, by simp [Rec.isResult]⟩)
    (fun ⟨⟨m1, h1⟩, n1⟩ ⟨⟨m2, h2⟩, n2⟩ => ⟨⟨m1 ++ m2, by rw [h2, h1, List.append_assoc]⟩,
      fun r hr => (List.mem_append.1 hr).elim (n1 r) (n2 r)⟩)
    line (fun _ _ _ _ _ _ _ _ _ _ => ⟨⟨_, rfl⟩, by simp [Rec.isResult]⟩) units

theorem abs_ofRecNoResult {r : Rec} (h : r.isResult = false) : (ofRecNoResult r).abs = r.abs := by
  cases r <;> simp_all [ofRecNoResult, Rec.abs, SRec.abs, Rec.isResult]

theorem map_abs_noResult (q : List Rec) (h : ∀ r ∈ q, r.isResult = false) :
    (q.map ofRecNoResult).map SRec.abs = q.map Rec.abs := by
  induction q with
  | nil => rfl
  | cons r q ih =>
    simp only [List.map_cons]
    rw [abs_ofRecNoResult (h r (List.mem_cons_self ..)), ih (fun x hx => h x (List.mem_cons_of_mem _ hx))]

theorem scanLine_cases (O : Oracles) (line : Bytes) :
    (Bytes.hasPrefix line benchmarkPrefix = true ∧
      ∀ st, scanLine O st line = ({ st with line := st.line + 1 },
        match parseBenchmarkLine O line with
        | .ok name iters vals => [.result ⟨st.store.live, name, iters, vals, st.fileName, st.line + 1⟩]
        | .skip => []
        | .err m => [.err ⟨st.fileName, st.line + 1, m⟩])) ∨
    (∃ rest, Bytes.hasPrefix line benchmarkPrefix = false ∧ isUnitLine O.uc line = some rest ∧
      ∀ st, scanLine O st line =
        ({ st with line := st.line + 1,
                   units := (parseUnitLine O st.fileName (st.line + 1) st.units rest).1 },
          (parseUnitLine O st.fileName (st.line + 1) st.units rest).2)) ∨
    (∃ k v, Bytes.hasPrefix line benchmarkPrefix = false ∧ isUnitLine O.uc line = none ∧
      parseKeyValueLine O.uc line = some (k, v) ∧
      ∀ st, scanLine O st line = ({ st with line := st.line + 1, store := st.store.set k v true }, [])) ∨
    (Bytes.hasPrefix line benchmarkPrefix = false ∧ isUnitLine O.uc line = none ∧
      parseKeyValueLine O.uc line = none ∧
      ∀ st, scanLine O st line = ({ st with line := st.line + 1 }, [])) := by
  cases hp : Bytes.hasPrefix line benchmarkPrefix
  · refine .inr ?_
    cases hu : isUnitLine O.uc line with
    | some rest => exact .inl ⟨rest, rfl, rfl, scanLine_unit hp hu⟩
    | none =>
      refine .inr ?_
      cases hk : parseKeyValueLine O.uc line with
      | some kv => exact .inl ⟨kv.1, kv.2, rfl, rfl, rfl, fun st => by rw [scanLine_kv hp hu, hk]⟩
      | none => exact .inr ⟨rfl, rfl, rfl, fun st => by rw [scanLine_kv hp hu, hk]⟩
  · exact .inl ⟨rfl, scanLine_bench hp⟩

theorem scanLine_refines (O : Oracles) (st : RState) (m : CMap) (hl : st.store.Refines m) (line : Bytes) :
    let r := scanLine O st line
    let s := lineRecs O st.fileName m st.units (st.line + 1) line
    r.1.store.Refines s.1 ∧ r.1.units = s.2.1 ∧ r.1.fileName = st.fileName ∧ r.1.line = st.line + 1 ∧
      r.2.map Rec.abs = s.2.2.map SRec.abs := by
  rw [lineRecs_eq]
  unfold Spec.FormatM.lineRecs Spec.FormatM.classify
  rcases scanLine_cases O line with ⟨hp, e⟩ | ⟨rest, hp, hu, e⟩ | ⟨k, v, hp, hu, hk, e⟩ | ⟨hp, hu, hk, e⟩
  · rw [e st, hp]
    cases parseBenchmarkLine O line with
    | skip => exact ⟨hl, rfl, rfl, rfl, rfl⟩
    | err msg => exact ⟨hl, rfl, rfl, rfl, rfl⟩
    | ok name iters vals =>
      refine ⟨hl, rfl, rfl, rfl, ?_⟩
      -- the result carries the live list, which read as a map is `m`
      have : cfgGet st.store.live = CMap.get m :=
        funext fun k => (Store.cfgGet_live hl.inv k).trans (hl.map k)
      simp only [reduceCtorEq, ↓reduceIte, List.map_cons, List.map_nil, Rec.abs, SRec.abs, this]
  · rw [e st, hp, hu]
    exact ⟨hl, rfl, rfl, rfl, (map_abs_noResult _ ((parseUnitLine_shape _ _ _ _ _).2)).symm⟩
  · rw [e st, hp, hu, hk]
    exact ⟨hl.set k v true, rfl, rfl, rfl, rfl⟩
  · rw [e st, hp, hu, hk]
    exact ⟨hl, rfl, rfl, rfl, rfl⟩

theorem readLines_refines (O : Oracles) (ls : List Bytes) :
    ∀ (st : RState) (m : CMap), st.store.Refines m →
      (readLines O st ls).map Rec.abs =
          (readFrom O st.fileName m st.units (st.line + 1) ls).1.map SRec.abs ∧
      (finalState O st ls).units = (readFrom O st.fileName m st.units (st.line + 1) ls).2 := by
  induction ls with
  | nil => intro st m hl; exact ⟨rfl, rfl⟩
  | cons l ls ih =>
    intro st m hl
    obtain ⟨hl', hu, hf, hn, hq⟩ := scanLine_refines O st m hl l
    have := ih (scanLine O st l).1 _ hl'
    rw [hu, hf, hn] at this
    simp only [readFrom, readLines, finalState, List.map_append]
    exact ⟨by rw [hq, this.1], this.2⟩

theorem scanLine_result (O : Oracles) (st : RState) (l : Bytes) (r : Res)
    (h : Rec.result r ∈ (scanLine O st l).2) :
    Bytes.hasPrefix l benchmarkPrefix = true ∧ parseBenchmarkLine O l = .ok r.name r.iters r.values ∧
      r.config = st.store.live ∧ r.line = st.line + 1 := by
  rcases scanLine_cases O l with ⟨hp, e⟩ | ⟨rest, _, _, e⟩ | ⟨k, v, _, _, _, e⟩ | ⟨_, _, _, e⟩
  · rw [e st] at h
    cases hb : parseBenchmarkLine O l with
    | ok name iters vals =>
      rw [hb] at h
      rw [Rec.result.inj (List.mem_singleton.1 h)]
      exact ⟨hp, rfl, rfl, rfl⟩
    | skip => rw [hb] at h; exact absurd h List.not_mem_nil
    | err m => rw [hb] at h; exact absurd (List.mem_singleton.1 h) nofun
  · rw [e st] at h
    exact absurd ((parseUnitLine_shape O st.fileName (st.line + 1) st.units rest).2 _ h) nofun
  · rw [e st] at h; exact absurd h List.not_mem_nil
  · rw [e st] at h; exact absurd h List.not_mem_nil

theorem scanLine_line (O : Oracles) (st : RState) (l : Bytes) : (scanLine O st l).1.line = st.line + 1 := by
  rcases scanLine_cases O l with ⟨_, e⟩ | ⟨_, _, _, e⟩ | ⟨_, _, _, _, _, e⟩ | ⟨_, _, _, e⟩ <;> rw [e st]

theorem readLines_result_origin (O : Oracles) (ls : List Bytes) :
    ∀ (st : RState) (r : Res), Rec.result r ∈ readLines O st ls →
      ∃ (i : Nat) (l : Bytes), ls[i]? = some l ∧ r.line = st.line + i + 1 ∧
        Bytes.hasPrefix l benchmarkPrefix = true ∧
        parseBenchmarkLine O l = .ok r.name r.iters r.values := by
  induction ls with
  | nil => intro st r h; simp [readLines] at h
  | cons l ls ih =>
    intro st r h
    rcases List.mem_append.1 (show _ ∈ (scanLine O st l).2 ++ readLines O (scanLine O st l).1 ls from h)
      with h | h
    · obtain ⟨hp, hb, _, hl⟩ := scanLine_result O st l r h
      exact ⟨0, l, rfl, hl, hp, hb⟩
    · obtain ⟨i, l', hi, hl, hp, hb⟩ := ih _ r h
      rw [scanLine_line] at hl
      exact ⟨i + 1, l', by simpa using hi, by omega, hp, hb⟩

theorem readLines_nodup (O : Oracles) (ls : List Bytes) :
    ∀ (st : RState) (m : CMap), st.store.Refines m →
      ∀ r, Rec.result r ∈ readLines O st ls → (r.config.map Cfg.key).Nodup := by
  induction ls with
  | nil => intro st m _ r hr; simp [readLines] at hr
  | cons l ls ih =>
    intro st m hl r hr
    rcases List.mem_append.1 hr with h | h
    · -- a result of this very line carries the live list of the store
      rw [(scanLine_result O st l r h).2.2.1]
      exact Store.live_keys_nodup hl.inv
    · exact ih _ _ (scanLine_refines O st m hl l).1 r h

theorem installConfig_refines (kvs : List (Bytes × Bytes)) :
    ∀ (s : Store) (m : CMap), s.Refines m →
      (installConfig s kvs).Refines (kvs.foldl (fun m kv => m.assign kv.1 kv.2 false) m) := by
  induction kvs with
  | nil => intro s m h; exact h
  | cons kv kvs ih => intro s m h; exact ih _ _ (h.set kv.1 kv.2 false)

theorem reset_linked (st : RState) (fn : Bytes) (kvs : List (Bytes × Bytes)) :
    (st.reset fn kvs).store.Refines (kvs.foldl (fun m kv => m.assign kv.1 kv.2 false) []) :=
  installConfig_refines kvs _ _ (Store.refines_reset _)

theorem reset_readLines_refines (O : Oracles) (st : RState) (fn : Bytes) (kvs : List (Bytes × Bytes))
    (ls : List Bytes) :
    let sp := readFrom O (displayName fn) (kvs.foldl (fun m kv => m.assign kv.1 kv.2 false) []) st.units 1 ls
    (readLines O (st.reset fn kvs) ls).map Rec.abs = sp.1.map SRec.abs ∧
      (finalState O (st.reset fn kvs) ls).units = sp.2 :=
  readLines_refines O ls _ _ (reset_linked st fn kvs)

theorem readLines_append (O : Oracles) (l1 l2 : List Bytes) :
    ∀ st, readLines O st (l1 ++ l2) = readLines O st l1 ++ readLines O (finalState O st l1) l2 := by
  induction l1 with
  | nil => intro st; rfl
  | cons l ls ih => intro st; simp only [List.cons_append, readLines, finalState, ih, List.append_assoc]

theorem finalState_append (O : Oracles) (l1 l2 : List Bytes) :
    ∀ st, finalState O st (l1 ++ l2) = finalState O (finalState O st l1) l2 := by
  induction l1 with
  | nil => intro st; rfl
  | cons l ls ih => intro st; simp only [List.cons_append, finalState, ih]

end Fmt
