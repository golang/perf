/-
Helper lemmas for C05: the algorithmic model of Name.Parts equals the independent specification.
-/
import Model.Fmt.Name
import Model.Spec.Name

namespace C05
open Bytes Fmt.Name

theorem splitGoAux_closed (rev suf : Bytes) :
    splitGoAux rev suf =
      match rev.dropWhile isDigit with
      | c :: r =>
        if c == dash && !(suf.isEmpty && (rev.takeWhile isDigit).isEmpty)
        then some (r.reverse, c :: ((rev.takeWhile isDigit).reverse ++ suf)) else none
      | [] => none := by
  induction rev generalizing suf with
  | nil => rfl
  | cons c rest ih =>
    rw [splitGoAux]
    by_cases hd : isDigit c = true
    · have hc : (c == dash) = false := by
        cases h : c == dash
        · rfl
        · rw [eq_of_beq h] at hd; exact absurd hd (by decide)
      simp [hd, hc, ih]
    · simp [hd]

theorem splitGomaxprocs_eq_spec (n : Bytes) :
    splitGomaxprocs n = Spec.Name.gmpSplit n := by
  unfold splitGomaxprocs Spec.Name.gmpSplit
  rw [splitGoAux_closed]
  cases n.reverse.dropWhile isDigit with
  | nil => rfl
  | cons c r =>
    simp only [List.isEmpty_nil, Bool.true_and, List.append_nil]
    by_cases h : (c == dash && !(n.reverse.takeWhile isDigit).isEmpty) = true
    · rw [if_pos h, if_pos h]
    · rw [if_neg h, if_neg h]

/-- tail of the '/'-split: the '/'-introduced pieces -/
def T (b : Bytes) : List Bytes := (splitSlash b).tail

theorem splitSlash_head (b : Bytes) :
    splitSlash b = b.takeWhile (· != slash) :: T b := by
  unfold T
  induction b with
  | nil => simp [splitSlash]
  | cons c r ih =>
    unfold splitSlash
    rw [ih]
    by_cases hc : c = slash
    · subst hc; simp
    · have : (c == slash) = false := by simpa using hc
      simp [this, hc]

theorem T_cons (c : UInt8) (r : Bytes) :
    T (c :: r) = if c == slash then (c :: r.takeWhile (· != slash)) :: T r else T r := by
  unfold T
  conv => lhs; unfold splitSlash
  rw [splitSlash_head r]
  by_cases hc : (c == slash) = true <;> simp [hc, T]

theorem T_dropWhile (b : Bytes) : T b = T (b.dropWhile (· != slash)) := by
  induction b with
  | nil => simp
  | cons c r ih =>
    by_cases hc : c = slash
    · subst hc; simp
    · have h1 : (c == slash) = false := by simpa using hc
      rw [T_cons, h1]
      simp only [List.dropWhile_cons, bne_iff_ne, ne_eq, hc, not_false_eq_true, if_true]
      simpa using ih

theorem go_eq_T (fuel : Nat) (b : Bytes) (hlen : (b.dropWhile (· != slash)).length ≤ fuel) :
    Spec.Name.segments.go fuel (b.dropWhile (· != slash)) = T (b.dropWhile (· != slash)) := by
  induction fuel generalizing b with
  | zero =>
    have : b.dropWhile (· != slash) = [] := List.eq_nil_of_length_eq_zero (Nat.le_zero.1 hlen)
    rw [this]; simp [Spec.Name.segments.go, T, splitSlash]
  | succ f ih =>
    cases hd : b.dropWhile (· != slash) with
    | nil => simp [Spec.Name.segments.go, T, splitSlash]
    | cons c r =>
      -- what `dropWhile` stops at is a slash
      have hc : c = slash := by
        have := List.head_dropWhile_not (· != slash) (l := b) (hd ▸ List.cons_ne_nil _ _)
        simpa [hd] using this
      subst hc
      rw [hd] at hlen
      unfold Spec.Name.segments.go
      rw [T_cons]
      simp only [beq_self_eq_true, if_true]
      rw [T_dropWhile r, ih r (Nat.le_trans (List.dropWhile_sublist _).length_le (Nat.le_of_succ_le_succ hlen))]

theorem splitSlash_eq_spec (b : Bytes) :
    splitSlash b = (Spec.Name.segments b).1 :: (Spec.Name.segments b).2 := by
  rw [splitSlash_head]
  unfold Spec.Name.segments
  simp only
  rw [T_dropWhile, go_eq_T _ b (List.dropWhile_sublist _).length_le]

theorem parts_eq (n : Bytes) :
    parts n = ((splitGomaxprocs n).1.takeWhile (· != slash),
      T (splitGomaxprocs n).1 ++ (splitGomaxprocs n).2.toList) := by
  unfold parts
  obtain ⟨buf, g⟩ := splitGomaxprocs n
  simp only [splitSlash_head]
  cases g <;> rfl

end C05
