/-
A configuration block. What `walk` / `newKeys` / `writeFileConfig`
do to the writer state (it becomes the record's configuration, as a map) and what a reader
makes of the lines they print (its map becomes the file part of that configuration). Both
loops change one entry per turn and print `entryLines` for it.
-/
import Proofs.Lemmas.C01Base
import Proofs.Lemmas.Shared.List

namespace C01
open Fmt

theorem walk_cons (config : List Cfg) (key : Bytes) (rest : List Bytes) (fc : FC) :
    ∃ old new fc1, old = (fc.get key).getD ([], false) ∧
      new = (cfgAt config key).map (fun c => (c.value, c.file)) ∧
      fc1 = (if some old = new then fc else fc.put key new) ∧
      walk config (key :: rest) fc =
        (if new.isSome then key :: (walk config rest fc1).1 else (walk config rest fc1).1,
          (walk config rest fc1).2.1, entryLines key (some old) new ++ (walk config rest fc1).2.2) := by
  refine ⟨_, _, _, rfl, rfl, rfl, ?_⟩
  cases hc : cfgAt config key with
  | none => simp only [walk, hc]; rfl
  | some cfg =>
    simp only [walk, hc, Option.map_some, Option.isSome_some, if_true, Option.some.injEq]
    generalize (fc.get key).getD ([], false) = old
    obtain ⟨v0, f0⟩ := old
    by_cases h : (v0, f0) = (cfg.value, cfg.file)
    · have h' := h
      simp only [Prod.mk.injEq] at h'
      simp only [h'.1, h'.2, beq_self_eq_true, Bool.and_self, if_true, entryLines, List.nil_append]
    · have h' : (v0 == cfg.value && f0 == cfg.file) = false := by
        simpa [Prod.mk.injEq] using h
      simp only [h, h', Bool.false_eq_true, if_false, entryLines, Option.some.injEq]
      cases cfg.file <;> cases f0 <;> rfl

theorem mem_entryLines {key l : Bytes} {old new : Option (Bytes × Bool)} (h : l ∈ entryLines key old new) :
    l = delLine key ∨ ∃ v, new = some (v, true) ∧ l = kvLine key v := by
  unfold entryLines at h
  split at h
  · cases h
  · split at h
    · exact Or.inl (List.mem_singleton.1 h)
    · exact Or.inr ⟨_, rfl, List.mem_singleton.1 h⟩
    · exact Or.inl (List.mem_singleton.1 h)
    · cases h

theorem cfgAt_mem {config : List Cfg} {key : Bytes} {c : Cfg} (h : cfgAt config key = some c) :
    c ∈ config := by
  unfold cfgAt at h
  split at h
  · exact List.mem_of_getElem? h
  · exact absurd h (by simp)

theorem walk_sub (config : List Cfg) : ∀ (order : List Bytes) (fc : FC),
    ∀ l ∈ (walk config order fc).2.2,
      (∃ k ∈ order, l = delLine k) ∨ (∃ k ∈ order, ∃ c ∈ config, c.file = true ∧ l = kvLine k c.value) := by
  intro order
  induction order with
  | nil => exact fun fc _ h => nomatch h
  | cons key rest ih =>
    intro fc l hl
    obtain ⟨old, new, fc1, _, hnew, _, hw⟩ := walk_cons config key rest fc
    rw [hw] at hl
    rcases List.mem_append.1 hl with h | h
    · rcases mem_entryLines h with e | ⟨v, hv, e⟩
      · exact Or.inl ⟨key, List.mem_cons_self, e⟩
      · obtain ⟨c, hc, hcv⟩ := Option.map_eq_some_iff.1 (hnew ▸ hv)
        injection hcv with hcv hcf
        exact Or.inr ⟨key, List.mem_cons_self, c, cfgAt_mem hc, hcf, hcv ▸ e⟩
    · exact (ih fc1 l h).imp (fun ⟨k, hk, e⟩ => ⟨k, List.mem_cons_of_mem _ hk, e⟩)
        (fun ⟨k, hk, r⟩ => ⟨k, List.mem_cons_of_mem _ hk, r⟩)

theorem walk_spec (config : List Cfg) (hnd : (config.map Cfg.key).Nodup) :
    ∀ (order : List Bytes) (fc : FC),
      order.Nodup → (∀ k ∈ order, (fc.get k).isSome) → fc.keys.Nodup →
      (∀ k, ((walk config order fc).2.1).get k = if k ∈ order then cfgGet config k else fc.get k) ∧
      (walk config order fc).1 = order.filter (fun k => (cfgGet config k).isSome) ∧
      (walk config order fc).2.1.keys.Nodup ∧
      ∀ (O : Oracles) (st : RState), (∀ c ∈ config, CfgGood O c) → Link O fc st.store →
        Block O st (walk config order fc).2.2 (walk config order fc).2.1 := by
  intro order
  induction order with
  | nil => exact fun fc _ _ hk => ⟨fun _ => rfl, rfl, hk, fun O st _ hl => block_nil O hl⟩
  | cons key rest ih =>
    intro fc hndo hin hkn
    obtain ⟨hkr, hndr⟩ := List.nodup_cons.1 hndo
    obtain ⟨e, he⟩ := Option.isSome_iff_exists.1 (hin key List.mem_cons_self)
    obtain ⟨old, new, fc1, hold, hnew, hfc1, hw⟩ := walk_cons config key rest fc
    rw [he, Option.getD_some] at hold
    rw [cfgAt_eq_find config hnd, ← cfgGet_eq] at hnew
    subst hold hnew
    have hget : ∀ k, fc1.get k = if k = key then cfgGet config key else fc.get k := by
      intro k
      rw [hfc1]
      split
      · rename_i h
        split
        · rename_i hk; rw [hk, he, h]
        · rfl
      · exact FC.get_put fc key _ k
    have hkn1 : fc1.keys.Nodup := by
      rw [hfc1]
      split
      · exact hkn
      · exact FC.nodup_put hkn key _
    obtain ⟨ha, hb, hc, hd⟩ := ih fc1 hndr (fun k hk => by
      rw [hget, if_neg (fun (e : k = key) => hkr (e ▸ hk))]; exact hin k (List.mem_cons_of_mem _ hk)) hkn1
    rw [hw]
    refine ⟨fun k => ?_, ?_, hc, fun O st hcfg hl => ?_⟩
    · rw [ha, hget]
      by_cases hk : k = key
      · simp [hk, hkr]
      · simp [hk]
    · rw [hb, List.filter_cons]
    · have h1 := block_entryLines O hl (fun e he => entryGood_of_cfgGet hcfg he) hget
      rw [he] at h1
      exact block_append O h1 (hd O _ hcfg h1.link)

/-- `Writer.order` lists exactly the keys of `Writer.fileConfig`, once each. -/
structure WInv (w : WState) : Prop where
  order_nodup : w.order.Nodup
  keys_nodup : w.fileConfig.keys.Nodup
  order_iff : ∀ k, k ∈ w.order ↔ (w.fileConfig.get k).isSome

theorem winv_new : WInv WState.new :=
  ⟨List.nodup_nil, List.nodup_nil, fun k => by simp [WState.new, FC.get]⟩

theorem winv_add {w : WState} (hw : WInv w) {key : Bytes} (hk : w.fileConfig.get key = none) (v : Bytes)
    (f : Bool) : WInv ⟨w.first, w.fileConfig.set key v f, w.order ++ [key]⟩ where
  order_nodup := List.nodup_append.2 ⟨hw.order_nodup, by simp, fun a ha b hb e => by
    rw [List.mem_singleton.1 hb] at e
    have := (hw.order_iff a).1 ha
    rw [e, hk] at this
    cases this⟩
  keys_nodup := FC.nodup_set hw.keys_nodup key v f
  order_iff k := by
    rw [List.mem_append, List.mem_singleton, FC.get_set, hw.order_iff]
    by_cases h : k = key
    · simp [h]
    · simp [h]

theorem entryLines_new (key v : Bytes) (f : Bool) :
    (if f then [kvLine key v] else []) = entryLines key none (some (v, f)) := by
  cases f <;> rfl

theorem newKeys_spec : ∀ (cs : List Cfg) (w : WState), WInv w →
    (∀ k, (newKeys cs w.fileConfig w.order).1.get k = (w.fileConfig.get k).or (cfgGet cs k)) ∧
    WInv ⟨w.first, (newKeys cs w.fileConfig w.order).1, (newKeys cs w.fileConfig w.order).2.1⟩ ∧
    ∀ (O : Oracles) (st : RState), (∀ c ∈ cs, CfgGood O c) → Link O w.fileConfig st.store →
      Block O st (newKeys cs w.fileConfig w.order).2.2 (newKeys cs w.fileConfig w.order).1 := by
  intro cs
  induction cs with
  | nil => exact fun w hw => ⟨fun k => (Option.or_none).symm, hw, fun O st _ hl => block_nil O hl⟩
  | cons c cs ih =>
    intro w hw
    cases hc : w.fileConfig.get c.key with
    | some e =>
      obtain ⟨ha, hb, hd⟩ := ih w hw
      simp only [newKeys, hc, Option.isSome_some, if_true]
      refine ⟨fun k => ?_, hb, fun O st hcfg hl => hd O st (fun c' h => hcfg c' (List.mem_cons_of_mem _ h)) hl⟩
      rw [ha, cfgGet_cons]
      split
      · rename_i hk; rw [← hk, hc]; rfl
      · rfl
    | none =>
      obtain ⟨ha, hb, hd⟩ := ih _ (winv_add hw hc c.value c.file)
      simp only [newKeys, hc, Option.isSome_none, Bool.false_eq_true, if_false, entryLines_new]
      refine ⟨fun k => ?_, hb, fun O st hcfg hl => ?_⟩
      · rw [ha, FC.get_set, cfgGet_cons]
        by_cases hk : k = c.key
        · rw [hk, hc]; simp
        · rw [if_neg hk, if_neg (fun e => hk e.symm)]
      · have h1 := block_entryLines O hl (fun e he => by cases he; exact hcfg c List.mem_cons_self)
          (FC.get_set w.fileConfig c.key c.value c.file)
        rw [hc] at h1
        exact block_append O h1 (hd O _ (fun c' h => hcfg c' (List.mem_cons_of_mem _ h)) h1.link)

theorem newKeys_noop : ∀ (cs : List Cfg) (fc : FC) (ord : List Bytes),
    (∀ c ∈ cs, (fc.get c.key).isSome) → newKeys cs fc ord = (fc, ord, []) := by
  intro cs
  induction cs with
  | nil => exact fun _ _ _ => rfl
  | cons c cs ih =>
    intro fc ord h
    rw [newKeys, if_pos (h c List.mem_cons_self)]
    exact ih fc ord (fun c' hc' => h c' (List.mem_cons_of_mem _ hc'))

theorem newKeys_sub : ∀ (cs : List Cfg) (fc : FC) (ord : List Bytes),
    ∀ l ∈ (newKeys cs fc ord).2.2, ∃ c ∈ cs, c.file = true ∧ l = kvLine c.key c.value := by
  intro cs
  induction cs with
  | nil => exact fun fc ord _ h => nomatch h
  | cons c cs ih =>
    intro fc ord l hl
    rw [newKeys] at hl
    split at hl
    · exact (ih fc ord l hl).imp fun c' ⟨hc', r⟩ => ⟨List.mem_cons_of_mem _ hc', r⟩
    · rcases List.mem_append.1 hl with h | h
      · split at h
        · exact ⟨c, List.mem_cons_self, ‹_›, List.mem_singleton.1 h⟩
        · cases h
      · exact (ih _ _ l h).imp fun c' ⟨hc', r⟩ => ⟨List.mem_cons_of_mem _ hc', r⟩

theorem writeFileConfig_lines (w : WState) (config : List Cfg) : ∀ l ∈ (writeFileConfig w config).2,
    l = [] ∨ (∃ k ∈ w.order, l = delLine k) ∨
      ∃ k c, (k ∈ w.order ∨ k = c.key) ∧ c ∈ config ∧ c.file = true ∧ l = kvLine k c.value := by
  intro l hl
  unfold writeFileConfig at hl
  simp only [List.mem_append, List.mem_singleton] at hl
  rcases hl with ((hl | hl) | hl) | hl
  · split at hl
    · exact Or.inl (List.mem_singleton.1 hl)
    · cases hl
  · rcases walk_sub config w.order w.fileConfig l hl with ⟨k, hk, e⟩ | ⟨k, hk, c, hc, hf, e⟩
    · exact Or.inr (Or.inl ⟨k, hk, e⟩)
    · exact Or.inr (Or.inr ⟨k, c, Or.inl hk, hc, hf, e⟩)
  · split at hl
    · obtain ⟨c, hc, hf, e⟩ := newKeys_sub _ _ _ l hl
      exact Or.inr (Or.inr ⟨c.key, c, Or.inr rfl, hc, hf, e⟩)
    · cases hl
  · exact Or.inl hl

theorem block_blank (O : Oracles) {st : RState} {fc : FC} (hl : Link O fc st.store) : Block O st [[]] fc :=
  block_cons O (blank_inert O st) rfl (block_nil O hl)

theorem writeFileConfig_spec (w : WState) (config : List Cfg)
    (hw : WInv w) (hnd : (config.map Cfg.key).Nodup) :
    (∀ k, (writeFileConfig w config).1.fileConfig.get k = cfgGet config k) ∧
    WInv (writeFileConfig w config).1 ∧
    ∀ (O : Oracles) (st : RState), (∀ c ∈ config, CfgGood O c) → Link O w.fileConfig st.store →
      Block O st (writeFileConfig w config).2 (writeFileConfig w config).1.fileConfig := by
  obtain ⟨ha, hb, hkn1, hread1⟩ := walk_spec config hnd w.order w.fileConfig hw.order_nodup
    (fun k hk => (hw.order_iff k).1 hk) hw.keys_nodup
  unfold writeFileConfig
  generalize walk config w.order w.fileConfig = r1 at ha hb hkn1 hread1 ⊢
  obtain ⟨ord1, fc1, lines1⟩ := r1
  dsimp only at ha hb hkn1 hread1 ⊢
  have hget1 : ∀ k, fc1.get k = if k ∈ w.order then cfgGet config k else none := by
    intro k
    rw [ha]
    split
    · rfl
    · rename_i hk
      exact Option.not_isSome_iff_eq_none.1 (fun h => hk ((hw.order_iff k).2 h))
  have hw1 : WInv ⟨true, fc1, ord1⟩ := by
    refine ⟨hb ▸ hw.order_nodup.sublist List.filter_sublist, hkn1, fun k => ?_⟩
    rw [hb, List.mem_filter, hget1]
    by_cases hk : k ∈ w.order <;> simp [hk]
  -- the second length test only skips a pass that would do nothing
  have hr2 : (if (fc1.length != config.length) = true then newKeys config fc1 ord1 else (fc1, ord1, [])) =
      newKeys config fc1 ord1 := by
    split
    · rfl
    · rename_i hlen
      have hsub : fc1.keys ⊆ config.map Cfg.key := by
        intro k hk
        rw [FC.mem_keys_iff, hget1] at hk
        rw [← cfgGet_isSome_iff]
        split at hk
        · exact hk
        · cases hk
      have hlen' : fc1.length = config.length := by simpa using hlen
      have hcov := Shared.subset_of_nodup_length _ _ hkn1 hsub (by
        simp only [FC.keys, List.length_map]; omega)
      exact (newKeys_noop config fc1 ord1 fun c hc =>
        (FC.mem_keys_iff fc1 c.key).1 (hcov (List.mem_map.2 ⟨c, hc, rfl⟩))).symm
  rw [hr2]
  obtain ⟨ha2, hw2, hread2⟩ := newKeys_spec config ⟨true, fc1, ord1⟩ hw1
  refine ⟨fun k => ?_, hw2, fun O st hcfg hl => ?_⟩
  · rw [ha2, hget1]
    split
    · exact Option.or_self
    · rfl
  · have hpre : Block O st (if (!w.first) = true then [[]] else []) w.fileConfig := by
      split
      · exact block_blank O hl
      · exact block_nil O hl
    have h1 := block_append O hpre (hread1 O _ hcfg hpre.link)
    have h2 := block_append O h1 (hread2 O _ hcfg h1.link)
    exact block_append O h2 (block_blank O h2.link)

theorem noChange_spec (fc : FC) (config : List Cfg)
    (hnd : (config.map Cfg.key).Nodup) (h : needFileConfig fc config = false) :
    ∀ k, fc.get k = cfgGet config k := by
  unfold needFileConfig at h
  have hlen : fc.length = config.length := by
    by_cases hl : fc.length = config.length
    · exact hl
    · simp [hl] at h
  simp only [hlen, bne_self_eq_false, Bool.false_eq_true, ↓reduceIte, List.any_eq_false] at h
  have hent : ∀ c ∈ config, fc.get c.key = some (c.value, c.file) := by
    intro c hc
    have := h c hc
    unfold differs at this
    cases hg : fc.get c.key with
    | none => simp [hg] at this
    | some vf =>
      obtain ⟨v, f⟩ := vf
      simp only [hg, Bool.not_eq_true, Bool.or_eq_false_iff, Bool.not_eq_false', beq_iff_eq,
        bne_eq_false_iff_eq] at this
      rw [this.1, this.2]
  have hsub : config.map Cfg.key ⊆ fc.keys := by
    intro k hk
    obtain ⟨c, hc, hck⟩ := List.mem_map.1 hk
    rw [FC.mem_keys_iff, ← hck, hent c hc]; rfl
  have hcov := Shared.subset_of_nodup_length _ _ hnd hsub (by simp only [FC.keys, List.length_map]; omega)
  intro k
  rw [cfgGet_eq]
  cases hf : config.find? (fun c => c.key == k) with
  | some c =>
    have hck : c.key = k := by simpa using List.find?_some hf
    rw [← hck, hent c (List.mem_of_find?_eq_some hf)]; rfl
  | none =>
    refine Option.not_isSome_iff_eq_none.1 (fun hk => ?_)
    obtain ⟨c, hc, hck⟩ := List.mem_map.1 (hcov ((FC.mem_keys_iff fc k).2 hk))
    exact List.find?_eq_none.1 hf c hc (by simpa using hck)

theorem winv_first {w : WState} (h : WInv w) (b : Bool) : WInv { w with first := b } :=
  ⟨h.order_nodup, h.keys_nodup, h.order_iff⟩

theorem writeResult_state (P : WParams) (w : WState) (r : Res) (hw : WInv w)
    (hnd : (r.config.map Cfg.key).Nodup) :
    (∀ k, (writeResult P w r).1.fileConfig.get k = cfgGet r.config k) ∧ WInv (writeResult P w r).1 ∧
    ∃ blk, (writeResult P w r).2 = blk ++ [benchLine P r] ∧
      ∀ (O : Oracles) (st : RState), (∀ c ∈ r.config, CfgGood O c) → Link O w.fileConfig st.store →
        Block O st blk (writeResult P w r).1.fileConfig := by
  unfold writeResult
  cases hneed : needFileConfig w.fileConfig r.config
  · exact ⟨noChange_spec _ _ hnd hneed, winv_first hw false, [], rfl, fun O st _ hl => block_nil O hl⟩
  · obtain ⟨hfc, hw', hread⟩ := writeFileConfig_spec w r.config hw hnd
    exact ⟨hfc, winv_first hw' false, _, rfl, hread⟩

end C01
