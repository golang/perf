/-
C13: the specification-level permutation p-value `Spec.MathSpec.pPerm` is the two-sided value
`Spec.UExact.pTwoSided` of C11's specification (the two files define the same null distribution),
so its symmetry and invariance under reordering and strictly monotone maps are those proved
for C11 (C11Labelings); its range is `combine2_range` here.
-/
import Model.Spec.MathSpec
import Proofs.Lemmas.C11Labelings

namespace C13
open Spec.MathSpec

theorem rmin_eq_min (a b : Rat) : rmin a b = min a b := C11.ratMin_eq_min a b

theorem combine2_comm (a b : Rat) : combine2 a b = combine2 b a := by
  simp only [combine2, rmin_eq_min, min_comm a b]

theorem combine2_range (a b : Rat) (ha : 0 ≤ a) (hb : 0 ≤ b) : 0 ≤ combine2 a b ∧ combine2 a b ≤ 1 := by
  simp only [combine2, rmin_eq_min]
  exact ⟨le_min zero_le_one (mul_nonneg zero_le_two (le_min ha hb)), min_le_left _ _⟩

section
variable {α : Type}

def consL (a : α) (p : List α × List α) : List α × List α := (a :: p.1, p.2)
def consR (a : α) (p : List α × List α) : List α × List α := (p.1, a :: p.2)

theorem swap_consL (a : α) (p : List α × List α) : Prod.swap (consL a p) = consR a (Prod.swap p) := rfl
theorem swap_consR (a : α) (p : List α × List α) : Prod.swap (consR a p) = consL a (Prod.swap p) := rfl

theorem splits_eq (n : Nat) (l : List α) : splits n l = Spec.UExact.splits n l := by
  induction l generalizing n with
  | nil => cases n <;> rfl
  | cons a l ih =>
    cases n with
    | zero => rfl
    | succ n => rw [splits, Spec.UExact.splits, ih n, ih (n + 1)]

end

section
variable {α : Type} [LinearOrder α]

/-- the two specifications agree -/
theorem pPerm_eq (x1 x2 : List α) :
    pPerm x1 x2 = Spec.UExact.pTwoSided (Spec.UExact.nullDist x1 x2) (Spec.UExact.twoUPairs x1 x2) := by
  unfold pPerm tailLower tailUpper nullDist
  rw [splits_eq]
  rfl

theorem pPerm_swap (x1 x2 : List α) : pPerm x1 x2 = pPerm x2 x1 := by
  rw [pPerm_eq, pPerm_eq]
  exact (C11.pTwoSided_swap x1 x2).symm

theorem pPerm_perm {x1 y1 x2 y2 : List α} (h1 : x1.Perm y1) (h2 : x2.Perm y2) : pPerm x1 x2 = pPerm y1 y2 := by
  rw [pPerm_eq, pPerm_eq, Spec.UExact.nullDist, Spec.UExact.nullDist, h1.length_eq,
    C11.twoUPairs_perm_left h1, C11.twoUPairs_perm_right _ h2]
  exact C11.pTwoSided_nullDistOf_perm _ (h1.append h2) _

end

theorem pPerm_map {α β : Type} [LinearOrder α] [LinearOrder β] (f : α → β) (hf : StrictMono f) (x1 x2 : List α) :
    pPerm (x1.map f) (x2.map f) = pPerm x1 x2 := by
  rw [pPerm_eq, pPerm_eq, Spec.UExact.nullDist, Spec.UExact.nullDist, ← List.map_append, List.length_map,
    C11.nullDistOf_map_of_strictMonoOn f _ _ (fun _ _ _ _ => hf.lt_iff_lt.symm),
    C11.twoUPairs_map_eq f x1 x2 (fun a _ b _ =>
      C11.pairW_map_mono f a b hf.lt_iff_lt.symm hf.lt_iff_lt.symm)]

end C13
