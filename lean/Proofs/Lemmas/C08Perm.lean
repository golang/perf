/-
Helper lemmas for C08 `exclusion_order_independent`: the projection closures read the parser state
only through membership in `configKeys` and through the multiset of `fullnameKeys` (`EnvEq`,
`populateRow_congr`); what `Parse` does to the parser state, as a function of the expression alone, and
that permuting the `Parse` calls changes the final parser state only up to the order of `configKeys`
(a set) and `fullnameKeys` (a multiset).
-/
import Proofs.Lemmas.C08Make

namespace C08
open Proc.Sort Proc.Projection Proc.Extract

theorem fullNameExcluding_perm (ex ex' : List Bytes) (hp : ex.Perm ex') (name : Bytes) :
    fullNameExcluding ex name = fullNameExcluding ex' name := by
  unfold fullNameExcluding
  have h1 : ex.any (· == dotName) = ex'.any (· == dotName) := hp.any_eq
  have hsub : (ex.filter (·.head? == some Fmt.Name.slash)).Perm (ex'.filter (·.head? == some Fmt.Name.slash)) :=
    hp.filter _
  have hdel := hsub.map (· ++ [Fmt.Name.eqc])
  have h2 := hsub.any_eq (f := (· == gomaxprocsKey))
  have h3 := hdel.isEmpty_eq
  simp only [h1, h2, h3]
  split
  · rfl
  · unfold extractFullExcluded
    have h4 : ∀ g : Bytes → Bool,
        ((ex.filter (·.head? == some Fmt.Name.slash)).map (· ++ [Fmt.Name.eqc])).any g =
        ((ex'.filter (·.head? == some Fmt.Name.slash)).map (· ++ [Fmt.Name.eqc])).any g :=
      fun g => hdel.any_eq
    simp only [h4]

/-- Two parser states are indistinguishable for the closures. -/
def EnvEq (e e' : Env) : Prop :=
  (∀ k, e.configKeys.contains k = e'.configKeys.contains k) ∧ e.exclude.Perm e'.exclude

theorem configStep_congr (e e' : Env) (he : EnvEq e e') (pos : Nat) (o : Order) (p : Proj)
    (cfg : Bytes × Bytes × Bool) : configStep e pos o p cfg = configStep e' pos o p cfg := by
  unfold configStep
  rw [he.1 cfg.1]

theorem runPart_congr (e e' : Env) (he : EnvEq e e') (r : Res) (p : Proj) (part : Part) :
    runPart e r p part = runPart e' r p part := by
  cases part with
  | config pos o =>
    simp only [runPart]
    congr 1
    funext q c
    exact configStep_congr e e' he pos o q c
  | fullname idx => simp only [runPart, fullNameExcluding_perm _ _ he.2]
  | key k idx => rfl

theorem populateRow_congr (e e' : Env) (he : EnvEq e e') (p : Proj) (r : Res) :
    p.populateRow e r = p.populateRow e' r := by
  unfold Proj.populateRow
  have : runPart e r = runPart e' r := by
    funext q part
    exact runPart_congr e e' he r q part
  simp only [this]

/-- Whether `makeProjection` rejects a part (a function of the part alone). -/
def isErr (sp : Spec) : Bool :=
  sp.order == .fixed [] ||
  (sp.key == dotConfig && isFixed sp.order) ||
  (sp.key != dotConfig && sp.key != dotFullname && (sp.key == dotUnit || sp.key.isEmpty))

theorem isErr_eq (sp : Spec) : isErr sp = (partErr sp).isSome := by
  unfold isErr partErr bne
  cases h0 : (sp.order == .fixed [])
  case true => rfl
  cases h1 : (sp.key == dotConfig)
  case true => cases isFixed sp.order <;> simp
  cases h2 : (sp.key == dotFullname)
  case true => simp
  cases h3 : (sp.key == dotUnit)
  case true => simp
  cases sp.key.isEmpty <;> simp

theorem any_isErr_eq (specs : List Spec) : specs.any isErr = (specs.findSome? partErr).isSome := by
  induction specs with
  | nil => rfl
  | cons sp rest ih =>
    rw [List.any_cons, List.findSome?_cons, ih, isErr_eq]
    cases partErr sp <;> rfl

/-- The parts whose parser side effects SURVIVE a `Parse` call: all of them when the expression is
accepted, none when any part is rejected (the parser state is restored). -/
def effSpecs (specs : List Spec) : List Spec := if specs.any isErr then [] else specs

theorem effSpecs_noErr (specs : List Spec) (h : ∀ sp ∈ specs, partErr sp = none) : effSpecs specs = specs := by
  rw [effSpecs, any_isErr_eq, List.findSome?_eq_none_iff.mpr h]
  rfl

theorem parse_parser (pa : Parser) (specs : List Spec) :
    (pa.parse specs).1 = (effSpecs specs).foldl mpParser pa := by
  rw [parse_eq, effSpecs, any_isErr_eq]
  cases specs.findSome? partErr <;> rfl

theorem parse_rejected (pa : Parser) (specs : List Spec) (h : specs.any isErr = true) :
    (pa.parse specs).1 = pa ∧ ∃ e, (pa.parse specs).2 = .error e := by
  rw [any_isErr_eq] at h
  rw [parse_eq]
  cases he : specs.findSome? partErr with
  | none => rw [he] at h; cases h
  | some e => exact ⟨rfl, e, rfl⟩

theorem parse_proj (pa pb : Parser) (specs : List Spec) : (pa.parse specs).2 = (pb.parse specs).2 := by
  rw [parse_eq, parse_eq]
  cases specs.findSome? partErr <;> rfl

/-- One `Parse` / `ParseWithUnit` call of a parser. -/
def parseExpr (pa : Parser) (e : Bool × List Spec) : Parser × Except ParseErr Proj :=
  if e.1 then pa.parseWithUnit e.2 else pa.parse e.2

theorem parseWithUnit_eq (pa : Parser) (specs : List Spec) :
    pa.parseWithUnit specs =
      ((pa.parse specs).1,
       (pa.parse specs).2.map fun s => { (s.addRootField dotUnit .first).1 with unitIdx := some s.nFields }) := by
  unfold Parser.parseWithUnit
  cases pa.parse specs with
  | mk p r => cases r <;> rfl

theorem parseExpr_parser (pa : Parser) (e : Bool × List Spec) :
    (parseExpr pa e).1 = (effSpecs e.2).foldl mpParser pa := by
  unfold parseExpr
  cases e.1
  · exact parse_parser _ _
  · rw [if_pos rfl, parseWithUnit_eq]; exact parse_parser _ _

theorem parseExpr_proj (pa pb : Parser) (e : Bool × List Spec) :
    (parseExpr pa e).2 = (parseExpr pb e).2 := by
  unfold parseExpr
  cases e.1
  · exact parse_proj pa pb e.2
  · rw [if_pos rfl, if_pos rfl, parseWithUnit_eq, parseWithUnit_eq, parse_proj pa pb]

/-- The parser after a sequence of `Parse` / `ParseWithUnit` calls. -/
def parserAfter (pa : Parser) (es : List (Bool × List Spec)) : Parser :=
  es.foldl (fun pa e => (parseExpr pa e).1) pa

theorem parserAfter_eq (es : List (Bool × List Spec)) (pa : Parser) :
    parserAfter pa es = (es.flatMap fun e => effSpecs e.2).foldl mpParser pa := by
  unfold parserAfter
  induction es generalizing pa with
  | nil => rfl
  | cons e rest ih =>
    simp only [List.foldl_cons, List.flatMap_cons, List.foldl_append]
    rw [ih, parseExpr_parser]

/-- What parsing one accepted part `sp` adds to the parser state (`mpParser_obs`): `cfgKeyOf` the
individually projected config key, `nameKeyOf` the key to exclude from `.fullname`, `hcOf` / `hfOf`
whether `.config` / `.fullname` now counts as projected. -/
def cfgKeyOf (sp : Spec) : Option Bytes :=
  if sp.order == .fixed [] || sp.key == dotConfig || sp.key == dotFullname || sp.key == dotUnit ||
     sp.key == dotName || sp.key.head? == some Fmt.Name.slash then none else some sp.key

def nameKeyOf (sp : Spec) : List Bytes :=
  if sp.order == .fixed [] || sp.key == dotConfig || sp.key == dotFullname || sp.key == dotUnit then []
  else if sp.key == dotName || sp.key.head? == some Fmt.Name.slash then [sp.key] else []

def hcOf (sp : Spec) : Bool := !(sp.order == .fixed []) && sp.key == dotConfig && !isFixed sp.order

def hfOf (sp : Spec) : Bool :=
  !(sp.order == .fixed []) && !(sp.key == dotConfig) && sp.key == dotFullname

theorem mpParser_obs (pa : Parser) (sp : Spec) :
    (∀ k, k ∈ (mpParser pa sp).configKeys ↔ k ∈ pa.configKeys ∨ cfgKeyOf sp = some k) ∧
    (mpParser pa sp).fullnameKeys = pa.fullnameKeys ++ nameKeyOf sp ∧
    (mpParser pa sp).haveConfig = (pa.haveConfig || hcOf sp) ∧
    (mpParser pa sp).haveFullname = (pa.haveFullname || hfOf sp) ∧
    (mpParser pa sp).fullExt = pa.fullExt := by
  unfold mpParser cfgKeyOf nameKeyOf hcOf hfOf
  cases h0 : (sp.order == .fixed [])
  case true => simp
  cases h1 : (sp.key == dotConfig)
  case true => cases h2 : isFixed sp.order <;> simp
  cases h2 : (sp.key == dotFullname)
  case true => simp
  cases h3 : (sp.key == dotUnit)
  case true => simp
  cases h4 : (sp.key == dotName)
  case true => simp
  cases h5 : (sp.key.head? == some Fmt.Name.slash)
  case true => simp
  cases h6 : pa.configKeys.contains sp.key
  case true =>
    have hm : sp.key ∈ pa.configKeys := by simpa using h6
    refine ⟨fun k => ⟨Or.inl, fun h => h.elim id fun e => ?_⟩, by simp, by simp, by simp, rfl⟩
    simp only [Bool.false_eq_true, Bool.or_self, if_false, Option.some.injEq] at e
    exact e ▸ hm
  case false =>
    refine ⟨fun k => ?_, by simp, by simp, by simp, rfl⟩
    simp [eq_comm]

theorem foldl_mpParser_obs (l : List Spec) (pa : Parser) :
    (∀ k, k ∈ (l.foldl mpParser pa).configKeys ↔ k ∈ pa.configKeys ∨ ∃ sp ∈ l, cfgKeyOf sp = some k) ∧
    (l.foldl mpParser pa).fullnameKeys = pa.fullnameKeys ++ l.flatMap nameKeyOf ∧
    (l.foldl mpParser pa).haveConfig = (pa.haveConfig || l.any hcOf) ∧
    (l.foldl mpParser pa).haveFullname = (pa.haveFullname || l.any hfOf) ∧
    (l.foldl mpParser pa).fullExt = pa.fullExt := by
  induction l generalizing pa with
  | nil => simp
  | cons sp rest ih =>
    obtain ⟨a1, a2, a3, a4, a5⟩ := mpParser_obs pa sp
    obtain ⟨b1, b2, b3, b4, b5⟩ := ih (mpParser pa sp)
    simp only [List.foldl_cons]
    refine ⟨?_, ?_, ?_, ?_, ?_⟩
    · intro k
      rw [b1, a1]
      simp only [List.mem_cons, exists_eq_or_imp]
      exact or_assoc
    · rw [b2, a2]; simp
    · rw [b3, a3]; simp [Bool.or_assoc]
    · rw [b4, a4]; simp [Bool.or_assoc]
    · rw [b5, a5]

/-- What the closures of any projection of the parser read when a result is projected (all parsing
done; the full-name extractor is built from `fullnameKeys` on first use and kept). -/
def envOf (pa : Parser) : Env :=
  { configKeys := pa.configKeys, exclude := pa.fullExt.getD pa.fullnameKeys }

theorem parserAfter_obs (pa : Parser) (es : List (Bool × List Spec)) :
    (∀ k, k ∈ (parserAfter pa es).configKeys ↔
      k ∈ pa.configKeys ∨ ∃ sp ∈ es.flatMap (fun e => effSpecs e.2), cfgKeyOf sp = some k) ∧
    (parserAfter pa es).fullnameKeys = pa.fullnameKeys ++ (es.flatMap fun e => effSpecs e.2).flatMap nameKeyOf ∧
    (parserAfter pa es).haveConfig = (pa.haveConfig || (es.flatMap fun e => effSpecs e.2).any hcOf) ∧
    (parserAfter pa es).haveFullname = (pa.haveFullname || (es.flatMap fun e => effSpecs e.2).any hfOf) ∧
    (parserAfter pa es).fullExt = pa.fullExt := by
  rw [parserAfter_eq]
  exact foldl_mpParser_obs _ pa

theorem parserAfter_perm (pa : Parser) (hfresh : pa.fullExt = none) (es es' : List (Bool × List Spec))
    (hp : es.Perm es') :
    EnvEq (envOf (parserAfter pa es)) (envOf (parserAfter pa es')) ∧
    (parserAfter pa es).haveConfig = (parserAfter pa es').haveConfig ∧
    (parserAfter pa es).haveFullname = (parserAfter pa es').haveFullname := by
  obtain ⟨a1, a2, a3, a4, a5⟩ := parserAfter_obs pa es
  obtain ⟨b1, b2, b3, b4, b5⟩ := parserAfter_obs pa es'
  have hl := List.Perm.flatMap_right (fun e : Bool × List Spec => effSpecs e.2) hp
  refine ⟨⟨?_, ?_⟩, ?_, ?_⟩
  · intro k
    simp only [envOf]
    rw [Bool.eq_iff_iff, List.contains_iff_mem, List.contains_iff_mem, a1, b1]
    simp only [hl.mem_iff]
  · simp only [envOf, a5, b5, hfresh, Option.getD_none, a2, b2]
    exact List.Perm.append_left _ (List.Perm.flatMap_right nameKeyOf hl)
  · rw [a3, b3, hl.any_eq]
  · rw [a4, b4, hl.any_eq]

/-- Operations on one projection after all parsing. -/
inductive POp
  | project (r : Res)
  | projectValues (r : Res)

/-- Run a stream of operations under a fixed parser state; returns the final projection state and
the keys returned by every operation. -/
def runOps (h : List Bytes → UInt64) (env : Env) : Proj → List POp → Proj × List (List Nat)
  | p, [] => (p, [])
  | p, .project r :: rest =>
    let (p1, k) := p.project h env r
    let (p2, ks) := runOps h env p1 rest
    (p2, [k] :: ks)
  | p, .projectValues r :: rest =>
    let (p1, k) := p.projectValues h env r
    let (p2, ks) := runOps h env p1 rest
    (p2, k :: ks)

theorem runOps_congr (h : List Bytes → UInt64) (e e' : Env) (he : EnvEq e e') (ops : List POp) (p : Proj) :
    runOps h e p ops = runOps h e' p ops := by
  induction ops generalizing p with
  | nil => rfl
  | cons op rest ih =>
    cases op with
    | project r =>
      simp only [runOps]
      have : p.project h e r = p.project h e' r := by
        unfold Proj.project; rw [populateRow_congr e e' he p r]
      rw [this, ih]
    | projectValues r =>
      simp only [runOps]
      have : p.projectValues h e r = p.projectValues h e' r := by
        unfold Proj.projectValues; rw [populateRow_congr e e' he p r]
      rw [this, ih]

/-- `World.env w i` (what projection `i`'s closures see) carries the parser's config keys and, as
exclusion list, either `envOf`'s or — only if the projection has no `.fullname` part — the empty
one; taking it changes nothing in the world that `envOf` or the projections can see. -/
theorem world_env_spec (w : World) (i : Nat) :
    (w.env i).2.configKeys = w.parser.configKeys ∧
    ((w.env i).2.exclude = (envOf w.parser).exclude ∨ (w.env i).2.exclude = []) ∧
    ((∃ p, w.projs[i]? = some p ∧ hasFullname p = true) → (w.env i).2.exclude = (envOf w.parser).exclude) ∧
    envOf (w.env i).1.parser = envOf w.parser ∧ (w.env i).1.projs = w.projs := by
  unfold World.env envOf
  cases hp : w.projs[i]? with
  | none => simp
  | some p =>
    cases hu : hasFullname p <;> simp [hu]

end C08
