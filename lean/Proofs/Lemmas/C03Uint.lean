/-
C03 helper lemmas: the digit loop of bytesconv.ParseUint (base 10, 64 bit) against the
specification (`parseUintLoop_spec`), and `ParseUint` on digit strings and on everything else.
-/
import Proofs.Lemmas.C03Atoi

namespace C03
open Num Spec.NumText

theorem maxU : maxUint64 = 18446744073709551615 := by decide +kernel
theorem cutU : uintCutoff = 1844674407370955162 := by decide +kernel
theorem pow64 : (2 : Nat) ^ 64 = 18446744073709551616 := by decide +kernel

theorem parseUintLoop_spec (s : Bytes) : ∀ n, n ≤ maxUint64 →
    parseUintLoop s n =
      if maxUint64 < valFrom n (s.takeWhile isDec) then ⟨maxUint64, some .range⟩
      else if s.all isDec then ⟨valFrom n s, none⟩ else ⟨0, some .syntax⟩ := by
  induction s with
  | nil => intro n hn; simp [parseUintLoop, valFrom]; omega
  | cons c s ih =>
    intro n hn
    unfold parseUintLoop
    by_cases hd : isDec c = true
    · have h1 : (48 ≤ c && c ≤ 57) = true := hd
      have h2 := sub48_lt hd
      have hv := sub48 hd
      have h9 := digVal_le9 hd
      have hge := valFrom_ge (s.takeWhile isDec) (n * 10 + digVal c)
      simp only [h1, if_true, h2, if_false]
      rw [List.takeWhile_cons, if_pos hd, List.all_cons, hd, Bool.true_and, valFrom_cons, valFrom_cons, pow64, hv]
      simp only [uintMaxVal, maxU] at hn ⊢
      by_cases hc : n ≥ uintCutoff
      · rw [if_pos hc]
        rw [cutU] at hc
        rw [if_pos (by omega)]
      · rw [if_neg hc]
        rw [cutU] at hc
        rw [Nat.mod_eq_of_lt (show n * 10 < 18446744073709551616 by omega)]
        by_cases hov : n * 10 + digVal c < 18446744073709551616
        · rw [Nat.mod_eq_of_lt hov]
          have h3 : ¬ (n * 10 + digVal c < n * 10) := by omega
          have h4 : ¬ (n * 10 + digVal c > 18446744073709551615) := by omega
          simp only [h3, h4, decide_false, Bool.or_self, Bool.false_eq_true, if_false]
          have := ih (n * 10 + digVal c) (by rw [maxU]; omega)
          rw [maxU] at this; exact this
        · have : (n * 10 + digVal c) % 18446744073709551616 < n * 10 := by omega
          simp only [this, decide_true, Bool.true_or, if_true]
          rw [if_pos (by omega)]
    · simp only [Bool.not_eq_true] at hd
      have h1 : (48 ≤ c && c ≤ 57) = false := hd
      rw [List.takeWhile_cons, List.all_cons, hd]
      simp only [h1, Bool.false_eq_true, if_false, Bool.false_and]
      rw [if_neg (show ¬ maxUint64 < valFrom n [] from Nat.not_lt.mpr hn)]
      by_cases hl : (97 ≤ lower c && lower c ≤ 122) = true
      · simp [hl, letter_val_ge c hl]
      · simp [hl]

theorem parseUint_digits (s : Bytes) (hne : s ≠ []) (hs : s.all isDec = true) :
    parseUint s = if valOf 10 s ≤ maxUint64 then ⟨valOf 10 s, none⟩ else ⟨maxUint64, some .range⟩ := by
  unfold parseUint
  have hl : (s.length == 0) = false := by
    cases s with
    | nil => exact absurd rfl hne
    | cons _ _ => simp
  simp only [hl, underscoreOK_digits s hs, Bool.not_true, Bool.or_self, Bool.false_eq_true, if_false]
  rw [parseUintLoop_spec s 0 (Nat.zero_le _), Shared.takeWhile_of_all s hs, hs, valOf_eq]
  by_cases h : valFrom 0 s ≤ maxUint64
  · rw [if_pos h, if_neg (Nat.not_lt.mpr h)]; rfl
  · rw [if_neg h, if_pos (Nat.lt_of_not_le h)]

theorem parseUint_reject (s : Bytes) (h : s = [] ∨ s.all isDec = false) : (parseUint s).err ≠ none := by
  unfold parseUint
  split
  · simp
  · rcases h with h | h
    · subst h; rename_i hc; simp at hc
    · rw [parseUintLoop_spec s 0 (Nat.zero_le _), h]; split <;> simp

theorem parseUint_range_val (s : Bytes) (h : (parseUint s).err = some .range) : (parseUint s).val = maxUint64 := by
  unfold parseUint at h ⊢
  split
  · rename_i hc; simp [hc] at h
  · rename_i hc
    simp only [hc] at h
    rw [parseUintLoop_spec s 0 (Nat.zero_le _)] at h ⊢
    split
    · rfl
    · rename_i hr; rw [if_neg hr] at h; cases hall : s.all isDec <;> rw [hall] at h <;> cases h

end C03
