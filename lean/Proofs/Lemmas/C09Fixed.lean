/-
Helper lemmas for C09: the Go-map model `RankMap` and the fixed-order map (`fixedMap`).
-/
import Model.Proc.Sort

namespace C09
open Proc.Sort

theorem get?_cons (e : Bytes × Nat) (m : RankMap) (v : Bytes) :
    RankMap.get? (e :: m) v = if e.1 = v then some e.2 else RankMap.get? m v := by
  unfold RankMap.get?
  rw [List.find?_cons]
  by_cases h : e.1 = v
  · rw [if_pos h, beq_iff_eq.2 h]; rfl
  · rw [if_neg h, beq_eq_false_iff_ne.2 h]

theorem get?_set (m : RankMap) (k v : Bytes) (n : Nat) :
    RankMap.get? (RankMap.set m k n) v = if k = v then some n else RankMap.get? m v := by
  induction m with
  | nil => rw [RankMap.set, get?_cons]
  | cons e rest ih =>
    rw [RankMap.set]
    by_cases h : e.1 = k
    · rw [if_pos (by simpa using h), get?_cons, get?_cons, h]
      split <;> rfl
    · rw [if_neg (by simpa using h), get?_cons, get?_cons, ih]
      by_cases hv : k = v
      · rw [if_pos hv, if_pos hv, if_neg (hv ▸ h)]
      · rw [if_neg hv, if_neg hv]

/-- Index of the LAST occurrence of `v` in `l`. -/
def lastIdx? : List Bytes → Bytes → Option Nat
  | [], _ => none
  | s :: rest, v =>
    match lastIdx? rest v with
    | some j => some (j + 1)
    | none => if s = v then some 0 else none

theorem get?_fixedMapAux (l : List Bytes) (i : Nat) (m : RankMap) (v : Bytes) :
    RankMap.get? (fixedMapAux l i m) v =
      match lastIdx? l v with
      | some j => some (i + j)
      | none => RankMap.get? m v := by
  induction l generalizing i m with
  | nil => simp [fixedMapAux, lastIdx?]
  | cons s rest ih =>
    unfold fixedMapAux lastIdx?
    rw [ih]
    cases h : lastIdx? rest v with
    | some j => simp; omega
    | none =>
      simp only [get?_set]
      by_cases hs : s = v <;> simp [hs]

theorem get?_fixedMap (l : List Bytes) (v : Bytes) :
    RankMap.get? (fixedMap l) v = lastIdx? l v := by
  unfold fixedMap
  rw [get?_fixedMapAux]
  cases lastIdx? l v <;> simp [RankMap.get?]

theorem lastIdx?_not_mem (l : List Bytes) (v : Bytes) (hv : v ∉ l) : lastIdx? l v = none := by
  induction l with
  | nil => rfl
  | cons s rest ih =>
    simp only [List.mem_cons, not_or] at hv
    unfold lastIdx?
    rw [ih hv.2]
    have : ¬ s = v := fun e => hv.1 e.symm
    simp [this]

theorem lastIdx?_nodup (l : List Bytes) (hn : l.Nodup) (v : Bytes) (hv : v ∈ l) :
    lastIdx? l v = some (l.idxOf v) := by
  induction l with
  | nil => simp at hv
  | cons s rest ih =>
    rw [List.nodup_cons] at hn
    unfold lastIdx?
    by_cases hs : s = v
    · subst hs
      rw [lastIdx?_not_mem rest s hn.1]
      simp [List.idxOf_cons_self]
    · have hv' : v ∈ rest := by
        simp only [List.mem_cons] at hv
        rcases hv with e | e
        · exact absurd e.symm hs
        · exact e
      rw [ih hn.2 hv']
      have hb : (s == v) = false := by simpa using hs
      simp [List.idxOf_cons, hb]

end C09
