/-
C02 helper lemmas: the specification's configuration map against the slot store.
-/
import Model.Spec.Format
import Proofs.Lemmas.C02Store

namespace Spec.Format
open Fmt

theorem CMap.get_del (m : CMap) (k k' : Bytes) :
    (CMap.del m k).get k' = if k' = k then none else m.get k' :=
  lookup_filter_ne m k k'

theorem CMap.get_put (m : CMap) (k v : Bytes) (f : Bool) (k' : Bytes) :
    (CMap.put m k v f).get k' = if k' = k then some (v, f) else m.get k' :=
  lookup_cons_filter_ne m k k' (v, f)

theorem CMap.get_assign (m : CMap) (k v : Bytes) (f : Bool) (k' : Bytes) :
    (CMap.assign m k v f).get k' =
      if k' = k then (if v = [] then none else some (v, f)) else m.get k' := by
  unfold CMap.assign
  cases v with
  | nil => simp [CMap.get_del]
  | cons c cs => simp [CMap.get_put]

/-- The spec-level meaning of a store operation. -/
def CMap.applyOp (m : CMap) : StoreOp → CMap
  | .setFile k v => m.assign k v true
  | .setInternal k v => m.assign k v false
  | .delete k => m.del k

/-- The store denotes the map `m` (through its index, as `GetConfig` reads it). -/
structure _root_.Fmt.Store.Refines (s : Store) (m : CMap) : Prop where
  inv : s.Inv
  map : ∀ k, s.toMap k = m.get k

theorem _root_.Fmt.Store.Refines.set {s : Store} {m : CMap} (h : s.Refines m) (k v : Bytes) (f : Bool) :
    (s.set k v f).Refines (m.assign k v f) :=
  ⟨Store.inv_set h.inv k v f, fun k' => by
    rw [Store.toMap_set h.inv, CMap.get_assign, h.map k']⟩

theorem _root_.Fmt.Store.Refines.delete {s : Store} {m : CMap} (h : s.Refines m) (k : Bytes) :
    (s.deleteConfig k).Refines (m.del k) :=
  ⟨Store.inv_delete h.inv k, fun k' => by
    rw [Store.toMap_delete h.inv, CMap.get_del, h.map k']⟩

theorem _root_.Fmt.Store.Refines.apply {s : Store} {m : CMap} (h : s.Refines m) (op : StoreOp) :
    (s.apply op).Refines (m.applyOp op) := by
  cases op with
  | setFile k v => exact h.set k v true
  | setInternal k v => exact h.set k v false
  | delete k => exact h.delete k

theorem _root_.Fmt.Store.Refines.foldl {s : Store} {m : CMap} (h : s.Refines m) (ops : List StoreOp) :
    (ops.foldl Store.apply s).Refines (ops.foldl CMap.applyOp m) := by
  induction ops generalizing s m with
  | nil => exact h
  | cons op ops ih => exact ih (h.apply op)

theorem _root_.Fmt.Store.Inv.refines_live {s : Store} (h : s.Inv) :
    s.Refines (s.live.map fun c => (c.key, c.value, c.file)) := by
  refine ⟨h, fun k => ?_⟩
  rw [← Store.cfgGet_live h]
  simp only [CMap.get, cfgGet]
  induction s.live with
  | nil => rfl
  | cons c cs ih =>
    simp only [List.map_cons, List.lookup_cons, List.find?_cons]
    by_cases hk : c.key = k
    · simp [hk]
    · have h1 : (c.key == k) = false := by simpa using hk
      have h2 : (k == c.key) = false := by simpa using fun e => hk e.symm
      simp only [h1, h2]
      exact ih

theorem _root_.Fmt.Store.refines_reset (s : Store) : s.reset.Refines [] :=
  ⟨Store.inv_reset s, Store.toMap_reset s⟩

end Spec.Format
