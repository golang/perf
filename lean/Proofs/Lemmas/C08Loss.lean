/-
Helper lemmas for C08 `lossless`: when do two results get the same key from one projection?
-/
import Proofs.Lemmas.C08Own
import Proofs.Lemmas.C08Perm

namespace C08
open Proc.Sort Proc.Projection Proc.Extract

/-- Two results agree on a projection: projecting one and then the other gives the same key. -/
def agree (h : List Bytes → UInt64) (env : Env) (p : Proj) (r r' : Res) : Prop :=
  (p.project h env r).2 = ((p.project h env r).1.project h env r').2

theorem agree_iff_fields (h : List Bytes → UInt64) (env : Env) (p : Proj) (r r' : Res) (hi : Inv h p) :
    agree h env p r r' ↔
      ∀ f ∈ ((p.project h env r).1.populateRow env r').flat,
        getVal (p.populateRow env r).row f.idx =
          getVal ((p.project h env r).1.populateRow env r').row f.idx := by
  have hi1 := project_inv h env p r hi
  obtain ⟨hk1, hv1⟩ := project_key h env p r
  obtain ⟨hk2, hv2⟩ := project_key h env (p.project h env r).1 r'
  obtain ⟨hk1', hstable⟩ := vals_of_prefix (project_nodes h env _ r' hi1) hk1
  obtain ⟨g, hg, _, _, _, _, hflat⟩ := project_shape h env _ r' hi1
  unfold agree
  rw [(project_inv h env _ r' hi1).key_eq_iff hk1' hk2, hflat, List.forall_mem_map]
  refine forall₂_congr fun f _ => ?_
  unfold Proj.get
  rw [hstable, hv1, hv2, hg.idx, getVal_trim, getVal_trim]

theorem fileValOf_none (k : Bytes) (cfgs : List (Bytes × Bytes × Bool)) (d : Bytes)
    (hn : ∀ c ∈ cfgs, ¬ (c.2.2 = true ∧ c.1 = k)) : fileValOf k cfgs d = d := by
  unfold fileValOf
  have : cfgs.reverse.find? (fun c => c.2.2 && c.1 == k) = none := by
    apply List.find?_eq_none.mpr
    intro c hc
    have := hn c (List.mem_reverse.mp hc)
    simpa using this
  rw [this]

/-- No sub-field of a `.config` group is a specific (excluded) key of the parser state `env`. -/
def NoExcl (env : Env) (p : Proj) : Prop :=
  ∀ pos o, Part.config pos o ∈ p.parts → ∀ f ∈ groupSubs p.top pos, env.configKeys.contains f.name = false

theorem NoExcl_populate (h : List Bytes → UInt64) (env : Env) (p : Proj) (r : Res) (hi : Inv h p)
    (hn : NoExcl env p) : NoExcl env (p.populateRow env r) := by
  intro pos o hk f hf
  have s := hi.spec env r
  rw [s.ext.parts] at hk
  have hg := hi.f.groups pos o hk
  rw [← flatAt_group (s.f.groups pos o (by rw [s.ext.parts]; exact hk))] at hf
  rcases s.origin pos f hf with a | a
  · exact hn pos o hk f (flatAt_group hg ▸ a)
  · exact a.2.2.1

theorem NoExcl_internRow (h : List Bytes → UInt64) (env : Env) (p : Proj) (hn : NoExcl env p) :
    NoExcl env (p.internRow h).1 := by
  intro pos o hk f hf
  obtain ⟨g, hg, e⟩ := internRow_shape h p
  rw [e] at hk hf
  rw [groupSubs_mapFields] at hf
  obtain ⟨f0, hf0, rfl⟩ := List.mem_map.mp hf
  rw [hg.name f0]
  exact hn pos o hk f0 hf0

theorem slotVal_congr (env : Env) (r : Res) (x : Option Part) {f f' : Field} (h : f'.name = f.name) :
    slotVal env r x f' = slotVal env r x f := by
  cases x with
  | none => rfl
  | some x => cases x <;> simp [slotVal, h]

/-- Agreement on one projection none of whose `.config` sub-fields is an excluded key (`NoExcl`: true when
every projection of results happened after all parsing). -/
theorem agree_iff (h : List Bytes → UInt64) (env : Env) (p : Proj) (r r' : Res) (hi : Inv h p)
    (hn : NoExcl env p) :
    agree h env p r r' ↔
      (∀ k i, Part.key k i ∈ p.parts → extractD k r = extractD k r') ∧
      (∀ i, Part.fullname i ∈ p.parts →
        fullNameExcluding env.exclude r.name = fullNameExcluding env.exclude r'.name) ∧
      (∀ pos o, Part.config pos o ∈ p.parts → ∀ c, env.configKeys.contains c = false →
        fileValOf c r.config [] = fileValOf c r'.config []) := by
  rw [agree_iff_fields h env p r r' hi]
  have s := hi.spec env r
  obtain ⟨g, hg, hparts1, hu1, hnf1, htop1, _⟩ := project_shape h env p r hi
  have hi1 := project_inv h env p r hi
  have s' := hi1.spec env r'
  have hin1 : ∀ j f, f ∈ flatAt (p.populateRow env r).top j → g f ∈ flatAt (p.project h env r).1.top j :=
    fun j f hf => by rw [htop1, flatAt_mapFields]; exact List.mem_map_of_mem hf
  have hin : ∀ j f, f ∈ flatAt (p.populateRow env r).top j →
      g f ∈ flatAt ((p.project h env r).1.populateRow env r').top j := fun j f hf => s'.ext.mono j _ (hin1 j f hf)
  have hpq : ((p.project h env r).1.populateRow env r').parts = p.parts := s'.ext.parts.trans hparts1
  -- the row of `r` read at a field of the later state is the value of `r` there
  have A : ∀ j f', f' ∈ flatAt ((p.project h env r).1.populateRow env r').top j →
      getVal (p.populateRow env r).row f'.idx = slotVal env r p.parts[j]? f' := by
    intro j f' hf'
    rcases s'.origin j f' hf' with a | ⟨a, ⟨o, hc⟩, hex, _⟩
    · rw [htop1, flatAt_mapFields] at a
      obtain ⟨f, hf, rfl⟩ := List.mem_map.mp a
      rw [hg.idx f, s.val hf, s.ext.parts]
      exact (slotVal_congr env r _ (hg.name f)).symm
    · have hc0 : p.parts[j]? = some (.config j o) := hparts1 ▸ hc
      rw [getVal_of_le _ _ (by rw [s.f.rowLen, ← hnf1]; exact a), hc0]
      symm
      apply fileValOf_none
      rintro c hc' ⟨hfile, hkey⟩
      obtain ⟨f, hf, hname⟩ := s.covered hc0 hc' hfile (hkey ▸ hex)
      have e := s'.lay.names j (g f) f' (hin j f hf) hf' (by rw [hg.name f, hname, hkey])
      have b := flatAt_bound hi1.f (hin1 j f hf)
      rw [e] at b
      omega
  have B : (∀ f' ∈ ((p.project h env r).1.populateRow env r').flat,
      getVal (p.populateRow env r).row f'.idx = getVal ((p.project h env r).1.populateRow env r').row f'.idx) ↔
      ∀ j f', f' ∈ flatAt ((p.project h env r).1.populateRow env r').top j →
        slotVal env r p.parts[j]? f' = slotVal env r' p.parts[j]? f' := by
    constructor
    · intro hall j f' hf'
      rw [← A j f' hf', hall f' ((mem_flat_iff _ _).mpr ⟨j, hf'⟩), s'.val hf', hpq]
    · intro hall f' hf'
      obtain ⟨j, hj⟩ := (mem_flat_iff _ _).mp hf'
      rw [A j f' hj, hall j f' hj, s'.val hj, hpq]
  rw [B]
  constructor
  · intro hall
    refine ⟨fun k i hk => ?_, fun i hk => ?_, fun pos o hk c hex => ?_⟩
    · obtain ⟨j, f, hj, hfj, _⟩ := hi.l.leaf_pos hk (Or.inl ⟨k, rfl⟩)
      have := hall j _ (hin j f (s.ext.mono j f hfj))
      rwa [hj] at this
    · obtain ⟨j, f, hj, hfj, _⟩ := hi.l.leaf_pos hk (Or.inr rfl)
      have := hall j _ (hin j f (s.ext.mono j f hfj))
      rwa [hj] at this
    · have hj := (hi.l.config_pos hk).1
      by_cases hsub : ∃ f' ∈ flatAt ((p.project h env r).1.populateRow env r').top pos, f'.name = c
      · obtain ⟨f', hf', rfl⟩ := hsub
        have := hall pos f' hf'
        rwa [hj] at this
      · have n1 : ∀ d ∈ r.config, ¬ (d.2.2 = true ∧ d.1 = c) := fun d hd ⟨hfile, hkey⟩ => by
          obtain ⟨f, hf, hname⟩ := s.covered hj hd hfile (hkey ▸ hex)
          exact hsub ⟨g f, hin pos f hf, by rw [hg.name f, hname, hkey]⟩
        have n2 : ∀ d ∈ r'.config, ¬ (d.2.2 = true ∧ d.1 = c) := fun d hd ⟨hfile, hkey⟩ => by
          obtain ⟨f, hf, hname⟩ := s'.covered (hparts1 ▸ hj) hd hfile (hkey ▸ hex)
          exact hsub ⟨f, hf, by rw [hname, hkey]⟩
        rw [fileValOf_none c _ _ n1, fileValOf_none c _ _ n2]
  · rintro ⟨hkey, hfull, hcfg⟩ j f' hf'
    have hn' := NoExcl_populate h env _ r' hi1 (NoExcl_internRow h env _ (NoExcl_populate h env p r hi hn))
    rcases s'.lay.cases hf' with a | ⟨a, _⟩ | ⟨o, a, b⟩ | ⟨a, _⟩ <;> rw [hpq] at a <;> rw [a]
    · exact hkey _ _ (List.mem_of_getElem? a)
    · exact hfull _ (List.mem_of_getElem? a)
    · exact hcfg j o (List.mem_of_getElem? a) _ (hn' j o (hpq ▸ List.mem_of_getElem? a) f' b)
    · rfl

theorem partProj_subs (s : Proj) (sp : Spec) (pos : Nat) :
    groupSubs (partProj s sp).top pos = groupSubs s.top pos := by
  unfold partProj
  split <;> exact groupSubs_append _ _ _ rfl

theorem built_subs {s : Proj} (hb : Built s) (pos : Nat) : groupSubs s.top pos = [] := by
  induction hb with
  | new => simp [newProjection, groupSubs]
  | part s sp _ _ ih => rw [partProj_subs, ih]

theorem NoExcl_of_empty (env : Env) (p : Proj) (h : ∀ pos, groupSubs p.top pos = []) : NoExcl env p := by
  intro pos o _ f hf; rw [h pos] at hf; simp at hf

/-- The states of a projection that is only used under ONE parser state `env` — i.e. every
projection of results happens after all parsing. -/
inductive ReachableE (h : List Bytes → UInt64) (env : Env) : Proj → Prop
  | parsed (pa : Parser) (specs : List Spec) (pa' : Parser) (s : Proj) :
      pa.parse specs = (pa', .ok s) → ReachableE h env s
  | parsedWithUnit (pa : Parser) (specs : List Spec) (pa' : Parser) (s : Proj) :
      pa.parseWithUnit specs = (pa', .ok s) → ReachableE h env s
  | residue (pa : Parser) : ReachableE h env (pa.residue).2
  | project (p : Proj) (r : Res) : ReachableE h env p → ReachableE h env (p.project h env r).1
  | projectValues (p : Proj) (r : Res) : ReachableE h env p → ReachableE h env (p.projectValues h env r).1

theorem reachableE_reachable (h : List Bytes → UInt64) (env : Env) (p : Proj) (hr : ReachableE h env p) :
    Reachable h p := by
  induction hr with
  | parsed pa specs pa' s hm => exact Reachable.parsed pa specs pa' s hm
  | parsedWithUnit pa specs pa' s hm => exact Reachable.parsedWithUnit pa specs pa' s hm
  | residue pa => exact Reachable.residue pa
  | project p r _ ih => exact Reachable.project p env r ih
  | projectValues p r _ ih => exact Reachable.projectValues p env r ih

theorem reachableE_noExcl (h : List Bytes → UInt64) (env : Env) (p : Proj) (hr : ReachableE h env p) :
    NoExcl env p := by
  induction hr with
  | parsed pa specs pa' s hm => exact NoExcl_of_empty env s (built_subs (parse_built pa specs pa' s hm))
  | parsedWithUnit pa specs pa' s hm =>
    obtain ⟨s1, hp, rfl⟩ := parseWithUnit_ok pa specs pa' s hm
    apply NoExcl_of_empty
    intro pos
    rw [← built_subs (parse_built pa specs pa' s1 hp) pos]
    exact groupSubs_append _ _ _ rfl
  | residue pa => exact NoExcl_of_empty env _ (built_subs (residue_built pa))
  | project p r hr ih =>
    have hrr := reachableE_reachable h env p hr
    exact NoExcl_internRow h env _ (NoExcl_populate h env p r (reachable_inv h p hrr) ih)
  | projectValues p r hr ih =>
    have hrr := reachableE_reachable h env p hr
    exact projectValues_induct h env p r (fun _ _ _ hq => hq) (NoExcl_internRow h env)
      (NoExcl_populate h env p r (reachable_inv h p hrr) ih)

/-- A part names a specific key (and is accepted). -/
def isSpecific (sp : Spec) : Bool :=
  !isErr sp && sp.key != dotConfig && sp.key != dotFullname

/-- a closure without its row index or group position -/
def partKind : Part → Part
  | .config _ o => .config 0 o
  | .fullname _ => .fullname 0
  | .key k _ => .key k 0

/-- the closure of an accepted part, up to indices -/
def specKind (sp : Spec) : Part := partOf newProjection sp

theorem partOf_kind (s : Proj) (sp : Spec) : partKind (partOf s sp) = specKind sp := by
  unfold specKind partOf
  by_cases h1 : sp.key == dotConfig
  · simp only [h1, if_true]; rfl
  · by_cases h2 : sp.key == dotFullname <;> simp only [h1, h2, if_true] <;> rfl

theorem foldl_partProj_kinds (specs : List Spec) (s : Proj) :
    (specs.foldl partProj s).parts.map partKind = s.parts.map partKind ++ specs.map specKind := by
  induction specs generalizing s with
  | nil => simp
  | cons sp rest ih => rw [List.foldl_cons, ih, partProj_parts]; simp [partOf_kind]

theorem specKind_of_hcOf {sp : Spec} (h : hcOf sp = true) : specKind sp = .config 0 sp.order := by
  have : (sp.key == dotConfig) = true := by unfold hcOf at h; simp at h; simp [h.1.2]
  simp [specKind, partOf, this, newProjection]

theorem specKind_of_hfOf {sp : Spec} (h : hfOf sp = true) : specKind sp = .fullname 0 := by
  unfold hfOf at h
  simp only [Bool.and_eq_true, Bool.not_eq_true'] at h
  simp [specKind, partOf, h.1.2, h.2, newProjection]

theorem specKind_eq_key {sp : Spec} (he : partErr sp = none) (k : Bytes) :
    specKind sp = .key k 0 ↔ isSpecific sp = true ∧ sp.key = k := by
  unfold isSpecific specKind partOf
  rw [isErr_eq, he]
  by_cases h1 : sp.key = dotConfig
  · simp [h1]
  · have hd : dotFullname ≠ dotConfig := by decide
    by_cases h2 : sp.key = dotFullname <;> simp [h1, h2, hd, newProjection]

theorem parseExpr_kinds (pa pa' : Parser) (e : Bool × List Spec) (s : Proj) (hm : parseExpr pa e = (pa', .ok s)) :
    s.parts.map partKind = e.2.map specKind ∧ (∀ sp ∈ e.2, partErr sp = none) ∧ effSpecs e.2 = e.2 := by
  -- with or without the `.unit` field, the closures are those of `Parse`
  have hparse : ∃ s1, pa.parse e.2 = (pa', .ok s1) ∧ s.parts = s1.parts := by
    unfold parseExpr at hm
    cases hb : e.1 with
    | false => rw [hb] at hm; exact ⟨s, hm, rfl⟩
    | true =>
      rw [hb, if_pos rfl] at hm
      obtain ⟨s1, hp, rfl⟩ := parseWithUnit_ok pa e.2 pa' s hm
      exact ⟨s1, hp, rfl⟩
  obtain ⟨s1, hp, hparts⟩ := hparse
  obtain ⟨hok, _, rfl⟩ := (parse_ok_iff pa e.2 pa' s1).mp hp
  rw [hparts, foldl_partProj_kinds]
  exact ⟨rfl, hok, effSpecs_noErr _ hok⟩

theorem residue_parts (pa : Parser) :
    (pa.haveConfig = false → ∃ pos o, Part.config pos o ∈ (pa.residue).2.parts) ∧
    (pa.haveFullname = false → ∃ i, Part.fullname i ∈ (pa.residue).2.parts) ∧
    (∀ k i, Part.key k i ∉ (pa.residue).2.parts) := by
  have hparts : (pa.residue).2.parts =
      (if pa.haveConfig then [] else [Part.config 0 .first]) ++
        (if pa.haveFullname then [] else [Part.fullname 0]) := by
    rw [residue_proj]
    cases pa.haveConfig <;> cases pa.haveFullname <;> rfl
  rw [hparts]
  refine ⟨fun hc => ⟨0, .first, by simp [hc]⟩, fun hf => ⟨0, by simp [hf]⟩, fun k i hk => ?_⟩
  cases pa.haveConfig <;> cases pa.haveFullname <;> simp at hk

theorem parser_closures (es : List (Bool × List Spec))
    (hok : ∀ e ∈ es, ∃ pa' s, parseExpr Parser.new e = (pa', .ok s)) (ps : List Proj)
    (hps : ∀ o, o ∈ ps ↔
      (∃ e ∈ es, ∃ pa', parseExpr Parser.new e = (pa', .ok o)) ∨ o = ((parserAfter Parser.new es).residue).2) :
    (∃ o ∈ ps, ∃ pos ord, Part.config pos ord ∈ o.parts) ∧
    (∃ o ∈ ps, ∃ i, Part.fullname i ∈ o.parts) ∧
    ∀ k, (∃ o ∈ ps, ∃ i, Part.key k i ∈ o.parts) ↔
      ∃ e ∈ es, ∃ sp ∈ e.2, isSpecific sp = true ∧ sp.key = k := by
  obtain ⟨_, _, o3, o4, _⟩ := parserAfter_obs Parser.new es
  -- every part of an expression has its closure in the projection parsed from the expression
  have hsp : ∀ e ∈ es, ∀ sp ∈ e.2,
      partErr sp = none ∧ ∃ o ∈ ps, ∃ x ∈ o.parts, partKind x = specKind sp := by
    intro e he sp hsp
    obtain ⟨pa', s, hs⟩ := hok e he
    obtain ⟨hk, hacc, _⟩ := parseExpr_kinds _ _ e s hs
    exact ⟨hacc sp hsp, s, (hps _).mpr (Or.inl ⟨e, he, pa', hs⟩), List.mem_map.mp (hk ▸ List.mem_map_of_mem hsp)⟩
  -- a kind of closure `P` that the residue supplies unless some part set the parser's flag `fl`
  have flag : ∀ (fl : Spec → Bool) (b : Bool) (P : Part → Prop), b = (es.flatMap fun e => effSpecs e.2).any fl →
      (b = false → ∃ x ∈ ((parserAfter Parser.new es).residue).2.parts, P x) →
      (∀ sp x, fl sp = true → partKind x = specKind sp → P x) → ∃ o ∈ ps, ∃ x ∈ o.parts, P x := by
    intro fl b P hb hfalse htrue
    cases b with
    | false => exact ⟨_, (hps _).mpr (Or.inr rfl), hfalse rfl⟩
    | true =>
      obtain ⟨sp, hsp', hfl⟩ := List.any_eq_true.mp hb.symm
      obtain ⟨e, he, hspe⟩ := List.mem_flatMap.mp hsp'
      obtain ⟨pa', s, hs⟩ := hok e he
      rw [(parseExpr_kinds _ _ e s hs).2.2] at hspe
      obtain ⟨_, o, ho, x, hx, hxk⟩ := hsp e he sp hspe
      exact ⟨o, ho, x, hx, htrue sp x hfl hxk⟩
  refine ⟨?_, ?_, fun k => ⟨?_, ?_⟩⟩
  · obtain ⟨o, ho, x, hx, pos, ord, rfl⟩ := flag hcOf (parserAfter Parser.new es).haveConfig
      (fun x => ∃ pos ord, x = Part.config pos ord) o3
      (fun hc => by obtain ⟨pos, ord, hk⟩ := (residue_parts _).1 hc; exact ⟨_, hk, pos, ord, rfl⟩)
      (fun sp x hfl hxk => by rw [specKind_of_hcOf hfl] at hxk; cases x <;> cases hxk; exact ⟨_, _, rfl⟩)
    exact ⟨o, ho, pos, ord, hx⟩
  · obtain ⟨o, ho, x, hx, i, rfl⟩ := flag hfOf (parserAfter Parser.new es).haveFullname
      (fun x => ∃ i, x = Part.fullname i) o4
      (fun hc => by obtain ⟨i, hk⟩ := (residue_parts _).2.1 hc; exact ⟨_, hk, i, rfl⟩)
      (fun sp x hfl hxk => by rw [specKind_of_hfOf hfl] at hxk; cases x <;> cases hxk; exact ⟨_, rfl⟩)
    exact ⟨o, ho, i, hx⟩
  · rintro ⟨o, ho, i, hk⟩
    rcases (hps _).mp ho with ⟨e, he, pa', hh⟩ | rfl
    · obtain ⟨hkk, hacc, _⟩ := parseExpr_kinds _ _ e o hh
      obtain ⟨sp, hsp', hspk⟩ := List.mem_map.mp (hkk ▸ List.mem_map_of_mem (f := partKind) hk)
      exact ⟨e, he, sp, hsp', (specKind_eq_key (hacc sp hsp') k).mp hspk⟩
    · exact absurd hk ((residue_parts _).2.2 k i)
  · rintro ⟨e, he, sp, hsp', hspec, rfl⟩
    obtain ⟨hacc, o, ho, x, hx, hxk⟩ := hsp e he sp hsp'
    rw [(specKind_eq_key hacc sp.key).mpr ⟨hspec, rfl⟩] at hxk
    cases x <;> cases hxk
    exact ⟨o, ho, _, hx⟩

/-- `q` is `p` after some projections of results under `env` (closures, `.unit` field unchanged). -/
inductive Descends (h : List Bytes → UInt64) (env : Env) : Proj → Proj → Prop
  | refl (p : Proj) : Descends h env p p
  | project (p q : Proj) (r : Res) : Descends h env p q → Descends h env p (q.project h env r).1
  | projectValues (p q : Proj) (r : Res) : Descends h env p q → Descends h env p (q.projectValues h env r).1

theorem descends_parts (h : List Bytes → UInt64) (env : Env) (p q : Proj) (hd : Descends h env p q)
    (hr : ReachableE h env p) : q.parts = p.parts ∧ ReachableE h env q := by
  induction hd with
  | refl => exact ⟨rfl, hr⟩
  | project q r _ ih =>
    obtain ⟨ih1, ih2⟩ := ih
    have hi := reachable_inv h q (reachableE_reachable h env q ih2)
    obtain ⟨_, _, hp, _⟩ := project_shape h env q r hi
    exact ⟨hp.trans ih1, ReachableE.project q r ih2⟩
  | projectValues q r _ ih =>
    obtain ⟨ih1, ih2⟩ := ih
    have hi := reachable_inv h q (reachableE_reachable h env q ih2)
    exact ⟨(projectValues_shape h env q r hi).1.trans ih1, ReachableE.projectValues q r ih2⟩

end C08
