/-
C14 helper lemmas: invariants of `Tab.add` / `Tab.build` (Builder.Add).
-/
import Proofs.Lemmas.Shared.AL
import Model.Spec.Cells

namespace C14L
open Tab

variable {κ ζ ν : Type} [DecidableEq κ] [DecidableEq ζ]

theorem addCell_cells (rk ck : κ) (z : ζ) (v : ν) (t : BTable κ ζ ν) :
    (addCell rk ck z v t).cells = AL.upsert (rk, ck) (BCell.add z v) t.cells := by
  unfold addCell; split <;> rfl

theorem BCell_add_values (z : ζ) (v : ν) (o : Option (BCell ζ ν)) :
    (BCell.add z v o).values = ((o.map (·.values)).getD []) ++ [v] := by
  cases o <;> simp [BCell.add]

theorem mem_BCell_add_residue (z z' : ζ) (v : ν) (o : Option (BCell ζ ν)) :
    z' ∈ (BCell.add z v o).residue ↔ z' = z ∨ z' ∈ (o.map (·.residue)).getD [] := by
  cases o with
  | none => simp [BCell.add]
  | some c => simp [BCell.add, mem_insertSet]

/-- the cell (t, r, c), if there is one -/
def cellAt (b : Builder κ ζ ν) (t r c : κ) : Option (BCell ζ ν) :=
  (AL.lookup t b).bind fun bt => AL.lookup (r, c) bt.cells

theorem cellAt_addValue (rk ck : κ) (z : ζ) (b : Builder κ ζ ν) (tv : κ × ν) (t r c : κ) :
    cellAt (addValue rk ck z b tv) t r c =
      if tv.1 = t ∧ rk = r ∧ ck = c then some (BCell.add z tv.2 (cellAt b t r c)) else cellAt b t r c := by
  unfold cellAt addValue
  rw [lookup_upsert]
  by_cases ht : t = tv.1
  · subst ht
    simp only [if_true, Option.bind_some, addCell_cells, lookup_upsert, true_and, Prod.mk.injEq]
    have hc : ∀ k, AL.lookup k ((AL.lookup tv.1 b).getD newTable).cells =
        (AL.lookup tv.1 b).bind fun bt => AL.lookup k bt.cells := by
      intro k; cases AL.lookup tv.1 b <;> rfl
    by_cases hk : r = rk ∧ c = ck
    · obtain ⟨rfl, rfl⟩ := hk
      simp [hc]
    · have : ¬ (rk = r ∧ ck = c) := fun e => hk ⟨e.1.symm, e.2.symm⟩
      simp [hk, this, hc]
  · have : ¬ tv.1 = t := fun e => ht e.symm
    simp [ht, this]

theorem cellAt_of_lookup {b : Builder κ ζ ν} {t : κ} {bt : BTable κ ζ ν} (hl : AL.lookup t b = some bt) (r c : κ) :
    cellAt b t r c = AL.lookup (r, c) bt.cells := by
  rw [cellAt, hl]; rfl

theorem cellValues_eq (b : Builder κ ζ ν) (t r c : κ) :
    cellValues b t r c = ((cellAt b t r c).map (·.values)).getD [] := by
  unfold cellValues cellAt
  cases AL.lookup t b with
  | none => rfl
  | some bt => cases h : AL.lookup (r, c) bt.cells <;> simp [h]

theorem hasCell_eq (b : Builder κ ζ ν) (t r c : κ) : hasCell b t r c = (cellAt b t r c).isSome := by
  unfold hasCell cellAt
  cases AL.lookup t b <;> rfl

theorem cellResidue_eq (b : Builder κ ζ ν) (t r c : κ) :
    cellResidue b t r c = ((cellAt b t r c).map (·.residue)).getD [] := by
  unfold cellResidue cellAt
  cases AL.lookup t b with
  | none => rfl
  | some bt => cases h : AL.lookup (r, c) bt.cells <;> simp [h]

open Spec.Cells

@[simp] theorem mkMeas_value (r0 : Res κ ζ ν) (tv : κ × ν) : (mkMeas r0 tv).value = tv.2 := rfl
@[simp] theorem mkMeas_residue (r0 : Res κ ζ ν) (tv : κ × ν) : (mkMeas r0 tv).residue = r0.residue := rfl

/-- `Builder.Add` of one measurement -/
def addMeas (b : Builder κ ζ ν) (m : Meas κ ζ ν) : Builder κ ζ ν :=
  addValue m.row m.col m.residue b (m.table, m.value)

theorem foldl_add_eq (rs : List (Res κ ζ ν)) (b : Builder κ ζ ν) : rs.foldl add b = (measOf rs).foldl addMeas b := by
  induction rs generalizing b with
  | nil => rfl
  | cons r0 rest ih =>
    show rest.foldl add (add b r0) = (r0.vals.map (mkMeas r0) ++ measOf rest).foldl addMeas b
    rw [ih, List.foldl_append, List.foldl_map]
    rfl

/-- what one measurement does to its cell -/
def pushMeas (o : Option (BCell ζ ν)) (m : Meas κ ζ ν) : Option (BCell ζ ν) :=
  some (BCell.add m.residue m.value o)

theorem cellAt_foldl (ms : List (Meas κ ζ ν)) (b : Builder κ ζ ν) (t r c : κ) :
    cellAt (ms.foldl addMeas b) t r c = (ms.filter (inCell t r c)).foldl pushMeas (cellAt b t r c) := by
  induction ms generalizing b with
  | nil => rfl
  | cons m rest ih =>
    rw [List.foldl_cons, ih, addMeas, cellAt_addValue, List.filter_cons]
    by_cases h : m.table = t ∧ m.row = r ∧ m.col = c <;> simp [h, inCell, pushMeas, and_assoc]

theorem values_foldl_pushMeas (ms : List (Meas κ ζ ν)) (o : Option (BCell ζ ν)) :
    ((ms.foldl pushMeas o).map (·.values)).getD [] = (o.map (·.values)).getD [] ++ ms.map (·.value) := by
  induction ms generalizing o with
  | nil => simp
  | cons m rest ih => rw [List.foldl_cons, ih]; simp [pushMeas, BCell_add_values]

theorem isSome_foldl_pushMeas (ms : List (Meas κ ζ ν)) (o : Option (BCell ζ ν)) :
    (ms.foldl pushMeas o).isSome = (o.isSome || !ms.isEmpty) := by
  induction ms generalizing o with
  | nil => simp
  | cons m rest ih => rw [List.foldl_cons, ih]; simp [pushMeas]

theorem mem_residue_foldl_pushMeas (ms : List (Meas κ ζ ν)) (o : Option (BCell ζ ν)) (z' : ζ) :
    z' ∈ ((ms.foldl pushMeas o).map (·.residue)).getD [] ↔
      z' ∈ (o.map (·.residue)).getD [] ∨ z' ∈ ms.map (·.residue) := by
  induction ms generalizing o with
  | nil => simp
  | cons m rest ih =>
    rw [List.foldl_cons, ih]
    simp only [pushMeas, Option.map_some, Option.getD_some, mem_BCell_add_residue, List.map_cons, List.mem_cons]
    rw [or_comm (a := z' = m.residue), or_assoc]

theorem cellAt_build (rs : List (Res κ ζ ν)) (t r c : κ) :
    cellAt (build rs) t r c = (group (measOf rs) t r c).foldl pushMeas none :=
  (congrArg (cellAt · t r c) (foldl_add_eq rs [])).trans (cellAt_foldl (measOf rs) [] t r c)

theorem cellValues_build (rs : List (Res κ ζ ν)) (t r c : κ) :
    cellValues (build rs) t r c = (group (measOf rs) t r c).map (·.value) := by
  rw [cellValues_eq, cellAt_build, values_foldl_pushMeas]; rfl

theorem hasCell_build (rs : List (Res κ ζ ν)) (t r c : κ) :
    hasCell (build rs) t r c = !(group (measOf rs) t r c).isEmpty := by
  rw [hasCell_eq, cellAt_build, isSome_foldl_pushMeas]; rfl

theorem mem_cellResidue_build (rs : List (Res κ ζ ν)) (t r c : κ) (z' : ζ) :
    z' ∈ cellResidue (build rs) t r c ↔ z' ∈ (group (measOf rs) t r c).map (·.residue) := by
  rw [cellResidue_eq, cellAt_build, mem_residue_foldl_pushMeas]
  exact or_iff_right (List.not_mem_nil)

/-- number of values held by a table's cells -/
def cellsTotal (cells : List ((κ × κ) × BCell ζ ν)) : Nat := (cells.map fun kc => kc.2.values.length).sum

/-- number of values held by the whole builder; every `addValue` raises it by one, so after the
loop it is the number of measurements (`totalValues_foldl`) -/
def totalValues (b : Builder κ ζ ν) : Nat := (b.map fun kt => cellsTotal kt.2.cells).sum

theorem totalValues_addValue (rk ck : κ) (z : ζ) (b : Builder κ ζ ν) (tv : κ × ν) :
    totalValues (addValue rk ck z b tv) = totalValues b + 1 := by
  unfold totalValues addValue
  apply sum_upsert (fun bt : BTable κ ζ ν => cellsTotal bt.cells)
  intro o
  rw [addCell_cells]
  unfold cellsTotal
  rw [sum_upsert (fun c : BCell ζ ν => c.values.length)]
  · cases o <;> simp [newTable]
  · intro oc; cases oc <;> simp [BCell.add]

theorem totalValues_foldl (ms : List (Meas κ ζ ν)) (b : Builder κ ζ ν) :
    totalValues (ms.foldl addMeas b) = totalValues b + ms.length := by
  induction ms generalizing b with
  | nil => rfl
  | cons m rest ih => rw [List.foldl_cons, ih, addMeas, totalValues_addValue, List.length_cons]; omega

/-- invariant of one table under construction: cell keys, rows, columns and each cell's residue
list are duplicate-free, and `rows`/`cols` list exactly the row/column keys that occur in a cell -/
structure TableWF (bt : BTable κ ζ ν) : Prop where
  cellsNodup : (AL.keys bt.cells).Nodup
  rowsNodup : bt.rows.Nodup
  colsNodup : bt.cols.Nodup
  rows_iff : ∀ r, r ∈ bt.rows ↔ ∃ c, (r, c) ∈ AL.keys bt.cells
  cols_iff : ∀ c, c ∈ bt.cols ↔ ∃ r, (r, c) ∈ AL.keys bt.cells
  residueNodup : ∀ k cell, (k, cell) ∈ bt.cells → cell.residue.Nodup

/-- invariant of the builder: table keys are unique and every table is `TableWF` -/
def WF (b : Builder κ ζ ν) : Prop := (AL.keys b).Nodup ∧ ∀ t bt, (t, bt) ∈ b → TableWF bt

theorem TableWF_new : TableWF (newTable : BTable κ ζ ν) := by
  constructor <;> simp [newTable, AL.keys]

theorem BCell_add_residue_nodup (z : ζ) (v : ν) (o : Option (BCell ζ ν))
    (h : ∀ c, o = some c → c.residue.Nodup) : (BCell.add z v o).residue.Nodup := by
  cases o with
  | none => simp [BCell.add]
  | some c => simp only [BCell.add]; exact nodup_insertSet _ _ (h c rfl)

/-- on a table that `Add` has built, `addCell` lists the row and the column whether or not the cell is new:
they are listed already when it is not -/
theorem addCell_eq (rk ck : κ) (z : ζ) (v : ν) (bt : BTable κ ζ ν) (h : TableWF bt) :
    addCell rk ck z v bt = { rows := AL.insertSet rk bt.rows, cols := AL.insertSet ck bt.cols,
                             cells := AL.upsert (rk, ck) (BCell.add z v) bt.cells } := by
  unfold addCell
  cases hl : AL.lookup (rk, ck) bt.cells with
  | none => rfl
  | some c0 =>
    have hk : (rk, ck) ∈ AL.keys bt.cells := (lookup_isSome_iff_mem_keys _ _).mp (by rw [hl]; rfl)
    rw [AL.insertSet_eq, AL.insertSet_eq, FirstOcc.add_of_mem ((h.rows_iff rk).mpr ⟨ck, hk⟩),
      FirstOcc.add_of_mem ((h.cols_iff ck).mpr ⟨rk, hk⟩)]

theorem mem_keys_upsert {α β : Type} [DecidableEq α] (k x : α) (f : Option β → β) (l : List (α × β)) :
    x ∈ AL.keys (AL.upsert k f l) ↔ x ∈ AL.keys l ∨ x = k := by
  rw [keys_upsert]; exact FirstOcc.mem_add

theorem TableWF_addCell (rk ck : κ) (z : ζ) (v : ν) (bt : BTable κ ζ ν) (h : TableWF bt) :
    TableWF (addCell rk ck z v bt) := by
  rw [addCell_eq rk ck z v bt h]
  refine ⟨nodup_keys_upsert _ _ _ h.cellsNodup, nodup_insertSet _ _ h.rowsNodup, nodup_insertSet _ _ h.colsNodup,
    fun r => ?_, fun c => ?_, fun k cell hm => ?_⟩
  · simp only [mem_insertSet, mem_keys_upsert, h.rows_iff, Prod.mk.injEq, exists_or, exists_and_left, exists_eq,
      and_true]
    exact or_comm
  · simp only [mem_insertSet, mem_keys_upsert, h.cols_iff, Prod.mk.injEq, exists_or, exists_and_right, exists_eq,
      true_and]
    exact or_comm
  · rcases mem_upsert hm with h1 | ⟨_, h2⟩
    · exact h.residueNodup k cell h1
    · rw [h2]
      exact BCell_add_residue_nodup z v _ fun c hc => h.residueNodup _ c (lookup_mem hc)

theorem WF_addValue (rk ck : κ) (z : ζ) (b : Builder κ ζ ν) (tv : κ × ν) (h : WF b) :
    WF (addValue rk ck z b tv) := by
  refine ⟨nodup_keys_upsert _ _ _ h.1, ?_⟩
  intro t bt hm
  rcases mem_upsert hm with h1 | ⟨_, h2⟩
  · exact h.2 t bt h1
  · rw [h2]
    apply TableWF_addCell
    cases hl : AL.lookup tv.1 b with
    | none => exact TableWF_new
    | some bt0 => exact h.2 _ _ (lookup_mem hl)

theorem build_induct {P : Builder κ ζ ν → Prop} (h0 : P [])
    (hstep : ∀ rk ck z b tv, P b → P (addValue rk ck z b tv)) (rs : List (Res κ ζ ν)) : P (build rs) := by
  have : ∀ (ms : List (Meas κ ζ ν)) (b : Builder κ ζ ν), P b → P (ms.foldl addMeas b) := by
    intro ms
    induction ms with
    | nil => exact fun b h => h
    | cons m rest ih => exact fun b h => ih _ (hstep _ _ _ b _ h)
  rw [build, foldl_add_eq]
  exact this _ [] h0

theorem WF_build (rs : List (Res κ ζ ν)) : WF (build rs) :=
  build_induct ⟨by simp [AL.keys], by simp⟩ (fun rk ck z b tv => WF_addValue rk ck z b tv) rs

theorem keys_foldl_addMeas (ms : List (Meas κ ζ ν)) (b : Builder κ ζ ν) :
    AL.keys (ms.foldl addMeas b) = (ms.map (·.table)).foldl FirstOcc.add (AL.keys b) := by
  induction ms generalizing b with
  | nil => rfl
  | cons m rest ih => rw [List.foldl_cons, ih, addMeas, addValue, keys_upsert]; rfl

theorem keys_build (rs : List (Res κ ζ ν)) :
    AL.keys (build rs) = ((measOf rs).map (·.table)).foldl FirstOcc.add [] := by
  rw [build, foldl_add_eq, keys_foldl_addMeas]; rfl

theorem lookup_build_isSome (rs : List (Res κ ζ ν)) (t : κ) :
    (AL.lookup t (build rs)).isSome = true ↔ ∃ m ∈ measOf rs, m.table = t := by
  rw [lookup_isSome_iff_mem_keys, keys_build, FirstOcc.mem_foldl_add]
  simp

end C14L
