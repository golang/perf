/-
strconv.Unquote undoes strconv.Quote (models `unquote`, `goQuote`), for every
byte string and every `IsPrint` oracle that does not call the newline printable.
-/
import Proofs.Lemmas.C07Utf8
import Proofs.Lemmas.C07Quote

namespace C07
open Proc.Tok

theorem stepOK_simple (d out : UInt8) (h : ∀ u, unquoteChar (cBsl :: d :: u) = some ([out], u)) :
    StepOK [cBsl, d] [out] :=
  ⟨fun tail => by simpa using h tail, ⟨cBsl, [d], rfl, by decide, by decide⟩, Items.esc Items.nil⟩

theorem ofNat_lt (r : Nat) (h : r < 0x80) : (UInt8.ofNat r) < 0x80 ∧ (UInt8.ofNat r).toNat = r := by
  have : (UInt8.ofNat r).toNat = r := by simp; omega
  exact ⟨by simp [UInt8.lt_iff_toNat_lt, this]; omega, this⟩

theorem stepOK_raw_ascii (r : Nat) (h0 : r < 0x80) (h1 : r ≠ 34) (h2 : r ≠ 92) (h3 : r ≠ 10) :
    StepOK (encodeRune r) (encodeRune r) := by
  have ⟨h0', hc⟩ := ofNat_lt r h0
  have hne : ∀ b : UInt8, r ≠ b.toNat → UInt8.ofNat r ≠ b := fun b hb e => hb (by rw [← e, hc])
  rw [show encodeRune r = [UInt8.ofNat r] by simp [encodeRune, h0]]
  have h1 := hne cQuote h1
  have h2 := hne cBsl h2
  have h3 := hne 10 h3
  generalize UInt8.ofNat r = c at h0' h1 h2 h3
  refine ⟨?_, ⟨c, [], rfl, h1, h3⟩, Items.plain h1 h2 Items.nil⟩
  intro tail
  have e1 : (c == cQuote) = false := by simpa using h1
  have e2 : ¬ (c ≥ 0x80) := by simp [UInt8.lt_iff_toNat_lt, UInt8.le_iff_toNat_le] at h0' ⊢; omega
  have e3 : (c != cBsl) = true := by simpa using h2
  simp [unquoteChar, e1, e2, e3]

theorem ne_of_hi {b c : UInt8} (hb : 0x80 ≤ b.toNat) (hc : c.toNat < 0x80) : b ≠ c :=
  fun e => Nat.not_le.2 hc (e ▸ hb)

theorem items_hi : ∀ (bs : Bytes), (∀ b ∈ bs, 0x80 ≤ b.toNat) → Items bs := by
  intro bs
  induction bs with
  | nil => intro _; exact Items.nil
  | cons b bs ih =>
    intro h
    have hb := h b (by simp)
    exact Items.plain (ne_of_hi hb (by decide)) (ne_of_hi hb (by decide)) (ih (fun x hx => h x (by simp [hx])))

theorem stepOK_raw_multi {c : UInt8} {l : Bytes} {r : Nat} (h : Shared.Enc c l r) (hcn : 0x80 ≤ c.toNat) :
    StepOK (c :: l) (c :: l) := by
  have hq : c ≠ cQuote := ne_of_hi hcn (by decide)
  have hn : c ≠ 10 := ne_of_hi hcn (by decide)
  have hi : ∀ b ∈ c :: l, 0x80 ≤ b.toNat :=
    List.forall_mem_cons.mpr ⟨hcn, fun b hb => ((Shared.not_nonCont_iff b).mp (h.cont b hb)).1⟩
  refine ⟨fun tail => ?_, ⟨c, l, rfl, hq, hn⟩, items_hi _ hi⟩
  have e1 : (c == cQuote) = false := by simpa using hq
  have e2 : c ≥ 0x80 := UInt8.le_iff_toNat_le.mpr hcn
  simp only [List.cons_append, unquoteChar, e1, e2, if_true, if_false, Bool.false_eq_true, decodeRune_enc h tail,
    (encodeRune_enc h).1, List.drop_succ_cons, List.drop_left' rfl]

/-- `\uHHHH` (`d` = 'u', four digits) and `\UHHHHHHHH` (`d` = 'U', eight digits) -/
theorem stepOK_u (d : UInt8) (n : Nat) (hd : d = 117 ∧ n = 4 ∨ d = 85 ∧ n = 8) (r : Nat) (hv : validRune r = true)
    (hr : r < 16 ^ n) : StepOK (cBsl :: d :: hexDigits n r) (encodeRune r) := by
  refine ⟨fun tail => ?_, ⟨cBsl, _, rfl, by decide, by decide⟩, Items.esc (items_hexDigits r n)⟩
  have hx : hexN n (hexDigits n r ++ tail) 0 = some (r, tail) := by
    rw [hexN_hexDigits, Nat.zero_mul, Nat.zero_add, Nat.mod_eq_of_lt hr]
  have hlo : r < 0x80 → [UInt8.ofNat r] = encodeRune r := fun h => by simp [encodeRune, h]
  rcases hd with ⟨rfl, rfl⟩ | ⟨rfl, rfl⟩ <;> simp [unquoteChar, cBsl, cQuote, hx, hv] <;> exact hlo

/-- one line of `appendEscapedRune`'s table of two-byte escapes -/
theorem stepOK_if {r : Nat} {rest : Bytes} (c : Nat) (d out : UInt8) (hc : encodeRune c = [out])
    (h : ∀ u, unquoteChar (cBsl :: d :: u) = some ([out], u)) (hrest : StepOK rest (encodeRune r)) :
    StepOK (if r == c then [cBsl, d] else rest) (encodeRune r) := by
  by_cases t : (r == c) = true
  · rw [if_pos t]
    obtain rfl : r = c := by simpa using t
    rw [hc]
    exact stepOK_simple d out h
  · rw [if_neg t]
    exact hrest

/-- `appendEscapedRune` for a valid rune whose source bytes are `encodeRune r`: the tests of
`escapeRune` are taken one after the other -/
theorem escapeRune_ok (isPrint : Nat → Bool) (h10 : isPrint 10 = false) (r : Nat) (hv : validRune r = true)
    (hraw : 0x80 ≤ r → StepOK (encodeRune r) (encodeRune r)) :
    StepOK (escapeRune isPrint r) (encodeRune r) := by
  unfold escapeRune
  by_cases h1 : (r == 34 || r == 92) = true
  · rw [if_pos h1]
    simp only [Bool.or_eq_true, beq_iff_eq] at h1
    rcases h1 with rfl | rfl
    · exact stepOK_simple cQuote cQuote fun _ => rfl
    · exact stepOK_simple cBsl cBsl fun _ => rfl
  rw [if_neg h1]
  have hqb : r ≠ 34 ∧ r ≠ 92 := by
    simp only [Bool.or_eq_true, beq_iff_eq, not_or] at h1; exact h1
  by_cases h2 : isPrint r = true
  · rw [if_pos h2]
    by_cases h80 : r < 0x80
    · exact stepOK_raw_ascii r h80 hqb.1 hqb.2 fun h => by rw [h, h10] at h2; simp at h2
    · exact hraw (by omega)
  rw [if_neg h2]
  -- the table \a \b \f \n \r \t \v
  refine stepOK_if 7 97 7 rfl (fun _ => rfl) ?_
  refine stepOK_if 8 98 8 rfl (fun _ => rfl) ?_
  refine stepOK_if 12 102 12 rfl (fun _ => rfl) ?_
  refine stepOK_if 10 110 10 rfl (fun _ => rfl) ?_
  refine stepOK_if 13 114 13 rfl (fun _ => rfl) ?_
  refine stepOK_if 9 116 9 rfl (fun _ => rfl) ?_
  refine stepOK_if 11 118 11 rfl (fun _ => rfl) ?_
  by_cases hc : (decide (r < 0x20) || r == 0x7f) = true
  · rw [if_pos hc]
    have h80 : r < 0x80 := by
      simp only [Bool.or_eq_true, decide_eq_true_eq, beq_iff_eq] at hc; omega
    have henc : encodeRune r = [UInt8.ofNat r] := by simp [encodeRune, h80]
    rw [henc]
    exact stepOK_hex _
  rw [if_neg hc]
  simp only [hv, if_true]
  by_cases hlt : r < 0x10000
  · rw [if_pos hlt]
    simpa [hexDigits] using stepOK_u 117 4 (Or.inl ⟨rfl, rfl⟩) r hv hlt
  · rw [if_neg hlt]
    have hmax : r ≤ 0x10FFFF := by have := validRune_iff.mp hv; omega
    simpa [hexDigits] using stepOK_u 85 8 (Or.inr ⟨rfl, rfl⟩) r hv (Nat.lt_of_le_of_lt hmax (by decide))

/-- one round of `Quote`'s loop: the next rune of the source (or one invalid byte) and its escape -/
theorem quoteBody_step (isPrint : Nat → Bool) (h10 : isPrint 10 = false) (g : Nat) (c : UInt8) (t : Bytes) :
    ∃ esc p s, c :: t = p ++ s ∧ p ≠ [] ∧ quoteBody isPrint (g + 1) (c :: t) = esc ++ quoteBody isPrint g s ∧
      StepOK esc p := by
  have hrw : (if c < 0x80 then (c.toNat, 1) else decodeRune (c :: t)) = decodeRune (c :: t) := by
    split
    · rename_i h; rw [decodeRune_lo c t h]
    · rfl
  simp only [quoteBody, hrw]
  rcases decodeRune_cases c t with ⟨l, s, r, rfl, hl⟩ | hd
  · have hbad : ¬ ((l.length + 1 == 1 && r == runeError) = true) := fun hb => by
      simp only [Bool.and_eq_true, beq_iff_eq] at hb
      cases hl with
      | one h0 => rw [hb.2] at h0; exact absurd h0 (by decide)
      | _ => exact absurd hb.1 (by simp)
    have he := encodeRune_enc hl
    rw [decodeRune_enc hl s, if_neg hbad, List.drop_succ_cons, List.drop_left' rfl]
    refine ⟨escapeRune isPrint r, c :: l, s, rfl, List.cons_ne_nil _ _, rfl, ?_⟩
    rw [← he.1]
    refine escapeRune_ok isPrint h10 r he.2 fun h80 => ?_
    rw [he.1]
    exact stepOK_raw_multi hl (by cases hl <;> omega)
  · rw [hd]
    exact ⟨hexEsc c, [c], t, rfl, List.cons_ne_nil _ _, rfl, stepOK_hex c⟩

theorem quoteBody_nil (isPrint : Nat → Bool) (g : Nat) : quoteBody isPrint g [] = [] := by
  cases g <;> rfl

theorem esc_quoteBody (isPrint : Nat → Bool) (h10 : isPrint 10 = false) : ∀ (g : Nat) (s : Bytes), s.length ≤ g →
    Esc (quoteBody isPrint g s) s := by
  intro g
  induction g with
  | zero =>
    intro s hg
    obtain rfl : s = [] := List.length_eq_zero_iff.mp (by omega)
    exact Esc.nil
  | succ g ih =>
    intro s hg
    match s with
    | [] => exact Esc.nil
    | c :: t =>
      obtain ⟨esc, p, s, hs, hp, heq, st⟩ := quoteBody_step isPrint h10 g c t
      have hl := congrArg List.length hs
      rw [List.length_append] at hl
      have := List.length_pos_iff.mpr hp
      rw [heq, hs]
      exact Esc.cons st (ih s (by omega))

theorem unquote_goQuote (isPrint : Nat → Bool) (h10 : isPrint 10 = false) (s : Bytes) :
    unquote (goQuote isPrint s) = some s := (esc_quoteBody isPrint h10 _ s (Nat.le_succ _)).unquote

end C07
