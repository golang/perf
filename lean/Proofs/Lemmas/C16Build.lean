/-
C16 — cells added through the builder API come out in row-major order without overlaps, and
Format's final sort by (row, col) restores exactly that order.
-/
import Proofs.Lemmas.C16Emit
import Proofs.Lemmas.Shared.List
import Proofs.Lemmas.Shared.Sort

namespace C16
open Tab.TextTab

theorem foldl_apply_geom (opts : List Opt) : ∀ c : Cell,
    (opts.foldl Opt.apply c).row = c.row ∧ (opts.foldl Opt.apply c).col = c.col ∧
    (opts.foldl Opt.apply c).span = c.span := by
  induction opts with
  | nil => intro c; exact ⟨rfl, rfl, rfl⟩
  | cons o os ih =>
    intro c
    simp only [List.foldl_cons]
    have h := ih (Opt.apply c o)
    have h2 : (Opt.apply c o).row = c.row ∧ (Opt.apply c o).col = c.col ∧ (Opt.apply c o).span = c.span := by
      cases o <;> exact ⟨rfl, rfl, rfl⟩
    exact ⟨h.1.trans h2.1, h.2.1.trans h2.2.1, h.2.2.trans h2.2.2⟩

/-- builder invariant: cells in row-major order without overlaps, all of them at or before the
cursor, all inside `cols` -/
def BuildInv (t : Table) : Prop :=
  t.cells.Pairwise Before ∧
  ∀ c ∈ t.cells, (c.row < t.curRow ∨ (c.row = t.curRow ∧ c.col + c.span ≤ t.curCol)) ∧
    c.col + c.span ≤ t.cols

theorem buildInv_step (t t' : Table) (op : Op) (h : BuildInv t) (hs : t.step op = some t') :
    BuildInv t' := by
  obtain ⟨hp, hc⟩ := h
  cases op with
  | row =>
    obtain rfl : t.row = t' := Option.some.inj hs
    refine ⟨hp, fun c hcm => ⟨Or.inl ?_, (hc c hcm).2⟩⟩
    have hne : t.cells.isEmpty = false := List.isEmpty_eq_false_iff_exists_mem.mpr ⟨c, hcm⟩
    have := (hc c hcm).1
    show c.row < (if t.cells.isEmpty then t.curRow else t.curRow + 1)
    rw [hne, if_neg Bool.false_ne_true]
    omega
  | col c' =>
    have hs : (if c' < t.curCol then none else some { t with curCol := c' }) = some t' := hs
    by_cases hlt : c' < t.curCol
    · rw [if_pos hlt] at hs; cases hs
    · rw [if_neg hlt] at hs
      obtain rfl := Option.some.inj hs
      exact ⟨hp, fun c hcm => ⟨((hc c hcm).1).imp_right fun h1 => ⟨h1.1, Nat.le_trans h1.2 (Nat.le_of_not_lt hlt)⟩,
        (hc c hcm).2⟩⟩
  | span n v opts =>
    obtain rfl : t.span n v opts = t' := Option.some.inj hs
    -- the new cell sits at the cursor; its options change neither position nor span
    have hg := foldl_apply_geom opts
      { row := t.curRow, col := t.curCol, span := n, value := v,
        margin := if (t.curCol == 0 || v.isEmpty) = true then [] else [0x20], align := .left }
    dsimp only at hg
    obtain ⟨g1, g2, g3⟩ := hg
    simp only [Table.span]
    refine ⟨?_, fun c hcm => ?_⟩
    · rw [List.pairwise_append]
      refine ⟨hp, List.pairwise_singleton _ _, fun a ha b hb => ?_⟩
      rw [List.mem_singleton.mp hb, Before, g1, g2]
      exact (hc a ha).1
    · rcases List.mem_append.mp hcm with hcm | hcm
      · refine ⟨((hc c hcm).1).imp_right fun h1 => ⟨h1.1, Nat.le_trans h1.2 (Nat.le_add_right ..)⟩, ?_⟩
        have := (hc c hcm).2
        show c.col + c.span ≤ (if t.curCol + n > t.cols then t.curCol + n else t.cols)
        split <;> omega
      · rw [List.mem_singleton.mp hcm, g1, g2, g3]
        refine ⟨Or.inr ⟨rfl, Nat.le_refl _⟩, ?_⟩
        show t.curCol + n ≤ (if t.curCol + n > t.cols then t.curCol + n else t.cols)
        split <;> omega
  | setShrink c' b =>
    obtain rfl : t.setShrink c' b = t' := Option.some.inj hs
    exact ⟨hp, hc⟩

theorem buildInv_foldlM (ops : List Op) : ∀ (t t' : Table), BuildInv t →
    ops.foldlM Table.step t = some t' → BuildInv t' := by
  induction ops with
  | nil => intro t t' h hs; simp only [List.foldlM_nil, pure, Option.some.injEq] at hs; subst hs; exact h
  | cons op rest ih =>
    intro t t' h hs
    simp only [List.foldlM_cons, bind, Option.bind] at hs
    split at hs
    · cases hs
    · rename_i t1 h1
      exact ih t1 t' (buildInv_step t t1 op h h1) hs

theorem cellLe_trans (a b c : Cell) (h1 : cellLe a b = true) (h2 : cellLe b c = true) :
    cellLe a c = true := by
  simp only [cellLe, Bool.or_eq_true, Bool.and_eq_true, decide_eq_true_eq, beq_iff_eq] at *
  omega

theorem cellLe_total (a b : Cell) : (cellLe a b || cellLe b a) = true := by
  simp only [cellLe, Bool.or_eq_true, Bool.and_eq_true, decide_eq_true_eq, beq_iff_eq]
  omega

/-- with spans ≥ 1 the cells of a builder table have distinct (row, col), so sorting ANY
permutation of them by (row, col) gives back the builder order -/
theorem mergeSort_restores (cells ordered : List Cell) (hp : cells.Pairwise Before)
    (hspan : ∀ c ∈ cells, 1 ≤ c.span) (hperm : ordered.Perm cells) :
    ordered.mergeSort cellLe = cells := by
  have hsorted : cells.Pairwise fun a b => cellLe a b = true := by
    refine hp.imp ?_
    intro a b h
    unfold Before at h
    simp only [cellLe, Bool.or_eq_true, Bool.and_eq_true, decide_eq_true_eq, beq_iff_eq]
    omega
  rw [← List.mergeSort_eq_of_perm cellLe_trans cellLe_total hperm.symm ?_, List.mergeSort_of_pairwise hsorted]
  intro a ha b hb hab hba
  by_cases heq : a = b
  · exact heq
  · exfalso
    simp only [cellLe, Bool.or_eq_true, Bool.and_eq_true, decide_eq_true_eq, beq_iff_eq] at hab hba
    have hsa := hspan a ha
    have hsb := hspan b hb
    rcases Shared.pairwise_total Before cells hp a ha b hb heq with h | h <;> unfold Before at h <;> omega

end C16
