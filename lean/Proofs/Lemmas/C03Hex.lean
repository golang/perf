/-
C03 helper lemmas for `hex_path_correct`: `atofHex` (shift / sticky bit / round-half-even /
denormal / overflow) returns `packed` of the magnitude bits `magBitsQ` of the exact value. The loops keep a sticky
representation (`Stick`) of the scaled value; what follows them is arithmetic on the rounded
mantissa `qOf m` (`hexFinish_eq`), which is the value rounded half-even (`nearQ_of_stick`, in the library's `F64.NearQ`).
-/
import Proofs.Lemmas.C03Frac

namespace C03
open Num F64

theorem or_one (k : Nat) : k ||| 1 = k + 1 - k % 2 := by
  have h1 : (k ||| 1) / 2 = k / 2 := by rw [Nat.or_div_two, Nat.or_zero]
  have h2 : (k ||| 1) % 2 = 1 := Nat.or_mod_two_eq_one.mpr (Or.inr rfl)
  omega

def sticky (m : Nat) : Nat := m / 2 + (if m % 4 = 1 then 1 else 0)

theorem sticky_spec (m : Nat) : (m % 4 = 1 → sticky m = m / 2 + 1) ∧ (m % 4 ≠ 1 → sticky m = m / 2) :=
  ⟨fun h => by rw [sticky, if_pos h], fun h => by rw [sticky, if_neg h]; rfl⟩

theorem sticky_shift (m : Nat) : (m >>> 1 ||| m &&& 1) = sticky m := by
  have hs := sticky_spec m
  rw [Nat.shiftRight_eq_div_pow, Nat.and_one_is_mod, Nat.pow_one]
  rcases Nat.mod_two_eq_zero_or_one m with h | h
  · rw [h, Nat.or_zero]; omega
  · rw [h, or_one]; omega

/-- `m` represents the exact (scaled) value `x` with a sticky lowest bit: an even `m` is exact, an
odd `m` stands for some value strictly between its even neighbours -/
def Stick (m : Nat) (x : ℚ) : Prop :=
  (m % 2 = 0 → x = m) ∧ (m % 2 = 1 → (m : ℚ) - 1 < x ∧ x < m + 1)

theorem stick_exact (m : Nat) : Stick m (m : ℚ) :=
  ⟨fun _ => rfl, fun _ => ⟨by linarith, by linarith⟩⟩

theorem Stick.near {m : Nat} {x : ℚ} (h : Stick m x) : (m : ℚ) - 1 < x ∧ x < m + 1 := by
  rcases Nat.mod_two_eq_zero_or_one m with hp | hp
  · rw [h.1 hp]; exact ⟨sub_one_lt _, lt_add_one _⟩
  · exact h.2 hp

theorem stick_or_one (m : Nat) (x : ℚ) (l : (m : ℚ) < x) (u : x < m + 1) : Stick (m ||| 1) x := by
  have ho := or_one m
  refine ⟨fun h => by omega, fun _ => ?_⟩
  have h1 : ((m ||| 1 : Nat) : ℚ) ≤ m + 1 := by exact_mod_cast (show m ||| 1 ≤ m + 1 by omega)
  have h2 : (m : ℚ) ≤ (m ||| 1 : Nat) := by exact_mod_cast (show m ≤ m ||| 1 by omega)
  exact ⟨by linarith only [l, h1], by linarith only [u, h2]⟩

theorem stick_shift (m : Nat) (x : ℚ) (h : Stick m x) : Stick (sticky m) (x / 2) := by
  have hs := sticky_spec m
  have hm : (m : ℚ) = 2 * ((m / 2 : Nat) : ℚ) + ((m % 2 : Nat) : ℚ) := by exact_mod_cast (Nat.div_add_mod m 2).symm
  rcases Nat.mod_two_eq_zero_or_one m with hp | hp
  · rw [show sticky m = m / 2 by omega, h.1 hp, hm, hp, Nat.cast_zero, add_zero, mul_div_cancel_left₀ _ two_ne_zero]
    exact stick_exact _
  · obtain ⟨l, u⟩ := h.2 hp
    rw [hp, Nat.cast_one] at hm
    rw [show sticky m = m / 2 ||| 1 by rw [or_one]; omega]
    exact stick_or_one _ _ (by linarith only [l, hm]) (by linarith only [u, hm])

theorem Stick.lt_even {m : Nat} {x : ℚ} (h : Stick m x) (k : Nat) (hk : m < 2 * k) : x < 2 * k := by
  rcases Nat.mod_two_eq_zero_or_one m with hp | hp
  · rw [h.1 hp]; exact_mod_cast hk
  · have : (m : ℚ) + 1 ≤ 2 * k := by exact_mod_cast (show m + 1 ≤ 2 * k by omega)
    exact lt_of_lt_of_le (h.2 hp).2 this

theorem Stick.ge_even {m : Nat} {x : ℚ} (h : Stick m x) (k : Nat) (hk : 2 * k ≤ m) : 2 * (k : ℚ) ≤ x := by
  rcases Nat.mod_two_eq_zero_or_one m with hp | hp
  · rw [h.1 hp]; exact_mod_cast hk
  · have : 2 * (k : ℚ) ≤ (m : ℚ) - 1 := by
      rw [le_sub_iff_add_le]; exact_mod_cast (show 2 * k + 1 ≤ m by omega)
    exact le_of_lt (lt_of_le_of_lt this (h.2 hp).1)

/-- the rounded mantissa: "round using two bottom bits" -/
def qOf (m : Nat) : Nat := m / 4 + (if m % 4 = 3 ∨ (m % 4 = 2 ∧ (m / 4) % 2 = 1) then 1 else 0)

theorem qOf_spec (m : Nat) :
    (m % 4 = 3 ∨ (m % 4 = 2 ∧ (m / 4) % 2 = 1) → qOf m = m / 4 + 1) ∧
    (¬ (m % 4 = 3 ∨ (m % 4 = 2 ∧ (m / 4) % 2 = 1)) → qOf m = m / 4) :=
  ⟨fun h => by rw [qOf, if_pos h], fun h => by rw [qOf, if_neg h]; rfl⟩

theorem qOf_bounds (m : Nat) : m / 4 ≤ qOf m ∧ qOf m ≤ m / 4 + 1 := by
  unfold qOf; split <;> omega

/-- "round using two bottom bits" of a sticky representation is round-half-even of the value:
unless the two bits are `10` the value is less than 2 away from `4·qOf m`; `10` is the tie, exact
because `m` is even, and `qOf m` is then the even neighbour -/
theorem nearQ_of_stick (m : Nat) (x : ℚ) (hs : Stick m x) : NearQ (qOf m) (x / 4) := by
  have hq := qOf_spec m
  by_cases h2 : m % 4 = 2
  · have hx := hs.1 (by omega)
    rcases Nat.mod_two_eq_zero_or_one (m / 4) with hp | hp
    · have e : (m : ℚ) = 4 * (qOf m : ℚ) + 2 := by exact_mod_cast (show m = 4 * qOf m + 2 by omega)
      exact ⟨Or.inl (by rw [hx, e]; linarith only []), Or.inr ⟨by rw [hx, e]; ring, by omega⟩⟩
    · have e : (m : ℚ) + 2 = 4 * (qOf m : ℚ) := by exact_mod_cast (show m + 2 = 4 * qOf m by omega)
      exact ⟨Or.inr ⟨by rw [hx]; linarith only [e], by omega⟩, Or.inl (by rw [hx]; linarith only [e])⟩
  · obtain ⟨l, u⟩ := hs.near
    have e1 : 4 * (qOf m : ℚ) ≤ m + 1 := by exact_mod_cast (show 4 * qOf m ≤ m + 1 by omega)
    have e2 : (m : ℚ) ≤ 4 * (qOf m : ℚ) + 1 := by exact_mod_cast (show m ≤ 4 * qOf m + 1 by omega)
    exact ⟨Or.inl (by linarith only [l, e1]), Or.inl (by linarith only [u, e2])⟩

/-- the value a state (m, e) stands for: x = V · 2^(52 − e) -/
def scaleAt (V : ℚ) (e : Int) : ℚ := V * (2 : ℚ) ^ (52 - e)

theorem scaleAt_succ (V : ℚ) (e : Int) : scaleAt V (e + 1) = scaleAt V e / 2 := by
  unfold scaleAt
  rw [show (52 : Int) - (e + 1) = (52 - e) - 1 by omega, zpow_sub_one₀ (by norm_num : (2 : ℚ) ≠ 0)]
  ring

theorem scaleAt_pred (V : ℚ) (e : Int) : scaleAt V (e - 1) = 2 * scaleAt V e := by
  unfold scaleAt
  rw [show (52 : Int) - (e - 1) = (52 - e) + 1 by omega, zpow_add_one₀ (by norm_num : (2 : ℚ) ≠ 0)]
  ring

theorem normUp_succ (f m : Nat) (e : Int) :
    hexNormUp (f + 1) m e = if m ≠ 0 ∧ m < 2 ^ 54 then hexNormUp f (2 * m) (e - 1) else (m, e) := by
  conv => lhs; unfold hexNormUp
  have hcond : ((m != 0 && m >>> (52 + 2) == 0) = true) ↔ (m ≠ 0 ∧ m < 2 ^ 54) := by
    rw [Bool.and_eq_true, bne_iff_ne, beq_iff_eq, show 52 + 2 = 54 from rfl, shr_eq_zero_iff]
  rw [Nat.shiftLeft_eq, Nat.pow_one, Nat.mul_comm m 2]
  exact if_congr hcond rfl rfl

theorem normDown_succ (f m : Nat) (e : Int) :
    hexNormDown (f + 1) m e = if 2 ^ 55 ≤ m then hexNormDown f (sticky m) (e + 1) else (m, e) := by
  conv => lhs; unfold hexNormDown
  have hcond : ((m >>> (1 + 52 + 2) != 0) = true) ↔ 2 ^ 55 ≤ m := by
    rw [bne_iff_ne, show 1 + 52 + 2 = 55 from rfl, Ne, shr_eq_zero_iff]; omega
  rw [sticky_shift]
  exact if_congr hcond rfl rfl

theorem denorm_succ (f m : Nat) (e : Int) :
    hexDenorm (-1022) (f + 1) m e = if 1 < m ∧ e < -1024 then hexDenorm (-1022) f (sticky m) (e + 1) else (m, e) := by
  conv => lhs; unfold hexDenorm
  have hcond : ((decide (m > 1) && decide (e < -1022 - 2)) = true) ↔ (1 < m ∧ e < -1024) := by
    rw [Bool.and_eq_true, decide_eq_true_eq, decide_eq_true_eq]; rfl
  rw [sticky_shift]
  exact if_congr hcond rfl rfl

theorem normUp_spec (V : ℚ) : ∀ (f m : Nat) (e : Int), scaleAt V e = (m : ℚ) → 0 < m → 2 ^ 54 ≤ m * 2 ^ f →
    scaleAt V (hexNormUp f m e).2 = ((hexNormUp f m e).1 : ℚ) ∧
    2 ^ 54 ≤ (hexNormUp f m e).1 ∧ ((hexNormUp f m e).1 < 2 ^ 55 ∨ (hexNormUp f m e).1 = m) := by
  intro f
  induction f with
  | zero => intro m e hx _ hf; exact ⟨hx, (by omega : 2 ^ 54 ≤ m), Or.inr rfl⟩
  | succ f ih =>
    intro m e hx h0 hf
    rw [normUp_succ]
    by_cases hc : m ≠ 0 ∧ m < 2 ^ 54
    · rw [if_pos hc]
      rw [Nat.pow_succ] at hf
      obtain ⟨a, b, c⟩ := ih (2 * m) (e - 1) (by rw [scaleAt_pred, hx]; push_cast; ring) (by omega)
        (by rw [Nat.mul_comm 2 m, Nat.mul_assoc, Nat.mul_comm 2]; exact hf)
      exact ⟨a, b, Or.inl (by omega)⟩
    · rw [if_neg hc]
      exact ⟨hx, by omega, Or.inr rfl⟩

theorem normDown_spec (V : ℚ) : ∀ (f m : Nat) (e : Int), Stick m (scaleAt V e) → m < 2 ^ 55 * 2 ^ f →
    Stick (hexNormDown f m e).1 (scaleAt V (hexNormDown f m e).2) ∧ (hexNormDown f m e).1 < 2 ^ 55 ∧
    (2 ^ 54 ≤ m → 2 ^ 54 ≤ (hexNormDown f m e).1) := by
  intro f
  induction f with
  | zero => intro m e hs hb; exact ⟨hs, (by omega : m < 2 ^ 55), fun h => h⟩
  | succ f ih =>
    intro m e hs hb
    rw [normDown_succ]
    by_cases hc : 2 ^ 55 ≤ m
    · rw [if_pos hc]
      have hst := sticky_spec m
      rw [Nat.pow_succ] at hb
      obtain ⟨a, b, c⟩ := ih (sticky m) (e + 1) (by rw [scaleAt_succ]; exact stick_shift m _ hs) (by omega)
      exact ⟨a, b, fun _ => c (by omega)⟩
    · rw [if_neg hc]
      exact ⟨hs, by omega, fun h => h⟩

theorem denorm_spec (V : ℚ) : ∀ (f m : Nat) (e : Int), Stick m (scaleAt V e) → m ≤ 2 ^ f →
    Stick (hexDenorm (-1022) f m e).1 (scaleAt V (hexDenorm (-1022) f m e).2) ∧
    (hexDenorm (-1022) f m e).1 ≤ m ∧ (0 < m → 0 < (hexDenorm (-1022) f m e).1) ∧
    ((hexDenorm (-1022) f m e).2 < -1024 → (hexDenorm (-1022) f m e).1 ≤ 1) ∧
    (-1024 < (hexDenorm (-1022) f m e).2 → hexDenorm (-1022) f m e = (m, e)) := by
  intro f
  induction f with
  | zero => intro m e hs hb; exact ⟨hs, Nat.le_refl _, fun h => h, fun _ => hb, fun _ => rfl⟩
  | succ f ih =>
    intro m e hs hb
    rw [denorm_succ]
    by_cases hc : 1 < m ∧ e < -1024
    · rw [if_pos hc]
      have hst := sticky_spec m
      rw [Nat.pow_succ] at hb
      obtain ⟨a, b, b', c, c'⟩ := ih (sticky m) (e + 1) (by rw [scaleAt_succ]; exact stick_shift m _ hs) (by omega)
      refine ⟨a, by omega, fun _ => b' (by omega), c, fun h => ?_⟩
      have := congrArg Prod.snd (c' h)
      simp only [] at this
      omega
    · rw [if_neg hc]
      exact ⟨hs, Nat.le_refl _, fun h => h, fun _ => by omega, fun _ => rfl⟩

/-- rounding and carry: "round using two bottom bits" -/
def roundStep (m : Nat) (exp : Int) : Nat × Int :=
  let round := m &&& 3
  let m := m >>> 2
  let round := round ||| (m &&& 1)
  let exp := exp + 2
  if round == 3 then
    let m := m + 1
    if m == 2 ^ 53 then (m >>> 1, exp + 1) else (m, exp)
  else (m, exp)

/-- denormal exponent, overflow, assembly of the bits -/
def hexPack (m : Nat) (exp : Int) (neg : Bool) : FloatRes :=
  let bias : Int := -1023
  let maxExp : Int := 2 ^ 11 + bias - 2
  let exp := if m >>> 52 == 0 then bias else exp
  let ovf := exp > maxExp
  let (m, exp) := if ovf then ((2 : Nat) ^ 52, maxExp + 1) else (m, exp)
  let bits : Nat := (m &&& (2 ^ 52 - 1)) ||| (((exp - bias) % 2048).toNat <<< 52)
  let bits := if neg then bits ||| 2 ^ 63 else bits
  ⟨UInt64.ofNat bits, if ovf then some .range else none⟩

/-- `atofHex` from "Round using two bottom bits" on -/
def hexFinish (m : Nat) (exp : Int) (neg : Bool) : FloatRes :=
  hexPack (roundStep m exp).1 (roundStep m exp).2 neg

def hexLoops (trunc : Bool) (m0 : Nat) (e0 : Int) : Nat × Int :=
  let p := hexNormUp 64 m0 (e0 + 52)
  let p := hexNormDown 64 (if trunc then p.1 ||| 1 else p.1) p.2
  hexDenorm (-1022) 64 p.1 p.2

theorem atofHex_eq (m0 : Nat) (e0 : Int) (neg trunc : Bool) :
    atofHex m0 e0 neg trunc = hexFinish (hexLoops trunc m0 e0).1 (hexLoops trunc m0 e0).2 neg := by
  unfold atofHex hexLoops
  simp only [show ((-1023 : Int) + 1) = -1022 from rfl]
  rfl

theorem roundStep_eq (m : Nat) (e : Int) (hm : m < 2 ^ 55) :
    roundStep m e = if qOf m = 2 ^ 53 then (2 ^ 52, e + 3) else (qOf m, e + 2) := by
  unfold roundStep
  have r1 : m &&& 3 = m % 4 := Nat.and_two_pow_sub_one_eq_mod m 2
  have r2 : m >>> 2 = m / 4 := Nat.shiftRight_eq_div_pow m 2
  have r4 : ((m % 4 ||| (m / 4) % 2) == 3) = decide (m % 4 = 3 ∨ (m % 4 = 2 ∧ (m / 4) % 2 = 1)) := by
    have : ∀ a, a < 4 → ∀ b, b < 2 → ((a ||| b) == 3) = decide (a = 3 ∨ (a = 2 ∧ b = 1)) := by decide
    exact this _ (Nat.mod_lt _ (by decide)) _ (Nat.mod_lt _ (by decide))
  simp only [r1, r2, Nat.and_one_is_mod, r4, decide_eq_true_eq]
  have hq := qOf_spec m
  by_cases hP : m % 4 = 3 ∨ (m % 4 = 2 ∧ (m / 4) % 2 = 1)
  · rw [if_pos hP, ← hq.1 hP]
    simp only [beq_iff_eq]
    by_cases h53 : qOf m = 2 ^ 53
    · rw [if_pos h53, if_pos h53, h53]
      exact Prod.ext (show 2 ^ 53 >>> 1 = 2 ^ 52 by decide) (show e + 2 + 1 = e + 3 by omega)
    · rw [if_neg h53, if_neg h53]
  · rw [if_neg hP, ← hq.2 hP, if_neg (by omega)]

theorem hexPack_eq (mf : Nat) (ef : Int) (neg : Bool) (hmf : mf < 2 ^ 53) (hef : 2 ^ 52 ≤ mf → -1022 ≤ ef) :
    hexPack mf ef neg = packed neg (if mf < 2 ^ 52 then mf else (ef + 1022).toNat * 2 ^ 52 + mf) := by
  -- the assembly is the slow path's `fbAssemble`, of (mf, bias), (2^52, maxExp + 1) or (mf, ef)
  unfold hexPack packed
  have hcond : ((mf >>> 52 == 0) = true) ↔ mf < 2 ^ 52 := by rw [beq_iff_eq, shr_eq_zero_iff]
  by_cases hlt : mf < 2 ^ 52
  · have h1 : ¬ ((-1023 : Int) > 2 ^ 11 + -1023 - 2) := by decide
    have hB : ¬ mf ≥ 0x7FF0000000000000 := by omega
    simp only [if_pos (hcond.mpr hlt), if_pos hlt, h1, if_false, hB]
    show (⟨fbAssemble neg mf (-1023), none⟩ : FloatRes) = _
    rw [fbAssemble_mag neg mf (-1023) hmf (Or.inr ⟨hlt, rfl⟩), show ((-1023 : Int) + 1022).toNat = 0 from rfl,
      Nat.zero_mul, Nat.zero_add]
  · simp only [if_neg (fun h => hlt (hcond.mp h)), if_neg hlt]
    by_cases hov : ef > 2 ^ 11 + -1023 - 2
    · have hB : (ef + 1022).toNat * 2 ^ 52 + mf ≥ 0x7FF0000000000000 := by omega
      simp only [hov, if_true, hB]
      rw [bits_pack neg _ _ (by decide)]
      rfl
    · have hlo := hef (by omega)
      have hB : ¬ (ef + 1022).toNat * 2 ^ 52 + mf ≥ 0x7FF0000000000000 := by omega
      simp only [hov, if_false, hB]
      show (⟨fbAssemble neg mf ef, none⟩ : FloatRes) = _
      rw [fbAssemble_mag neg mf ef hmf (Or.inl ⟨by omega, hlo, by omega⟩)]

/-- the hypotheses say that the state is normalised or at the denormal exponent -/
theorem hexFinish_eq (m : Nat) (e : Int) (neg : Bool) (hm : m < 2 ^ 55)
    (hlo : 2 ^ 52 ≤ qOf m → -1024 ≤ e) (hde : qOf m < 2 ^ 52 → e ≤ -1024) :
    hexFinish m e neg = packed neg ((e + 1024).toNat * 2 ^ 52 + qOf m) := by
  have hq := qOf_bounds m
  rw [hexFinish, roundStep_eq m e hm]
  by_cases h53 : qOf m = 2 ^ 53
  · rw [if_pos h53]
    show hexPack (2 ^ 52) (e + 3) neg = _
    rw [hexPack_eq (2 ^ 52) (e + 3) neg (by decide) (fun _ => by omega), if_neg (by decide),
      show (e + 3 + 1022).toNat * 2 ^ 52 + 2 ^ 52 = (e + 1024).toNat * 2 ^ 52 + qOf m by omega]
  · rw [if_neg h53]
    show hexPack (qOf m) (e + 2) neg = _
    rw [hexPack_eq (qOf m) (e + 2) neg (by omega) (fun _ => by omega)]
    by_cases h52 : qOf m < 2 ^ 52
    · rw [if_pos h52, show (e + 1024).toNat = 0 by omega, Nat.zero_mul, Nat.zero_add]
    · rw [if_neg h52, show (e + 2 + 1022).toNat = (e + 1024).toNat by omega]

section
variable {V : ℚ} (hV : 0 < V)
include hV

theorem magBits_of_stick (m : Nat) (e : Int) (hs : Stick m (scaleAt V e)) (hm : m < 2 ^ 55)
    (he : -1024 ≤ e) (hnorm : 2 ^ 54 ≤ m ∨ e = -1024) :
    magBitsQ V = (e + 1024).toNat * 2 ^ 52 + qOf m := by
  have hx4 : V * (2 : ℚ) ^ (50 - e) = scaleAt V e / 4 := by
    rw [scaleAt, show (52 : Int) - e = (50 - e) + 2 by omega, zpow_add₀ (by norm_num : (2 : ℚ) ≠ 0)]
    norm_num
    ring
  rw [magBitsQ_of_near hV (50 - e) (qOf m) (by
      rw [IsShift, hx4]
      refine ⟨by omega, ?_, fun hlt => ?_⟩
      · have := hs.lt_even (2 ^ 54) hm
        push_cast at this; linarith only [this]
      · have := hs.ge_even (2 ^ 53) (by omega)
        push_cast at this; linarith only [this]) (hx4 ▸ nearQ_of_stick m _ hs),
    show 1074 - (50 - e) = e + 1024 by omega]

theorem finish_main (m : Nat) (e : Int) (neg : Bool) (hs : Stick m (scaleAt V e)) (hm : m < 2 ^ 55)
    (he : -1024 ≤ e) (hnorm : 2 ^ 54 ≤ m ∨ e = -1024) :
    hexFinish m e neg = packed neg (magBitsQ V) := by
  have hq := qOf_bounds m
  rw [magBits_of_stick hV m e hs hm he hnorm]
  exact hexFinish_eq m e neg hm (fun _ => he) (fun h => by omega)

/-- one sticky bit left below the denormal exponent: as if it had been shifted up to there -/
theorem finish_tiny (e : Int) (neg : Bool) (hs : Stick 1 (scaleAt V e)) (he : e < -1024) :
    hexFinish 1 e neg = packed neg (magBitsQ V) := by
  have u := (hs.2 rfl).2
  have hs' : Stick 1 (scaleAt V (-1024)) := by
    refine ⟨fun h => absurd h (by decide), fun _ => ?_⟩
    have hle : scaleAt V (-1024) ≤ scaleAt V e :=
      mul_le_mul_of_nonneg_left (zpow_le_zpow_right₀ (by norm_num) (by omega)) hV.le
    exact ⟨by rw [Nat.cast_one, sub_self]; exact mul_pos hV (two_zpow_pos _), lt_of_le_of_lt hle u⟩
  rw [magBits_of_stick hV 1 (-1024) hs' (by decide) (Int.le_refl _) (Or.inr rfl),
    hexFinish_eq 1 e neg (by decide) (fun h => absurd h (by decide)) (fun _ => by omega),
    show (e + 1024).toNat = 0 by omega]
  rfl

theorem hex_core (m1 : Nat) (e1 : Int) (neg : Bool) (hs1 : Stick m1 (scaleAt V e1)) (u4 : 2 ^ 54 ≤ m1) (h64 : m1 < 2 ^ 64) :
    hexFinish (hexDenorm (-1022) 64 (hexNormDown 64 m1 e1).1 (hexNormDown 64 m1 e1).2).1
              (hexDenorm (-1022) 64 (hexNormDown 64 m1 e1).1 (hexNormDown 64 m1 e1).2).2 neg =
      packed neg (magBitsQ V) := by
  obtain ⟨d1, d2, d3⟩ := normDown_spec V 64 m1 e1 hs1 (by omega)
  have d3' := d3 u4
  generalize hexNormDown 64 m1 e1 = p2 at *
  obtain ⟨f1, f2, f3, f4, f5⟩ := denorm_spec V 64 p2.1 p2.2 d1 (by omega)
  have f3' := f3 (by omega)
  rcases Int.lt_trichotomy (hexDenorm (-1022) 64 p2.1 p2.2).2 (-1024) with g | g | g
  · have f4' := f4 g
    generalize hexDenorm (-1022) 64 p2.1 p2.2 = p3 at *
    rw [show p3.1 = 1 by omega] at f1 ⊢
    exact finish_tiny hV p3.2 neg f1 g
  · generalize hexDenorm (-1022) 64 p2.1 p2.2 = p3 at *
    exact finish_main hV p3.1 p3.2 neg f1 (by omega) (by omega) (Or.inr g)
  · have g' := g
    rw [f5 g] at g' ⊢
    exact finish_main hV p2.1 p2.2 neg d1 d2 (by omega) (Or.inl d3')

end

theorem hexLoops_zero (e : Int) :
    hexNormUp 64 0 e = (0, e) ∧ hexNormDown 64 0 e = (0, e) ∧ hexDenorm (-1022) 64 0 e = (0, e) :=
  ⟨by rw [normUp_succ, if_neg (by omega)], by rw [normDown_succ, if_neg (by omega)],
   by rw [denorm_succ, if_neg (by omega)]⟩

theorem scaleAt_start (V : ℚ) (e0 : Int) : scaleAt V (e0 + 52) = V / (2 : ℚ) ^ e0 := by
  rw [scaleAt, show (52 : Int) - (e0 + 52) = -e0 by omega, zpow_neg, div_eq_mul_inv]

/-- **`atofHex` is one correct rounding** of mantissa·2^exp (no truncated digits): the unsaturated magnitude bits
of the exact value with the sign attached, the range error exactly when they reach the exponent field of infinity. -/
theorem atofHex_correct (m0 : Nat) (e0 : Int) (neg : Bool) (hm0 : m0 < 2 ^ 64) :
    atofHex m0 e0 neg false =
      if m0 = 0 then ⟨F64.zero neg, none⟩
      else packed neg (magBitsQ ((m0 : ℚ) * (2 : ℚ) ^ e0)) := by
  rw [atofHex_eq, hexLoops]
  simp only [Bool.false_eq_true, if_false]
  by_cases h0 : m0 = 0
  · subst h0
    obtain ⟨a, b, c⟩ := hexLoops_zero (e0 + 52)
    rw [a, b, c, if_pos rfl, hexFinish, roundStep_eq 0 _ (by decide), if_neg (by decide)]
    show hexPack 0 (e0 + 52 + 2) neg = _
    rw [hexPack_eq 0 _ neg (by decide) (fun h => absurd h (by decide)), if_pos (by decide)]
    cases neg <;> rfl
  · rw [if_neg h0]
    have hpos : 0 < m0 := Nat.pos_of_ne_zero h0
    have hstart : scaleAt ((m0 : ℚ) * (2 : ℚ) ^ e0) (e0 + 52) = (m0 : ℚ) := by
      rw [scaleAt_start, mul_div_cancel_right₀ _ (two_zpow_pos e0).ne']
    obtain ⟨u1, u4, u5⟩ := normUp_spec _ 64 m0 (e0 + 52) hstart hpos
      (Nat.le_trans (by decide : 2 ^ 54 ≤ 1 * 2 ^ 64) (Nat.mul_le_mul_right _ hpos))
    generalize hexNormUp 64 m0 (e0 + 52) = p1 at *
    exact hex_core (mul_pos (Nat.cast_pos.2 hpos) (two_zpow_pos e0)) p1.1 p1.2 neg (by rw [u1]; exact stick_exact _) u4
      (by omega)

/-- **`atofHex` with `trunc = true`**: when the true value V lies strictly between the kept
64-bit mantissa m0 and m0 + 1 (in units of 2^exp) and m0 has at least 55 bits, the result is
the correct rounding of V. -/
theorem atofHex_trunc_correct {V : ℚ} (hV : 0 < V) (m0 : Nat) (e0 : Int) (neg : Bool) (h54 : 2 ^ 54 ≤ m0)
    (h64 : m0 < 2 ^ 64) (l : (m0 : ℚ) * (2 : ℚ) ^ e0 < V) (u : V < ((m0 : ℚ) + 1) * (2 : ℚ) ^ e0) :
    atofHex m0 e0 neg true = packed neg (magBitsQ V) := by
  rw [atofHex_eq, hexLoops]
  simp only [if_true]
  have hup : hexNormUp 64 m0 (e0 + 52) = (m0, e0 + 52) := by rw [normUp_succ, if_neg (by omega)]
  rw [hup]
  have hor := or_one m0
  have h2 := two_zpow_pos e0
  exact hex_core hV (m0 ||| 1) (e0 + 52) neg
    (stick_or_one m0 _ (by rw [scaleAt_start, lt_div_iff₀ h2]; exact l) (by rw [scaleAt_start, div_lt_iff₀ h2]; exact u))
    (by omega) (by omega)

end C03
