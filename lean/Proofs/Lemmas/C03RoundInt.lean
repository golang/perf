/-
C03 helper lemmas: decimal.go `RoundedInteger` / `shouldRoundUp` on digits split at the point returns
an integer nearest to the value; a tie goes to the even neighbour, or up when `trunc` is set (the
dropped digits are known to be non-zero): `F64.NearInt`, which for `trunc = false` is what `F64.rne_eq_of_near` consumes.
-/
import Proofs.Lemmas.C03Digits
import Proofs.Lemmas.F64Round
import Mathlib.Tactic.Ring
import Model.Num.Decimal
import Proofs.Lemmas.Shared.List

namespace C03
open Num Spec.NumText F64

theorem pow10_19 : (10 : Nat) ^ 19 < 2 ^ 64 := by decide

theorem riDigits_eq (cs : Bytes) (h : cs.all isDec = true) : ∀ (n j : Nat), n < 10 ^ j → j + cs.length ≤ 19 →
    riDigits cs n = valFrom n cs := by
  induction cs with
  | nil => intro n j _ _; rfl
  | cons c cs ih =>
    intro n j hn hj
    rw [List.all_cons, Bool.and_eq_true] at h
    have hv := sub48 h.1
    have h9 := digVal_le9 h.1
    simp only [List.length_cons] at hj
    have hlt : n * 10 + digVal c < 10 ^ (j + 1) := by rw [Nat.pow_succ]; omega
    have hle : 10 ^ (j + 1) ≤ 10 ^ 19 := Nat.pow_le_pow_right (by decide) (by omega)
    have h64 := pow10_19
    unfold riDigits
    rw [hv, Nat.mod_eq_of_lt (by omega), Nat.mod_eq_of_lt (by omega), valFrom_cons]
    exact ih h.2 _ (j + 1) hlt (by omega)

theorem riPad_eq : ∀ (k n : Nat), n * 10 ^ k < 2 ^ 64 → riPad k n = n * 10 ^ k := by
  intro k
  induction k with
  | zero => intro n _; simp [riPad]
  | succ k ih =>
    intro n h
    have e : n * 10 ^ (k + 1) = n * 10 * 10 ^ k := by rw [Nat.pow_succ]; ring
    rw [e] at h
    have h1 : n * 10 < 2 ^ 64 := Nat.lt_of_le_of_lt (Nat.le_mul_of_pos_right _ (Nat.pow_pos (by decide))) h
    unfold riPad
    rw [Nat.mod_eq_of_lt h1, ih _ h, e]

theorem valOf_eq_zero_iff (b : Bytes) (h : b.all isDec = true) : valOf 10 b = 0 ↔ b.any (· != 48) = false := by
  induction b with
  | nil => simp [valOf]
  | cons c b ih =>
    rw [List.all_cons, Bool.and_eq_true] at h
    rw [valOf_cons, List.any_cons, Bool.or_eq_false_iff, ← ih h.2, Nat.add_eq_zero_iff, Nat.mul_eq_zero,
      ← digVal_eq_zero h.1]
    simp

theorem valOf_pos_of_last (b : Bytes) (h : b.all isDec = true) (hne : b ≠ []) (hl : b.getLast? ≠ some 48) :
    0 < valOf 10 b :=
  Nat.pos_of_ne_zero fun h0 => hl (by
    have := List.any_eq_false.mp ((valOf_eq_zero_iff b h).mp h0) _ (List.getLast_mem hne)
    rw [List.getLast?_eq_some_getLast hne]; simpa using this)

theorem valOf_parity (a : Bytes) (c : UInt8) : valOf 10 (a ++ [c]) % 2 = digVal c % 2 := by
  rw [valOf_append]
  simp [valOf]
  omega

theorem ge53_iff {c : UInt8} (h : isDec c = true) : c ≥ 53 ↔ 5 ≤ digVal c := by
  rw [ge_iff_le, UInt8.le_iff_toNat_le, digVal_toNat h]
  have : (53 : UInt8).toNat = 53 := rfl
  omega

theorem eq53_iff {c : UInt8} (h : isDec c = true) : (c == 53) = true ↔ digVal c = 5 := by
  rw [beq_iff_eq, ← UInt8.toNat_inj, digVal_toNat h]
  have : (53 : UInt8).toNat = 53 := rfl
  omega

theorem odd_iff {c : UInt8} (h : isDec c = true) : ((c - 48) % 2 != 0) = true ↔ digVal c % 2 = 1 := by
  rw [bne_iff_ne, ne_eq, ← UInt8.toNat_inj, UInt8.toNat_mod, sub48 h, show (2 : UInt8).toNat = 2 from rfl,
    show (0 : UInt8).toNat = 0 from rfl]
  omega

theorem getD_append_len (hi : Bytes) (c : UInt8) (rest : Bytes) : (hi ++ c :: rest).getD hi.length 48 = c :=
  Shared.getD_append_right hi (c :: rest) 0

theorem ri_point (hi : Bytes) (c : UInt8) (rest : Bytes) (tr : Bool) (hhi : hi.all isDec = true) (hlen : hi.length ≤ 19) :
    roundedInteger { d := hi ++ c :: rest, dp := hi.length, trunc := tr } =
      if shouldRoundUp { d := hi ++ c :: rest, dp := hi.length, trunc := tr } hi.length then valOf 10 hi + 1
      else valOf 10 hi := by
  have h64 := pow10_19
  unfold roundedInteger
  have hdp : ¬ ((hi.length : Int) > 20) := by omega
  simp only [hdp, if_false, Int.toNat_natCast, List.take_left', List.length_append, List.length_cons]
  have hpad : hi.length - (hi.length + (rest.length + 1)) = 0 := by omega
  rw [hpad]
  simp only [riPad]
  rw [riDigits_eq hi hhi 0 0 (by decide) (by omega), ← valOf_eq]
  have hq := valOf_lt hi hhi
  have hqle : 10 ^ hi.length ≤ 10 ^ 19 := Nat.pow_le_pow_right (by decide) hlen
  rw [Nat.mod_eq_of_lt (show valOf 10 hi + 1 < 2 ^ 64 by omega)]

theorem sru_point (hi : Bytes) (c : UInt8) (rest : Bytes) (tr : Bool) (hhi : hi.all isDec = true) (hc : isDec c = true) :
    shouldRoundUp { d := hi ++ c :: rest, dp := hi.length, trunc := tr } hi.length =
      if digVal c = 5 ∧ rest = [] then (tr || decide (valOf 10 hi % 2 = 1)) else decide (5 ≤ digVal c) := by
  have f1 := ge53_iff hc
  have f2 := eq53_iff hc
  -- parity of the integer part = parity of its last digit
  have hpar : (decide (hi.length > 0) && ((hi ++ c :: rest).getD (hi.length - 1) 48 - 48) % 2 != 0) =
      decide (valOf 10 hi % 2 = 1) := by
    rcases List.eq_nil_or_concat hi with rfl | ⟨hi', c1, rfl⟩
    · simp [valOf]
    · rw [List.concat_eq_append] at hhi ⊢
      have e2 : (hi' ++ [c1] ++ c :: rest).getD ((hi' ++ [c1]).length - 1) 48 = c1 := by
        simp only [List.length_append, List.length_singleton, Nat.add_sub_cancel, List.append_assoc,
          List.singleton_append]
        exact getD_append_len hi' c1 (c :: rest)
      have hc1 : isDec c1 = true := by
        rw [List.all_append] at hhi
        simp only [Bool.and_eq_true, List.all_cons, List.all_nil, Bool.and_true] at hhi
        exact hhi.2
      have g3 := odd_iff hc1
      have hpos : 0 < (hi' ++ [c1]).length := by simp
      rw [e2, valOf_parity]
      simp only [hpos, decide_true, Bool.true_and]
      exact Bool.eq_iff_iff.mpr (by rw [decide_eq_true_iff]; exact g3)
  unfold shouldRoundUp
  have hc2 : (decide ((hi.length : Int) < 0) ||
      decide ((hi.length : Int) ≥ ((hi.length + (rest.length + 1) : Nat) : Int))) = false := by
    simp only [Bool.or_eq_false_iff, decide_eq_false_iff_not]; omega
  simp only [Int.toNat_natCast, getD_append_len, List.length_append, List.length_cons, hc2,
    Bool.false_eq_true, if_false]
  by_cases h53 : (c == 53) = true
  · by_cases hr0 : rest = []
    · subst hr0
      have hk : (hi.length + 1 == hi.length + (0 + 1)) = true := by simp
      simp only [h53, List.length_nil, hk, Bool.and_self, if_true]
      rw [if_pos (show digVal c = 5 ∧ True from ⟨f2.mp h53, trivial⟩), hpar]
      cases tr <;> rfl
    · have hk : (hi.length + 1 == hi.length + (rest.length + 1)) = false := by
        have := List.length_pos_iff.mpr hr0
        simp only [beq_eq_false_iff_ne, ne_eq]; omega
      simp only [h53, hk, Bool.and_false, Bool.false_eq_true, if_false]
      rw [if_neg (fun h => hr0 h.2)]
      exact decide_eq_decide.mpr f1
  · have h53' : (c == 53) = false := by simpa using h53
    simp only [h53', Bool.false_and, Bool.false_eq_true, if_false]
    rw [if_neg (fun h => h53 (f2.mpr h.1))]
    exact decide_eq_decide.mpr f1

theorem ri_near_split (hi : Bytes) (c : UInt8) (rest : Bytes) (tr : Bool) (hhi : hi.all isDec = true) (hc : isDec c = true)
    (hrest : rest.all isDec = true) (htrim : tr = false → (c :: rest).getLast? ≠ some 48) (hlen : hi.length ≤ 19) :
    NearInt tr (roundedInteger { d := hi ++ c :: rest, dp := hi.length, trunc := tr })
      (valOf 10 (hi ++ c :: rest)) (10 ^ (rest.length + 1)) := by
  have f4 := digVal_le9 hc
  rw [ri_point hi c rest tr hhi hlen, sru_point hi c rest tr hhi hc]
  have hr := valOf_lt rest hrest
  have hvpos : tr = false → rest ≠ [] → 0 < valOf 10 rest := by
    intro htr hne
    apply valOf_pos_of_last rest hrest hne
    cases rest with
    | nil => exact absurd rfl hne
    | cons a b => simpa using htrim htr
  rw [valOf_append, valOf_cons, List.length_cons]
  generalize hP : 10 ^ rest.length = P at *
  have hPpos : 0 < P := by rw [← hP]; exact Nat.pow_pos (by decide)
  have hD : 10 ^ (rest.length + 1) = 10 * P := by rw [Nat.pow_succ, hP]; ring
  rw [hD]
  generalize valOf 10 hi = q
  generalize hvr : valOf 10 rest = vr at *
  generalize hX : digVal c * P = X
  have hXle : X ≤ 9 * P := by rw [← hX]; exact Nat.mul_le_mul_right _ f4
  have e1 : (q + 1) * (10 * P) = q * (10 * P) + 10 * P := by ring
  obtain ⟨T, hT⟩ : ∃ T, q * (10 * P) = T := ⟨_, rfl⟩
  rw [hT] at e1 ⊢
  unfold NearInt
  -- in each case the product `M * (10 * P)` is rewritten to `T` or `T + 10 * P` and the two product
  -- equations are cleared: `omega` is several times slower with them in its context
  clear hhi hc hrest htrim hlen hD f4
  by_cases h5 : digVal c = 5 ∧ rest = []
  · -- exactly one fraction digit, a 5: a tie
    obtain ⟨hd5, hr0⟩ := h5
    subst hr0
    obtain rfl : P = 1 := by rw [← hP]; rfl
    obtain rfl : vr = 0 := by rw [← hvr]; rfl
    obtain rfl : X = 5 := by rw [← hX, hd5]
    simp only [hd5, and_self, if_true, Bool.or_eq_true, decide_eq_true_eq]
    by_cases hup : tr = true ∨ q % 2 = 1
    · rw [if_pos hup, e1]
      clear hT e1
      refine ⟨Or.inr ⟨by omega, ?_⟩, Or.inl (by omega)⟩
      rcases hup with h | h
      · exact Or.inr h
      · exact Or.inl (by omega)
    · rw [if_neg hup, hT]
      clear hT e1
      exact ⟨Or.inl (by omega), Or.inr ⟨by omega, by omega, Bool.eq_false_iff.mpr fun h => hup (Or.inl h)⟩⟩
  · rw [if_neg h5]
    simp only [decide_eq_true_eq]
    by_cases hge : 5 ≤ digVal c
    · rw [if_pos hge, e1]
      clear hT e1
      have hX5 : 5 * P ≤ X := by rw [← hX]; exact Nat.mul_le_mul_right _ hge
      refine ⟨?_, Or.inl (by omega)⟩
      by_cases hd5 : digVal c = 5
      · -- 5 followed by more digits: strictly above the tie unless they are all dropped zeros (`trunc`)
        have hne : rest ≠ [] := fun h => h5 ⟨hd5, h⟩
        have hX5' : X = 5 * P := by rw [← hX, hd5]
        cases htr : tr with
        | false => have := hvpos htr hne; exact Or.inl (by omega)
        | true =>
          by_cases hv0 : vr = 0
          · exact Or.inr ⟨by omega, Or.inr rfl⟩
          · exact Or.inl (by omega)
      · have hX6 : 6 * P ≤ X := by rw [← hX]; exact Nat.mul_le_mul_right _ (by omega)
        exact Or.inl (by omega)
    · have hX4 : X ≤ 4 * P := by rw [← hX]; exact Nat.mul_le_mul_right _ (by omega)
      rw [if_neg hge, hT]
      clear hT e1
      exact ⟨Or.inl (by omega), Or.inl (by omega)⟩

end C03
