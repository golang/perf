/-
One record, then a whole history, read back by the MODEL reader (`Fmt.scanLine` / `readLines`).

What the reader makes of a single line is taken here as hypotheses on the records
(`CfgGood`, `BenchGood`, `UnitGood`); `C01Tokens.lean` derives them from well-formedness.
Records are compared as `AObs`: a `Config` list with distinct keys is the map it denotes (`obs_abs_rec`).
-/
import Proofs.Lemmas.C01Config
import Proofs.Lemmas.Shared.Bytes

namespace C01
open Fmt Spec.RoundTrip

/-- what is compared of a record across the round trip: its content with the configuration as a
lookup function of the file keys (`fmOf`); file name and line number are left out -/
inductive AObs where
  | result (name : Bytes) (iters : Int) (vals : List (UInt64 × Bytes)) (fm : Bytes → Option Bytes)
  | unit (origUnit key value tidyUnit : Bytes)
  | err (msg : Bytes)

/-- file part of a configuration given as a lookup function -/
def fmOf (get : Bytes → Option (Bytes × Bool)) : Bytes → Option Bytes := fun k =>
  match get k with
  | some (v, true) => some v
  | _ => none

/-- a record with its `Config` list read as a map -/
def aobsRec : Rec → AObs
  | .result r => .result r.name r.iters (r.values.map written) (fmOf (cfgGet r.config))
  | .unit u => .unit u.origUnit u.key u.value u.unit
  | .err e => .err e.msg

/-- the records that are written at all -/
def kept (h : List Rec) : List Rec :=
  h.filter fun r => match r with
    | .err _ => false
    | _ => true

/-- an observation with its file map read as a function -/
def Obs.abs : Obs → AObs
  | .result name iters vals fm => .result name iters vals (fun k => List.lookup k fm)
  | .unit o k v t => .unit o k v t
  | .err m => .err m

theorem lookup_fileMap (config : List Cfg) (hnd : (config.map Cfg.key).Nodup) (k : Bytes) :
    List.lookup k (fileMap config) = fmOf (cfgGet config) k := by
  induction config with
  | nil => simp [fileMap, fmOf, cfgGet_eq]
  | cons c cs ih =>
    simp only [List.map_cons, List.nodup_cons] at hnd
    have ih' := ih hnd.2
    unfold fmOf at ih' ⊢
    rw [cfgGet_cons]
    by_cases hk : c.key = k
    · subst hk
      have hnone : List.lookup c.key (fileMap cs) = none := by
        rw [ih']
        have : cfgGet cs c.key = none := by
          cases hh : cfgGet cs c.key with
          | none => rfl
          | some x =>
            have := (cfgGet_isSome_iff cs c.key).1 (by simp [hh])
            exact absurd this hnd.1
        simp [this]
      by_cases hf : c.file = true
      · simp [fileMap, hf]
      · have hf' : c.file = false := by simpa using hf
        simp only [fileMap, List.filter_cons, hf', Bool.false_eq_true, ↓reduceIte] at hnone ⊢
        simp [hnone]
    · have hb : (k == c.key) = false := by simpa using fun e => hk e.symm
      by_cases hf : c.file = true
      · simp only [fileMap, List.filter_cons, hf, ↓reduceIte, List.map_cons, List.lookup_cons, hb, hk] at ih' ⊢
        exact ih'
      · have hf' : c.file = false := by simpa using hf
        simp only [fileMap, List.filter_cons, hf', Bool.false_eq_true, ↓reduceIte, hk] at ih' ⊢
        exact ih'

theorem obs_abs_rec (r : Rec)
    (hnd : ∀ res, r = .result res → (res.config.map Cfg.key).Nodup) :
    Obs.abs (observe r) = aobsRec r := by
  cases r with
  | result res =>
    simp only [observe, Obs.abs, aobsRec, AObs.result.injEq, true_and]
    funext k
    exact lookup_fileMap res.config (hnd res rfl) k
  | unit u => rfl
  | err e => rfl

theorem observeWritten_eq (h : List Rec) : observeWritten h = (kept h).map observe := by
  induction h with
  | nil => rfl
  | cons r rs ih =>
    cases r <;> simp_all [observeWritten, kept]

theorem aobsRec_result {rec : Rec} {r : Res} (h : aobsRec rec = aobsRec (.result r)) :
    ∃ r', rec = .result r' ∧ fmOf (cfgGet r'.config) = fmOf (cfgGet r.config) := by
  cases rec with
  | result r' => exact ⟨r', rfl, (AObs.result.inj h).2.2.2⟩
  | unit u => cases h
  | err e => cases h

theorem fmOf_link {O : Oracles} {fc : FC} {s : Store} (hl : Link O fc s) (g : Bytes → Option (Bytes × Bool))
    (hg : ∀ k, fc.get k = g k) : fmOf (cfgGet s.live) = fmOf g := by
  funext k
  unfold fmOf
  rw [Store.cfgGet_live hl.inv, hl.map k, hg k]
  cases g k with
  | none => rfl
  | some vf => obtain ⟨v, f⟩ := vf; cases f <;> rfl

/-- the benchmark line of `r` parses back to `r`'s name, iterations and written measurements -/
def BenchGood (O : Oracles) (P : WParams) (r : Res) : Prop :=
  ∃ vals, parseBenchmarkLine O (benchLine P r) = .ok r.name r.iters vals ∧
    vals.map written = r.values.map written

/-- the unit-metadata line of `u` yields `u` when its (tidied unit, key) is not yet set -/
def UnitGood (O : Oracles) (u : UnitMeta) : Prop :=
  ∀ st : RState, st.units.get u.unit u.key = none →
    scanLine O st (unitLine u) =
      ({ next st with units := st.units.insert ⟨u.unit, u.key, u.origUnit, u.value, st.fileName, st.line + 1⟩ },
        [.unit ⟨u.unit, u.key, u.origUnit, u.value, st.fileName, st.line + 1⟩])

/-- the hypothesis of `history_lines` on one record: the lines the writer prints for it are read
back as this record (nothing is asked of error records, which are not written: `kept`) -/
def RecGood (O : Oracles) (P : WParams) : Rec → Prop
  | .result r => (r.config.map Cfg.key).Nodup ∧ (∀ c ∈ r.config, CfgGood O c) ∧ BenchGood O P r
  | .unit u => UnitGood O u
  | .err _ => True

theorem unitMap_get_insert (units : UnitMap) (u : UnitMeta) (a b : Bytes) :
    (units.insert u).get a b = (units.get a b).or (if u.unit = a ∧ u.key = b then some u else none) := by
  unfold UnitMap.get UnitMap.insert
  rw [List.find?_append, List.find?_singleton]
  congr 1
  by_cases hc : u.unit = a ∧ u.key = b
  · rw [if_pos hc, if_pos (by simp [hc])]
  · rw [if_neg hc, if_neg (by simpa using hc)]

theorem bench_scanLine (O : Oracles) (P : WParams) (r : Res) (vals : List Val)
    (hp : parseBenchmarkLine O (benchLine P r) = .ok r.name r.iters vals) (st : RState) :
    scanLine O st (benchLine P r) =
      (next st, [.result ⟨st.store.live, r.name, r.iters, vals, st.fileName, st.line + 1⟩]) := by
  have hpre : Bytes.hasPrefix (benchLine P r) benchmarkPrefix = true := by
    unfold benchLine
    simp only [List.append_assoc]
    exact Bytes.hasPrefix_append _ _
  rw [scanLine_bench hpre, hp]
  rfl

/-- The invariant linking the writer to a reader of its output. -/
structure Inv (O : Oracles) (w : WState) (s : Store) : Prop where
  winv : WInv w
  link : Link O w.fileConfig s

theorem inv_new (O : Oracles) (s : Store) : Inv O WState.new s.reset :=
  ⟨winv_new, Store.inv_reset s, Store.toMap_reset s, fun _ _ h => nomatch h⟩

theorem result_step (O : Oracles) (P : WParams) (w : WState) (st : RState) (r : Res)
    (hi : Inv O w st.store) (hnd : (r.config.map Cfg.key).Nodup) (hcfg : ∀ c ∈ r.config, CfgGood O c)
    (hb : BenchGood O P r) :
    Inv O (writeResult P w r).1 (finalState O st (writeResult P w r).2).store ∧
    (finalState O st (writeResult P w r).2).units = st.units ∧
    (readLines O st (writeResult P w r).2).map aobsRec = [aobsRec (.result r)] := by
  obtain ⟨vals, hp, hvals⟩ := hb
  obtain ⟨hfc, hw', blk, hlines, hread⟩ := writeResult_state P w r hi.winv hnd
  have hblk := hread O st hcfg hi.link
  rw [hlines, finalState_append, readLines_append, hblk.quiet]
  simp only [finalState, readLines, bench_scanLine O P r vals hp (finalState O st blk), List.nil_append,
    List.append_nil, next]
  refine ⟨⟨hw', hblk.link⟩, hblk.units, ?_⟩
  simp only [List.map_cons, List.map_nil, aobsRec, hvals]
  rw [fmOf_link hblk.link (cfgGet r.config) hfc]

/-- The induction all of C01 rests on: from ANY writer state `w` and reader state `st` linked by
`Inv`, the reader makes of the lines written for `h` the written records of `h` (up to
`aobsRec`), and `Inv` links the two final states. One step per record: `result_step` for a
result with its configuration block, `UnitGood` for a unit line. -/
theorem history_lines (O : Oracles) (P : WParams) :
    ∀ (h : List Rec) (w : WState) (st : RState),
      Inv O w st.store → (∀ r ∈ h, RecGood O P r) →
      (unitKeys h).Nodup → (∀ p ∈ unitKeys h, st.units.get p.1 p.2 = none) →
      (readLines O st (Writer.writeFrom P w h)).map aobsRec = (kept h).map aobsRec ∧
      Inv O (Writer.stateAfter P w h) (finalState O st (Writer.writeFrom P w h)).store := by
  intro h
  induction h with
  | nil => intro w st hi _ _ _; exact ⟨rfl, hi⟩
  | cons rec rest ih =>
    intro w st hi hgood hkeys hfresh
    have hrest : ∀ r ∈ rest, RecGood O P r := fun r hr => hgood r (List.mem_cons_of_mem _ hr)
    have hrec := hgood rec List.mem_cons_self
    cases rec with
    | err e =>
      simp only [Writer.writeFrom, Writer.stateAfter, Writer.write, List.nil_append, kept, List.filter_cons]
      exact ih w st hi hrest hkeys hfresh
    | unit um =>
      obtain ⟨hnew, hnd'⟩ := List.nodup_cons.1 (show ((um.unit, um.key) :: unitKeys rest).Nodup from hkeys)
      have hl := hrec st (hfresh (um.unit, um.key) List.mem_cons_self)
      -- the settings still to come differ from this one, so they stay unset
      obtain ⟨h1, h2⟩ := ih w
        { next st with units := st.units.insert ⟨um.unit, um.key, um.origUnit, um.value, st.fileName, st.line + 1⟩ }
        hi hrest hnd' (fun p hp => by
          rw [unitMap_get_insert, hfresh p (List.mem_cons_of_mem _ hp), if_neg]
          · rfl
          · exact fun ⟨e1, e2⟩ => hnew (by rw [show (um.unit, um.key) = p from Prod.ext e1 e2]; exact hp))
      simp only [Writer.writeFrom, Writer.stateAfter, Writer.write, kept, List.filter_cons, List.cons_append,
        List.nil_append, readLines, finalState, hl, List.map_cons]
      refine ⟨?_, h2⟩
      rw [h1]
      simp [aobsRec, kept]
    | result r =>
      obtain ⟨hnd, hcfg, hb⟩ := hrec
      obtain ⟨hi', hu, hout⟩ := result_step O P w st r hi hnd hcfg hb
      obtain ⟨h1, h2⟩ := ih (writeResult P w r).1 (finalState O st (writeResult P w r).2) hi' hrest hkeys
        (by rw [hu]; exact hfresh)
      simp only [Writer.writeFrom, Writer.stateAfter, Writer.write, kept, List.filter_cons]
      rw [readLines_append, finalState_append, List.map_append, hout, h1]
      exact ⟨by simp [kept], h2⟩

end C01
