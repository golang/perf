/-
C03: `atof64exact` returns the correctly rounded value whenever it answers. Every operation is `roundQ`
of the exact result (`mul_eq`, `div_eq_roundQ`, `ofInt_eq`, `ofDecimal_eq`), the operands (integers below
2^53, powers of ten up to 10^22 = 5^22·2^22) are exactly representable, and the `1e15` test is read
through the order of the values.
-/
import Model.Num.Atof
import Proofs.Lemmas.F64Dec

namespace C03
open Num F64

theorem is_nat (m : Nat) (h53 : m < 2 ^ 53) : Is (roundQ (m : ℚ)) m := by
  have := ofInt_exact (m : Int) (by rwa [Int.natAbs_natCast])
  rwa [ofInt_eq, Int.cast_natCast] at this

theorem decVal_mul (neg : Bool) (m : Nat) (e k : Int) :
    decVal neg m e * (10 : ℚ) ^ k = decVal neg m (e + k) := by
  unfold decVal; rw [zpow_add₀ (by norm_num : (10 : ℚ) ≠ 0)]; split <;> ring

theorem decVal_zero_exp (neg : Bool) (m : Nat) : decVal neg m 0 = if neg then -(m : ℚ) else m := by
  unfold decVal; rw [zpow_zero, _root_.mul_one]

theorem decVal_nat (neg : Bool) (m j : Nat) : decVal neg m (j : Int) = decVal neg (m * 10 ^ j) 0 := by
  unfold decVal; rw [zpow_natCast, zpow_zero, _root_.mul_one]; push_cast; rfl

theorem is_dec0 (neg : Bool) (n : Nat) (h0 : 0 < n) (h53 : n < 2 ^ 53) :
    Is (roundQ (decVal neg n 0)) (decVal neg n 0) := by
  have h := is_nat n h53
  rw [decVal_zero_exp]
  cases neg
  · rw [if_neg Bool.false_ne_true]; exact h
  · rw [if_pos rfl, roundQ_neg _ (Nat.cast_ne_zero.2 h0.ne')]; exact h.neg

theorem operand_eq (neg : Bool) (m : Nat) (h0 : 0 < m) :
    (if neg then F64.neg (ofInt (m : Int)) else ofInt (m : Int)) = roundQ (decVal neg m 0) := by
  rw [decVal_zero_exp, ofInt_eq, Int.cast_natCast]
  cases neg
  · rw [if_neg Bool.false_ne_true, if_neg Bool.false_ne_true]
  · rw [if_pos rfl, if_pos rfl, roundQ_neg _ (Nat.cast_ne_zero.2 h0.ne')]

/-- the powers of ten of the table are exact: `10^k = 5^k·2^k` with `5^22 < 2^53` -/
theorem is_pow10 (k : Nat) (hk : k < 23) : Is (float64pow10 k) ((10 : ℚ) ^ (k : Int)) := by
  have e : decVal false 1 (k : Int) = (10 : ℚ) ^ (k : Int) := by unfold decVal; simp
  have hp : (0 : ℚ) < (10 : ℚ) ^ (k : Int) := ten_zpow_pos _
  unfold float64pow10
  rw [ofDecimal_eq false 1 k Nat.one_pos, e]
  have h5 : 5 ^ k < 2 ^ 53 :=
    lt_of_le_of_lt (Nat.pow_le_pow_right (by decide) (Nat.le_of_lt_succ hk)) (by decide)
  have hq : |(10 : ℚ) ^ (k : Int)| = ((5 ^ k : Nat) : ℚ) * (2 : ℚ) ^ (k : Int) := by
    rw [abs_of_pos hp, zpow_natCast, zpow_natCast, Nat.cast_pow, ← mul_pow]; norm_num
  refine roundQ_dyadic _ (5 ^ k) k h5 (by omega) hq ?_
  rw [hq]
  calc ((5 ^ k : Nat) : ℚ) * (2 : ℚ) ^ (k : Int) < (2 : ℚ) ^ (53 : Int) * (2 : ℚ) ^ (22 : Int) :=
        mul_lt_mul (by exact_mod_cast h5) (zpow_le_zpow_right₀ one_le_two (by omega)) (two_zpow_pos _)
          (two_zpow_pos _).le
    _ < (2 : ℚ) ^ (1024 : Int) := by
        rw [← zpow_add₀ (two_ne_zero' ℚ)]; exact zpow_lt_zpow_right₀ one_lt_two (by norm_num)

theorem mul_pow10 {a : Bits} {neg : Bool} {m : Nat} {e : Int} (ha : Is a (decVal neg m e)) (h0 : 0 < m)
    (k : Nat) (hk : k < 23) : F64.mul a (float64pow10 k) = ofDecimal neg m (e + k) := by
  have hp := is_pow10 k hk
  rw [mul_eq a _ ha.fin hp.fin (ha.nz (decVal_ne_zero neg e h0)) (hp.nz (ten_zpow_pos _).ne'), ha.val, hp.val, decVal_mul, ofDecimal_eq neg m _ h0]

theorem div_pow10 {a : Bits} {neg : Bool} {m : Nat} {e : Int} (ha : Is a (decVal neg m e)) (h0 : 0 < m)
    (k : Nat) (hk : k < 23) : F64.div a (float64pow10 k) = ofDecimal neg m (e - k) := by
  have hp := is_pow10 k hk
  rw [div_eq_roundQ a _ ha.fin hp.fin (ha.nz (decVal_ne_zero neg e h0)) (hp.nz (ten_zpow_pos _).ne'), ha.val, hp.val, div_eq_mul_inv, ← zpow_neg, decVal_mul,
    ofDecimal_eq neg m _ h0, sub_eq_add_neg]

theorem sval_f1e15 : isNaN f1e15 = false ∧ sval f1e15 = 10 ^ 15 := by
  have := is_pow10 15 (by decide)
  exact ⟨isNaN_of_finite this.fin, by rw [show f1e15 = float64pow10 15 from rfl, this.val]; norm_num⟩

/-- if the `f > 1e15 || f < -1e15` test does not fire on a product that is the rounding of `±n`, then
`n ≤ 10^15`: rounding is monotone and fixes `10^15 + 1` -/
theorem small_of_check {g : Bits} {neg : Bool} {n : Nat} (hg : g = roundQ (decVal neg n 0))
    (hc : (F64.lt f1e15 g || F64.lt g (F64.neg f1e15)) = false) : n ≤ 10 ^ 15 := by
  obtain ⟨n15, v15⟩ := sval_f1e15
  have gn : isNaN g = false := hg ▸ roundQ_isNaN _
  rw [Bool.or_eq_false_iff, ← Bool.not_eq_true, ← Bool.not_eq_true, lt_iff_sval _ _ n15 gn,
    lt_iff_sval _ _ gn (by rw [isNaN_neg]; exact n15), sval_neg, v15, not_lt, not_lt, hg] at hc
  rw [decVal_zero_exp] at hc
  have hR : R (n : ℚ) ≤ 10 ^ 15 := by
    cases neg
    · exact hc.1
    · have := hc.2; rw [if_pos rfl] at this; change _ ≤ R _ at this
      rw [R_neg] at this; linarith only [this]
  by_contra hgt
  have hfix : R ((10 ^ 15 + 1 : Nat) : ℚ) = _ := (is_nat (10 ^ 15 + 1) (by decide)).val
  have := R_mono (Nat.cast_le (α := ℚ).2 (not_le.mp hgt))
  rw [hfix] at this
  push_cast at this; linarith only [this, hR]

theorem div_zero_left (s : Bool) {p : Bits} {q : ℚ} (hp : Is p q) (hq : 0 < q) : F64.div (zero s) p = zero s := by
  rw [div_of_isZero _ _ (isFinite_zero s) hp.fin (isZero_zero s) (hp.nz hq.ne'), signBit_zero s, hp.signBit_of_pos hq,
    Bool.bne_false]

theorem mul_zero_left (s : Bool) {p : Bits} {q : ℚ} (hp : Is p q) (hq : 0 < q) : F64.mul (zero s) p = zero s := by
  rw [mul_of_isZero _ _ (isFinite_zero s) hp.fin (Or.inl (isZero_zero s)), signBit_zero s, hp.signBit_of_pos hq,
    Bool.bne_false]

theorem atof64exact_some (m : Nat) (exp : Int) (neg : Bool) (v : Bits)
    (h : atof64exact m exp neg = some v) :
    m < 2 ^ 52 ∧ ∀ f, f = (if neg then F64.neg (ofInt (m : Int)) else ofInt (m : Int)) →
      (exp = 0 ∧ v = f) ∨
      (0 < exp ∧ exp ≤ 22 ∧ v = mul f (float64pow10 exp.toNat)) ∨
      (22 < exp ∧ exp ≤ 37 ∧
        (F64.lt f1e15 (mul f (float64pow10 (exp - 22).toNat)) ||
          F64.lt (mul f (float64pow10 (exp - 22).toNat)) (F64.neg f1e15)) = false ∧
        v = mul (mul f (float64pow10 (exp - 22).toNat)) (float64pow10 22)) ∨
      (exp < 0 ∧ -22 ≤ exp ∧ v = div f (float64pow10 (-exp).toNat)) := by
  unfold atof64exact at h
  by_cases hm : m >>> 52 = 0
  swap
  · simp [hm] at h
  refine ⟨(shr_eq_zero_iff m 52).mp hm, fun f hf => ?_⟩
  simp only [hm, bne_self_eq_false, Bool.false_eq_true, if_false, ← hf] at h
  by_cases e0 : exp = 0
  · subst e0
    exact Or.inl ⟨rfl, (Option.some.inj h).symm⟩
  rw [if_neg (by simpa using e0)] at h
  by_cases hp : exp > 0 ∧ exp ≤ 15 + 22
  · simp only [hp.1, hp.2, decide_true, Bool.and_self, if_true] at h
    by_cases h22 : exp > 22
    · simp only [h22, if_true] at h
      split at h
      · cases h
      · rename_i hc
        exact Or.inr (Or.inr (Or.inl ⟨h22, hp.2, Bool.not_eq_true _ ▸ hc, (Option.some.inj h).symm⟩))
    · simp only [h22, if_false] at h
      split at h
      · cases h
      · exact Or.inr (Or.inl ⟨hp.1, by omega, (Option.some.inj h).symm⟩)
  · have : (decide (exp > 0) && decide (exp ≤ 15 + 22)) = false := by
      rw [Bool.and_eq_false_iff, decide_eq_false_iff_not, decide_eq_false_iff_not]
      exact not_and_or.mp hp
    rw [this, if_neg Bool.false_ne_true] at h
    split at h
    · rename_i hc
      rw [Bool.and_eq_true, decide_eq_true_eq, decide_eq_true_eq] at hc
      exact Or.inr (Or.inr (Or.inr ⟨hc.1, hc.2, (Option.some.inj h).symm⟩))
    · cases h

theorem atof64exact_correct (m : Nat) (exp : Int) (neg : Bool) (v : Bits)
    (h : atof64exact m exp neg = some v) : v = ofDecimal neg m exp := by
  obtain ⟨hlt, hcases⟩ := atof64exact_some m exp neg v h
  have p10 : ∀ k : Nat, (0 : ℚ) < (10 : ℚ) ^ (k : Int) := fun k => ten_zpow_pos _
  rcases Nat.eq_zero_or_pos m with h0 | h0
  · -- mantissa 0: every branch yields ±0
    subst h0
    have hf : zero neg = (if neg = true then F64.neg (ofInt ((0 : Nat) : Int)) else ofInt ((0 : Nat) : Int)) := by
      cases neg <;> decide
    rw [ofDecimal_zero]
    rcases hcases _ hf with ⟨_, hv⟩ | ⟨_, _, hv⟩ | ⟨_, _, _, hv⟩ | ⟨_, _, hv⟩
    · exact hv
    · rw [hv]; exact mul_zero_left neg (is_pow10 _ (by omega)) (p10 _)
    · rw [hv, mul_zero_left neg (is_pow10 _ (by omega)) (p10 _)]
      exact mul_zero_left neg (is_pow10 22 (by decide)) (p10 _)
    · rw [hv]; exact div_zero_left neg (is_pow10 _ (by omega)) (p10 _)
  · have hop := is_dec0 neg m h0 (by omega)
    rcases hcases _ (operand_eq neg m h0).symm with ⟨e0, hv⟩ | ⟨e1, e2, hv⟩ | ⟨e1, e2, hc, hv⟩ | ⟨e1, e2, hv⟩
    · rw [hv, e0, ofDecimal_eq neg m 0 h0]
    · rw [hv, mul_pow10 hop h0 _ (by omega)]
      congr 1; omega
    · -- the pre-scaled operand is at most 10^15, hence exact
      have hpre := mul_pow10 hop h0 (exp - 22).toNat (by omega)
      have hpos : 0 < m * 10 ^ (exp - 22).toNat := Nat.mul_pos h0 (Nat.pow_pos (by decide))
      rw [zero_add, ofDecimal_eq neg m _ h0, decVal_nat] at hpre
      have hsmall := small_of_check hpre hc
      have hg := is_dec0 neg _ hpos (lt_of_le_of_lt hsmall (by decide))
      rw [hv, hpre, mul_pow10 hg hpos 22 (by decide), ofDecimal_eq neg _ _ hpos, ofDecimal_eq neg m _ h0,
        ← decVal_mul, ← decVal_nat, decVal_mul]
      congr 2; omega
    · rw [hv, div_pow10 hop h0 _ (by omega)]
      congr 1; omega

end C03
