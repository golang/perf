/-
Specification of the shortest decimal that reads back (`strconv.FormatFloat(x, 'g'/'e', -1, 64)`,
i.e. `%v`): the least digit count n for which some n-digit decimal lies in the rounding interval
of x, and among those the closest to x. Every such decimal parses back to x.
-/
import Proofs.Lemmas.F64Dec
import Mathlib.Algebra.Order.Archimedean.Basic
import Mathlib.Data.Finset.Max
import Mathlib.Data.Finset.Prod
import Mathlib.Data.Int.Interval
import Mathlib.Data.Rat.Floor

namespace F64

/-- some decimal with at most n significant digits lies in the rounding interval of |x| -/
def HasDecimal (x : Bits) (n : Nat) : Prop :=
  ∃ (m : Nat) (e : Int), m < 10 ^ n ∧ InRound (abs x) ((m : ℚ) * (10 : ℚ) ^ e)

/-- every dyadic rational is a finite decimal: `M·2^e = (M·5^k)·10^-k` for e = −k -/
theorem val_is_decimal (x : Bits) : ∃ (m : Nat) (e : Int), val x = (m : ℚ) * (10 : ℚ) ^ e := by
  rcases Int.le_total 0 (expo x) with h | h
  · obtain ⟨k, hk⟩ := Int.eq_ofNat_of_zero_le h
    refine ⟨mant x * 2 ^ k, 0, ?_⟩
    unfold val; rw [hk, zpow_natCast]; simp
  · obtain ⟨k, hk⟩ := Int.eq_ofNat_of_zero_le (by omega : 0 ≤ -expo x)
    have he : expo x = -(k : Int) := by omega
    refine ⟨mant x * 5 ^ k, -(k : Int), ?_⟩
    unfold val; rw [he, zpow_neg, zpow_neg, zpow_natCast, zpow_natCast]
    have h10 : (10 : ℚ) ^ k = 2 ^ k * 5 ^ k := by rw [← mul_pow]; norm_num
    have h2 : (2 : ℚ) ^ k ≠ 0 := pow_ne_zero _ (by norm_num)
    have h5 : (5 : ℚ) ^ k ≠ 0 := pow_ne_zero _ (by norm_num)
    rw [h10]; push_cast; field_simp

theorem exists_hasDecimal (x : Bits) : ∃ n, HasDecimal x n := by
  obtain ⟨m, e, h⟩ := val_is_decimal (abs x)
  refine ⟨m + 1, m, e, ?_, ?_⟩
  · exact lt_of_lt_of_le (Nat.lt_succ_self m) (Nat.lt_pow_self (by decide)).le
  · rw [← h]; exact inRound_self (abs x)

open Classical in
/-- the number of significant digits of the shortest decimal representation that
reads back (0 for the zeros; meaningful for finite x only: infinities and NaN get the length of their
continued value `val`, and the `else` branch is never taken, see `exists_hasDecimal`) -/
noncomputable def shortestLen (x : Bits) : Nat :=
  if h : ∃ n, HasDecimal x n then Nat.find h else 0

/-- `m·10^e` is a shortest decimal for |x|: it has at most
`shortestLen x` digits, lies in the rounding interval, and no decimal of that length in the interval
is closer to |x|. (A relation, not a function: ties between equally close candidates are left to
the implementation.) -/
def IsShortestDecimal (x : Bits) (m : Nat) (e : Int) : Prop :=
  m < 10 ^ shortestLen x ∧ InRound (abs x) ((m : ℚ) * (10 : ℚ) ^ e) ∧
  ∀ (m' : Nat) (e' : Int), m' < 10 ^ shortestLen x → InRound (abs x) ((m' : ℚ) * (10 : ℚ) ^ e') →
    |(m : ℚ) * (10 : ℚ) ^ e - val x| ≤ |(m' : ℚ) * (10 : ℚ) ^ e' - val x|

theorem shortestLen_spec (x : Bits) :
    HasDecimal x (shortestLen x) ∧ ∀ n, n < shortestLen x → ¬ HasDecimal x n := by
  classical
  have h := exists_hasDecimal x
  unfold shortestLen
  rw [dif_pos h]
  exact ⟨Nat.find_spec h, fun n hn => Nat.find_min h hn⟩

theorem shortestLen_pos (x : Bits) (hx : isFinite x = true) (zx : isZero x = false) :
    0 < shortestLen x := by
  obtain ⟨⟨m, e, hm, hin⟩, _⟩ := shortestLen_spec x
  rcases Nat.eq_zero_or_pos (shortestLen x) with h0 | h0
  · rw [h0] at hm
    have : m = 0 := by omega
    subst this
    have := inRound_pos (abs x) (posFin_abs x hx zx) _ hin
    simp at this
  · exact h0

/-- any numeral denoting a shortest decimal of x (with the sign of x)
parses back to x. Only membership in the rounding interval is used, so the same holds for every
longer decimal in the interval (e.g. the 17-digit `%.17g`). -/
theorem shortest_reads_back (x : Bits) (hx : isFinite x = true) (zx : isZero x = false)
    (m : Nat) (e : Int) (h : IsShortestDecimal x m e) : ofDecimal (signBit x) m e = x :=
  parse_of_inRound x hx zx m e h.2.1

/-- a shortest decimal is unique up to its distance from x: two shortest decimals are equally close -/
theorem shortest_dist_unique (x : Bits) (m1 : Nat) (e1 : Int) (m2 : Nat) (e2 : Int)
    (h1 : IsShortestDecimal x m1 e1) (h2 : IsShortestDecimal x m2 e2) :
    |(m1 : ℚ) * (10 : ℚ) ^ e1 - val x| = |(m2 : ℚ) * (10 : ℚ) ^ e2 - val x| :=
  le_antisymm (h1.2.2 m2 e2 h2.1 h2.2.1) (h2.2.2 m1 e1 h1.1 h1.2.1)

/-- different floats have different shortest decimals (injectivity of the `%v` rendering) -/
theorem shortest_injective (x y : Bits) (hx : isFinite x = true) (zx : isZero x = false)
    (hy : isFinite y = true) (zy : isZero y = false) (hs : signBit x = signBit y)
    (m : Nat) (e : Int) (h1 : IsShortestDecimal x m e) (h2 : IsShortestDecimal y m e) : x = y := by
  rw [← shortest_reads_back x hx zx m e h1, ← shortest_reads_back y hy zy m e h2, hs]

theorem inRound_bounds (x : Bits) (hx : PosFin x) (q : ℚ) (h : InRound x q) :
    (2 : ℚ) ^ (expo x) / 2 ≤ q ∧ q ≤ ((mant x : ℚ) + 1) * (2 : ℚ) ^ (expo x) := by
  obtain ⟨lo, hi⟩ := inRound_scaled x q h
  have hp := two_zpow_pos (expo x)
  have hM1 : (1 : ℚ) ≤ mant x := by exact_mod_cast hx.mant_pos
  have hq : q = q * (2 : ℚ) ^ (-expo x) * (2 : ℚ) ^ (expo x) := by
    rw [mul_assoc, _root_.mul_comm ((2 : ℚ) ^ (-expo x)), zpow_mul_neg, _root_.mul_one]
  generalize q * (2 : ℚ) ^ (-expo x) = r at lo hi hq
  rw [hq, div_eq_inv_mul, ← one_div]
  exact ⟨mul_le_mul_of_nonneg_right (by linarith only [lo, hM1]) hp.le,
    mul_le_mul_of_nonneg_right (by linarith only [hi]) hp.le⟩

/-- every finite non-zero float has a shortest decimal. -/
theorem exists_isShortest (x : Bits) (hx : isFinite x = true) (zx : isZero x = false) :
    ∃ (m : Nat) (e : Int), IsShortestDecimal x m e := by
  classical
  have hp := posFin_abs x hx zx
  obtain ⟨⟨m0, e0, hm0, hin0⟩, _⟩ := shortestLen_spec x
  set L := shortestLen x with hL
  have hlo : (0 : ℚ) < (2 : ℚ) ^ (expo (abs x)) / 2 := by have := two_zpow_pos (expo (abs x)); linarith
  obtain ⟨N1, hN1⟩ := pow_unbounded_of_one_lt (((mant (abs x) : ℚ) + 1) * (2 : ℚ) ^ (expo (abs x)))
    (by norm_num : (1 : ℚ) < 10)
  obtain ⟨N0, hN0⟩ := exists_pow_lt_of_lt_one hlo (by norm_num : (1 / 10 : ℚ) < 1)
  -- every candidate has its exponent in a fixed finite window
  have window : ∀ (m : Nat) (e : Int), m < 10 ^ L → InRound (abs x) ((m : ℚ) * (10 : ℚ) ^ e) →
      -(N0 : Int) - L < e ∧ e < N1 := by
    intro m e hm hin
    obtain ⟨b1, b2⟩ := inRound_bounds (abs x) hp _ hin
    have hqpos := inRound_pos (abs x) hp _ hin
    have h10 := ten_zpow_pos e
    have hmpos : 0 < m := by
      rcases Nat.eq_zero_or_pos m with h0 | h0
      · subst h0; simp at hqpos
      · exact h0
    have hm1 : (1 : ℚ) ≤ m := by exact_mod_cast hmpos
    have hmL : (m : ℚ) < (10 : ℚ) ^ (L : Int) := by
      rw [zpow_natCast]; exact_mod_cast hm
    constructor
    · -- 10^-N0 < lo ≤ q < 10^(L+e)
      have h1 : (10 : ℚ) ^ (-(N0 : Int)) < (10 : ℚ) ^ ((L : Int) + e) := by
        have e1 : (10 : ℚ) ^ (-(N0 : Int)) = (1 / 10 : ℚ) ^ N0 := by
          rw [zpow_neg, zpow_natCast, one_div, inv_pow]
        rw [e1, zpow_add₀ (by norm_num : (10 : ℚ) ≠ 0)]
        have := mul_lt_mul_of_pos_right hmL h10
        linarith
      have := (zpow_lt_zpow_iff_right₀ (by norm_num : (1 : ℚ) < 10)).mp h1
      omega
    · have h1 : (10 : ℚ) ^ e < (10 : ℚ) ^ (N1 : Int) := by
        rw [zpow_natCast]
        have := mul_le_mul_of_nonneg_right hm1 h10.le
        linarith
      exact (zpow_lt_zpow_iff_right₀ (by norm_num : (1 : ℚ) < 10)).mp h1
  let F : Finset (Nat × Int) :=
    ((Finset.range (10 ^ L)) ×ˢ (Finset.Ioo (-(N0 : Int) - L) (N1 : Int))).filter
      (fun p => InRound (abs x) ((p.1 : ℚ) * (10 : ℚ) ^ p.2))
  have memF : ∀ (m : Nat) (e : Int), (m, e) ∈ F ↔
      (m < 10 ^ L ∧ InRound (abs x) ((m : ℚ) * (10 : ℚ) ^ e)) := by
    intro m e
    simp only [F, Finset.mem_filter, Finset.mem_product, Finset.mem_range, Finset.mem_Ioo]
    constructor
    · rintro ⟨⟨h1, _⟩, h2⟩; exact ⟨h1, h2⟩
    · rintro ⟨h1, h2⟩; exact ⟨⟨h1, window m e h1 h2⟩, h2⟩
  have hne : F.Nonempty := ⟨(m0, e0), (memF m0 e0).mpr ⟨hm0, hin0⟩⟩
  obtain ⟨⟨m, e⟩, hmem, hmin⟩ := Finset.exists_min_image F
    (fun p => |(p.1 : ℚ) * (10 : ℚ) ^ p.2 - val x|) hne
  obtain ⟨h1, h2⟩ := (memF m e).mp hmem
  exact ⟨m, e, h1, h2, fun m' e' hm' hin' => hmin (m', e') ((memF m' e').mpr ⟨hm', hin'⟩)⟩

/-- the gap below a float, half of which is the rounding radius, is at least 2⁻⁵⁴ of its value -/
theorem val_div_le_lowGap (x : Bits) : val x / 2 ^ 54 ≤ lowGap x * (2 : ℚ) ^ (expo x) := by
  have h : (mant x : ℚ) / 2 ^ 54 ≤ lowGap x := by
    unfold lowGap
    split
    · rename_i hc; rw [hc.1]; norm_num
    · rw [div_le_iff₀ (by positivity)]; norm_num; exact_mod_cast (mant_lt x).le
  unfold val
  rw [mul_div_right_comm]
  exact mul_le_mul_of_nonneg_right h (two_zpow_pos _).le

/-- some decimal with at most 17 significant digits lies in the rounding interval
(the classical bound for binary64, from 10^16 > 2^53). -/
theorem hasDecimal_17 (x : Bits) (hx : isFinite x = true) (zx : isZero x = false) : HasDecimal x 17 := by
  have hp := posFin_abs x hx zx
  unfold HasDecimal
  generalize abs x = y at hp ⊢
  have ten_ne : (10 : ℚ) ≠ 0 := by norm_num
  have hv : 0 < val y := val_pos_of_nonzero hp.isZero
  obtain ⟨n, hn1, hn2⟩ := exists_mem_Ico_zpow hv (by norm_num : (1 : ℚ) < 10)
  -- with T = 10^(n−16): T·10^16 ≤ v < T·10^17
  have e16 : (10 : ℚ) ^ n = (10 : ℚ) ^ (n - 16) * 10 ^ 16 := by
    rw [← zpow_natCast (10 : ℚ) 16, ← zpow_add₀ ten_ne]; congr 1; omega
  have e17 : (10 : ℚ) ^ (n + 1) = (10 : ℚ) ^ (n - 16) * 10 ^ 17 := by
    rw [← zpow_natCast (10 : ℚ) 17, ← zpow_add₀ ten_ne]; congr 1; omega
  rw [e16] at hn1; rw [e17] at hn2
  have ht : (0 : ℚ) < (10 : ℚ) ^ (n - 16) := ten_zpow_pos _
  generalize hT : (10 : ℚ) ^ (n - 16) = T at ht hn1 hn2
  -- m = w rounded to an integer, where w = v / T ∈ [10^16, 10^17)
  have hw1 : (10 : ℚ) ^ 16 ≤ val y / T := (le_div_iff₀' ht).mpr hn1
  have hw2 : val y / T < (10 : ℚ) ^ 17 := (div_lt_iff₀' ht).mpr hn2
  have hvw : val y = val y / T * T := (div_mul_cancel₀ _ ht.ne').symm
  generalize val y / T = w at hw1 hw2 hvw
  have hw0 : 0 ≤ w + 1 / 2 := by linarith only [hw1]
  have f1 : (⌊w + 1 / 2⌋₊ : ℚ) ≤ w + 1 / 2 := Nat.floor_le hw0
  have f2 : w + 1 / 2 < ⌊w + 1 / 2⌋₊ + 1 := Nat.lt_floor_add_one _
  have hm2 : ⌊w + 1 / 2⌋₊ < 10 ^ 17 + 1 := (Nat.floor_lt hw0).mpr (by push_cast; linarith only [hw2])
  generalize ⌊w + 1 / 2⌋₊ = m at f1 f2 hm2
  have hdist : |(m : ℚ) * T - val y| ≤ T / 2 := by
    have : |(m : ℚ) - w| ≤ 1 / 2 := abs_le.mpr ⟨by linarith only [f2], by linarith only [f1]⟩
    rw [hvw, ← sub_mul, abs_mul, abs_of_pos ht, div_eq_inv_mul, ← one_div]
    exact mul_le_mul_of_nonneg_right this ht.le
  -- T/2 ≤ v/(2·10^16) < v/2^54, at most the gap below y
  have hgap : T / 2 < lowGap y * (2 : ℚ) ^ (expo y) :=
    calc T / 2 ≤ val y / (2 * 10 ^ 16) := by rw [le_div_iff₀ (by positivity)]; linarith only [hn1]
      _ < val y / 2 ^ 54 := div_lt_div_of_pos_left hv (by positivity) (by norm_num)
      _ ≤ lowGap y * (2 : ℚ) ^ (expo y) := val_div_le_lowGap y
  have hin : InRound y ((m : ℚ) * T) := inRound_of_abs_lt y _ (lt_of_le_of_lt hdist hgap)
  -- m = 10^17 is written as 10^16 with the next exponent
  rcases Nat.lt_or_eq_of_le (Nat.le_of_lt_succ hm2) with hlt | heq
  · exact ⟨m, n - 16, hlt, by rw [hT]; exact hin⟩
  · refine ⟨10 ^ 16, n - 16 + 1, by norm_num, ?_⟩
    have : ((10 ^ 16 : Nat) : ℚ) * (10 : ℚ) ^ (n - 16 + 1) = (m : ℚ) * T := by
      rw [heq, zpow_add_one₀ ten_ne, hT]; push_cast; ring
    rw [this]; exact hin

theorem shortestLen_le_17 (x : Bits) (hx : isFinite x = true) (zx : isZero x = false) :
    shortestLen x ≤ 17 :=
  Nat.le_of_not_lt fun h => (shortestLen_spec x).2 17 h (hasDecimal_17 x hx zx)

end F64
