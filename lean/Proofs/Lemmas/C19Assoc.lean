/-
C19 helper lemmas: `Labels` (association lists kept sorted by key) behave as finite maps.
-/
import Model.Storage.Fmt
import Proofs.Lemmas.C19Order

namespace C19
open Storage.Query Storage.Fmt

/-- keys strictly increasing in the bytewise order -/
def StrictSorted (l : Labels) : Prop := l.Pairwise fun a b => blt a.1 b.1 = true

theorem mem_set_self (l : Labels) (k v : Bytes) : (k, v) ∈ Labels.set l k v := by
  fun_induction Labels.set l k v <;> simp [*]

theorem mem_set_of_mem (l : Labels) (k v : Bytes) (x : Bytes × Bytes) (hx : x ∈ l) (hk : x.1 ≠ k) :
    x ∈ Labels.set l k v := by
  fun_induction Labels.set l k v
  case case1 => cases hx
  case case2 k' v' rest he =>
    rcases List.mem_cons.mp hx with rfl | hx
    · exact absurd (beq_iff_eq.mp he) hk
    · exact List.mem_cons_of_mem _ hx
  case case3 => exact List.mem_cons_of_mem _ hx
  case case4 ih =>
    rcases List.mem_cons.mp hx with rfl | hx
    · exact List.mem_cons_self
    · exact List.mem_cons_of_mem _ (ih hx hk)

theorem mem_set_cases (l : Labels) (k v : Bytes) (x : Bytes × Bytes) (hx : x ∈ Labels.set l k v) :
    x = (k, v) ∨ x ∈ l := by
  fun_induction Labels.set l k v
  case case1 => exact Or.inl (List.mem_singleton.mp hx)
  case case2 => exact (List.mem_cons.mp hx).imp_right (List.mem_cons_of_mem _)
  case case3 => exact List.mem_cons.mp hx
  case case4 ih =>
    rcases List.mem_cons.mp hx with rfl | hx
    · exact Or.inr List.mem_cons_self
    · exact (ih hx).imp_right (List.mem_cons_of_mem _)

theorem mem_erase_of_mem (l : Labels) (k : Bytes) (x : Bytes × Bytes) (hx : x ∈ l) (hk : x.1 ≠ k) :
    x ∈ Labels.erase l k :=
  List.mem_filter.mpr ⟨hx, by simpa using hk⟩

theorem has_of_mem (l : Labels) (x : Bytes × Bytes) (hx : x ∈ l) : Labels.has l x.1 = true :=
  List.any_eq_true.mpr ⟨x, hx, by simp⟩

theorem get_cons (x : Bytes × Bytes) (l : Labels) (k : Bytes) :
    Labels.get (x :: l) k = if x.1 == k then x.2 else Labels.get l k := by
  unfold Labels.get
  simp only [List.find?_cons]
  cases h : (x.1 == k) <;> simp

theorem get_nil (k : Bytes) : Labels.get [] k = [] := rfl

theorem get_not_key (l : Labels) (k : Bytes) (h : ∀ x ∈ l, x.1 ≠ k) : Labels.get l k = [] := by
  induction l with
  | nil => rfl
  | cons x rest ih =>
    rw [get_cons]
    have : (x.1 == k) = false := by simpa using h x (by simp)
    simp only [this, Bool.false_eq_true, if_false]
    exact ih (fun y hy => h y (by simp [hy]))

theorem get_mem (l : Labels) (k : Bytes) (h : Labels.get l k ≠ []) : (k, Labels.get l k) ∈ l := by
  induction l with
  | nil => exact absurd rfl h
  | cons x rest ih =>
    rw [get_cons] at h ⊢
    by_cases hx : x.1 = k
    · simp only [hx, beq_self_eq_true, if_true] at h ⊢
      rw [← hx]; simp
    · have : (x.1 == k) = false := by simpa using hx
      simp only [this, Bool.false_eq_true, if_false] at h ⊢
      exact List.mem_cons_of_mem _ (ih h)

theorem get_of_mem (l : Labels) (hs : StrictSorted l) (k v : Bytes) (h : (k, v) ∈ l) :
    Labels.get l k = v := by
  induction l with
  | nil => cases h
  | cons x rest ih =>
    unfold StrictSorted at hs
    rw [List.pairwise_cons] at hs
    rw [get_cons]
    rcases List.mem_cons.mp h with rfl | h
    · simp
    · have : x.1 ≠ k := blt_ne _ _ (hs.1 _ h)
      have : (x.1 == k) = false := by simpa using this
      simp only [this, Bool.false_eq_true, if_false]
      exact ih hs.2 h

theorem get_set_self (l : Labels) (k v : Bytes) : Labels.get (Labels.set l k v) k = v := by
  fun_induction Labels.set l k v <;> simp [get_cons, *]

theorem get_set_other (l : Labels) (k v k2 : Bytes) (h : k2 ≠ k) :
    Labels.get (Labels.set l k v) k2 = Labels.get l k2 := by
  have hk : (k == k2) = false := by simpa using (fun e => h e.symm)
  induction l with
  | nil => simp [Labels.set, get_cons, hk, get_nil]
  | cons x rest ih =>
    obtain ⟨k', v'⟩ := x
    unfold Labels.set
    split
    · rename_i he
      have he : k' = k := by simpa using he
      subst he
      simp [get_cons, hk]
    · split
      · simp [get_cons, hk]
      · rw [get_cons, get_cons, ih]

theorem get_erase_self (l : Labels) (k : Bytes) : Labels.get (Labels.erase l k) k = [] := by
  apply get_not_key
  intro x hx
  have := (List.mem_filter.mp hx).2
  simpa using this

theorem get_erase_other (l : Labels) (k k2 : Bytes) (h : k2 ≠ k) :
    Labels.get (Labels.erase l k) k2 = Labels.get l k2 := by
  induction l with
  | nil => rfl
  | cons x rest ih =>
    unfold Labels.erase at *
    rw [List.filter_cons]
    split
    · rw [get_cons, get_cons, ih]
    · rename_i hx
      have hx : x.1 = k := by simpa using hx
      rw [get_cons]
      have : (x.1 == k2) = false := by rw [hx]; simpa using (fun e => h e.symm)
      simp only [this, Bool.false_eq_true, if_false]
      exact ih

theorem sorted_erase (l : Labels) (k : Bytes) (h : StrictSorted l) : StrictSorted (Labels.erase l k) :=
  List.Pairwise.filter _ h

theorem sorted_set (l : Labels) (k v : Bytes) (h : StrictSorted l) : StrictSorted (Labels.set l k v) := by
  induction l with
  | nil => simp [Labels.set, StrictSorted]
  | cons x rest ih =>
    obtain ⟨k', v'⟩ := x
    unfold StrictSorted at h
    rw [List.pairwise_cons] at h
    unfold Labels.set
    split
    · rename_i he
      have he : k' = k := by simpa using he
      subst he
      unfold StrictSorted
      rw [List.pairwise_cons]
      exact ⟨h.1, h.2⟩
    · rename_i hne
      split
      · rename_i hlt
        unfold StrictSorted
        rw [List.pairwise_cons]
        refine ⟨?_, List.pairwise_cons.mpr h⟩
        intro y hy
        rcases List.mem_cons.mp hy with rfl | hy
        · exact hlt
        · exact blt_trans _ _ _ hlt (h.1 y hy)
      · rename_i hnlt
        have hgt : blt k' k = true := by
          rcases blt_total k' k with h1 | h1 | h1
          · exact h1
          · exact absurd (by simpa using h1) hne
          · exact absurd h1 hnlt
        unfold StrictSorted
        rw [List.pairwise_cons]
        refine ⟨?_, ih h.2⟩
        intro y hy
        rcases mem_set_cases _ _ _ _ hy with rfl | hy
        · exact hgt
        · exact h.1 y hy

theorem mem_iff_get (l : Labels) (hs : StrictSorted l) (hn : ∀ x ∈ l, x.2 ≠ []) (x : Bytes × Bytes) :
    x ∈ l ↔ Labels.get l x.1 = x.2 ∧ x.2 ≠ [] :=
  ⟨fun h => ⟨get_of_mem l hs x.1 x.2 h, hn x h⟩, fun ⟨h1, h2⟩ => by
    have := get_mem l x.1 (h1 ▸ h2)
    rwa [h1] at this⟩

theorem sorted_nodup (l : Labels) (h : StrictSorted l) : l.Nodup :=
  List.Pairwise.imp (fun {a b} hab (e : a = b) => blt_ne a.1 b.1 hab (by rw [e])) h

theorem sorted_perm_eq (l1 l2 : Labels) (h1 : StrictSorted l1) (h2 : StrictSorted l2) (hp : l1.Perm l2) :
    l1 = l2 :=
  List.Perm.eq_of_pairwise (fun a b _ _ hab hba => by rw [blt_asymm _ _ hab] at hba; cases hba) h1 h2 hp

theorem labels_ext (l1 l2 : Labels) (h1 : StrictSorted l1) (h2 : StrictSorted l2)
    (n1 : ∀ x ∈ l1, x.2 ≠ []) (n2 : ∀ x ∈ l2, x.2 ≠ [])
    (hget : ∀ k, Labels.get l1 k = Labels.get l2 k) : l1 = l2 :=
  sorted_perm_eq l1 l2 h1 h2 <|
    (List.perm_ext_iff_of_nodup (sorted_nodup l1 h1) (sorted_nodup l2 h2)).mpr fun x => by
      rw [mem_iff_get l1 h1 n1, mem_iff_get l2 h2 n2, hget]

/-- several keys unset / several pairs set, one after the other (`Reader.addLabels`, `Labels.ofList`, the Reader over the
Printer's lines) -/
def eraseAll (l : Labels) (ks : Labels) : Labels := ks.foldl (fun a kv => a.erase kv.1) l
def setAll (l : Labels) (kvs : Labels) : Labels := kvs.foldl (fun a kv => a.set kv.1 kv.2) l

theorem get_eraseAll (ks l : Labels) (k : Bytes) :
    Labels.get (eraseAll l ks) k = if ks.any (·.1 == k) then [] else Labels.get l k := by
  induction ks generalizing l with
  | nil => rfl
  | cons y rest ih =>
    unfold eraseAll at ih ⊢
    rw [List.foldl_cons, ih, List.any_cons]
    by_cases hy : y.1 = k
    · simp [hy, get_erase_self]
    · rw [beq_false_of_ne hy, Bool.false_or, get_erase_other _ _ _ (Ne.symm hy)]

theorem get_setAll_not_mem (kvs l : Labels) (k : Bytes) (h : ∀ x ∈ kvs, x.1 ≠ k) :
    Labels.get (setAll l kvs) k = Labels.get l k := by
  induction kvs generalizing l with
  | nil => rfl
  | cons y rest ih =>
    unfold setAll at *
    simp only [List.foldl_cons]
    rw [ih _ (fun x hx => h x (by simp [hx]))]
    exact get_set_other _ _ _ _ (fun e => h y (by simp) e.symm)

theorem get_setAll_mem (kvs l : Labels) (hs : StrictSorted kvs) (k v : Bytes) (h : (k, v) ∈ kvs) :
    Labels.get (setAll l kvs) k = v := by
  induction kvs generalizing l with
  | nil => cases h
  | cons y rest ih =>
    unfold StrictSorted at hs
    rw [List.pairwise_cons] at hs
    unfold setAll at *
    simp only [List.foldl_cons]
    rcases List.mem_cons.mp h with rfl | h
    · have := get_setAll_not_mem rest (Labels.set l k v) k
        (fun x hx e => blt_ne _ _ (hs.1 x hx) e.symm)
      unfold setAll at this
      rw [this, get_set_self]
    · exact ih _ hs.2 h

theorem sorted_eraseAll (ks l : Labels) (h : StrictSorted l) : StrictSorted (eraseAll l ks) :=
  List.foldlRecOn ks _ h fun a ha kv _ => sorted_erase a kv.1 ha

theorem sorted_setAll (kvs l : Labels) (h : StrictSorted l) : StrictSorted (setAll l kvs) :=
  List.foldlRecOn kvs _ h fun a ha kv _ => sorted_set a kv.1 kv.2 ha

theorem mem_eraseAll (ks l : Labels) (x : Bytes × Bytes) (h : x ∈ eraseAll l ks) : x ∈ l :=
  List.foldlRecOn ks _ (motive := fun a => x ∈ a → x ∈ l) id
    (fun _ ha _ _ hx => ha (List.mem_filter.mp hx).1) h

theorem mem_setAll (kvs l : Labels) (x : Bytes × Bytes) (h : x ∈ setAll l kvs) : x ∈ l ∨ x ∈ kvs :=
  List.foldlRecOn kvs _ (motive := fun a => x ∈ a → x ∈ l ∨ x ∈ kvs) Or.inl
    (fun _ ha kv hkv hx => (mem_set_cases _ _ _ _ hx).elim (fun e => Or.inr (e ▸ hkv)) ha) h

theorem mem_setAll_of_mem (k v : Bytes) (lbls acc : Labels) (h1 : (k, v) ∈ acc ∨ (k, v) ∈ lbls)
    (h2 : ∀ x ∈ lbls, x.1 = k → x = (k, v)) :
    (k, v) ∈ setAll acc lbls := by
  induction lbls generalizing acc with
  | nil => exact h1.resolve_right nofun
  | cons y rest ih =>
    refine ih (acc.set y.1 y.2) ?_ (fun x hx => h2 x (List.mem_cons_of_mem _ hx))
    by_cases hy : y.1 = k
    · rw [h2 y (by simp) hy]
      exact Or.inl (mem_set_self _ _ _)
    · rcases h1 with h | h
      · exact Or.inl (mem_set_of_mem _ _ _ _ h (fun e => hy e.symm))
      · exact (List.mem_cons.mp h).elim (fun e => absurd (e ▸ rfl) hy) Or.inr

end C19
