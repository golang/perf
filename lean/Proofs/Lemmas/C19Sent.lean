/-
C19 helper lemmas (continuing C19Tokens.lean): parseQueryString at the level of parts, and what the storage server receives for
a query made by addToQuery from an arbitrary old query.
-/
import Proofs.Lemmas.C19Tokens

namespace C19
open Storage.Query Analysis.Quote Analysis.Parse

/-- the state of parseQueryString with prefix and queries kept as lists of parts -/
structure PSt where
  prefP : List Bytes := []
  parts : List Bytes := []
  queries : List (List Bytes) := []

def PSt.img (s : PSt) : St := ⟨joinSp s.prefP, s.parts, s.queries.map joinSp⟩

def stepP (s : PSt) (part : Bytes) : PSt :=
  if part == wBar && (joinSp s.prefP).isEmpty then { s with prefP := s.parts, parts := [] }
  else if part == wVs then { s with queries := s.queries ++ [s.parts], parts := [] }
  else { s with parts := s.parts ++ [part] }

theorem step_img (s : PSt) (t : Bytes) : step s.img t = (stepP s t).img := by
  unfold step stepP PSt.img
  simp only
  split
  · rfl
  · split
    · simp
    · rfl

theorem fold_img (ts : List Bytes) (s : PSt) : ts.foldl step s.img = (ts.foldl stepP s).img :=
  List.foldl_hom PSt.img step_img

/-- the storage queries, as lists of parts: the prefix parts in front of every group -/
def sentParts (s0 : PSt) (toks : List Bytes) (last : Bytes) : List (List Bytes) :=
  let s := toks.foldl stepP s0
  let parts := if last.isEmpty then s.parts else s.parts ++ [last]
  let queries := if parts.isEmpty then s.queries else s.queries ++ [parts]
  queries.map fun g => if (joinSp s.prefP).isEmpty then g else s.prefP ++ g

/-- invariant: every part kept in the state is closed -/
def PSt.AllClosed (s : PSt) : Prop :=
  (∀ t ∈ s.prefP, Closed t) ∧ (∀ t ∈ s.parts, Closed t) ∧ (∀ g ∈ s.queries, ∀ t ∈ g, Closed t)

theorem stepP_closed (s : PSt) (t : Bytes) (hs : s.AllClosed) (ht : Closed t) : (stepP s t).AllClosed := by
  obtain ⟨h1, h2, h3⟩ := hs
  unfold stepP
  split
  · exact ⟨h2, by simp, h3⟩
  · split
    · refine ⟨h1, by simp, ?_⟩
      intro g hg
      rcases List.mem_append.mp hg with hg | hg
      · exact h3 g hg
      · simp only [List.mem_singleton] at hg; subst hg; exact h2
    · refine ⟨h1, ?_, h3⟩
      intro x hx
      rcases List.mem_append.mp hx with hx | hx
      · exact h2 x hx
      · simp only [List.mem_singleton] at hx; subst hx; exact ht

theorem fold_closed (ts : List Bytes) (s : PSt) (hs : s.AllClosed) (ht : ∀ t ∈ ts, Closed t) :
    (ts.foldl stepP s).AllClosed :=
  List.foldlRecOn ts stepP hs fun s hs t hm => stepP_closed s t hs (ht t hm)

/-- the end of `parseQueryString`: the unterminated rest joins the open group, the open group (if
not empty) the queries, and the prefix goes in front of every query -/
def finish (s : St) (last : Bytes) : List Bytes :=
  let parts := if last.isEmpty then s.parts else s.parts ++ [last]
  let queries := if parts.isEmpty then s.queries else s.queries ++ [joinSp parts]
  queries.map fun x => if s.pref.isEmpty then x else s.pref ++ cSpace :: x

theorem sentQueries_eq (q : Bytes) :
    sentQueries q = finish ((tokGo false [] q).1.foldl step {}) (tokGo false [] q).2 := rfl

theorem sent_words (s0 : PSt) (toks : List Bytes) (last : Bytes) (h0 : s0.AllClosed)
    (ht : ∀ t ∈ toks, Closed t) :
    (finish (toks.foldl step s0.img) last).map splitWords =
      (sentParts s0 toks last).map fun g => g.flatMap splitWords := by
  obtain ⟨c1, c2, c3⟩ := fold_closed toks s0 h0 ht
  rw [fold_img]
  unfold finish sentParts PSt.img
  dsimp only
  generalize toks.foldl stepP s0 = s at c1 c2 c3 ⊢
  have cP : ∀ t ∈ (if last.isEmpty then s.parts else s.parts ++ [last]).dropLast, Closed t := by
    split
    · exact fun t ht => c2 t (List.dropLast_subset _ ht)
    · rw [List.dropLast_concat]; exact c2
  generalize (if last.isEmpty then s.parts else s.parts ++ [last]) = P at cP ⊢
  have hq : ∀ g ∈ (if P.isEmpty then s.queries else s.queries ++ [P]), ∀ t ∈ g.dropLast, Closed t := by
    intro g hg
    split at hg
    · exact fun t ht => c3 g hg t (List.dropLast_subset _ ht)
    · rcases List.mem_append.mp hg with hg | hg
      · exact fun t ht => c3 g hg t (List.dropLast_subset _ ht)
      · rw [List.mem_singleton.mp hg]; exact cP
  have hmap : (if P.isEmpty then s.queries.map joinSp else s.queries.map joinSp ++ [joinSp P]) =
      (if P.isEmpty then s.queries else s.queries ++ [P]).map joinSp := by
    split <;> simp
  rw [hmap, List.map_map, List.map_map, List.map_map]
  apply List.map_congr_left
  intro g hg
  simp only [Function.comp]
  -- one storage query: the words of the prefix parts, then those of the group's own parts
  split
  · exact words_joinSp g (hq g hg)
  · rw [words_pref s.prefP c1, words_joinSp g (hq g hg), List.flatMap_append]

theorem tok_addToQuery (q add : Bytes) :
    tokGo false [] (addToQuery q add) =
      (if q.any (· == cBar) then quote add :: (tokGo false [] q).1
       else quote add :: wBar :: (tokGo false [] q).1, (tokGo false [] q).2) := by
  unfold addToQuery
  split
  · rw [List.append_assoc, List.singleton_append, tokGo_quote_blank]
  · rw [show quote add ++ [cSpace, cBar, cSpace] ++ q = quote add ++ cSpace :: ([cBar] ++ cSpace :: q) by simp,
      tokGo_quote_blank, tokGo_plain [cBar] [] _ (by decide), tokGo_blank]
    rfl

/-- the state in which the old query's parts are processed once the builder's word has been read:
the word is the prefix if the old query has no `|` byte (addToQuery then inserts ` | `), otherwise
it is the first part of whatever the old query starts with -/
def startState (q add : Bytes) : PSt :=
  if q.any (· == cBar) then { parts := [quote add] } else { prefP := [quote add] }

theorem startState_closed (q add : Bytes) : (startState q add).AllClosed := by
  have hc : ∀ t ∈ [quote add], Closed t := fun t ht => List.mem_singleton.mp ht ▸ closed_quote add
  unfold startState
  split
  · exact ⟨nofun, hc, nofun⟩
  · exact ⟨hc, nofun, nofun⟩

theorem sent_addToQuery_general (q add : Bytes) (h1 : add ≠ wBar) (h2 : add ≠ wVs) :
    sentQueries (addToQuery q add) =
      finish ((tokGo false [] q).1.foldl step (startState q add).img) (tokGo false [] q).2 := by
  have hA1 : (quote add == wBar) = false :=
    beq_false_of_ne fun e => h1 (quote_ne_word add wBar (by decide) e)
  have hA2 : (quote add == wVs) = false :=
    beq_false_of_ne fun e => h2 (quote_ne_word add wVs (by decide) e)
  -- the quoted word becomes the first part; a `|` after it makes it the prefix
  have s1 : step {} (quote add) = { parts := [quote add] } := by
    simp only [step, hA1, hA2, Bool.false_and, Bool.false_eq_true, if_false, List.nil_append]
  have s2 : step { parts := [quote add] } wBar = { pref := quote add } := rfl
  rw [sentQueries_eq, tok_addToQuery]
  unfold startState
  split
  · simp only [List.foldl_cons, s1]; rfl
  · simp only [List.foldl_cons, s1, s2]; rfl

theorem step_pref (s : St) (p t : Bytes) (ht : t ≠ wBar) :
    step { s with pref := p } t = { step s t with pref := p } := by
  unfold step
  rw [beq_false_of_ne ht, Bool.false_and, Bool.false_and, if_neg Bool.false_ne_true, if_neg Bool.false_ne_true]
  split <;> rfl

theorem fold_pref (toks : List Bytes) (hb : ∀ t ∈ toks, t ≠ wBar) (s : St) (p : Bytes) :
    toks.foldl step { s with pref := p } = { toks.foldl step s with pref := p } := by
  induction toks generalizing s with
  | nil => rfl
  | cons t ts ih =>
    rw [List.foldl_cons, List.foldl_cons, step_pref s p t (hb t List.mem_cons_self),
      ih (fun x hx => hb x (List.mem_cons_of_mem _ hx))]

theorem sent_addToQuery (q add : Bytes) (ha : add ≠ []) (h1 : add ≠ wBar) (h2 : add ≠ wVs)
    (hq : ∀ c ∈ q, c ≠ cBar) :
    sentQueries (addToQuery q add) = (parseQueryString q).2.map fun g => quote add ++ cSpace :: g := by
  have hany : q.any (· == cBar) = false := by
    rw [List.any_eq_false]; intro c hc; simpa using hq c hc
  -- no part of the old query is "|": the quoted word stays the prefix of the run of `parseQueryString q`
  have hnob : ∀ t ∈ (tokGo false [] q).1, t ≠ wBar := by
    intro t ht e
    refine hq cBar (tokGo_bytes false [] q cBar (List.mem_append_left _ ?_)) rfl
    exact List.mem_flatten.mpr ⟨t, ht, e ▸ List.mem_singleton.mpr rfl⟩
  have hemp : (quote add).isEmpty = false := by
    cases hq' : quote add with
    | nil => exact absurd hq' (quote_ne_nil add ha)
    | cons _ _ => rfl
  rw [sent_addToQuery_general q add h1 h2, startState, hany]
  show finish (List.foldl step { ({} : St) with pref := quote add } _) _ = _
  rw [fold_pref _ hnob]
  unfold finish parseQueryString
  simp only [hemp, Bool.false_eq_true, if_false]

theorem joinSp_nonempty (ps : List Bytes) (a : Bytes) (ha : a ≠ []) (hm : a ∈ ps) :
    (joinSp ps).isEmpty = false := by
  induction ps with
  | nil => cases hm
  | cons p rest ih =>
    cases rest with
    | nil =>
      simp only [List.mem_singleton] at hm
      subst hm
      cases a with
      | nil => exact absurd rfl ha
      | cons _ _ => rfl
    | cons p2 r2 =>
      show (p ++ cSpace :: joinSp (p2 :: r2)).isEmpty = false
      cases p <;> simp

/-- where the added word is, while the parts of an old query containing `|` are processed -/
inductive Lands (a : Bytes) (s : PSt) : Prop
  | inParts : s.queries = [] → a ∈ s.parts → Lands a s
  | inPrefix : a ∈ s.prefP → Lands a s
  | inFirst (g : List Bytes) (gs : List (List Bytes)) : s.queries = g :: gs → a ∈ g → Lands a s

theorem stepP_lands (a : Bytes) (ha : a ≠ []) (s : PSt) (t : Bytes) (h : Lands a s) :
    Lands a (stepP s t) := by
  unfold stepP
  cases h with
  | inParts hq hp =>
    split
    · exact .inPrefix hp
    · split
      · exact .inFirst s.parts [] (by simp [hq]) hp
      · exact .inParts hq (List.mem_append_left _ hp)
  | inPrefix hp =>
    split
    · rename_i hc
      -- a prefix holding the word is textually non-empty, so it is never replaced
      simp only [Bool.and_eq_true] at hc
      rw [joinSp_nonempty s.prefP a ha hp] at hc
      exact absurd hc.2 (by simp)
    · split
      · exact .inPrefix hp
      · exact .inPrefix hp
  | inFirst g gs hq hg =>
    split
    · exact .inFirst g gs hq hg
    · split
      · exact .inFirst g (gs ++ [s.parts]) (by simp [hq]) hg
      · exact .inFirst g gs hq hg

theorem fold_lands (a : Bytes) (ha : a ≠ []) (ts : List Bytes) (s : PSt) (h : Lands a s) :
    Lands a (ts.foldl stepP s) :=
  List.foldlRecOn ts stepP h fun s hs t _ => stepP_lands a ha s t hs

theorem sentParts_lands (a : Bytes) (ha : a ≠ []) (s0 : PSt) (h0 : Lands a s0)
    (toks : List Bytes) (last : Bytes) :
    ∀ g, (sentParts s0 toks last).head? = some g → a ∈ g := by
  have hl := fold_lands a ha toks s0 h0
  unfold sentParts
  dsimp only
  generalize toks.foldl stepP s0 = s at hl ⊢
  have hmem : a ∈ s.parts → a ∈ (if last.isEmpty then s.parts else s.parts ++ [last]) := fun hp => by
    split
    · exact hp
    · exact List.mem_append_left _ hp
  generalize (if last.isEmpty then s.parts else s.parts ++ [last]) = P at hmem ⊢
  intro g hg
  rw [List.head?_map] at hg
  obtain ⟨g0, hg0, rfl⟩ := Option.map_eq_some_iff.mp hg
  have h : a ∈ s.prefP ∨ a ∈ g0 := by
    cases hl with
    | inParts hq hp =>
      have hne : P.isEmpty = false := by
        cases P with
        | nil => exact absurd (hmem hp) (by simp)
        | cons _ _ => rfl
      rw [hq, hne] at hg0
      cases hg0
      exact Or.inr (hmem hp)
    | inPrefix hp => exact Or.inl hp
    | inFirst g1 gs hq hg1 =>
      rw [hq] at hg0
      have : g0 = g1 := by split at hg0 <;> (cases hg0; rfl)
      exact Or.inr (this ▸ hg1)
  split
  · rename_i he
    rcases h with h | h
    · rw [joinSp_nonempty s.prefP a ha h] at he; cases he
    · exact h
  · exact List.mem_append.mpr h

theorem startState_lands (q add : Bytes) : Lands (quote add) (startState q add) := by
  unfold startState
  split
  · exact .inParts rfl (List.mem_singleton.mpr rfl)
  · exact .inPrefix (List.mem_singleton.mpr rfl)

end C19
