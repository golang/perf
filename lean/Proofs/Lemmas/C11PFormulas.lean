/-
C11: the exact-branch p formulas of utest.go against the specification, given that the CDF passed in
is the distribution function of the null distribution (`IsCDFOf`); the two-sided formula for a
symmetric null distribution and the exact condition under which it agrees with the specification.
-/
import Model.Stats.UDist
import Model.Stats.UStat
import Model.Spec.UExact
import Proofs.Lemmas.C11Basic
import Proofs.Lemmas.C11Labelings
import Mathlib.Data.List.Basic
import Mathlib.Data.Nat.Choose.Basic
import Mathlib.Algebra.Order.Field.Rat
import Mathlib.Algebra.BigOperators.Group.Finset.Basic
import Mathlib.Algebra.BigOperators.Intervals
import Mathlib.Algebra.BigOperators.Field
import Mathlib.Tactic.Ring
import Mathlib.Tactic.Linarith
import Mathlib.Tactic.FieldSimp

namespace C11
open Stats Stats.UStat Stats.UDist Spec.UExact

/-- `cdf` is the distribution function of the doubled statistic whose equally likely values are `dist` -/
def IsCDFOf (cdf : Int → Rat) (dist : List Nat) : Prop :=
  ∀ v : Int, cdf v = (((dist.filter fun (d : Nat) => decide ((d : Int) ≤ v)).length : Nat) : Rat) / ((dist.length : Nat) : Rat)

theorem IsCDFOf.of_countEq {cdf : Int → Rat} {d d' : List Nat} (hc : IsCDFOf cdf d)
    (h : E2E.CountEq d d') : IsCDFOf cdf d' := by
  intro v
  rw [hc v, h.filter_length, h.length_eq]

/-- the wrapper `UDist.CDF` is 0 below 0 and 1 from `n1·n2` on, so it is the distribution function of
    values in `0 … 2·n1·n2` as soon as it is between these bounds -/
theorem isCDFOf_cdfPure (n1 n2 : Nat) (T : List Nat) (dist : List Nat) (hne : dist ≠ [])
    (hle : ∀ d ∈ dist, d ≤ 2 * (n1 * n2))
    (hmid : ∀ v : Int, 0 ≤ v → v < 2 * ((n1 * n2 : Nat) : Int) → cdfPure n1 n2 T v
      = (((dist.filter fun (d : Nat) => decide ((d : Int) ≤ v)).length : Nat) : Rat)
          / ((dist.length : Nat) : Rat)) :
    IsCDFOf (cdfPure n1 n2 T) dist := by
  intro v
  by_cases h0 : v < 0
  · rw [List.filter_eq_nil_iff.2 fun d _ => by simp only [decide_eq_true_eq]; omega]
    rw [cdfPure_neg n1 n2 T h0, List.length_nil, Nat.cast_zero, zero_div]
  by_cases h1 : v ≥ 2 * ((n1 * n2 : Nat) : Int)
  · rw [List.filter_eq_self.2 fun d hd => by
      have := hle d hd
      simp only [decide_eq_true_eq]
      omega]
    rw [cdfPure_top n1 n2 T h1, div_self (Nat.cast_ne_zero.mpr (List.length_pos_iff.mpr hne).ne')]
  · exact hmid v (not_lt.mp h0) (not_le.mp h1)

theorem less_spec (cdf : Int → Rat) (dist : List Nat) (h : IsCDFOf cdf dist) (u : Nat) (tu2 : Int) :
    exactP cdf .less (u : Int) tu2 = Spec.UExact.pLess dist u := by
  show cdf (u : Int) = _
  rw [h, pLess]
  congr 3
  exact List.filter_congr fun d _ => by simp

theorem tails_add (dist : List Nat) (v : Nat) :
    (dist.filter (· < v)).length + (dist.filter (· ≥ v)).length = dist.length := by
  rw [List.length_eq_length_filter_add (l := dist) (· < v)]
  congr 2
  exact List.filter_congr fun d _ => by
    rw [← decide_not, decide_eq_decide, not_lt]

theorem greater_spec (cdf : Int → Rat) (dist : List Nat) (h : IsCDFOf cdf dist) (hne : dist ≠ [])
    (u : Nat) (tu2 : Int) :
    exactP cdf .greater (u : Int) tu2 = Spec.UExact.pGreater dist u := by
  unfold exactP Spec.UExact.pGreater
  simp only
  have hlen : ((dist.length : Nat) : Rat) ≠ 0 := Nat.cast_ne_zero.mpr (List.length_pos_iff.mpr hne).ne'
  have hcongr : (dist.filter fun (d : Nat) => decide ((d : Int) ≤ (u : Int) - 1)) = dist.filter (· < u) :=
    List.filter_congr fun d _ => decide_eq_decide.2 (by omega)
  rw [h, hcongr, eq_div_iff hlen, sub_mul, div_mul_cancel₀ _ hlen, one_mul, ← tails_add dist u]
  push_cast
  ring

theorem filter_length_mono {β : Type} (p q : β → Bool) (l : List β) (h : ∀ x, p x = true → q x = true) :
    (l.filter p).length ≤ (l.filter q).length := by
  rw [← List.countP_eq_length_filter, ← List.countP_eq_length_filter]
  exact List.countP_mono_left (fun x _ => h x)

theorem exactP_differs_pLess (cdf : Int → Rat) (dist : List Nat) (h : IsCDFOf cdf dist) (c u : Nat) (hu : u ≤ c) :
    exactP cdf .differs (u : Int) ((c : Int) - u)
      = if 2 * u = c then 1 else 2 * pLess dist (min u (c - u)) := by
  show (if (u : Int) = (c : Int) - u then 1 else cdf (min (u : Int) ((c : Int) - u)) * 2) = _
  by_cases h2 : 2 * u = c
  · rw [if_pos (by omega), if_pos h2]
  · rw [if_neg (by omega), if_neg h2]
    have hm : min (u : Int) ((c : Int) - u) = ((min u (c - u) : Nat) : Int) := by omega
    rw [hm, mul_comm]
    exact congrArg (2 * ·) (less_spec cdf dist h (min u (c - u)) 0)

theorem pLess_mono (dist : List Nat) : Monotone (pLess dist) := fun _ _ h =>
  div_le_div_of_nonneg_right (Nat.cast_le.mpr (filter_length_mono _ _ _ fun x hx => by
    simp only [decide_eq_true_eq] at hx ⊢; omega)) (Nat.cast_nonneg _)

/-- the lower tail at `v` and the upper tail at a larger `w` are disjoint -/
theorem pLess_add_pGreater_le {dist : List Nat} {v w : Nat} (h : v < w) :
    pLess dist v + pGreater dist w ≤ 1 := by
  have hc : (dist.filter (· ≤ v)).length + (dist.filter (· ≥ w)).length ≤ dist.length := by
    rw [← tails_add dist w]
    exact Nat.add_le_add_right (filter_length_mono _ _ _ fun x hx => by
      simp only [decide_eq_true_eq] at hx ⊢; omega) _
  unfold pLess pGreater
  rw [← add_div, ← Nat.cast_add]
  exact div_le_one_of_le₀ (Nat.cast_le.mpr hc) (Nat.cast_nonneg _)

/-- the two tails at one `v` cover the values -/
theorem one_le_pLess_add_pGreater {dist : List Nat} (hne : dist ≠ []) (v : Nat) :
    1 ≤ pLess dist v + pGreater dist v := by
  have hc : dist.length ≤ (dist.filter (· ≤ v)).length + (dist.filter (· ≥ v)).length := by
    rw [← tails_add dist v]
    exact Nat.add_le_add_right (filter_length_mono _ _ _ fun x hx => by
      simp only [decide_eq_true_eq] at hx ⊢; omega) _
  unfold pLess pGreater
  rw [← add_div, ← Nat.cast_add]
  exact (one_le_div₀ (Nat.cast_pos.mpr (List.length_pos_iff.mpr hne))).mpr (Nat.cast_le.mpr hc)

/-- The symmetry hypothesis `hsym` says that `dist` is symmetric about `c/2`: for every `v` there are as
    many values `≤ v` as values `d` with `d + v ≥ c` (i.e. `d ≥ c − v`). -/
theorem two_sided_spec_partial (cdf : Int → Rat) (dist : List Nat) (c : Nat)
    (h : IsCDFOf cdf dist) (hne : dist ≠ [])
    (hsym : ∀ v : Nat, (dist.filter (· ≤ v)).length = (dist.filter (fun d => decide (d + v ≥ c))).length)
    (u : Nat) (hu : u ≤ c) :
    Stats.UStat.exactP cdf .differs (u : Int) ((c : Int) - u) = Spec.UExact.pTwoSided dist u := by
  -- the upper tail at c − v is the lower tail at v; so with m = min(u, c − u) the smaller tail at u is
  -- the lower tail at m (the lower tail is monotone)
  have hG : ∀ v : Nat, v ≤ c → pGreater dist (c - v) = pLess dist v := by
    intro v hv
    unfold pLess pGreater
    rw [hsym v]
    congr 3
    exact List.filter_congr fun d _ => decide_eq_decide.2 (by omega)
  have hGu : pGreater dist u = pLess dist (c - u) := by
    rw [← hG (c - u) (Nat.sub_le c u), Nat.sub_sub_self hu]
  rw [exactP_differs_pLess cdf dist h c u hu]
  unfold pTwoSided
  rw [ratMin_eq_min, ratMin_eq_min, hGu, ← (pLess_mono dist).map_min]
  split
  · -- u = c − u: the two tails at u are equal and cover everything
    rename_i h2
    have e : c - u = u := by omega
    have := one_le_pLess_add_pGreater hne u
    rw [hGu, e] at this
    rw [e, Nat.min_self]
    exact (min_eq_left (by linarith)).symm
  · -- m < c − m: the lower tail at m and its mirror image, the upper tail at c − m, are disjoint
    have := pLess_add_pGreater_le (dist := dist) (by omega : min u (c - u) < c - min u (c - u))
    rw [hG _ (by omega)] at this
    exact (min_eq_right (by linarith)).symm

/-- **two_sided_spec_iff.** With L = P(2U ≤ u), G = P(2U ≥ u), m = min(u, c−u), c = 2·n1·n2:
    the code's value equals min(1, 2·min(L,G)) exactly when
    * U1 = U2 and 2·min(L,G) ≥ 1, or
    * U1 ≠ U2 and either 2·P(2U ≤ m) = 2·min(L,G) ≤ 1, or 2·P(2U ≤ m) = 1 ≤ 2·min(L,G).
    The driver's N5 class (exact branch, two-sided, ties, model ≠ spec) is the negation of this. -/
theorem two_sided_spec_iff (cdf : Int → Rat) (dist : List Nat) (h : IsCDFOf cdf dist) (c u : Nat) (hu : u ≤ c) :
    exactP cdf .differs (u : Int) ((c : Int) - u) = pTwoSided dist u ↔
      (if 2 * u = c then 1 ≤ 2 * ratMin (pLess dist u) (pGreater dist u)
       else (2 * pLess dist (min u (c - u)) = 2 * ratMin (pLess dist u) (pGreater dist u)
              ∧ 2 * ratMin (pLess dist u) (pGreater dist u) ≤ 1)
          ∨ (2 * pLess dist (min u (c - u)) = 1 ∧ 1 ≤ 2 * ratMin (pLess dist u) (pGreater dist u))) := by
  rw [exactP_differs_pLess cdf dist h c u hu]
  unfold pTwoSided
  rw [ratMin_eq_min 1]
  set x := 2 * ratMin (pLess dist u) (pGreater dist u) with hx
  by_cases h2 : 2 * u = c
  · rw [if_pos h2, if_pos h2]
    constructor
    · intro e
      by_contra hlt
      rw [min_eq_right (le_of_lt (not_le.mp hlt))] at e
      exact hlt (le_of_eq e)
    · intro hge; rw [min_eq_left hge]
  · rw [if_neg h2, if_neg h2]
    constructor
    · intro e
      by_cases hle : x ≤ 1
      · left; rw [min_eq_right hle] at e; exact ⟨e, hle⟩
      · right
        have hge : 1 ≤ x := le_of_lt (not_le.mp hle)
        rw [min_eq_left hge] at e; exact ⟨e, hge⟩
    · rintro (⟨e, hle⟩ | ⟨e, hge⟩)
      · rw [min_eq_right hle]; exact e
      · rw [min_eq_left hge]; exact e

end C11
