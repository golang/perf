/-
C19 helper lemmas: the database states reachable by clean uploads (`Reach`). Every stored record of such a state
stands for a run of uploaded results and reads back as that run (`reach_inv`, `reach_record`).
-/
import Proofs.Lemmas.C19Store
import Proofs.Lemmas.C19Names

namespace C19
open Storage.Query Storage.Fmt

/-- database states reachable from the empty database by upload requests whose files read (by the
server's Reader, with the server's labels added) into clean results — i.e. outside the class of
finding N7 -/
inductive Reach : DB → Prop
  | empty : Reach {}
  | upload (db : DB) (day user : Bytes) (files : List FileIn) : Reach db →
      UploadP CleanResult (day ++ [46] ++ natToDec (nextSeq db day)) user files →
      Reach (processUpload db day user files).1

theorem reach_inv (db : DB) (h : Reach db) :
    Inv db ∧ DBStands (fun r => CleanResult r ∧ NameOK r) db := by
  induction h with
  | empty => exact ⟨inv_empty, by intro rec hrec; cases hrec⟩
  | upload db day user files _ hP ih =>
    exact ⟨processUpload_inv db ih.1 day user files,
      processUpload_stands _ db ih.1 ih.2 day user files fun i f hf r hrm =>
        ⟨hP i f hf r hrm, reader_names (some _) f.content r hrm⟩⟩

theorem reach_record (db : DB) (h : Reach db) (rec : RecordRow) (hrec : rec ∈ db.records) :
    ∃ hd t, (CleanResult hd ∧ NameOK hd) ∧ (∀ r ∈ t, (CleanResult r ∧ NameOK r) ∧ hd.sameLabels r = true) ∧
      db.labels.filter (fun l => l.rkey == rec.rkey) = rowsFor rec.upload rec.rid hd ∧
      (readAll rec.content).map (fun r => (r.labels, r.content)) =
        (hd :: t).map (fun r => (hd.labels, r.content)) ∧
      ∀ x ∈ readAll rec.content, ∃ r ∈ hd :: t, (CleanResult r ∧ NameOK r) ∧
        x.labels = hd.labels ∧ x.content = r.content := by
  obtain ⟨hd, t, a, b, c, d⟩ := (reach_inv db h).2 rec hrec
  have hround := stored_record_roundtrip hd t a.1 fun r hr => (b r hr).1.1
  rw [← c] at hround
  refine ⟨hd, t, a, b, d, hround, fun x hx => ?_⟩
  have hm : (x.labels, x.content) ∈ (hd :: t).map (fun r => (hd.labels, r.content)) :=
    hround ▸ List.mem_map.mpr ⟨x, hx, rfl⟩
  obtain ⟨r, hr, hre⟩ := List.mem_map.mp hm
  exact ⟨r, hr, (List.mem_cons.mp hr).elim (· ▸ a) (fun hr => (b r hr).1),
    (Prod.mk.inj hre).1.symm, (Prod.mk.inj hre).2.symm⟩

theorem reach_query_clean (db : DB) (h : Reach db) (q : Bytes) (rs : List Result)
    (hq : dbQuery db q = .ok rs) : ∀ x ∈ rs, CleanResult x := by
  unfold dbQuery at hq
  obtain ⟨recs, hrecs, hq⟩ := (bind_eq_ok _ _ _).mp hq
  cases hq
  intro x hx
  obtain ⟨rec, hrec, hx⟩ := List.mem_flatMap.mp hx
  obtain ⟨hd, t, a, _, _, _, back⟩ := reach_record db h rec (queryRecords_sub hrecs rec hrec)
  obtain ⟨r, _, hcr, e1, e2⟩ := back x hx
  exact ⟨e1 ▸ a.1.labels, e2 ▸ hcr.1.bench, e2 ▸ hcr.1.noNl, e2 ▸ hcr.1.noCr⟩

end C19
