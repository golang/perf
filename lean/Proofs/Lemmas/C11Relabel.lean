/-
C11: the null distribution of the specification depends only on the tie pattern of the pooled
sample, not on the order in which the pool is listed nor on the actual values, so it is the
distribution of the canonical pool `poolOf T` for the tie vector `T` of the pool. Reversing `T` mirrors
it, so a `T` that reads the same in both directions (in particular 1, …, 1: no ties) gives a symmetric one.
-/
import Model.Stats.UStat
import Model.Spec.UExact
import Proofs.Lemmas.C11Rank
import Proofs.Lemmas.C11Groups
import Proofs.Lemmas.C11GroupsEnum
import Proofs.Lemmas.Shared.FirstOcc
import Mathlib.Order.Defs.LinearOrder
import Mathlib.Order.Basic
import Mathlib.Data.List.Perm.Basic
import Mathlib.Data.List.Dedup
import Mathlib.Tactic.Ring
import Mathlib.Tactic.Linarith

namespace C11
open Spec.UExact Stats.UStat

section Decode
variable {α : Type} [LinearOrder α]

theorem map_idx_eq_poolFrom : ∀ (k : Nat) (S : List α), S.length ≤ k → S.Pairwise (· ≤ ·) →
    ∀ v, S.map (fun x => v + S.dedup.idxOf x) = poolFrom v (tv S) := by
  intro k
  induction k with
  | zero =>
    intro S hl _ v
    have : S = [] := List.length_eq_zero_iff.mp (Nat.le_zero.mp hl)
    subst this
    rfl
  | succ k ih =>
    intro S hl hs v
    match S, hl, hs with
    | [], _, _ => rfl
    | a :: S, hl, hs =>
      obtain ⟨A, B, hAB, (hA : ∀ x ∈ A, x = a), hne, (hB : ∀ b ∈ B, a < b),
        (hBs : B.Pairwise (· ≤ ·)), hlen⟩ := sorted_head_run id S a hs
      rw [hAB, tv_run a A B hA hne hB, dedup_run a A B hA hne hB, poolFrom,
        List.map_append]
      have hk : B.length ≤ k := by simp only [List.length_cons] at hl; omega
      congr 1
      · rw [List.eq_replicate_iff]
        refine ⟨List.length_map _, ?_⟩
        intro y hy
        obtain ⟨x, hx, rfl⟩ := List.mem_map.mp hy
        rw [hA x hx, List.idxOf_cons_self]
        rfl
      · rw [← ih B hk hBs (v + 1)]
        apply List.map_congr_left
        intro x hx
        rw [List.idxOf_cons_ne _ (ne_of_lt (hB x hx))]
        omega

theorem dedup_strict (S : List α) (h : S.Pairwise (· ≤ ·)) : S.dedup.Pairwise (· < ·) := by
  have h1 : S.dedup.Pairwise (· ≤ ·) := h.sublist (List.dedup_sublist S)
  have h2 : S.dedup.Pairwise (· ≠ ·) := List.nodup_dedup S
  exact (h1.and h2).imp (fun h => lt_of_le_of_ne h.1 h.2)

theorem idxOf_lt_iff (D : List α) (hD : D.Pairwise (· < ·)) :
    ∀ a ∈ D, ∀ b ∈ D, (a < b ↔ D.idxOf a < D.idxOf b) := by
  intro a ha b hb
  refine ⟨fun hab => ?_, FirstOcc.rel_of_idxOf_lt hD ha hb⟩
  rcases lt_trichotomy (D.idxOf a) (D.idxOf b) with h | h | h
  · exact h
  · exact absurd (FirstOcc.eq_of_idxOf_eq ha hb h) (ne_of_lt hab)
  · exact absurd (FirstOcc.rel_of_idxOf_lt hD hb ha h) (lt_asymm hab)

theorem sortF_relabel (pool : List α) :
    (sortF pool).map (fun x => (sortF pool).dedup.idxOf x)
      = poolOf (tieVectorOf ((sortF pool).dedup) pool) := by
  rw [tieVectorOf_perm _ (sortF_perm pool).symm, poolOf_eq]
  simpa only [Nat.zero_add, tv] using map_idx_eq_poolFrom _ _ (le_refl _) (sortF_sorted pool) 0

end Decode

theorem nullDistOf_canonical {α : Type} [LinearOrder α] (n : Nat) (pool : List α) :
    E2E.CountEq (Spec.UExact.nullDistOf n pool)
      (Spec.UExact.nullDistOf n
        (poolOf (Spec.UExact.tieVectorOf ((Stats.UStat.sortF pool).dedup) pool))) := by
  intro P
  rw [← sortF_relabel pool, nullDistOf_countP_perm n (sortF_perm pool).symm P]
  congr 1
  symm
  apply nullDistOf_map_of_strictMonoOn
  intro a ha b hb
  exact idxOf_lt_iff _ (dedup_strict _ (sortF_sorted pool)) a (List.mem_dedup.mpr ha) b
    (List.mem_dedup.mpr hb)

theorem canonicalT_length {α : Type} [LinearOrder α] (pool : List α) :
    (Spec.UExact.tieVectorOf ((Stats.UStat.sortF pool).dedup) pool).length
      = ((Stats.UStat.sortF pool).dedup).length := by
  rw [tieVectorOf_eq_map_count, List.length_map]

theorem canonicalT_pos {α : Type} [LinearOrder α] (pool : List α) :
    ∀ t ∈ Spec.UExact.tieVectorOf ((Stats.UStat.sortF pool).dedup) pool, 0 < t := by
  intro t ht
  rw [tieVectorOf_eq_map_count] at ht
  obtain ⟨a, ha, rfl⟩ := List.mem_map.mp ht
  exact List.count_pos_iff.mpr ((sortF_perm pool).mem_iff.mp (List.mem_dedup.mp ha))

theorem canonicalT_sum {α : Type} [LinearOrder α] (pool : List α) :
    (Spec.UExact.tieVectorOf ((Stats.UStat.sortF pool).dedup) pool).sum = pool.length := by
  have h := congrArg List.length (sortF_relabel pool)
  rw [List.length_map, sortF_length, poolOf_length] at h
  exact h.symm

theorem poolOf_canonical_length {α : Type} [LinearOrder α] (pool : List α) :
    (poolOf (Spec.UExact.tieVectorOf ((Stats.UStat.sortF pool).dedup) pool)).length = pool.length := by
  rw [poolOf_length, canonicalT_sum]

theorem tieVector_sum {α : Type} [LinearOrder α] (x1 x2 : List α) :
    (tieVector x1 x2).sum = x1.length + x2.length := by
  rw [tie_vector_is_run_lengths, canonicalT_sum, List.length_append]

theorem tieVector_pos {α : Type} [LinearOrder α] (x1 x2 : List α) : ∀ t ∈ tieVector x1 x2, 0 < t := by
  rw [tie_vector_is_run_lengths]
  exact canonicalT_pos _

theorem tieVector_length {α : Type} [LinearOrder α] (x1 x2 : List α) :
    (tieVector x1 x2).length = (sortF (x1 ++ x2)).dedup.length := by
  rw [tie_vector_is_run_lengths, canonicalT_length]

theorem poolFrom_map_reflect_perm (T : List Nat) : ∀ v c, v + T.length ≤ c + 1 →
    ((poolFrom v T).map (fun x => c - x)).Perm (poolFrom (c + 1 - (v + T.length)) T.reverse) := by
  induction T with
  | nil => intro v c _; simp [poolFrom]
  | cons t ts ih =>
    intro v c h
    rw [List.length_cons] at h
    have ih' := ih (v + 1) c (by omega)
    rw [poolFrom, List.map_append, List.map_replicate, List.reverse_cons, poolFrom_append,
      List.length_reverse]
    have e1 : c + 1 - (v + (t :: ts).length) = c + 1 - (v + 1 + ts.length) := by
      rw [List.length_cons]; omega
    have e2 : c + 1 - (v + 1 + ts.length) + ts.length = c - v := by omega
    rw [e1, e2]
    have e3 : poolFrom (c - v) [t] = List.replicate t (c - v) := by simp [poolFrom]
    rw [e3]
    exact List.perm_append_comm.trans (List.Perm.append_right _ ih')

theorem poolOf_map_reflect_perm (T : List Nat) :
    ((poolOf T).map (fun k => T.length - 1 - k)).Perm (poolOf T.reverse) := by
  cases T with
  | nil => simp [poolOf]
  | cons t ts =>
    rw [poolOf_eq, poolOf_eq]
    have h := poolFrom_map_reflect_perm (t :: ts) 0 ((t :: ts).length - 1)
      (by rw [List.length_cons]; omega)
    have e : (t :: ts).length - 1 + 1 - (0 + (t :: ts).length) = 0 := by
      rw [List.length_cons]; omega
    rw [e] at h
    exact h

theorem poolOf_lt (T : List Nat) : ∀ x ∈ poolOf T, x < T.length := by
  intro x hx
  rw [poolOf_eq] at hx
  have := (mem_poolFrom T 0 x hx).2
  omega

theorem nullDistOf_poolOf_reverse (T : List Nat) (n : Nat) :
    MirrorOf (2 * (n * (T.sum - n))) (Spec.UExact.nullDistOf n (poolOf T))
      (Spec.UExact.nullDistOf n (poolOf T.reverse)) := by
  have h := nullDistOf_mirror (fun k => T.length - 1 - k) n (pool := poolOf T)
    (fun a ha b hb => by
      have h1 := poolOf_lt T a ha
      have h2 := poolOf_lt T b hb
      show a < b ↔ T.length - 1 - b < T.length - 1 - a
      omega) (poolOf_map_reflect_perm T)
  rwa [poolOf_length] at h

/-- **a palindromic tie vector has a symmetric null distribution** (about `n·(N − n)`, in the form
    required by `two_sided_spec_partial`) -/
theorem palindromic_symmetric (T : List Nat) (hpal : T.reverse = T) (n : Nat) (v : Nat) :
    ((Spec.UExact.nullDistOf n (poolOf T)).filter (· ≤ v)).length
      = ((Spec.UExact.nullDistOf n (poolOf T)).filter
          (fun d => decide (d + v ≥ 2 * (n * (T.sum - n))))).length := by
  have h := nullDistOf_poolOf_reverse T n
  rw [hpal] at h
  exact h.filter_le v

end C11
