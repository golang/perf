/-
Surface syntax of filter expressions whose values are bare words, quoted literals or `/regexp/`
(text, meaning, well-formedness) and the predicates that say "the parser's tree means b".
-/
import Proofs.Lemmas.C06ReScan
import Proofs.Lemmas.C06Sem
import Proofs.Lemmas.C06Convert
import Model.Proc.FilterText
namespace C06
open Proc.Tok Proc.ParseFilter C07 Proc.FilterText
open Proc.FilterEval (ReOracle Res)
open Spec.FilterSem (denote denoteAll denoteAny termHolds)

/-- a value as written: a word (bare or quoted; `val` is its value) or a regular expression
`/val/` (`re = true`, `val` is the source) -/
structure SV where
  re : Bool
  txt : Bytes
  val : Bytes

/-- the tree leaf's matcher: a literal, or the oracle index of the regexp source -/
def SV.matcher (v : SV) : Proc.FilterEval.Matcher := if v.re then .re (reId v.val) else .lit v.val

/-- surface syntax of filter expressions: a key is given by its text and its value, a value by an
`SV`; `paren` holds an OR of juxtapositions; the `Bool` of an item says that it is written with
`AND` in front (ignored for the first item of a juxtaposition) -/
inductive S
  | paren (alts : List (List (Bool × S)))
  | neg (m : S)
  | star
  | term (kt kv : Bytes) (v : SV)
  | list (kt kv : Bytes) (vs : List SV)

def sepAND : Bytes := 0x20 :: (wAND ++ [0x20])
def sepOR : Bytes := 0x20 :: (wOR ++ [0x20])

theorem sepOR_length : sepOR.length = 4 := by decide

/-- `a₁ OR a₂ OR … OR aₙ` as written (each item: text and value) -/
def renderVs : List SV → Bytes
  | [] => []
  | [p] => p.txt
  | p :: q :: r => p.txt ++ (0x20 :: (wOR ++ 0x20 :: renderVs (q :: r)))

mutual
def render : S → Bytes
  | .paren alts => cLP :: (renderE alts ++ [cRP])
  | .neg m => cDash :: render m
  | .star => [cStar]
  | .term kt _ v => kt ++ cColon :: v.txt
  | .list kt _ vs => kt ++ cColon :: cLP :: (renderVs vs ++ [cRP])
/-- the items of a juxtaposition after the first: each preceded by " " or " AND " -/
def renderT : List (Bool × S) → Bytes
  | [] => []
  | (b, s) :: r => (if b then sepAND else [0x20]) ++ (render s ++ renderT r)
def renderA : List (Bool × S) → Bytes
  | [] => []
  | (_, s) :: r => render s ++ renderT r
/-- alternatives separated by " OR " -/
def renderE : List (List (Bool × S)) → Bytes
  | [] => []
  | [a] => renderA a
  | a :: b :: r => renderA a ++ (sepOR ++ renderE (b :: r))
end

mutual
/-- the boolean meaning of the surface syntax, by ordinary recursion -/
def sem (re : ReOracle) (res : Res) (i : Nat) : S → Bool
  | .paren alts => semE re res i alts
  | .neg m => !sem re res i m
  | .star => true
  | .term _ kv v => termHolds re res i kv v.matcher
  | .list _ kv vs => vs.any fun p => termHolds re res i kv p.matcher
def semT (re : ReOracle) (res : Res) (i : Nat) : List (Bool × S) → Bool
  | [] => true
  | (_, s) :: r => sem re res i s && semT re res i r
def semE (re : ReOracle) (res : Res) (i : Nat) : List (List (Bool × S)) → Bool
  | [] => false
  | a :: r => semT re res i a || semE re res i r
end

/-- a well-formed value: a word in value position, or `/src/` whose scan ends at the top level and
which compiles; the flag says which -/
def okV (cx : Ctx) (v : SV) : Prop := ∃ k, Val cx k v.txt v.val ∧ (k == kR) = v.re

mutual
/-- well-formedness: the words are words, the regular expressions scan and compile, lists and
juxtapositions are non-empty -/
def okS (cx : Ctx) : S → Prop
  | .paren alts => alts ≠ [] ∧ okE cx alts
  | .neg m => okS cx m
  | .star => True
  | .term kt kv v => (∃ k, Word cx false k kt kv) ∧ okV cx v
  | .list kt kv vs => (∃ k, Word cx false k kt kv) ∧ vs ≠ [] ∧ ∀ p, p ∈ vs → okV cx p
def okT (cx : Ctx) : List (Bool × S) → Prop
  | [] => True
  | (_, s) :: r => okS cx s ∧ okT cx r
def okE (cx : Ctx) : List (List (Bool × S)) → Prop
  | [] => True
  | a :: r => a ≠ [] ∧ okT cx a ∧ okE cx r
end

/-- a boolean meaning: for a regexp oracle, a result and a measurement index, whether it is kept -/
abbrev Meaning := ReOracle → Res → Nat → Bool

/-- the parser's tree converts to an evaluator tree whose denotation is `b` -/
def GoodT (t : Filter) (b : Meaning) : Prop :=
  ∃ t', toTree t = some t' ∧ ∀ re res i, denote re res i t' = b re res i

/-- the parser's trees `ts` convert, and the conjunction (`GoodAll`) / disjunction (`GoodAny`) of the
converted trees' denotations is `b`: the invariants of the parser's AND / OR accumulators -/
def GoodAll (ts : List Filter) (b : Meaning) : Prop :=
  ∃ ts', toTrees ts = some ts' ∧ ∀ re res i, denoteAll re res i ts' = b re res i

def GoodAny (ts : List Filter) (b : Meaning) : Prop :=
  ∃ ts', toTrees ts = some ts' ∧ ∀ re res i, denoteAny re res i ts' = b re res i

theorem toTrees_append (ts us : List Filter) (ts' us' : List Proc.FilterEval.Filter)
    (h1 : toTrees ts = some ts') (h2 : toTrees us = some us') : toTrees (ts ++ us) = some (ts' ++ us') := by
  induction ts generalizing ts' with
  | nil => simp [toTrees] at h1; subst h1; simpa using h2
  | cons a r ih =>
    obtain ⟨a', r', ha, hr, rfl⟩ := toTrees_cons_some h1
    simp [toTrees, ha, ih r' hr]

theorem GoodAll.nil : GoodAll [] (fun _ _ _ => true) := ⟨[], by simp [toTrees], by simp [denoteAll]⟩
theorem GoodAny.nil : GoodAny [] (fun _ _ _ => false) := ⟨[], by simp [toTrees], by simp [denoteAny]⟩

theorem GoodAll.cons {t : Filter} {ts : List Filter} {b c : Meaning} (h1 : GoodT t b) (h2 : GoodAll ts c) :
    GoodAll (t :: ts) (fun re res i => b re res i && c re res i) := by
  obtain ⟨t', e1, d1⟩ := h1
  obtain ⟨ts', e2, d2⟩ := h2
  exact ⟨t' :: ts', by simp [toTrees, e1, e2], fun re res i => by rw [denoteAll, d1, d2]⟩

theorem GoodAny.cons {t : Filter} {ts : List Filter} {b c : Meaning} (h1 : GoodT t b) (h2 : GoodAny ts c) :
    GoodAny (t :: ts) (fun re res i => b re res i || c re res i) := by
  obtain ⟨t', e1, d1⟩ := h1
  obtain ⟨ts', e2, d2⟩ := h2
  exact ⟨t' :: ts', by simp [toTrees, e1, e2], fun re res i => by rw [denoteAny, d1, d2]⟩

theorem GoodAll.append {ts us : List Filter} {b c : Meaning} (h1 : GoodAll ts b) (h2 : GoodAll us c) :
    GoodAll (ts ++ us) (fun re res i => b re res i && c re res i) := by
  obtain ⟨ts', e1, d1⟩ := h1
  obtain ⟨us', e2, d2⟩ := h2
  exact ⟨ts' ++ us', toTrees_append ts us ts' us' e1 e2, fun re res i => by
    rw [denoteAll_eq_all, List.all_append, ← denoteAll_eq_all, ← denoteAll_eq_all, d1, d2]⟩

/-- `finish .and`: a single operand is returned as it is -/
theorem GoodAll.finish {ts : List Filter} {b : Meaning} (h : GoodAll ts b) : GoodT (finish .and ts) b := by
  obtain ⟨ts', e, d⟩ := h
  unfold Proc.ParseFilter.finish
  split
  · obtain ⟨t', _, ht, hn, rfl⟩ := toTrees_cons_some e
    cases hn
    exact ⟨t', ht, fun re res i => by rw [← d]; simp [denoteAll]⟩
  · exact ⟨.and ts', by simp [toTree, e], fun re res i => by rw [← d]; simp [denote]⟩

theorem GoodAny.finish {ts : List Filter} {b : Meaning} (h : GoodAny ts b) : GoodT (finish .or ts) b := by
  obtain ⟨ts', e, d⟩ := h
  unfold Proc.ParseFilter.finish
  split
  · obtain ⟨t', _, ht, hn, rfl⟩ := toTrees_cons_some e
    cases hn
    exact ⟨t', ht, fun re res i => by rw [← d]; simp [denoteAny]⟩
  · exact ⟨.or ts', by simp [toTree, e], fun re res i => by rw [← d]; simp [denote]⟩

theorem GoodT.not {t : Filter} {b : Meaning} (h : GoodT t b) :
    GoodT (.op .not [t]) (fun re res i => !b re res i) := by
  obtain ⟨t', e, d⟩ := h
  exact ⟨.not t', by simp [toTree, toTrees, e], fun re res i => by simp [denote, d]⟩

/-- the leaf the parser builds for a value -/
def leafSV (kv : Bytes) (v : SV) (off : Int) : Filter :=
  if v.re then .re kv v.val off else .lit kv v.val off

theorem leaf_of_kind (kv : Bytes) (v : SV) (off : Int) (o : Int) (k : UInt8) (hk : (k == kR) = v.re) :
    mkMatch off kv ⟨k, o, v.val⟩ = leafSV kv v off := by
  unfold mkMatch leafSV
  simp only [hk]

theorem toTree_leafSV (kv : Bytes) (v : SV) (off : Int) :
    toTree (leafSV kv v off) = some (.mtch kv off.toNat v.matcher) := by
  unfold leafSV SV.matcher
  cases v.re <;> simp [toTree]

theorem GoodT.leaf (kv : Bytes) (v : SV) (off : Int) :
    GoodT (leafSV kv v off) (fun re res i => termHolds re res i kv v.matcher) :=
  ⟨_, toTree_leafSV kv v off, fun re res i => by simp [denote]⟩

theorem GoodT.star : GoodT (.op .and []) (fun _ _ _ => true) :=
  ⟨.and [], by simp [toTree, toTrees], fun re res i => by simp [denote, denoteAll]⟩

theorem GoodT.leaves (kv : Bytes) (off : Int) (vs : List SV) :
    GoodT (.op .or (vs.map fun p => leafSV kv p off))
      (fun re res i => vs.any fun p => termHolds re res i kv p.matcher) := by
  have h : ∀ vs : List SV, toTrees (vs.map fun p => leafSV kv p off) =
      some (vs.map fun p => .mtch kv off.toNat p.matcher) := by
    intro vs
    induction vs with
    | nil => simp [toTrees]
    | cons p r ih =>
      simp [toTrees, toTree_leafSV, ih]
  refine ⟨.or (vs.map fun p => .mtch kv off.toNat p.matcher), by simp [toTree, h], fun re res i => ?_⟩
  simp [denote, denoteAny_eq_any, List.any_map, Function.comp_def]

theorem semT_eq_all (re : ReOracle) (res : Res) (i : Nat) (items : List (Bool × S)) :
    semT re res i items = items.all (fun p => sem re res i p.2) := by
  induction items with
  | nil => simp [semT]
  | cons p r ih => obtain ⟨b, s⟩ := p; simp [semT, ih]

theorem semE_eq_any (re : ReOracle) (res : Res) (i : Nat) (E : List (List (Bool × S))) :
    semE re res i E = E.any (fun a => a.all (fun p => sem re res i p.2)) := by
  induction E with
  | nil => simp [semE]
  | cons a r ih => simp [semE, ih, semT_eq_all]

theorem renderE_single (a : List (Bool × S)) : renderE [a] = renderA a := by rw [renderE]
theorem renderA_single (b : Bool) (s : S) : renderA [(b, s)] = render s := by
  rw [renderA, renderT, List.append_nil]

end C06
