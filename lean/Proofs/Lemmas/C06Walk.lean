/-
NewFilter's walk: every compiled tree denotes ⟦e⟧ (mutual induction over trees and child lists).
-/
import Proofs.Lemmas.C06Eval

namespace C06
open Proc.FilterEval Spec.FilterSem Proc.Extract

mutual
theorem filter_induction {P : Filter → Prop} (mtch : ∀ key off mt, P (.mtch key off mt))
    (not : ∀ e, P e → P (.not e)) (and : ∀ es, (∀ e, e ∈ es → P e) → P (.and es))
    (or : ∀ es, (∀ e, e ∈ es → P e) → P (.or es)) : ∀ e, P e
  | .mtch key off mt => mtch key off mt
  | .not e => not e (filter_induction mtch not and or e)
  | .and es => and es (filter_induction_mem mtch not and or es)
  | .or es => or es (filter_induction_mem mtch not and or es)
theorem filter_induction_mem {P : Filter → Prop} (mtch : ∀ key off mt, P (.mtch key off mt))
    (not : ∀ e, P e → P (.not e)) (and : ∀ es, (∀ e, e ∈ es → P e) → P (.and es))
    (or : ∀ es, (∀ e, e ∈ es → P e) → P (.or es)) : ∀ (es : List Filter) (e : Filter), e ∈ es → P e
  | [], _, h => nomatch h
  | e :: es, e', h => by
    rcases List.mem_cons.mp h with he | h
    · exact he ▸ filter_induction mtch not and or e
    · exact filter_induction_mem mtch not and or es e' h
end

theorem walk_and_ok {re : ReOracle} {es : List Filter} {f : FilterFn} (h : walk re (.and es) = .ok f) :
    ∃ subs, walkList re es = .ok subs ∧ f = andFn subs := by
  rw [walk] at h
  split at h
  · rename_i subs hw; cases h; exact ⟨subs, hw, rfl⟩
  · cases h

theorem walk_or_ok {re : ReOracle} {es : List Filter} {f : FilterFn} (h : walk re (.or es) = .ok f) :
    ∃ subs, walkList re es = .ok subs ∧ f = orFn subs := by
  rw [walk] at h
  split at h
  · rename_i subs hw; cases h; exact ⟨subs, hw, rfl⟩
  · cases h

theorem walk_not_ok {re : ReOracle} {e : Filter} {f : FilterFn} (h : walk re (.not e) = .ok f) :
    ∃ sub, walk re e = .ok sub ∧ f = notFn sub := by
  rw [walk] at h
  split at h
  · rename_i sub hw; cases h; exact ⟨sub, hw, rfl⟩
  · cases h

theorem walk_mtch_ok {re : ReOracle} {key : Bytes} {off : Nat} {mt : Matcher} {f : FilterFn}
    (h : walk re (.mtch key off mt) = .ok f) :
    (key = dotUnit ∧ f = unitFn re mt) ∨ (key ≠ dotUnit ∧ f = keyFn re key mt) := by
  rw [walk] at h
  split at h
  · rename_i hu; cases h; exact Or.inl ⟨by simpa using hu, rfl⟩
  · rename_i hu
    split at h
    · cases h
    · split at h
      · cases h
      · cases h; exact Or.inr ⟨by simpa using hu, rfl⟩

theorem walkList_cons_ok {re : ReOracle} {e : Filter} {es : List Filter} {fs : List FilterFn}
    (h : walkList re (e :: es) = .ok fs) :
    ∃ f fs', walk re e = .ok f ∧ walkList re es = .ok fs' ∧ fs = f :: fs' := by
  rw [walkList] at h
  split at h
  · cases h
  · rename_i f hf
    split at h
    · cases h
    · rename_i fs' hfs; cases h; exact ⟨f, fs', hf, hfs, rfl⟩
mutual
theorem walk_sound (re : ReOracle) (res : Res) : ∀ (e : Filter) (f : FilterFn), walk re e = .ok f →
    Denotes res.values.length (f res) (fun i => denote re res i e)
  | .and es, f, h => by
    obtain ⟨subs, hw, rfl⟩ := walk_and_ok h
    obtain ⟨w, t⟩ := walkList_sound re res es subs hw
    exact Denotes.and w fun i hi => by rw [(t i hi).1, denote]
  | .or es, f, h => by
    obtain ⟨subs, hw, rfl⟩ := walk_or_ok h
    obtain ⟨w, t⟩ := walkList_sound re res es subs hw
    exact Denotes.or w fun i hi => by rw [(t i hi).2, denote]
  | .not e, f, h => by
    obtain ⟨sub, hw, rfl⟩ := walk_not_ok h
    exact (walk_sound re res e sub hw).not.congr fun i _ => by rw [denote]
  | .mtch key off mt, f, h => by
    rcases walk_mtch_ok h with ⟨rfl, rfl⟩ | ⟨hk, rfl⟩
    · exact Denotes.unit re mt res
    · exact ⟨nofun, fun i hi => by
        simp [keyFn, outTest_none _ _ _ hi, denote, termHolds, hk, holds_eq_valueHolds]⟩
theorem walkList_sound (re : ReOracle) (res : Res) : ∀ (es : List Filter) (fs : List FilterFn),
    walkList re es = .ok fs →
    (∀ f, f ∈ fs → OutWF res.values.length (f res)) ∧
    ∀ i, i < res.values.length →
      (fs.all (fun f => outTest res.values.length (f res) i) = denoteAll re res i es ∧
       fs.any (fun f => outTest res.values.length (f res) i) = denoteAny re res i es)
  | [], fs, h => by
    cases h
    exact ⟨nofun, fun i hi => ⟨rfl, rfl⟩⟩
  | e :: es, fs, h => by
    obtain ⟨f, fs', hf, hfs, rfl⟩ := walkList_cons_ok h
    obtain ⟨w1, t1⟩ := walk_sound re res e f hf
    obtain ⟨w2, t2⟩ := walkList_sound re res es fs' hfs
    refine ⟨List.forall_mem_cons.mpr ⟨w1, w2⟩, fun i hi => ?_⟩
    simp [denoteAll, denoteAny, t1 i hi, (t2 i hi).1, (t2 i hi).2]
end

end C06
