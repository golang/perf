/-
C16 — from the pieces the emission loop writes to the LINES of the output: no blank is ever
immediately followed by a newline.
-/
import Proofs.Lemmas.C16Emit
import Proofs.Lemmas.Shared.List

namespace C16
open Tab.TextTab

/-- no blank (0x20) directly in front of a newline (0x0A): no line of `b` ends in a blank
(the last line of `emit`'s output is terminated by a newline too) -/
def noBlankNL : Bytes → Bool
  | a :: b :: rest => !(a == 0x20 && b == 0x0A) && noBlankNL (b :: rest)
  | _ => true

theorem noBlankNL_append : ∀ (x y : Bytes), noBlankNL x = true → noBlankNL y = true →
    ¬ (x.getLast? = some 0x20 ∧ y.head? = some 0x0A) → noBlankNL (x ++ y) = true := by
  intro x
  induction x with
  | nil => intro y _ hy _; simpa using hy
  | cons a xs ih =>
    intro y hx hy hj
    cases xs with
    | nil =>
      cases y with
      | nil => simp [noBlankNL]
      | cons b ys =>
        simp only [List.cons_append, List.nil_append, noBlankNL, Bool.and_eq_true, Bool.not_eq_true']
        refine ⟨?_, hy⟩
        simp only [List.getLast?_singleton, List.head?_cons, Option.some.injEq] at hj
        by_cases h1 : a = 0x20
        · by_cases h2 : b = 0x0A
          · exact absurd ⟨h1, h2⟩ hj
          · simp [h2]
        · simp [h1]
    | cons b xs' =>
      simp only [List.cons_append, noBlankNL, Bool.and_eq_true] at hx ⊢
      refine ⟨hx.1, ?_⟩
      have := ih y hx.2 hy (by
        intro h
        apply hj
        refine ⟨?_, h.2⟩
        rw [List.getLast?_cons_cons]
        exact h.1)
      simpa using this

theorem noBlankNL_of_no_nl : ∀ (x : Bytes), (0x0A : UInt8) ∉ x → noBlankNL x = true := by
  intro x
  induction x with
  | nil => intro _; rfl
  | cons a xs ih =>
    intro h
    cases xs with
    | nil => rfl
    | cons b xs' =>
      simp only [noBlankNL, Bool.and_eq_true, Bool.not_eq_true']
      have hb : b ≠ 0x0A := by
        intro hb; apply h; rw [hb]; simp
      refine ⟨by simp [hb], ih (fun hm => h (List.mem_cons_of_mem _ hm))⟩

theorem noBlankNL_newlines (n : Nat) : noBlankNL (List.replicate n [(0x0A : UInt8)]).flatten = true := by
  induction n with
  | zero => rfl
  | succ n ih =>
    rw [List.replicate_succ, List.flatten_cons]
    cases hn : (List.replicate n [(0x0A : UInt8)]).flatten with
    | nil => rfl
    | cons b rest =>
      rw [hn] at ih
      simp only [List.cons_append, List.nil_append, noBlankNL, Bool.and_eq_true, Bool.not_eq_true']
      exact ⟨by simp, ih⟩

theorem spaces_no_nl (n : Nat) : (0x0A : UInt8) ∉ spaces n := by
  unfold spaces
  intro h
  have := List.eq_of_mem_replicate h
  exact absurd this (by decide)

theorem head?_newlines (n : Nat) (x : Bytes) :
    ((List.replicate n [(0x0A : UInt8)]).flatten ++ x).head? = some 0x0A ∨
    (List.replicate n [(0x0A : UInt8)]).flatten ++ x = x := by
  cases n with
  | zero => right; simp
  | succ n => left; simp [List.replicate_succ]

/-- invariant of the output written so far: no blank before a newline, and not ending in a blank -/
def OutOK (b : Bytes) : Prop := noBlankNL b = true ∧ b.getLast? ≠ some 0x20

theorem outOK_append (b x : Bytes) (hb : OutOK b) (hx : (0x0A : UInt8) ∉ x) (hne : x ≠ [])
    (hl : x.getLast? ≠ some 0x20) : OutOK (b ++ x) := by
  refine ⟨noBlankNL_append b x hb.1 (noBlankNL_of_no_nl x hx) ?_, ?_⟩
  · intro h
    exact hb.2 h.1
  · rw [Shared.getLast?_append_ne_nil _ _ hne]; exact hl

theorem outOK_newlines (b : Bytes) (n : Nat) (hb : OutOK b) :
    OutOK (b ++ (List.replicate n [(0x0A : UInt8)]).flatten) := by
  cases n with
  | zero => simpa using hb
  | succ n =>
    refine ⟨noBlankNL_append _ _ hb.1 (noBlankNL_newlines _) (fun h => hb.2 h.1), ?_⟩
    have hne : (List.replicate (n + 1) [(0x0A : UInt8)]).flatten ≠ [] := by simp [List.replicate_succ]
    rw [Shared.getLast?_append_ne_nil _ _ hne]
    have : (List.replicate (n + 1) [(0x0A : UInt8)]).flatten = List.replicate (n + 1) 0x0A := by
      simp [List.flatten_replicate_singleton]
    rw [this, List.getLast?_replicate]
    simp

/-- text of a cell: margin then value -/
def cellText (c : Cell) : Bytes := c.margin ++ c.value

/-- the cells the loop prints are single-line and do not end in a blank of their own -/
def CleanCell (c : Cell) : Prop :=
  (0x0A : UInt8) ∉ c.margin ∧ (0x0A : UInt8) ∉ c.value ∧ (cellText c).getLast? ≠ some 0x20

theorem printed_ne_nil (c : Cell) (hpr : skipped c = false) : c.margin ++ c.value ≠ [] := by
  intro h
  obtain ⟨h1, h2⟩ := List.append_eq_nil_iff.mp h
  have : skipped c = true := by rw [skipped, h1, h2]; rfl
  rw [this] at hpr
  cases hpr

/-- the pieces written for a printed cell end with the cell's own text: padding only precedes
content, and an empty value is not padded at all -/
theorem pieces_getLast? (offs : List Int) (lm : List Nat) (off : Int) (c : Cell)
    (hok : CellOK offs lm off c) (hne : c.margin ++ c.value ≠ []) :
    ((cellPieces offs lm off c).1.flatten).getLast? = (c.margin ++ c.value).getLast? := by
  obtain ⟨_, k, hp, _, he, _⟩ := hok
  rw [hp]
  simp only [List.flatten_cons, List.flatten_nil, List.append_nil]
  by_cases hv : c.value = []
  · have hm : c.margin ≠ [] := by rw [hv, List.append_nil] at hne; exact hne
    rw [he hv, hv, show spaces 0 = [] from rfl]
    simp only [List.append_nil]
    rw [← List.append_assoc, Shared.getLast?_append_ne_nil _ _ hm]
  · rw [← List.append_assoc, ← List.append_assoc, Shared.getLast?_append_ne_nil _ _ hv,
      Shared.getLast?_append_ne_nil _ _ hv]

theorem emit_fold_outOK (offs : List Int) (lm : List Nat) : ∀ (cells : List Cell) (st : EmitSt),
    EmitOK offs lm st cells → (∀ c ∈ cells, skipped c = false → CleanCell c) →
    OutOK st.out.flatten → OutOK (cells.foldl (emitCell offs lm) st).out.flatten := by
  intro cells
  induction cells with
  | nil => intro st _ _ h; exact h
  | cons c rest ih =>
    intro st hok hclean hst
    rw [List.foldl_cons]
    obtain ⟨hc, hrest⟩ := hok
    apply ih _ hrest (fun d hd => hclean d (List.mem_cons_of_mem _ hd))
    unfold emitCell
    split
    · exact hst
    · rename_i hsk
      have hsk : skipped c = false := by simpa using hsk
      have hcl := hclean c (List.mem_cons_self ..) hsk
      have hne := printed_ne_nil c hsk
      have hlast := pieces_getLast? offs lm _ c (hc hsk) hne
      obtain ⟨_, k, hp, _⟩ := hc hsk
      simp only [List.flatten_append]
      refine outOK_append _ _ (outOK_newlines _ _ hst) ?_ ?_ ?_
      · rw [hp]
        simp only [List.flatten_cons, List.flatten_nil, List.mem_append, not_or]
        exact ⟨spaces_no_nl _, ⟨spaces_no_nl _, hcl.1⟩, ⟨spaces_no_nl _, hcl.2.1⟩, List.not_mem_nil⟩
      · intro h
        rw [h] at hlast
        cases hl : (c.margin ++ c.value).getLast? with
        | none => exact hne (List.getLast?_eq_none_iff.mp hl)
        | some b => rw [hl] at hlast; cases hlast
      · rw [hlast]; exact hcl.2.2

theorem emit_noBlankNL (offs : List Int) (lm : List Nat) (cells : List Cell) (hok : EmitOK offs lm {} cells)
    (hclean : ∀ c ∈ cells, skipped c = false → CleanCell c) : noBlankNL (emit offs lm cells) = true := by
  have h := emit_fold_outOK offs lm cells {} hok hclean ⟨rfl, by simp⟩
  unfold emit
  simp only
  rw [List.flatten_append]
  split
  · simpa using h.1
  · simpa using (outOK_newlines _ 1 h).1

end C16
