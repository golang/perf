/-
C11: the end-to-end statements for ACTUAL samples: on its exact branch the model of `MannWhitneyUTest` returns the doubled
pair-counting statistic and the specification's p-value over all assignments of the pooled values
(two-sided: under symmetry of the null distribution) — for the pure CDF and for the driver's evaluator.
-/
import Model.Stats.UDist
import Model.Stats.UStat
import Model.Spec.UExact
import Proofs.Lemmas.C11Rank
import Proofs.Lemmas.C11ErrIff
import Proofs.Lemmas.C11PFormulas
import Proofs.Lemmas.C11UntiedCdf
import Proofs.Lemmas.C11Relabel
import Proofs.Lemmas.C11Memo
import Proofs.Lemmas.C11Count
import Proofs.Lemmas.C11TiedCdf
import Mathlib.Data.List.Basic
import Mathlib.Data.List.Count
import Mathlib.Data.List.Dedup
import Mathlib.Data.List.Perm.Basic
import Mathlib.Tactic.Ring
import Mathlib.Tactic.Linarith

namespace C11
open Stats Stats.UStat Spec.UExact

namespace E2E
variable {α : Type} [LinearOrder α]

theorem pLess_perm (n : Nat) {pool pool' : List α} (h : pool.Perm pool') (u : Nat) :
    pLess (nullDistOf n pool) u = pLess (nullDistOf n pool') u :=
  pLess_of_countEq (nullDistOf_countP_perm n h) u

theorem pGreater_perm (n : Nat) {pool pool' : List α} (h : pool.Perm pool') (u : Nat) :
    pGreater (nullDistOf n pool) u = pGreater (nullDistOf n pool') u :=
  pGreater_of_countEq (nullDistOf_countP_perm n h) u

theorem pTwoSided_perm (n : Nat) {pool pool' : List α} (h : pool.Perm pool') (u : Nat) :
    pTwoSided (nullDistOf n pool) u = pTwoSided (nullDistOf n pool') u :=
  pTwoSided_nullDistOf_perm n h u

end E2E

section Pool
variable {α : Type} [LinearOrder α]

theorem countEq_nullDist_poolOf (x1 x2 : List α) :
    E2E.CountEq (nullDist x1 x2) (nullDistOf x1.length (poolOf (tieVector x1 x2))) := by
  rw [tie_vector_is_run_lengths]
  exact nullDistOf_canonical x1.length (x1 ++ x2)

theorem model_hasTies_eq (x1 x2 : List α) :
    (ranks (labeledMerge (sortF x1) (sortF x2))).hasTies = UDist.hasTies (tieVector x1 x2) :=
  ranks_hasTies _

theorem tieVector_length_two (x1 x2 : List α) (h1 : x1 ≠ [])
    (hne : allEqual x1 x2 = false) : 2 ≤ (tieVector x1 x2).length := by
  have hsum := tieVector_sum x1 x2
  have l1 : 0 < x1.length := List.length_pos_iff.mpr h1
  have h0 : (tieVector x1 x2).length ≠ 0 := by
    intro h
    rw [List.length_eq_zero_iff.mp h] at hsum
    simp at hsum
    omega
  have h1' : (tieVector x1 x2).length ≠ 1 := by
    intro h
    rw [allEqual_of_length_one x1 x2 h] at hne
    cases hne
  omega

theorem pool_nodup (x1 x2 : List α) (hT : UDist.hasTies (tieVector x1 x2) = false) :
    (x1 ++ x2).Nodup := by
  rw [tie_vector_is_run_lengths] at hT
  exact (hasTies_tieVectorOf_eq_false_iff _).mp hT

theorem nullDist_ne_nil (x1 x2 : List α) : nullDist x1 x2 ≠ [] :=
  nullDistOf_ne_nil x1.length x2.length (x1 ++ x2) List.length_append

end Pool

theorem pTwoSided_canonical {α : Type} [LinearOrder α] (n : Nat) (pool : List α) (u : Nat) :
    Spec.UExact.pTwoSided (Spec.UExact.nullDistOf n pool) u
      = Spec.UExact.pTwoSided (Spec.UExact.nullDistOf n
          (poolOf (Spec.UExact.tieVectorOf ((Stats.UStat.sortF pool).dedup) pool))) u :=
  pTwoSided_of_countEq (nullDistOf_canonical n pool) u

section Main
variable {α : Type} [LinearOrder α]

/-- **exact_outcome_shape.** Non-empty samples that are not all equal, on the exact branch: the
    outcome is `exact` with the doubled pair-counting statistic and the exact-branch formula over the
    CDF for the sample sizes and the tie vector — for any CDF evaluator. -/
theorem exact_outcome_shape (cdf : Nat → Nat → List Nat → Int → Rat) (lim limT : Nat)
    (x1 x2 : List α) (alt : Alt) (h1 : x1 ≠ []) (h2 : x2 ≠ [])
    (hne : Spec.UExact.allEqual x1 x2 = false)
    (hb : exactBranch (ranks (labeledMerge (sortF x1) (sortF x2))).hasTies x1.length x2.length
            lim limT = true) :
    mannWhitney cdf lim limT x1 x2 alt
      = .exact ((Spec.UExact.twoUPairs x1 x2 : Nat) : Int)
          (exactP (cdf x1.length x2.length (tieVector x1 x2)) alt
            ((Spec.UExact.twoUPairs x1 x2 : Nat) : Int)
            (((2 * (x1.length * x2.length) : Nat) : Int)
              - ((Spec.UExact.twoUPairs x1 x2 : Nat) : Int))) := by
  have hK := tieVector_length_two x1 x2 h1 hne
  have hu := u_is_pair_count x1 x2
  unfold twoU1 at hu
  rw [mannWhitney_of_ne_nil h1 h2]
  unfold decide'
  simp only
  rw [if_pos hb, if_neg (by change (tieVector x1 x2).length ≠ 1; omega), hu]
  rfl

theorem cdfPure_isCDFOf_nullDist (x1 x2 : List α) (h1 : x1 ≠ [])
    (hne : Spec.UExact.allEqual x1 x2 = false) :
    IsCDFOf (UDist.cdfPure x1.length x2.length (tieVector x1 x2)) (Spec.UExact.nullDist x1 x2) := by
  cases hT : UDist.hasTies (tieVector x1 x2) with
  | true =>
    exact (tied_cdf_is_cdf (tieVector x1 x2) (tieVector_pos x1 x2)
      (tieVector_length_two x1 x2 h1 hne) x1.length x2.length hT (tieVector_sum x1 x2)).of_countEq
      (countEq_nullDist_poolOf x1 x2).symm
  | false =>
    exact untied_cdf_is_cdf_of_nodup x1.length x2.length (tieVector x1 x2) hT (x1 ++ x2)
      List.length_append (pool_nodup x1 x2 hT)

theorem less_exact (x1 x2 : List α) (lim limT : Nat) (h1 : x1 ≠ []) (h2 : x2 ≠ [])
    (hne : Spec.UExact.allEqual x1 x2 = false)
    (hb : exactBranch (ranks (labeledMerge (sortF x1) (sortF x2))).hasTies x1.length x2.length
            lim limT = true) :
    mannWhitney Stats.UDist.cdfPure lim limT x1 x2 .less
      = .exact ((Spec.UExact.twoUPairs x1 x2 : Nat) : Int)
          (Spec.UExact.pLess (Spec.UExact.nullDist x1 x2) (Spec.UExact.twoUPairs x1 x2)) := by
  rw [exact_outcome_shape _ lim limT x1 x2 .less h1 h2 hne hb,
    less_spec _ _ (cdfPure_isCDFOf_nullDist x1 x2 h1 hne)]

theorem greater_exact (x1 x2 : List α) (lim limT : Nat) (h1 : x1 ≠ []) (h2 : x2 ≠ [])
    (hne : Spec.UExact.allEqual x1 x2 = false)
    (hb : exactBranch (ranks (labeledMerge (sortF x1) (sortF x2))).hasTies x1.length x2.length
            lim limT = true) :
    mannWhitney Stats.UDist.cdfPure lim limT x1 x2 .greater
      = .exact ((Spec.UExact.twoUPairs x1 x2 : Nat) : Int)
          (Spec.UExact.pGreater (Spec.UExact.nullDist x1 x2) (Spec.UExact.twoUPairs x1 x2)) := by
  rw [exact_outcome_shape _ lim limT x1 x2 .greater h1 h2 hne hb,
    greater_spec _ _ (cdfPure_isCDFOf_nullDist x1 x2 h1 hne) (nullDist_ne_nil x1 x2)]

theorem cdf_eq_cdfPure_fun : Stats.UDist.cdf = Stats.UDist.cdfPure := by
  funext n1 n2 T v
  exact cdf_eq_cdfPure_of pUntied_getD_eq n1 n2 T v

theorem mannWhitney_cdf_eq (lim limT : Nat) (x1 x2 : List α) (alt : Alt) :
    mannWhitney Stats.UDist.cdf lim limT x1 x2 alt
      = mannWhitney Stats.UDist.cdfPure lim limT x1 x2 alt := by
  rw [cdf_eq_cdfPure_fun]

/-- **two_sided_exact_of_symmetric.** On the exact branch, IF the null distribution of the samples
    is symmetric about `n1·n2` (doubled: as many values `≤ v` as values `d` with
    `d + v ≥ 2·n1·n2`, for every `v`) THEN the two-sided value of the model is the specification's.
    (Tied or not; for tied samples the hypothesis can fail, see `two_sided_asymmetric_witness`.) -/
theorem two_sided_exact_of_symmetric (x1 x2 : List α) (lim limT : Nat) (h1 : x1 ≠ []) (h2 : x2 ≠ [])
    (hne : Spec.UExact.allEqual x1 x2 = false)
    (hb : exactBranch (ranks (labeledMerge (sortF x1) (sortF x2))).hasTies x1.length x2.length
            lim limT = true)
    (hsym : ∀ v : Nat, ((Spec.UExact.nullDist x1 x2).filter (· ≤ v)).length
      = ((Spec.UExact.nullDist x1 x2).filter
          (fun d => decide (d + v ≥ 2 * (x1.length * x2.length)))).length) :
    mannWhitney Stats.UDist.cdfPure lim limT x1 x2 .differs
      = .exact ((Spec.UExact.twoUPairs x1 x2 : Nat) : Int)
          (Spec.UExact.pTwoSided (Spec.UExact.nullDist x1 x2) (Spec.UExact.twoUPairs x1 x2)) := by
  rw [exact_outcome_shape _ lim limT x1 x2 .differs h1 h2 hne hb,
    two_sided_spec_partial _ _ (2 * (x1.length * x2.length))
      (cdfPure_isCDFOf_nullDist x1 x2 h1 hne) (nullDist_ne_nil x1 x2) hsym _
      (twoUPairs_le x1 x2)]

theorem nullDist_mirror_of_palindromic (x1 x2 : List α)
    (hpal : (tieVector x1 x2).reverse = tieVector x1 x2) :
    MirrorOf (2 * (x1.length * x2.length)) (nullDist x1 x2) (nullDist x1 x2) := by
  have h := nullDistOf_poolOf_reverse (tieVector x1 x2) x1.length
  rw [hpal, tieVector_sum, Nat.add_sub_cancel_left] at h
  exact h.of_countEq (countEq_nullDist_poolOf x1 x2).symm

theorem nullDist_mirror_of_untied (x1 x2 : List α)
    (hT : (ranks (labeledMerge (sortF x1) (sortF x2))).hasTies = false) :
    MirrorOf (2 * (x1.length * x2.length)) (nullDist x1 x2) (nullDist x1 x2) :=
  nullDistOf_mirror_of_nodup x1.length x2.length (x1 ++ x2) List.length_append
    (pool_nodup x1 x2 (by rwa [model_hasTies_eq] at hT))

theorem two_sided_exact_of_untied (x1 x2 : List α) (lim limT : Nat) (h1 : x1 ≠ []) (h2 : x2 ≠ [])
    (hne : Spec.UExact.allEqual x1 x2 = false)
    (hT : (ranks (labeledMerge (sortF x1) (sortF x2))).hasTies = false)
    (hb : exactBranch (ranks (labeledMerge (sortF x1) (sortF x2))).hasTies x1.length x2.length
            lim limT = true) :
    mannWhitney Stats.UDist.cdfPure lim limT x1 x2 .differs
      = .exact ((Spec.UExact.twoUPairs x1 x2 : Nat) : Int)
          (Spec.UExact.pTwoSided (Spec.UExact.nullDist x1 x2) (Spec.UExact.twoUPairs x1 x2)) :=
  two_sided_exact_of_symmetric x1 x2 lim limT h1 h2 hne hb (nullDist_mirror_of_untied x1 x2 hT).filter_le

theorem two_sided_exact_of_untied_driver (x1 x2 : List α) (lim limT : Nat) (h1 : x1 ≠ [])
    (h2 : x2 ≠ []) (hne : Spec.UExact.allEqual x1 x2 = false)
    (hT : (ranks (labeledMerge (sortF x1) (sortF x2))).hasTies = false)
    (hb : exactBranch (ranks (labeledMerge (sortF x1) (sortF x2))).hasTies x1.length x2.length
            lim limT = true) :
    mannWhitney Stats.UDist.cdf lim limT x1 x2 .differs
      = .exact ((Spec.UExact.twoUPairs x1 x2 : Nat) : Int)
          (Spec.UExact.pTwoSided (Spec.UExact.nullDist x1 x2) (Spec.UExact.twoUPairs x1 x2)) := by
  rw [mannWhitney_cdf_eq, two_sided_exact_of_untied x1 x2 lim limT h1 h2 hne hT hb]

theorem two_sided_exact_of_symmetric_driver (x1 x2 : List α) (lim limT : Nat) (h1 : x1 ≠ [])
    (h2 : x2 ≠ []) (hne : Spec.UExact.allEqual x1 x2 = false)
    (hb : exactBranch (ranks (labeledMerge (sortF x1) (sortF x2))).hasTies x1.length x2.length
            lim limT = true)
    (hsym : ∀ v : Nat, ((Spec.UExact.nullDist x1 x2).filter (· ≤ v)).length
      = ((Spec.UExact.nullDist x1 x2).filter
          (fun d => decide (d + v ≥ 2 * (x1.length * x2.length)))).length) :
    mannWhitney Stats.UDist.cdf lim limT x1 x2 .differs
      = .exact ((Spec.UExact.twoUPairs x1 x2 : Nat) : Int)
          (Spec.UExact.pTwoSided (Spec.UExact.nullDist x1 x2) (Spec.UExact.twoUPairs x1 x2)) := by
  rw [mannWhitney_cdf_eq, two_sided_exact_of_symmetric x1 x2 lim limT h1 h2 hne hb hsym]

end Main

end C11
