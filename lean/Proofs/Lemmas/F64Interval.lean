/-
The rounding interval of a float: `InRound x q` (q lies between the midpoints to the neighbours of x, a
midpoint included when the mantissa of x is even) rounds to x; the converse, that nothing else rounds to x, is not proved
here. Hence rounding is the identity on the values of floats and saturates from 2^1024 − 2^970 on.
-/
import Proofs.Lemmas.F64RoundQ

namespace F64

/-- half of the gap to the predecessor, in units of `2^expo x`: ¼ at a normal power of two
(where the binade below has half the spacing), ½ elsewhere -/
def lowGap (x : Bits) : ℚ := if mant x = 2 ^ 52 ∧ -1074 < expo x then 1 / 4 else 1 / 2

/-- `q` lies in the rounding interval of x: strictly between the midpoints to the neighbours, the
midpoints themselves included exactly when the mantissa of x is even (round-half-even). -/
def InRound (x : Bits) (q : ℚ) : Prop :=
  ((mant x : ℚ) - lowGap x < q * (2 : ℚ) ^ (-expo x) ∨
      ((mant x : ℚ) - lowGap x = q * (2 : ℚ) ^ (-expo x) ∧ mant x % 2 = 0)) ∧
  (q * (2 : ℚ) ^ (-expo x) < (mant x : ℚ) + 1 / 2 ∨
      (q * (2 : ℚ) ^ (-expo x) = (mant x : ℚ) + 1 / 2 ∧ mant x % 2 = 0))

theorem lowGap_pos (x : Bits) : 0 < lowGap x := by unfold lowGap; split <;> norm_num

theorem lowGap_le_half (x : Bits) : lowGap x ≤ 1 / 2 := by unfold lowGap; split <;> norm_num

theorem inRound_scaled (x : Bits) (q : ℚ) (h : InRound x q) :
    (mant x : ℚ) - 1 / 2 ≤ q * (2 : ℚ) ^ (-expo x) ∧ q * (2 : ℚ) ^ (-expo x) ≤ (mant x : ℚ) + 1 / 2 :=
  ⟨le_trans (sub_le_sub_left (lowGap_le_half x) _) (h.1.elim le_of_lt fun h => h.1.le),
    h.2.elim le_of_lt fun h => h.1.le⟩

/-- the linear arithmetic of `roundMag_of_inRound`, kept out of its large context; `B` stands for `2^53` -/
theorem near_mant_bounds {M r B : ℚ} (hM1 : 1 ≤ M) (hM : M + 1 ≤ B) (lo : M - 1 / 2 ≤ r)
    (hi : r ≤ M + 1 / 2) : 0 < r ∧ r < B ∧ ∀ P, P + 1 ≤ M → P ≤ r :=
  ⟨lt_of_lt_of_le (sub_pos.mpr one_half_lt_one) (le_trans (sub_le_sub_right hM1 _) lo),
    lt_of_le_of_lt hi (lt_of_lt_of_le ((add_lt_add_iff_left M).mpr one_half_lt_one) hM),
    fun _ h => le_trans (le_trans (le_sub_iff_add_le.mpr h) (sub_le_sub_left one_half_lt_one.le M)) lo⟩

/-- the same for `r` in the quarter unit below a power of two `P`: what `2r` satisfies one binade up -/
theorem near_pow_bounds {P r : ℚ} (hP : 1 ≤ P) (lo : P - 1 / 4 ≤ r) (hi : r < P) :
    0 < r ∧ 2 * r < 2 * P ∧ P ≤ 2 * r ∧ 2 * P - 1 / 2 ≤ 2 * r ∧ 2 * r < 2 * P + 1 / 2 :=
  ⟨by linarith only [hP, lo], by linarith only [hi], by linarith only [hP, lo], by linarith only [lo],
    by linarith only [hi]⟩

theorem roundMag_of_inRound (x : Bits) (hx : PosFin x) (n d : Nat) (hd : 0 < d)
    (h : InRound x ((n : ℚ) / d)) : roundMag n d = x := by
  obtain ⟨hrlo', hrhi⟩ := inRound_scaled x _ h
  obtain ⟨hlo, hhi⟩ := h
  have he := expo_ge x
  have hM1 : (1 : ℚ) ≤ mant x := by exact_mod_cast hx.mant_pos
  have hM : (mant x : ℚ) + 1 ≤ 2 ^ 53 := by exact_mod_cast mant_lt x
  have hxbits : (1074 + expo x).toNat * 2 ^ 52 + mant x = x.toNat := by
    rw [bits_of_mant_expo, magOf_posFin hx]
  have finish : 0 < n → magBits n d = x.toNat → roundMag n d = x := fun hn hmb => by
    rw [roundMag_eq n d hn hd, hmb, if_neg (not_le.mpr hx.2), UInt64.ofNat_toNat]
  generalize hr : (n : ℚ) / d * (2 : ℚ) ^ (-expo x) = r at hlo hhi hrlo' hrhi
  -- the regular case: shift `−expo x`, the scaled ratio rounds to `mant x`
  have regular : ((mant x : ℚ) - 1 / 2 < r ∨ ((mant x : ℚ) - 1 / 2 = r ∧ mant x % 2 = 0)) →
      (-1074 < expo x → (2 : ℚ) ^ 52 ≤ r) → roundMag n d = x := fun hlo' hge => by
    obtain ⟨hrpos, hr53, _⟩ := near_mant_bounds hM1 hM hrlo' hrhi
    refine finish (pos_of_ratio_pos (hr ▸ hrpos)) ?_
    rw [magBits_of_near n d (pos_of_ratio_pos (hr ▸ hrpos)) hd (-expo x) (mant x)
      (by rw [IsShift, hr]; exact ⟨neg_le.mpr he, hr53, fun h => hge (neg_lt.mp h)⟩)
      (by rw [hr]; exact ⟨hlo', hhi⟩), sub_neg_eq_add, hxbits]
  unfold lowGap at hlo
  split at hlo
  · rename_i hc
    have hMq : (mant x : ℚ) = 2 ^ 52 := by rw [hc.1, Nat.cast_pow, Nat.cast_ofNat]
    rw [hMq] at hlo
    by_cases hr52 : r < 2 ^ 52
    · -- x is a normal power of two and the ratio lies in the binade below, where the spacing is
      -- halved: shift `−expo x + 1`, the scaled ratio `2r` rounds to `2^53`
      have hr2 : (n : ℚ) / d * (2 : ℚ) ^ (-expo x + 1) = 2 * r := by rw [ratio_succ, hr]
      obtain ⟨hrpos, h2hi, h2lo, h2near, h2near'⟩ :=
        near_pow_bounds (one_le_pow₀ one_le_two) (hlo.elim le_of_lt fun h => h.1.le) hr52
      rw [← pow_succ' 2 52] at h2hi h2near h2near'
      have hn : 0 < n := pos_of_ratio_pos (hr ▸ hrpos)
      refine finish hn ?_
      rw [magBits_of_near n d hn hd (-expo x + 1) (2 ^ 53)
        (by rw [IsShift, hr2]; exact ⟨Int.add_one_le_iff.mpr (neg_lt.mpr hc.2), h2hi, fun _ => h2lo⟩)
        (by
          rw [hr2, NearQ, Nat.cast_pow, Nat.cast_ofNat]
          exact ⟨(lt_or_eq_of_le h2near).imp id fun h => ⟨h, by norm_num⟩, Or.inl h2near'⟩),
        ← hxbits, hc.1]
      have : (1074 - (-expo x + 1)).toNat + 1 = (1074 + expo x).toNat := by omega
      rw [← this, Nat.add_one_mul, Nat.add_assoc, ← Nat.two_mul, ← Nat.pow_succ']
    · rw [not_lt, ← hMq] at hr52
      exact regular (Or.inl (lt_of_lt_of_le (sub_lt_self _ one_half_pos) hr52)) fun _ => hMq ▸ hr52
  · rename_i hc
    refine regular hlo fun hnorm => ?_
    -- a normal mantissa other than 2^52 is at least 2^52 + 1
    have : 2 ^ 52 + 1 ≤ mant x :=
      Nat.lt_of_le_of_ne (mant_ge_of_expo x hnorm) fun h => hc ⟨h.symm, hnorm⟩
    have : ((2 ^ 52 + 1 : ℕ) : ℚ) ≤ mant x := Nat.cast_le.mpr this
    rw [Nat.cast_add, Nat.cast_pow, Nat.cast_ofNat, Nat.cast_one] at this
    exact (near_mant_bounds hM1 hM hrlo' hrhi).2.2 _ this
theorem inRound_pos (x : Bits) (hx : PosFin x) (q : ℚ) (h : InRound x q) : 0 < q := by
  have hM1 : (1 : ℚ) ≤ mant x := by exact_mod_cast hx.mant_pos
  have : 0 < q * (2 : ℚ) ^ (-expo x) := by linarith only [(inRound_scaled x q h).1, hM1]
  exact (pos_iff_pos_of_mul_pos this).mpr (two_zpow_pos _)

theorem roundQ_of_inRound (x : Bits) (hx : PosFin x) (q : ℚ) (h : InRound x q) : roundQ q = x := by
  have hq := inRound_pos x hx q h
  rw [roundQ_of_nonneg q hq.le]
  unfold magQ
  apply roundMag_of_inRound x hx _ _ q.den_pos
  rw [natAbs_div_den, abs_of_pos hq]; exact h

theorem inRound_self (x : Bits) : InRound x (val x) := by
  unfold InRound
  rw [val_mul_zpow_neg]
  exact ⟨Or.inl (sub_lt_self _ (lowGap_pos x)), Or.inl (lt_add_of_pos_right _ one_half_pos)⟩

/-- a sufficient metric condition: closer to `val x` than half the gap to the nearer neighbour
(`lowGap x · 2^expo x` — ¼ ulp at a power of two, ½ ulp elsewhere) -/
theorem inRound_of_abs_lt (x : Bits) (q : ℚ)
    (h : |q - val x| < lowGap x * (2 : ℚ) ^ (expo x)) : InRound x q := by
  have hn := two_zpow_pos (-expo x)
  have key : |q * (2 : ℚ) ^ (-expo x) - mant x| < lowGap x := by
    rw [← val_mul_zpow_neg, ← sub_mul, abs_mul, abs_of_pos hn]
    have := mul_lt_mul_of_pos_right h hn
    rwa [mul_assoc, zpow_mul_neg, _root_.mul_one] at this
  rw [abs_lt] at key
  exact ⟨Or.inl (by linarith [key.1]), Or.inl (by linarith [key.2, lowGap_le_half x])⟩

/-- a rational with the sign of the finite non-zero float `x` whose magnitude lies in the rounding interval of `|x|`
rounds to `x` -/
theorem roundQ_of_inRound_abs (x : Bits) (hf : isFinite x = true) (hz : isZero x = false) (q : ℚ)
    (hs : q < 0 ↔ signBit x = true) (h : InRound (abs x) |q|) : roundQ q = x := by
  have hp := posFin_abs x hf hz
  have h1 := roundQ_of_inRound (abs x) hp _ h
  cases hx : signBit x
  · rw [abs_of_nonneg (not_lt.mp fun hq => Bool.false_ne_true (hx.symm.trans (hs.mp hq)))] at h1
    rw [h1, abs_of_signBit_false x hx]
  · rw [abs_of_neg (hs.mpr hx)] at h1 h
    rw [← _root_.neg_neg q, roundQ_neg _ (inRound_pos _ hp _ h).ne', h1, neg_abs_of_signBit_true x hx]

/-- rounding the signed value of a finite non-zero float returns that float. -/
theorem roundQ_exact (x : Bits) (hf : isFinite x = true) (hz : isZero x = false) :
    roundQ (sval x) = x := by
  refine roundQ_of_inRound_abs x hf hz _ ?_ (by rw [abs_sval, ← val_abs]; exact inRound_self _)
  have := val_pos_of_nonzero hz
  unfold sval
  cases signBit x <;> simp [this, this.le]

theorem roundMag_toNat_le_of_le (n d : Nat) (hd : 0 < d) (x : Bits) (hx : PosFin x) (h : (n : ℚ) / d ≤ val x) :
    (roundMag n d).toNat ≤ x.toNat := by
  rcases Nat.eq_zero_or_pos n with rfl | hn
  · rw [roundMag_zero_num]; exact Nat.zero_le _
  · have := roundMag_mono n d _ _ hn hd (toFrac_snd_pos (mant x) (expo x))
      ((frac_le_iff _ _ _ _ hd (toFrac_snd_pos _ _)).2 (by rw [toFrac_ratio]; exact h))
    rwa [roundMag_of_inRound x hx _ _ (toFrac_snd_pos _ _) (by rw [toFrac_ratio]; exact inRound_self x)] at this

/-- the overflow threshold: rounding saturates to infinity exactly from half-way between the largest
finite float `2^1024 − 2^971` and `2^1024` on -/
theorem roundMag_eq_posInf_iff (n d : Nat) (hd : 0 < d) :
    roundMag n d = posInf ↔ (2 : ℚ) ^ 1024 - (2 : ℚ) ^ 970 ≤ (n : ℚ) / d := by
  have hpf : PosFin (0x7FEFFFFFFFFFFFFF : Bits) := by decide
  have hval : val (0x7FEFFFFFFFFFFFFF : Bits) = (2 : ℚ) ^ 1024 - (2 : ℚ) ^ 971 := by decide +kernel
  have hgap : lowGap (0x7FEFFFFFFFFFFFFF : Bits) * (2 : ℚ) ^ (expo (0x7FEFFFFFFFFFFFFF : Bits)) = (2 : ℚ) ^ 970 := by
    decide +kernel
  have hthr : roundMag (2 ^ 1024 - 2 ^ 970) 1 = posInf := by decide +kernel
  have h971 : (2 : ℚ) ^ 971 = 2 * (2 : ℚ) ^ 970 := pow_succ' 2 970
  have hpos : (0 : ℚ) < (2 : ℚ) ^ 1024 - (2 : ℚ) ^ 970 :=
    sub_pos.2 (pow_lt_pow_right₀ one_lt_two (by norm_num))
  have hcast : (((2 ^ 1024 - 2 ^ 970 : Nat) : ℚ)) = (2 : ℚ) ^ 1024 - (2 : ℚ) ^ 970 := by
    rw [Nat.cast_sub (Nat.pow_le_pow_right (by decide) (by decide)), Nat.cast_pow, Nat.cast_pow, Nat.cast_ofNat]
  generalize (2 : ℚ) ^ 1024 = A at *
  generalize (2 : ℚ) ^ 970 = C at *
  generalize (2 : ℚ) ^ 971 = B at *
  constructor
  · -- below the threshold the value is at most the largest finite float, or in its rounding interval
    intro hinf
    by_contra hlt
    rw [not_le] at hlt
    have hle : (roundMag n d).toNat ≤ (0x7FEFFFFFFFFFFFFF : Bits).toNat := by
      rcases le_or_gt ((n : ℚ) / d) (val (0x7FEFFFFFFFFFFFFF : Bits)) with hA | hA
      · exact roundMag_toNat_le_of_le n d hd _ hpf hA
      · refine le_of_eq (congrArg _ (roundMag_of_inRound _ hpf n d hd (inRound_of_abs_lt _ _ ?_)))
        rw [hgap, abs_of_pos (sub_pos.2 hA), hval]
        linarith only [hlt, h971]
    rw [hinf] at hle
    exact absurd hle (by decide)
  · intro hge
    rcases Nat.eq_zero_or_pos n with rfl | hn
    · rw [Nat.cast_zero, zero_div] at hge
      exact absurd hge (not_le.2 hpos)
    have hmono := roundMag_mono (2 ^ 1024 - 2 ^ 970) 1 n d (by decide +kernel) Nat.one_pos hd
      ((frac_le_iff _ _ _ _ Nat.one_pos hd).2 (by rw [Nat.cast_one, div_one, hcast]; exact hge))
    rw [hthr] at hmono
    have hle := roundMag_le_inf n d
    rw [← UInt64.toNat_inj]
    exact Nat.le_antisymm hle hmono

theorem isFinite_roundQ_iff (q : ℚ) :
    isFinite (roundQ q) = true ↔ |q| < (2 : ℚ) ^ 1024 - (2 : ℚ) ^ 970 := by
  have h2 := magQ_toNat_le q
  have key := not_congr (roundMag_eq_posInf_iff q.num.natAbs q.den q.den_pos)
  rw [natAbs_div_den, not_le] at key
  rw [isFinite_iff, magOf_roundQ, ← key, ← UInt64.toNat_inj]
  unfold magQ at h2 ⊢
  have : posInf.toNat = 0x7FF0000000000000 := by decide
  omega

theorem roundMag_exactQ (x : Bits) (hx : PosFin x) (n d : Nat) (hd : 0 < d)
    (h : (n : ℚ) / d = val x) : roundMag n d = x :=
  roundMag_of_inRound x hx n d hd (h ▸ inRound_self x)

/-- on the model's vocabulary: n/d = toFrac(mant x, expo x) cross-multiplied -/
theorem roundMag_exact (x : Bits) (hx : PosFin x) (n d : Nat) (hd : 0 < d)
    (h : n * (toFrac (mant x) (expo x)).2 = (toFrac (mant x) (expo x)).1 * d) :
    roundMag n d = x := by
  apply roundMag_exactQ x hx n d hd
  have hp : (0 : ℚ) < ((toFrac (mant x) (expo x)).2 : ℚ) := by exact_mod_cast toFrac_snd_pos _ _
  have hdq : (0 : ℚ) < d := by exact_mod_cast hd
  unfold val
  rw [← toFrac_ratio, div_eq_div_iff hdq.ne' hp.ne']
  exact_mod_cast h

theorem roundMag_self (x : Bits) (hx : PosFin x) :
    roundMag (toFrac (mant x) (expo x)).1 (toFrac (mant x) (expo x)).2 = x :=
  roundMag_exact x hx _ _ (toFrac_snd_pos _ _) rfl

/-- non-trivial instances: 0.1 rounds to itself -/
example : roundMag 1 10 = 0x3FB999999999999A := by decide +kernel
example : roundMag (toFrac (mant 0x3FB999999999999A) (expo 0x3FB999999999999A)).1
    (toFrac (mant 0x3FB999999999999A) (expo 0x3FB999999999999A)).2 = 0x3FB999999999999A :=
  roundMag_self _ (by decide)

end F64
