/-
Evaluator-level facts for property C06: the `.unit` loop, `filterOp`'s three closures (NOT, AND, OR)
and the mask-combining loop of AND/OR (`opLoop`), each characterised per measurement index.
-/
import Proofs.Lemmas.C06Mask
import Proofs.Lemmas.C06Sem

namespace C06
open Proc.FilterEval Spec.FilterSem

/-- every non-nil mask has the length `newMask n` gives -/
def OutWF (n : Nat) (o : Out) : Prop := ∀ m, o.1 = some m → m.length = words n

/-- `Test(i)` of the `Match` built from a filterFn's return values -/
def outTest (n : Nat) (o : Out) (i : Nat) : Bool := (Match.mk n o.1 o.2).test i

/-- the `Match` made of a filterFn's answer `o` on a result with `n` measurements is the characteristic vector of
`P`: its mask, if any, has the allocated length, and `Test(i) = P i` for every measurement `i < n` -/
def Denotes (n : Nat) (o : Out) (P : Nat → Bool) : Prop := OutWF n o ∧ ∀ i, i < n → outTest n o i = P i

theorem Denotes.congr {n : Nat} {o : Out} {P Q : Nat → Bool} (h : Denotes n o P) (hpq : ∀ i, i < n → P i = Q i) :
    Denotes n o Q := ⟨h.1, fun i hi => (h.2 i hi).trans (hpq i hi)⟩

theorem outTest_none (n : Nat) (x : Bool) (i : Nat) (hi : i < n) : outTest n (none, x) i = x := by
  simp [outTest, test_none, hi]

theorem outTest_some (n : Nat) (m : Mask) (x : Bool) (i : Nat) (hi : i < n) :
    outTest n (some m, x) i = bit m i := by
  simp [outTest, test_some, hi]

theorem unitLoop_spec (re : ReOracle) (mt : Matcher) (vs : List Value) (i0 : Nat) (m : Mask)
    (hm : words (i0 + vs.length) ≤ m.length) :
    (unitLoop re mt vs i0 m).length = m.length ∧
    ∀ j, bit (unitLoop re mt vs i0 m) j =
      (bit m j || (vs.zipIdx i0).any fun p => decide (j = p.2) && unitHolds re mt p.1) := by
  induction vs generalizing i0 m with
  | nil => simp [unitLoop]
  | cons v vs ih =>
    have h0 : i0 / 32 < m.length := Nat.lt_of_lt_of_le (div32_lt_words (by simp)) hm
    have hm' : words (i0 + 1 + vs.length) ≤ m.length := by rw [Nat.add_right_comm]; exact hm
    rw [unitLoop]
    split
    · rename_i h
      obtain ⟨ihl, ihb⟩ := ih (i0 + 1) (maskSet m i0) (by rwa [length_maskSet])
      refine ⟨by rw [ihl, length_maskSet], fun j => ?_⟩
      rw [ihb j, bit_maskSet _ _ _ h0, List.zipIdx_cons, List.any_cons, h, Bool.and_true, Bool.or_assoc]
    · rename_i h
      obtain ⟨ihl, ihb⟩ := ih (i0 + 1) m hm'
      refine ⟨ihl, fun j => ?_⟩
      rw [ihb j, List.zipIdx_cons, List.any_cons, Bool.eq_false_iff.mpr h, Bool.and_false, Bool.false_or]

theorem any_zipIdx_eq {α : Type} (l : List α) (f : α → Bool) (i : Nat) (hi : i < l.length) :
    (l.zipIdx.any fun p => decide (i = p.2) && f p.1) = f l[i] := by
  rw [Bool.eq_iff_iff, List.any_eq_true]
  constructor
  · rintro ⟨⟨w, k⟩, hp, h⟩
    obtain ⟨rfl, hw⟩ : i = k ∧ f w = true := by simpa using h
    rw [List.mk_mem_zipIdx_iff_getElem?, List.getElem?_eq_getElem hi] at hp
    cases hp; exact hw
  · intro h
    exact ⟨(l[i], i), List.mk_mem_zipIdx_iff_getElem?.mpr (List.getElem?_eq_getElem hi), by simpa using h⟩

theorem holds_eq_valueHolds (re : ReOracle) (mt : Matcher) (v : Bytes) :
    mt.holds re v = valueHolds re mt v := by
  cases mt with
  | lit s =>
    simp only [Matcher.holds, valueHolds]
    by_cases h : v = s
    · subst h; simp
    · have : ¬ s = v := fun e => h e.symm
      simp [h, this]
  | re id => rfl

theorem bne_nil (l : Bytes) : (l != []) = !decide (l = []) := by
  cases l <;> simp

theorem Denotes.unit (re : ReOracle) (mt : Matcher) (res : Res) :
    Denotes res.values.length (unitFn re mt res) (fun i => termHolds re res i Proc.Extract.dotUnit mt) := by
  obtain ⟨hl, hs⟩ := unitLoop_spec re mt res.values 0 (newMask res.values.length) (by
    rw [length_newMask, Nat.zero_add]; exact Nat.le_refl _)
  refine ⟨fun m hm => by cases hm; rw [hl, length_newMask], fun i hi => ?_⟩
  rw [unitFn, outTest_some _ _ _ _ hi, hs, bit_newMask, any_zipIdx_eq _ _ i hi]
  simp only [termHolds, if_true, Bool.false_or, List.getElem?_eq_getElem hi]
  simp [unitHolds, holds_eq_valueHolds, bne_nil]

theorem Denotes.not {n : Nat} {sub : FilterFn} {res : Res} {P : Nat → Bool} (h : Denotes n (sub res) P) :
    Denotes n (notFn sub res) (fun i => !P i) := by
  obtain ⟨hw, ht⟩ := h
  unfold notFn
  generalize sub res = o at hw ht
  obtain ⟨_ | m, x⟩ := o
  · exact ⟨nofun, fun i hi => by
      show outTest n (none, !x) i = !P i
      rw [← ht i hi, outTest_none _ _ _ hi, outTest_none _ _ _ hi]⟩
  · have hl : m.length = words n := hw m rfl
    refine ⟨fun m' hm' => by cases hm'; rw [length_maskNot, hl], fun i hi => ?_⟩
    show outTest n (some (maskNot m), false) i = !P i
    rw [← ht i hi, outTest_some _ _ _ _ hi, outTest_some _ _ _ _ hi]
    exact bit_maskNot m i (by rw [hl]; exact div32_lt_words hi)

/-- the loop of the AND and of the OR closure: `stop` is the whole-result boolean that settles the answer at once
(`false` for AND, `true` for OR), `op` combines the accumulated mask with a later one -/
def opLoop (stop : Bool) (op : Mask → Mask → Mask) (res : Res) : List FilterFn → Option Mask → Out
  | [], m => (m, !stop)
  | sub :: subs, m =>
    match sub res with
    | (none, x) => if x = stop then (none, stop) else opLoop stop op res subs m
    | (some m2, _) =>
      match m with
      | none => opLoop stop op res subs (some m2)
      | some m => opLoop stop op res subs (some (op m m2))

theorem andLoop_eq (res : Res) (subs : List FilterFn) (m : Option Mask) :
    andLoop res subs m = opLoop false maskAnd res subs m := by
  induction subs generalizing m with
  | nil => rfl
  | cons sub subs ih =>
    rw [andLoop, opLoop]
    rcases sub res with ⟨_ | m2, x⟩
    · cases x <;> simp [ih]
    · cases m <;> simp [ih]

theorem orLoop_eq (res : Res) (subs : List FilterFn) (m : Option Mask) :
    orLoop res subs m = opLoop true maskOr res subs m := by
  induction subs generalizing m with
  | nil => rfl
  | cons sub subs ih =>
    rw [orLoop, opLoop]
    rcases sub res with ⟨_ | m2, x⟩
    · cases x <;> simp [ih]
    · cases m <;> simp [ih]

/-- measurement `i` comes out as the stopping value iff the accumulator or some operand has it there (a nil
accumulator never has); so AND is "all", OR is "any" -/
theorem opLoop_spec {stop : Bool} {op : Mask → Mask → Mask}
    (hlen : ∀ a b : Mask, a.length = b.length → (op a b).length = a.length)
    (hbit : ∀ (a b : Mask) (i : Nat), a.length = b.length →
      (bit (op a b) i == stop) = (bit a i == stop || bit b i == stop))
    (res : Res) (n : Nat) (subs : List FilterFn) (acc : Option Mask)
    (hsubs : ∀ f, f ∈ subs → OutWF n (f res)) (hacc : ∀ m, acc = some m → m.length = words n) :
    OutWF n (opLoop stop op res subs acc) ∧
    ∀ i, i < n → (outTest n (opLoop stop op res subs acc) i == stop) =
      (acc.any (bit · i == stop) || subs.any (fun f => outTest n (f res) i == stop)) := by
  induction subs generalizing acc with
  | nil =>
    refine ⟨fun m hm => hacc m hm, fun i hi => ?_⟩
    cases acc with
    | none => simp [opLoop, outTest_none _ _ _ hi]
    | some m => simp [opLoop, outTest_some _ _ _ _ hi]
  | cons sub subs ih =>
    have hsub := hsubs sub (by simp)
    have hrest : ∀ f, f ∈ subs → OutWF n (f res) := fun f hf => hsubs f (by simp [hf])
    rw [opLoop]
    rcases hs : sub res with ⟨_ | m2, x⟩
    · by_cases hx : x = stop
      · refine ⟨fun m hm => by simp [hx] at hm, fun i hi => ?_⟩
        simp [hx, hs, outTest_none _ _ _ hi]
      · obtain ⟨w, t⟩ := ih acc hrest hacc
        refine ⟨by simpa [hx] using w, fun i hi => ?_⟩
        simp [hx, beq_eq_false_iff_ne.mpr hx, hs, t i hi, outTest_none _ _ _ hi]
    · have hl2 : m2.length = words n := hsub m2 (by rw [hs])
      cases acc with
      | none =>
        obtain ⟨w, t⟩ := ih (some m2) hrest (by intro m hm; cases hm; exact hl2)
        exact ⟨w, fun i hi => by simp [t i hi, hs, outTest_some _ _ _ _ hi]⟩
      | some m =>
        have hml : m.length = m2.length := by rw [hacc m rfl, hl2]
        obtain ⟨w, t⟩ := ih (some (op m m2)) hrest (by
          intro m' hm'; cases hm'; rw [hlen _ _ hml, hacc m rfl])
        exact ⟨w, fun i hi => by simp [t i hi, hs, outTest_some _ _ _ _ hi, hbit _ _ _ hml, Bool.or_assoc]⟩

/-- AND of operands that answer with well-formed masks: measurement by measurement the conjunction of their tests -/
theorem Denotes.and {res : Res} {n : Nat} {subs : List FilterFn} {P : Nat → Bool}
    (hsubs : ∀ f, f ∈ subs → OutWF n (f res)) (hP : ∀ i, i < n → subs.all (fun f => outTest n (f res) i) = P i) :
    Denotes n (andFn subs res) P := by
  rw [andFn, andLoop_eq]
  obtain ⟨w, t⟩ := opLoop_spec (stop := false) length_maskAnd
    (fun a b i h => by rw [bit_maskAnd a b i h]; cases bit a i <;> cases bit b i <;> rfl)
    res n subs none hsubs nofun
  refine ⟨w, fun i hi => ?_⟩
  rw [← hP i hi]
  simpa [List.not_any_eq_all_not] using congrArg Bool.not (t i hi)

theorem Denotes.or {res : Res} {n : Nat} {subs : List FilterFn} {P : Nat → Bool}
    (hsubs : ∀ f, f ∈ subs → OutWF n (f res)) (hP : ∀ i, i < n → subs.any (fun f => outTest n (f res) i) = P i) :
    Denotes n (orFn subs res) P := by
  rw [orFn, orLoop_eq]
  obtain ⟨w, t⟩ := opLoop_spec (stop := true) length_maskOr
    (fun a b i h => by rw [bit_maskOr a b i h]; cases bit a i <;> cases bit b i <;> rfl)
    res n subs none hsubs nofun
  exact ⟨w, fun i hi => by rw [← hP i hi]; simpa using t i hi⟩

end C06
