/-
Helper lemmas for C08: the layout of a Projection (`Lay`: entry `j` of `root.Sub` belongs to closure `j`, entries
share no row index), what `populateRow` does (`Inv.spec`: fields are only added, and the row read at a
flattened field is the value of the result under the closure of the field's entry), and the invariant `Inv` of all
reachable states.
-/
import Proofs.Lemmas.C08Inv

namespace C08
open Proc.Sort Proc.Projection Proc.Extract

/-- Value of the last File entry with key `k` (default `d`). -/
def fileValOf (k : Bytes) (cfgs : List (Bytes × Bytes × Bool)) (d : Bytes) : Bytes :=
  match cfgs.reverse.find? (fun c => c.2.2 && c.1 == k) with
  | some c => c.2.1
  | none => d

theorem fileValOf_snoc (k : Bytes) (init : List (Bytes × Bytes × Bool)) (c : Bytes × Bytes × Bool) (d : Bytes) :
    fileValOf k (init ++ [c]) d = if (c.2.2 && c.1 == k) = true then c.2.1 else fileValOf k init d := by
  unfold fileValOf
  rw [List.reverse_append]
  simp only [List.reverse_cons, List.reverse_nil, List.nil_append, List.singleton_append, List.find?_cons]
  cases h : (c.2.2 && c.1 == k) <;> simp

/-- `newExtractor(key)(result)` as a total function. -/
def extractD (k : Bytes) (r : Res) : Bytes :=
  match extract k r.view with
  | .ok v => v
  | .error _ => []

theorem groupSubs_addSubAt_same (top : List Top) (pos : Nat) (fld : Field) (hg : isGroupAt top pos) :
    groupSubs (addSubAt top pos fld) pos = groupSubs top pos ++ [fld] := by
  obtain ⟨n, s, h⟩ := hg
  simp [groupSubs, getElem?_addSubAt, h]

theorem groupSubs_addSubAt_ne (top : List Top) (pos : Nat) (fld : Field) (q : Nat) (hq : q ≠ pos) :
    groupSubs (addSubAt top pos fld) q = groupSubs top q := by
  simp [groupSubs, getElem?_addSubAt, hq]

theorem groupSubs_mapFields (g : Field → Field) (top : List Top) (pos : Nat) :
    groupSubs (top.map (Top.mapFields g)) pos = (groupSubs top pos).map g := by
  unfold groupSubs
  rw [List.getElem?_map]
  cases h : top[pos]? with
  | none => simp
  | some t => cases t <;> simp [Top.mapFields]

theorem groupSubs_mem_flat (top : List Top) (pos : Nat) (f : Field) (h : f ∈ groupSubs top pos) :
    f ∈ top.flatMap Top.flat := by
  unfold groupSubs at h
  cases ht : top[pos]? with
  | none => simp [ht] at h
  | some t =>
    cases t with
    | leaf g => simp [ht] at h
    | group n subs =>
      simp [ht] at h
      exact List.mem_flatMap.mpr ⟨.group n subs, List.mem_of_getElem? ht, by simpa [Top.flat] using h⟩

theorem groupSubs_of_not_group (top : List Top) (pos : Nat) (h : ¬ isGroupAt top pos) : groupSubs top pos = [] := by
  unfold groupSubs
  cases ht : top[pos]? with
  | none => rfl
  | some t =>
    cases t with
    | leaf g => rfl
    | group n subs => exact absurd ⟨n, subs, ht⟩ h

theorem groupSubs_append (top : List Top) (t : Top) (pos : Nat) (ht : groupSubs [t] 0 = []) :
    groupSubs (top ++ [t]) pos = groupSubs top pos := by
  rcases Nat.lt_or_ge pos top.length with h | h
  · unfold groupSubs; rw [List.getElem?_append_left h]
  · have h1 : groupSubs top pos = [] := by unfold groupSubs; rw [List.getElem?_eq_none h]
    rw [h1]
    unfold groupSubs at ht ⊢
    rw [List.getElem?_append_right h]
    cases pos - top.length with
    | zero => exact ht
    | succ k => rfl

/-- closure `x` is the closure of entry `t`, which stands at position `j` -/
def Match (j : Nat) : Top → Part → Prop
  | .leaf f, .key k i => f.name = k ∧ f.idx = i
  | .leaf f, .fullname i => f.name = dotFullname ∧ f.idx = i
  | .group _ _, .config pos _ => pos = j
  | _, _ => False

/-- The layout: `root.Sub` and the closures are parallel lists (a `.unit` field, if any, comes
after them); entries do not share row indices; a group has one sub-field per name. -/
structure Lay (p : Proj) : Prop where
  sep : ∀ j j' f g, f ∈ flatAt p.top j → g ∈ flatAt p.top j' → f.idx = g.idx → j = j' ∧ f = g
  names : ∀ j f g, f ∈ flatAt p.top j → g ∈ flatAt p.top j → f.name = g.name → f = g
  aligned : ∀ j (h : j < p.parts.length), ∃ t, p.top[j]? = some t ∧ Match j t p.parts[j]
  unit : ∀ j, p.parts.length ≤ j → ∀ f ∈ flatAt p.top j, p.unitIdx = some f.idx ∧ f.name = dotUnit
  unitLt : ∀ ui, p.unitIdx = some ui → ui < p.nFields

/-- the value of result `r` in a field `f` of the entry whose closure is `x` (`none`: the `.unit`
field, which `populateRow` leaves empty) -/
def slotVal (env : Env) (r : Res) : Option Part → Field → Bytes
  | some (.key k _), _ => extractD k r
  | some (.fullname _), _ => fullNameExcluding env.exclude r.name
  | some (.config _ _), f => fileValOf f.name r.config []
  | none, _ => []

theorem flatAt_bound {p : Proj} (hf : FInv p) {j : Nat} {f : Field} (h : f ∈ flatAt p.top j) : f.idx < p.nFields :=
  hf.bound f ((mem_flat_iff _ _).mpr ⟨j, h⟩)

theorem Lay.setRow {p : Proj} (h : Lay p) (row : List Bytes) : Lay { p with row := row } :=
  ⟨h.sep, h.names, h.aligned, h.unit, h.unitLt⟩

theorem Lay.group {p : Proj} (h : Lay p) {j : Nat} (hj : j < p.parts.length) {pos : Nat} {o : Order}
    (hx : p.parts[j] = .config pos o) : pos = j ∧ isGroupAt p.top j := by
  obtain ⟨t, ht, hm⟩ := h.aligned j hj
  rw [hx] at hm
  cases t with
  | leaf f => exact hm.elim
  | group n s => exact ⟨hm, n, s, ht⟩

theorem Lay.leaf {p : Proj} (h : Lay p) {j : Nat} (hj : j < p.parts.length) {i : Nat}
    (hx : (∃ k, p.parts[j] = .key k i) ∨ p.parts[j] = .fullname i) :
    ∃ f, flatAt p.top j = [f] ∧ f.idx = i := by
  obtain ⟨t, ht, hm⟩ := h.aligned j hj
  cases t with
  | group n s => rcases hx with ⟨k, hx⟩ | hx <;> rw [hx] at hm <;> exact hm.elim
  | leaf f =>
    refine ⟨f, by simp [flatAt, ht, Top.flat], ?_⟩
    rcases hx with ⟨k, hx⟩ | hx <;> rw [hx] at hm <;> exact hm.2

theorem Lay.cases {q : Proj} (hl : Lay q) {j : Nat} {f : Field} (hfm : f ∈ flatAt q.top j) :
    (q.parts[j]? = some (.key f.name f.idx)) ∨ (q.parts[j]? = some (.fullname f.idx) ∧ f.name = dotFullname) ∨
    (∃ o, q.parts[j]? = some (.config j o) ∧ f ∈ groupSubs q.top j) ∨
    (q.parts[j]? = none ∧ q.unitIdx = some f.idx ∧ f.name = dotUnit) := by
  by_cases hj : j < q.parts.length
  · obtain ⟨t, ht, hm⟩ := hl.aligned j hj
    rw [List.getElem?_eq_getElem hj]
    have hft : f ∈ t.flat := by simpa [flatAt, ht] using hfm
    cases t with
    | leaf f0 =>
      rw [List.mem_singleton.mp hft]
      cases hx : q.parts[j] with
      | key k i => rw [hx] at hm; exact Or.inl (by rw [hm.1, hm.2])
      | fullname i => rw [hx] at hm; exact Or.inr (Or.inl ⟨by rw [hm.2], hm.1⟩)
      | config pos o => rw [hx] at hm; exact hm.elim
    | group n s =>
      cases hx : q.parts[j] with
      | key k i => rw [hx] at hm; exact hm.elim
      | fullname i => rw [hx] at hm; exact hm.elim
      | config pos o =>
        rw [hx] at hm
        exact Or.inr (Or.inr (Or.inl ⟨o, by rw [show pos = j from hm], by rw [← flatAt_group ⟨n, s, ht⟩]; exact hfm⟩))
  · exact Or.inr (Or.inr (Or.inr ⟨List.getElem?_eq_none (Nat.le_of_not_lt hj), hl.unit j (Nat.le_of_not_lt hj) f hfm⟩))

theorem Lay.config_pos {p : Proj} (hl : Lay p) {pos : Nat} {o : Order} (hx : Part.config pos o ∈ p.parts) :
    p.parts[pos]? = some (.config pos o) ∧ isGroupAt p.top pos := by
  obtain ⟨j, hj, e⟩ := List.getElem_of_mem hx
  obtain ⟨rfl, hg⟩ := hl.group hj e
  exact ⟨(List.getElem?_eq_getElem hj).trans (congrArg some e), hg⟩

theorem Lay.leaf_pos {p : Proj} (hl : Lay p) {x : Part} {i : Nat} (hx : x ∈ p.parts)
    (hk : (∃ k, x = .key k i) ∨ x = .fullname i) :
    ∃ j f, p.parts[j]? = some x ∧ f ∈ flatAt p.top j ∧ f.idx = i := by
  obtain ⟨j, hj, rfl⟩ := List.getElem_of_mem hx
  obtain ⟨f, hf, hi⟩ := hl.leaf hj hk
  exact ⟨j, f, List.getElem?_eq_getElem hj, by rw [hf]; exact List.mem_singleton_self _, hi⟩

theorem Lay.addSubField {p : Proj} (hf : FInv p) (h : Lay p) (pos : Nat) (name : Bytes) (o : Order)
    (hg : isGroupAt p.top pos) (hpos : pos < p.parts.length) (hnew : ∀ f ∈ flatAt p.top pos, f.name ≠ name) :
    Lay (p.addSubField pos name o).1 := by
  have hm := mem_flatAt_addSubField name o hg
  have hfi := mkSubField_idx name p.nFields o (!p.nodes.isEmpty)
  have hfn := mkSubField_name name p.nFields o (!p.nodes.isEmpty)
  refine ⟨?_, ?_, ?_, ?_, fun ui hu => Nat.lt_succ_of_lt (h.unitLt ui hu)⟩
  · intro j j' f g h1 h2 he
    rcases (hm j f).mp h1 with a | ⟨a1, a2⟩ <;> rcases (hm j' g).mp h2 with b | ⟨b1, b2⟩
    · exact h.sep j j' f g a b he
    · have := flatAt_bound hf a; rw [b2, hfi] at he; omega
    · have := flatAt_bound hf b; rw [a2, hfi] at he; omega
    · exact ⟨a1.trans b1.symm, a2.trans b2.symm⟩
  · intro j f g h1 h2 he
    rcases (hm j f).mp h1 with a | ⟨a1, a2⟩ <;> rcases (hm j g).mp h2 with b | ⟨b1, b2⟩
    · exact h.names j f g a b he
    · subst b1; rw [b2, hfn] at he; exact absurd he (hnew f a)
    · subst a1; rw [a2, hfn] at he; exact absurd he.symm (hnew g b)
    · exact a2.trans b2.symm
  · intro j hj
    obtain ⟨t, ht, hmt⟩ := h.aligned j hj
    simp only [Proj.addSubField, getElem?_addSubAt]
    by_cases hq : j = pos
    · subst hq
      obtain ⟨n, s, hh⟩ := hg
      rw [hh] at ht; cases ht
      refine ⟨.group n (s ++ [mkSubField name p.nFields o (!p.nodes.isEmpty)]), by simp [hh], ?_⟩
      revert hmt
      show Match j _ p.parts[j] → Match j _ p.parts[j]
      cases p.parts[j] <;> exact id
    · exact ⟨t, by simp [hq, ht], hmt⟩
  · intro j hj f hfm
    rcases (hm j f).mp hfm with a | ⟨a1, _⟩
    · exact h.unit j hj f a
    · have : p.parts.length ≤ j := hj
      omega

/-- State `q` of `populateRow env p r` after the closures of the first `m` entries have run and the closure of
entry `m`, if it is a `.config` closure, has seen the config entries `done`: the slots of the fields of the first
`m` entries hold their values (`vals`), those of entry `m` what `done` gives them (`now`), all other slots are
still empty; every new sub-field is named by a File key of `r` that is not excluded, and every such key seen has
its sub-field. -/
structure PMid (env : Env) (r : Res) (p : Proj) (m : Nat) (done : List (Bytes × Bytes × Bool)) (q : Proj) : Prop where
  f : FInv q
  lay : Lay q
  ext : Ext p q
  vals : ∀ j f, j ≠ m → f ∈ flatAt q.top j → getVal q.row f.idx = if j < m then slotVal env r p.parts[j]? f else []
  now : ∀ f ∈ flatAt q.top m, getVal q.row f.idx = fileValOf f.name done []
  cover : ∀ j o, j < m → p.parts[j]? = some (.config j o) → ∀ c ∈ r.config, c.2.2 = true →
    env.configKeys.contains c.1 = false → ∃ f ∈ flatAt q.top j, f.name = c.1
  coverNow : ∀ c ∈ done, c.2.2 = true → env.configKeys.contains c.1 = false → ∃ f ∈ flatAt q.top m, f.name = c.1
  /-- a field created by this call belongs to a `.config` closure, is named by a File key of `r` that is not excluded,
  lies beyond the old index space, and its observation-order map starts as the closure initialises it -/
  origin : ∀ j f, f ∈ flatAt q.top j → f ∈ flatAt p.top j ∨
    (p.nFields ≤ f.idx ∧ (∃ o, p.parts[j]? = some (.config j o)) ∧
      env.configKeys.contains f.name = false ∧ (∃ c ∈ r.config, c.2.2 = true ∧ c.1 = f.name) ∧
      (f.order = .first → f.ranks = if p.nodes.isEmpty then [] else [([], 0)]))

variable {env : Env} {r : Res} {p q : Proj} {m : Nat} {done : List (Bytes × Bytes × Bool)}

theorem PMid.entry {o : Order} {c : Bytes × Bytes × Bool} (h : PMid env r p m done q)
    (hx : p.parts[m]? = some (.config m o)) (hc : c ∈ r.config) :
    PMid env r p m (done ++ [c]) (configStep env m o q c) := by
  have hg := h.f.groups m o (h.ext.parts ▸ List.mem_of_getElem? hx)
  have hm : m < q.parts.length := h.ext.parts ▸ (List.getElem?_eq_some_iff.mp hx).1
  have hsubs := flatAt_group hg
  have hcond : ∀ f : Field, f.name ≠ c.1 → (c.2.2 && c.1 == f.name) = false := fun f hne => by
    simpa using fun _ => Ne.symm hne
  have hcover : ∀ q' : Proj, (∀ f ∈ flatAt q.top m, f ∈ flatAt q'.top m) → (c.2.2 = true →
      env.configKeys.contains c.1 = false → ∃ f ∈ flatAt q'.top m, f.name = c.1) → ∀ d ∈ done ++ [c], d.2.2 = true →
      env.configKeys.contains d.1 = false → ∃ f ∈ flatAt q'.top m, f.name = d.1 := fun q' hsub hnew d hd hdf hde => by
    rcases List.mem_append.mp hd with hd | hd
    · obtain ⟨f, hfm, hn⟩ := h.coverNow d hd hdf hde
      exact ⟨f, hsub f hfm, hn⟩
    · rw [List.mem_singleton.mp hd] at hdf hde ⊢; exact hnew hdf hde
  rcases configStep_cases env m o q c with ⟨e, hno⟩ | ⟨hfile, g, hgm, hgn, e⟩ | ⟨hfile, hnone, hex, e⟩ <;> rw [e]
  · -- nothing happens: no sub-field is named by a File entry `c`
    refine ⟨h.f, h.lay, h.ext, h.vals, fun f hfm => ?_, h.cover, hcover q (fun _ => id) fun hdf hde => ?_, h.origin⟩
    · rw [fileValOf_snoc, h.now f hfm]
      rcases hno with h1 | ⟨h1, _⟩
      · rw [h1]; rfl
      · rw [hcond f (h1 f (hsubs ▸ hfm))]; rfl
    · rcases hno with h1 | ⟨_, h1⟩
      · rw [h1] at hdf; cases hdf
      · rw [h1] at hde; cases hde
  · -- the slot of the sub-field `g` named by `c` is overwritten
    rw [← hsubs] at hgm
    have hlt : g.idx < q.row.length := by rw [h.f.rowLen]; exact flatAt_bound h.f hgm
    refine ⟨setRow_FInv q _ List.length_set h.f, h.lay.setRow _, h.ext.trans (setRow_Ext q _), fun j f hj hfm => ?_,
      fun f hfm => ?_, h.cover, hcover _ (fun _ => id) fun _ _ => ⟨g, hgm, hgn⟩, h.origin⟩
    · exact (getVal_set_ne _ _ _ _ fun he => hj (h.lay.sep m j g f hgm hfm he).1.symm).trans (h.vals j f hj hfm)
    · rw [fileValOf_snoc]
      by_cases hn : f.name = c.1
      · have : f = g := h.lay.names m f g hfm hgm (hn.trans hgn.symm)
        subst this
        simp only [hfile, hn, beq_self_eq_true, Bool.and_self, if_true]
        exact getVal_set_eq _ _ _ hlt
      · rw [hcond f hn]
        exact (getVal_set_ne _ _ _ _ fun he => hn (by rw [← (h.lay.sep m m g f hgm hfm he).2, hgn])).trans
          (h.now f hfm)
  · -- a new sub-field, with the next index
    rw [← hsubs] at hnone
    have hmem := mem_flatAt_addSubField c.1 o hg
    have hrow : ∀ i, i ≠ q.nFields → getVal ((q.addSubField m c.1 o).1.row.set q.nFields c.2.1) i = getVal q.row i :=
      fun i hi => by
        simp only [Proj.addSubField]
        rw [getVal_set_ne _ _ _ _ (Ne.symm hi), getVal_append_nil]
    have hold : ∀ j f, f ∈ flatAt q.top j → f ∈ flatAt (q.addSubField m c.1 o).1.top j := fun j f hfm =>
      (hmem j f).mpr (Or.inl hfm)
    have hnew : mkSubField c.1 q.nFields o (!q.nodes.isEmpty) ∈ flatAt (q.addSubField m c.1 o).1.top m :=
      (hmem m _).mpr (Or.inr ⟨rfl, rfl⟩)
    refine ⟨setRow_FInv _ _ List.length_set (addSubField_FInv q m c.1 o h.f hg), (h.lay.addSubField h.f m c.1 o hg hm hnone).setRow _,
      h.ext.trans ((addSubField_Ext q m c.1 o hg).trans (setRow_Ext _ _)), fun j f hj hfm => ?_, fun f hfm => ?_,
      fun j o' hj hc' d hd hdf hde => ?_, hcover _ (hold m) fun _ _ => ⟨_, hnew, mkSubField_name ..⟩,
      fun j f hfm => ?_⟩
    · have hfq := ((hmem j f).mp hfm).resolve_right fun a => hj a.1
      rw [hrow _ (Nat.ne_of_lt (flatAt_bound h.f hfq))]
      exact h.vals j f hj hfq
    · rw [fileValOf_snoc]
      rcases (hmem m f).mp hfm with hfq | ⟨_, rfl⟩
      · rw [hcond f (hnone f hfq), hrow _ (Nat.ne_of_lt (flatAt_bound h.f hfq))]
        exact h.now f hfq
      · have hb : (c.2.2 && c.1 == (mkSubField c.1 q.nFields o (!q.nodes.isEmpty)).name) = true := by
          simp [hfile, mkSubField_name]
        rw [hb, mkSubField_idx]
        exact getVal_set_eq _ _ _ (by simp [Proj.addSubField, h.f.rowLen])
    · obtain ⟨f, hfm, hn⟩ := h.cover j o' hj hc' d hd hdf hde
      exact ⟨f, hold j f hfm, hn⟩
    · rcases (hmem j f).mp hfm with hfq | ⟨rfl, rfl⟩
      · exact h.origin j f hfq
      · exact Or.inr ⟨by rw [mkSubField_idx]; exact h.ext.nFields, ⟨o, hx⟩, by rw [mkSubField_name]; exact hex,
          ⟨c, hc, hfile, by rw [mkSubField_name]⟩, fun ho => by
            rw [mkSubField_ranks _ _ _ _ ho, h.ext.nodes]; cases p.nodes.isEmpty <;> rfl⟩

theorem PMid.entries {o : Order} (hx : p.parts[m]? = some (.config m o)) :
    ∀ (rest done : List (Bytes × Bytes × Bool)) (q : Proj), (∀ c ∈ rest, c ∈ r.config) → PMid env r p m done q →
      PMid env r p m (done ++ rest) (rest.foldl (configStep env m o) q)
  | [], done, q, _, h => by rw [List.append_nil]; exact h
  | c :: rest, done, q, hr, h => by
    rw [List.foldl_cons, List.append_cons]
    exact PMid.entries hx rest _ _ (fun d hd => hr d (List.mem_cons_of_mem _ hd)) (h.entry hx (hr c List.mem_cons_self))

theorem PMid.step (h : PMid env r p m [] q) (hm : m < p.parts.length) :
    PMid env r p (m + 1) [] (runPart env r q p.parts[m]) := by
  have hmq : m < q.parts.length := by rw [h.ext.parts]; exact hm
  have hpart : q.parts[m] = p.parts[m] := by simp [h.ext.parts]
  have hslot : p.parts[m]? = some p.parts[m] := List.getElem?_eq_getElem hm
  have hlt : ∀ j, j ≠ m → (j < m + 1 ↔ j < m) := fun j hj => by omega
  -- a closure that writes `v` into the slot `i` of its leaf
  have leaf : ∀ (i : Nat) (v : Bytes), ((∃ k, p.parts[m] = .key k i) ∨ p.parts[m] = .fullname i) →
      (∀ f, slotVal env r (some p.parts[m]) f = v) →
      PMid env r p (m + 1) [] { q with row := q.row.set i v } := by
    intro i v hx hv
    obtain ⟨f0, hf0, hi⟩ := h.lay.leaf hmq (hpart ▸ hx)
    have hm0 : f0 ∈ flatAt q.top m := by rw [hf0]; exact List.mem_singleton_self _
    have hne : ∀ j f, j ≠ m → f ∈ flatAt q.top j → getVal (q.row.set i v) f.idx = getVal q.row f.idx := fun j f hj hfm =>
      getVal_set_ne _ _ _ _ fun e => hj (h.lay.sep m j f0 f hm0 hfm (hi.trans e)).1.symm
    refine ⟨setRow_FInv q _ List.length_set h.f, h.lay.setRow _, h.ext.trans (setRow_Ext q _),
      fun j f hj hfm => ?_, fun f hfm => ?_, fun j o hj hc => ?_, fun _ hc => (nomatch hc), h.origin⟩
    · by_cases hj' : j = m
      · subst hj'
        have : f = f0 := by rw [hf0] at hfm; exact List.mem_singleton.mp hfm
        rw [this, hi, if_pos (Nat.lt_succ_self _), hslot, hv]
        exact getVal_set_eq _ _ _ (by rw [h.f.rowLen, ← hi]; exact flatAt_bound h.f hm0)
      · rw [hne j f hj' hfm, h.vals j f hj' hfm]
        simp only [hlt j hj']
    · rw [hne _ f (Nat.succ_ne_self m) hfm, h.vals _ f (Nat.succ_ne_self m) hfm, if_neg (Nat.not_succ_lt_self)]
      rfl
    · have hjm : j ≠ m := fun e => by
        subst e; rw [hslot] at hc
        rcases hx with ⟨k, hx⟩ | hx <;> rw [hx] at hc <;> cases hc
      exact h.cover j o (by omega) hc
  cases hx : p.parts[m] with
  | key k i => exact leaf i _ (Or.inl ⟨k, hx⟩) fun f => by rw [hx]; rfl
  | fullname i => exact leaf i _ (Or.inr hx) fun f => by rw [hx]; rfl
  | config pos o =>
    obtain ⟨rfl, _⟩ := h.lay.group hmq (hpart.trans hx)
    have c := PMid.entries (hslot.trans (congrArg some hx)) r.config [] q (fun _ => id) h
    show PMid env r p (pos + 1) [] (r.config.foldl (configStep env pos o) q)
    refine ⟨c.f, c.lay, c.ext, fun j f hj hfm => ?_, fun f hfm => ?_, fun j o' hj hc => ?_,
      fun _ hc => (nomatch hc), c.origin⟩
    · by_cases hj' : j = pos
      · subst hj'
        rw [c.now f hfm, if_pos (Nat.lt_succ_self _), hslot, hx]
        rfl
      · rw [c.vals j f hj' hfm]
        simp only [hlt j hj']
    · rw [c.vals _ f (Nat.succ_ne_self pos) hfm, if_neg (Nat.not_succ_lt_self)]
      rfl
    · by_cases hj' : j = pos
      · subst hj'; exact c.coverNow
      · exact c.cover j o' (by omega) hc

theorem PMid.fold (k : Nat) : ∀ (m : Nat) (q : Proj), m + k = p.parts.length →
    PMid env r p m [] q → PMid env r p (m + k) [] ((p.parts.drop m).foldl (runPart env r) q) := by
  induction k with
  | zero => intro m q hm h; rw [List.drop_of_length_le (by omega)]; exact h
  | succ k ih =>
    intro m q hm h
    have hlt : m < p.parts.length := by omega
    rw [List.drop_eq_getElem_cons hlt, List.foldl_cons, ← Nat.add_assoc, Nat.add_right_comm]
    exact ih (m + 1) _ (by omega) (h.step hlt)

theorem PMid.val (h : PMid env r p p.parts.length [] q) {j : Nat} {f : Field}
    (hfm : f ∈ flatAt q.top j) : getVal q.row f.idx = slotVal env r q.parts[j]? f := by
  rw [h.ext.parts]
  by_cases hj : j = p.parts.length
  · rw [hj, List.getElem?_eq_none (Nat.le_refl _)]; exact h.now f (hj ▸ hfm)
  · rw [h.vals j f hj hfm]
    split
    · rfl
    · rw [List.getElem?_eq_none (by omega)]; rfl

theorem PMid.covered (h : PMid env r p p.parts.length [] q) {j : Nat} {o : Order}
    (hx : p.parts[j]? = some (.config j o)) {c : Bytes × Bytes × Bool} (hc : c ∈ r.config) (hfile : c.2.2 = true)
    (hex : env.configKeys.contains c.1 = false) : ∃ f ∈ flatAt q.top j, f.name = c.1 :=
  h.cover j o (List.getElem?_eq_some_iff.mp hx).1 hx c hc hfile hex

theorem Match.map {g : Field → Field} (hg : KeepsKey g)
    {j : Nat} {t : Top} {x : Part} (h : Match j t x) : Match j (Top.mapFields g t) x := by
  cases t <;> cases x <;> simp only [Match, Top.mapFields, hg.idx, hg.name] at h ⊢ <;> exact h

theorem Lay.map {p : Proj} {g : Field → Field} (ns : List Node)
    (hg : KeepsKey g) (h : Lay p) :
    Lay { p with top := p.top.map (Top.mapFields g), nodes := ns } := by
  have hm : ∀ j f', f' ∈ flatAt (p.top.map (Top.mapFields g)) j → ∃ f ∈ flatAt p.top j, g f = f' := fun j f' hf' => by
    rw [flatAt_mapFields] at hf'; exact List.mem_map.mp hf'
  refine ⟨fun j j' f' g' h1 h2 he => ?_, fun j f' g' h1 h2 he => ?_, fun j hj => ?_, fun j hj f' hf' => ?_, h.unitLt⟩
  · obtain ⟨f, hf, rfl⟩ := hm j f' h1
    obtain ⟨g0, hg0, rfl⟩ := hm j' g' h2
    rw [hg.idx, hg.idx] at he
    obtain ⟨e1, e2⟩ := h.sep j j' f g0 hf hg0 he
    exact ⟨e1, by rw [e2]⟩
  · obtain ⟨f, hf, rfl⟩ := hm j f' h1
    obtain ⟨g0, hg0, rfl⟩ := hm j g' h2
    rw [hg.name, hg.name] at he
    rw [h.names j f g0 hf hg0 he]
  · obtain ⟨t, ht, hmt⟩ := h.aligned j hj
    exact ⟨_, by rw [List.getElem?_map, ht]; rfl, hmt.map hg⟩
  · obtain ⟨f, hf, rfl⟩ := hm j f' hf'
    rw [hg.idx, hg.name]
    exact h.unit j hj f hf

/-- Parsing extends a projection at the end by one entry `t` with at most one field, which gets the
next index, and by the closure of `t` — or, for `ParseWithUnit`, by the `.unit` leaf without closure. -/
theorem Lay.snoc {s q : Proj} (hf : FInv s) (h : Lay s) (hlen : s.parts.length = s.top.length)
    (t : Top) (ps : List Part) (htop : q.top = s.top ++ [t]) (hparts : q.parts = s.parts ++ ps)
    (ht : ∀ f ∈ t.flat, t.flat = [f] ∧ f.idx = s.nFields)
    (hps : (∃ x, ps = [x] ∧ Match s.top.length t x) ∨
      (ps = [] ∧ ∀ f ∈ t.flat, q.unitIdx = some f.idx ∧ f.name = dotUnit))
    (hul : ∀ ui, q.unitIdx = some ui → ui < q.nFields) : Lay q := by
  have hm : ∀ j f, f ∈ flatAt q.top j → (j < s.top.length ∧ f ∈ flatAt s.top j) ∨ (j = s.top.length ∧ f ∈ t.flat) :=
    fun j f hfm => (mem_flatAt_snoc s.top t j f).mp (htop ▸ hfm)
  refine ⟨fun j j' f g h1 h2 he => ?_, fun j f g h1 h2 he => ?_, fun j hj => ?_, fun j hj f hfm => ?_, hul⟩
  · rcases hm j f h1 with ⟨a1, a2⟩ | ⟨a1, a2⟩ <;> rcases hm j' g h2 with ⟨b1, b2⟩ | ⟨b1, b2⟩
    · exact h.sep j j' f g a2 b2 he
    · have := flatAt_bound hf a2; have := (ht g b2).2; omega
    · have := flatAt_bound hf b2; have := (ht f a2).2; omega
    · have := (ht f a2).1 ▸ b2
      exact ⟨a1.trans b1.symm, (List.mem_singleton.mp this).symm⟩
  · rcases hm j f h1 with ⟨_, a2⟩ | ⟨_, a2⟩ <;> rcases hm j g h2 with ⟨b1, b2⟩ | ⟨b1, b2⟩
    · exact h.names j f g a2 b2 he
    · omega
    · omega
    · have := (ht f a2).1 ▸ b2
      exact (List.mem_singleton.mp this).symm
  · rw [hparts] at hj
    by_cases h1 : j < s.parts.length
    · obtain ⟨t0, ht0, hmt⟩ := h.aligned j h1
      refine ⟨t0, by rw [htop, List.getElem?_append_left (hlen ▸ h1)]; exact ht0, ?_⟩
      simp only [hparts, List.getElem_append_left h1]; exact hmt
    · rcases hps with ⟨x, rfl, hx⟩ | ⟨rfl, _⟩
      · have hj' : j = s.top.length := by simp at hj; omega
        subst hj'
        refine ⟨t, by rw [htop]; simp, ?_⟩
        simp only [hparts]
        rw [List.getElem_append_right (by omega)]
        simpa [hlen] using hx
      · simp at hj; omega
  · rw [hparts] at hj
    rcases hm j f hfm with ⟨a1, a2⟩ | ⟨a1, a2⟩
    · simp at hj; omega
    · rcases hps with ⟨x, rfl, _⟩ | ⟨_, hh⟩
      · simp at hj; omega
      · exact hh f a2

theorem partProj_Lay (s : Proj) (sp : Spec) (hf : FInv s) (h : Lay s) (hlen : s.parts.length = s.top.length)
    (hu : s.unitIdx = none) : Lay (partProj s sp) ∧ (partProj s sp).parts.length = (partProj s sp).top.length := by
  unfold partProj partOf
  split
  · exact ⟨h.snoc hf hlen (.group dotConfig []) [.config s.top.length sp.order] rfl rfl
      (fun f hfm => nomatch hfm) (Or.inl ⟨_, rfl, rfl⟩) (fun ui e => by rw [hu] at e; cases e), by simp [hlen]⟩
  · refine ⟨h.snoc hf hlen (.leaf (mkField _ s.nFields sp.order)) [_] rfl rfl
      (fun f hfm => by rw [List.mem_singleton.mp hfm]; exact ⟨rfl, rfl⟩) (Or.inl ⟨_, rfl, ?_⟩)
      (fun ui e => by have e' : s.unitIdx = some ui := e; rw [hu] at e'; cases e'), by simp [Proj.addRootField, hlen]⟩
    cases sp.key == dotFullname <;> exact ⟨rfl, rfl⟩

theorem built_Lay {s : Proj} (hb : Built s) : Lay s ∧ s.parts.length = s.top.length ∧ s.unitIdx = none := by
  induction hb with
  | new =>
    exact ⟨⟨fun j _ f _ hfm => by simp [flatAt, newProjection] at hfm, fun j f _ hfm => by simp [flatAt, newProjection] at hfm,
      fun j hj => by simp [newProjection] at hj, fun j _ f hfm => by simp [flatAt, newProjection] at hfm,
      fun ui e => by simp [newProjection] at e⟩, rfl, rfl⟩
  | part s sp hs _ ih =>
    obtain ⟨l, n⟩ := partProj_Lay s sp (built_FInv hs).1 ih.1 ih.2.1 ih.2.2
    exact ⟨l, n, by rw [partProj_unitIdx, ih.2.2]⟩

/-- The full invariant of a Projection: index space, layout, key nodes. -/
structure Inv (h : List Bytes → UInt64) (p : Proj) : Prop where
  f : FInv p
  n : NInv h p
  l : Lay p

theorem Inv.setRow {h : List Bytes → UInt64} {q : Proj} (hq : Inv h q) (i : Nat) (v : Bytes) :
    Inv h { q with row := q.row.set i v } :=
  ⟨setRow_FInv q _ List.length_set hq.f, NInv_of_Ext h (setRow_Ext q _) hq.n, hq.l.setRow _⟩

theorem internRow_inv (h : List Bytes → UInt64) (p : Proj) (hi : Inv h p) : Inv h (p.internRow h).1 := by
  rcases internRow_cases h p with ⟨_, _, _, e⟩ | ⟨hnew, e⟩ <;> rw [e]
  · exact hi
  · have hflat : ∀ ns, Proj.flat { p with top := _, nodes := ns } = p.flat.map _ := fun _ =>
      flat_mapFields (observeField (trim p.row)) p.top
    have hg := observeField_same (trim p.row)
    dsimp only
    refine ⟨⟨hi.f.rowLen, fun i hlt => ?_, fun f hf => ?_, fun pos o hp => ?_⟩, ⟨?_, ?_, ?_, ?_⟩,
      hi.l.map _ hg⟩
    · obtain ⟨f, hf, hfi⟩ := hi.f.cover i hlt
      exact ⟨_, hflat _ ▸ List.mem_map_of_mem hf, (hg.idx f).trans hfi⟩
    · obtain ⟨f0, hf0, rfl⟩ := List.mem_map.mp (hflat _ ▸ hf)
      exact hg.idx f0 ▸ hi.f.bound f0 hf0
    · exact (isGroupAt_mapFields _ _ _).mpr (hi.f.groups pos o hp)
    · exact List.forall_mem_append.2 ⟨hi.n.hash, List.forall_mem_singleton.2 rfl⟩
    · exact List.forall_mem_append.2 ⟨hi.n.trimmed, List.forall_mem_singleton.2 (trim_idem _)⟩
    · refine List.pairwise_append.2 ⟨hi.n.distinct, List.pairwise_singleton _ _, fun a ha b hb e => ?_⟩
      rw [List.mem_singleton.mp hb] at e
      exact hnew a ha ⟨by rw [hi.n.hash a ha, e], e⟩
    · exact List.forall_mem_append.2 ⟨hi.n.len, List.forall_mem_singleton.2 (hi.f.rowLen ▸ trim_length_le p.row)⟩

theorem Inv.spec {h : List Bytes → UInt64} {p : Proj} (hi : Inv h p) (env : Env) (r : Res) :
    PMid env r p p.parts.length [] (p.populateRow env r) := by
  have h0 : PMid env r p 0 [] { p with row := p.row.map fun _ => [] } :=
    ⟨setRow_FInv p _ (List.length_map _) hi.f, hi.l.setRow _, setRow_Ext p _, fun j f _ _ => by simp [getVal_cleared],
      fun f _ => by simp [getVal_cleared, fileValOf], fun j _ hj => absurd hj (Nat.not_lt_zero _), fun _ hc => (nomatch hc),
      fun _ _ h => Or.inl h⟩
  have := PMid.fold p.parts.length 0 _ (Nat.zero_add _) h0
  simpa [Proj.populateRow] using this

theorem populateRow_inv (h : List Bytes → UInt64) (env : Env) (p : Proj) (r : Res) (hi : Inv h p) :
    Inv h (p.populateRow env r) :=
  ⟨(hi.spec env r).f, NInv_of_Ext h (hi.spec env r).ext hi.n, (hi.spec env r).lay⟩

theorem project_inv (h : List Bytes → UInt64) (env : Env) (p : Proj) (r : Res) (hi : Inv h p) :
    Inv h (p.project h env r).1 :=
  internRow_inv h _ (populateRow_inv h env p r hi)

theorem project_key (h : List Bytes → UInt64) (env : Env) (p : Proj) (r : Res) :
    (p.project h env r).2 < (p.project h env r).1.nodes.length ∧
      (p.project h env r).1.vals (p.project h env r).2 = trim (p.populateRow env r).row :=
  internRow_key h (p.populateRow env r)

theorem project_shape (h : List Bytes → UInt64) (env : Env) (p : Proj) (r : Res) (hi : Inv h p) :
    ∃ g : Field → Field, KeepsKey g ∧
      (p.project h env r).1.parts = p.parts ∧ (p.project h env r).1.unitIdx = p.unitIdx ∧
      (p.project h env r).1.nFields = (p.populateRow env r).nFields ∧
      (p.project h env r).1.top = (p.populateRow env r).top.map (Top.mapFields g) ∧
      (p.project h env r).1.flat = (p.populateRow env r).flat.map g := by
  obtain ⟨g, hg, e⟩ := internRow_shape h (p.populateRow env r)
  have x := (hi.spec env r).ext
  unfold Proj.project
  rw [e]
  exact ⟨g, hg, x.parts, x.unitIdx, rfl, rfl, flat_mapFields _ _⟩

theorem projectValues_shape (h : List Bytes → UInt64) (env : Env) (p : Proj) (r : Res) (hi : Inv h p) :
    (p.projectValues h env r).1.parts = p.parts ∧ (p.projectValues h env r).1.unitIdx = p.unitIdx := by
  have e := (hi.spec env r).ext
  refine projectValues_induct h env p r (P := fun q => q.parts = p.parts ∧ q.unitIdx = p.unitIdx)
    (fun _ _ _ hq => hq) (fun q hq => ?_) ⟨e.parts, e.unitIdx⟩
  obtain ⟨_, _, e⟩ := internRow_shape h q
  rw [e]
  exact hq

theorem vals_inj {h : List Bytes → UInt64} {p : Proj} (hi : Inv h p) {i j : Nat} (hi' : i < p.nodes.length)
    (hj' : j < p.nodes.length) (e : p.vals i = p.vals j) : i = j := by
  rw [vals_eq_getElem p i hi', vals_eq_getElem p j hj'] at e
  have hd := List.pairwise_iff_getElem.mp hi.n.distinct
  rcases Nat.lt_trichotomy i j with hlt | heq | hgt
  · exact absurd e (hd i j hi' hj' hlt)
  · exact heq
  · exact absurd e.symm (hd j i hj' hi' hgt)

theorem Inv.key_eq_iff {h : List Bytes → UInt64} {p : Proj} (hi : Inv h p) {k₁ k₂ : Nat}
    (h₁ : k₁ < p.nodes.length) (h₂ : k₂ < p.nodes.length) :
    k₁ = k₂ ↔ ∀ f ∈ p.flat, p.get k₁ f = p.get k₂ f := by
  refine ⟨fun e f _ => by rw [e], fun hall => vals_inj hi h₁ h₂ ?_⟩
  apply eq_of_trimmed _ _ (hi.n.vals_trimmed k₁) (hi.n.vals_trimmed k₂)
  intro i
  by_cases hlt : i < p.nFields
  · obtain ⟨f, hf, rfl⟩ := hi.f.cover i hlt
    exact hall f hf
  · rw [hi.n.beyond k₁ (Nat.le_of_not_lt hlt), hi.n.beyond k₂ (Nat.le_of_not_lt hlt)]

theorem project_nodes (h : List Bytes → UInt64) (env : Env) (p : Proj) (r : Res) (hi : Inv h p) :
    p.nodes <+: (p.project h env r).1.nodes := by
  have := internRow_nodes h (p.populateRow env r)
  rwa [(hi.spec env r).ext.nodes] at this

theorem projectValues_nodes (h : List Bytes → UInt64) (env : Env) (p : Proj) (r : Res) (hi : Inv h p) :
    p.nodes <+: (p.projectValues h env r).1.nodes :=
  projectValues_induct h env p r (P := fun q => p.nodes <+: q.nodes) (fun _ _ _ hq => hq)
    (fun q hq => hq.trans (internRow_nodes h q))
    (by rw [(hi.spec env r).ext.nodes]; exact List.prefix_rfl)

theorem Inv.ofNil (h : List Bytes → UInt64) {p : Proj} (hf : FInv p) (hl : Lay p) (hn : p.nodes = []) : Inv h p :=
  ⟨hf, ⟨by simp [hn], by simp [hn], by simp [hn], by simp [hn]⟩, hl⟩

theorem built_inv (h : List Bytes → UInt64) {s : Proj} (hb : Built s) : Inv h s :=
  .ofNil h (built_FInv hb).1 (built_Lay hb).1 (built_FInv hb).2

/-- the projection `ParseWithUnit` returns: a parsed one with the `.unit` field after all entries -/
theorem unit_inv (h : List Bytes → UInt64) {s : Proj} (hb : Built s) :
    Inv h { (s.addRootField dotUnit .first).1 with unitIdx := some s.nFields } := by
  have t := addRootField_FInv s dotUnit .first (built_FInv hb).1
  refine .ofNil h ⟨t.rowLen, t.cover, t.bound, t.groups⟩ ?_ (built_FInv hb).2
  exact (built_Lay hb).1.snoc (built_FInv hb).1 (built_Lay hb).2.1 (.leaf (mkField dotUnit s.nFields .first)) []
    rfl (List.append_nil _).symm (fun f hfm => by rw [List.mem_singleton.mp hfm]; exact ⟨rfl, rfl⟩)
    (Or.inr ⟨rfl, fun f hfm => by rw [List.mem_singleton.mp hfm]; exact ⟨rfl, rfl⟩⟩)
    (fun ui e => by cases e; exact Nat.lt_succ_self _)

theorem reachable_induct (h : List Bytes → UInt64) {P : Proj → Prop}
    (built : ∀ s, Built s → P s)
    (unit : ∀ s, Built s → P { (s.addRootField dotUnit .first).1 with unitIdx := some s.nFields })
    (pop : ∀ env p r, P p → P (p.populateRow env r))
    (set : ∀ p i v, P p → P { p with row := p.row.set i v })
    (intern : ∀ p, P p → P (p.internRow h).1) : ∀ p, Reachable h p → P p := by
  intro p hr
  induction hr with
  | parsed pa specs pa' s hm => exact built s (parse_built pa specs pa' s hm)
  | parsedWithUnit pa specs pa' s hm =>
    obtain ⟨s1, hp, rfl⟩ := parseWithUnit_ok pa specs pa' s hm
    exact unit s1 (parse_built pa specs pa' s1 hp)
  | residue pa => exact built _ (residue_built pa)
  | project p env r _ ih => exact intern _ (pop env p r ih)
  | projectValues p env r _ ih => exact projectValues_induct h env p r set intern (pop env p r ih)

theorem reachable_inv (h : List Bytes → UInt64) : ∀ p, Reachable h p → Inv h p :=
  reachable_induct h (fun _ => built_inv h) (fun _ => unit_inv h) (populateRow_inv h) (fun _ i v hq => hq.setRow i v)
    (internRow_inv h)

end C08
