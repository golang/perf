/-
C16 — the loops of the width pass of texttab.Format (Model/Tab/TextTab.lean), and the offsets as
prefix sums of the widths.
-/
import Model.Tab.TextTab
import Proofs.Lemmas.Shared.List

namespace C16
open Tab.TextTab

theorem set_max_ge (ws : List Int) (c i : Nat) (x : Int) :
    ws.getD i 0 ≤ (ws.set c (max (ws.getD c 0) x)).getD i 0 := by
  rw [Shared.getD_set]
  split
  · rename_i h; rw [← h.1]; exact Int.le_max_left _ _
  · exact Int.le_refl _

theorem sumRange_mono (ws ws' : List Int) (h : ∀ i, ws.getD i 0 ≤ ws'.getD i 0) :
    ∀ n c, sumRange ws c n ≤ sumRange ws' c n := by
  intro n
  induction n with
  | zero => intro c; simp [sumRange]
  | succ n ih =>
    intro c
    simp only [sumRange]
    have := h c
    have := ih (c + 1)
    omega

theorem sumRange_eq (ws : List Int) : ∀ n c, sumRange ws c n = ((List.range' c n).map fun i => ws.getD i 0).sum := by
  intro n
  induction n with
  | zero => intro c; rfl
  | succ n ih => intro c; rw [sumRange, List.range'_succ, List.map_cons, List.sum_cons, ih]

theorem sumRange_congr (ws ws' : List Int) :
    ∀ n c, (∀ i, c ≤ i → i < c + n → ws'.getD i 0 = ws.getD i 0) →
      sumRange ws' c n = sumRange ws c n := by
  intro n c h
  rw [sumRange_eq, sumRange_eq, List.map_congr_left fun i hi =>
    have ⟨h1, h2⟩ := List.mem_range'_1.mp hi; h i h1 h2]

theorem split_sublist (shrink : Nat → Bool) (ws : List Int) :
    ∀ n c w, (splitShrink shrink ws c n w).2.Sublist (List.range' c n) := by
  intro n
  induction n with
  | zero => intro c w; exact List.Sublist.slnil
  | succ n ih =>
    intro c w
    unfold splitShrink
    rw [List.range'_succ]
    by_cases hs : shrink c = true
    · rw [if_pos hs]; exact (ih _ _).cons _
    · rw [if_neg hs]; exact (ih _ _).cons_cons _

/-- the columns not collected keep their width, so the total under the cell is what was
subtracted plus the collected columns -/
theorem split_sum (shrink : Nat → Bool) (ws ws' : List Int) :
    ∀ n c w, (∀ i, c ≤ i → i < c + n → i ∉ (splitShrink shrink ws c n w).2 →
        ws'.getD i 0 = ws.getD i 0) →
      sumRange ws' c n = (w - (splitShrink shrink ws c n w).1) +
        ((splitShrink shrink ws c n w).2.map (fun i => ws'.getD i 0)).sum := by
  intro n
  induction n with
  | zero => intro c w _; simp [splitShrink, sumRange]
  | succ n ih =>
    intro c w h
    unfold splitShrink at h ⊢
    by_cases hs : shrink c = true
    · rw [if_pos hs] at h ⊢
      have hc : ws'.getD c 0 = ws.getD c 0 := h c (Nat.le_refl _) (by omega) (fun hm => by
        have := List.mem_range'_1.mp ((split_sublist shrink ws _ _ _).subset hm)
        omega)
      have := ih (c + 1) (w - ws.getD c 0) (fun i h1 h2 h3 => h i (by omega) (by omega) h3)
      rw [sumRange]
      omega
    · rw [if_neg hs] at h ⊢
      dsimp only at h ⊢
      have := ih (c + 1) w (fun i h1 h2 h3 => h i (by omega) (by omega)
        (fun hm => (List.mem_cons.mp hm).elim (by omega) h3))
      rw [sumRange, List.map_cons, List.sum_cons]
      omega

theorem addBack_eq (ws : List Int) : ∀ n c w, addBack ws c n w = (w + sumRange ws c n, List.range' c n) := by
  intro n
  induction n with
  | zero => intro c w; simp [addBack, sumRange]
  | succ n ih => intro c w; simp only [addBack, ih, sumRange, List.range'_succ, Int.add_assoc]

theorem distribute_length : ∀ (l : List Nat) (ws : List Int) (w : Int),
    (distribute ws w l).length = ws.length := by
  intro l
  induction l with
  | nil => intro ws w; simp [distribute]
  | cons c rest ih => intro ws w; simp [distribute, ih]

theorem distribute_ge : ∀ (l : List Nat) (ws : List Int) (w : Int) (i : Nat),
    ws.getD i 0 ≤ (distribute ws w l).getD i 0 := by
  intro l
  induction l with
  | nil => intro ws w i; simp [distribute]
  | cons c rest ih =>
    intro ws w i
    simp only [distribute]
    exact Int.le_trans (set_max_ge ws c i _) (ih _ _ i)

theorem distribute_unchanged : ∀ (l : List Nat) (ws : List Int) (w : Int) (i : Nat),
    i ∉ l → (distribute ws w l).getD i 0 = ws.getD i 0 := by
  intro l
  induction l with
  | nil => intro ws w i _; simp [distribute]
  | cons c rest ih =>
    intro ws w i h
    simp only [List.mem_cons, not_or] at h
    simp only [distribute]
    rw [ih _ _ i h.2, Shared.getD_set]
    have : ¬ (c = i ∧ c < ws.length) := fun hh => h.1 hh.1.symm
    simp [this]

/-- whatever order the columns are taken in, the last one absorbs the whole remainder
(`avg = w` when `span = 1`), so the columns end up holding at least `w` together -/
theorem distribute_total : ∀ (l : List Nat) (ws : List Int) (w : Int),
    l ≠ [] → l.Nodup → (∀ c ∈ l, c < ws.length) →
    w ≤ (l.map (fun c => (distribute ws w l).getD c 0)).sum := by
  intro l
  induction l with
  | nil => intro ws w h; exact absurd rfl h
  | cons c rest ih =>
    intro ws w _ hnd hlt
    have hc : c < ws.length := hlt c (List.mem_cons_self ..)
    simp only [List.nodup_cons] at hnd
    simp only [distribute, List.map_cons, List.sum_cons]
    have hcv : ∀ v w', (distribute (ws.set c v) w' rest).getD c 0 = v := by
      intro v w'
      rw [distribute_unchanged _ _ _ _ hnd.1, Shared.getD_set]
      simp [hc]
    rw [hcv]
    cases rest with
    | nil =>
      simp only [List.length_nil, List.map_nil, List.sum_nil]
      have : Int.tdiv (w + ((0 + 1 : Nat) : Int) - 1) ((0 + 1 : Nat) : Int) = w := by
        simp
      rw [this]
      have := Int.le_max_right (ws.getD c 0) w
      omega
    | cons d rest' =>
      -- whatever this column takes, the remaining ones make up for the rest
      generalize max (ws.getD c 0) _ = v
      have := ih (ws.set c v) (w - v) (List.cons_ne_nil _ _) hnd.2
        (fun x hx => by rw [List.length_set]; exact hlt x (List.mem_cons_of_mem _ hx))
      omega

theorem offsets_length : ∀ (ws : List Int) (off : Int), (offsets off ws).length = ws.length + 1 := by
  intro ws
  induction ws with
  | nil => intro off; simp [offsets]
  | cons w ws ih => intro off; simp [offsets, ih]

theorem offsets_getD_zero (ws : List Int) (off : Int) : (offsets off ws).getD 0 0 = off := by
  cases ws <;> simp [offsets]

theorem offsets_succ : ∀ (ws : List Int) (off : Int) (i : Nat), i < ws.length →
    (offsets off ws).getD (i + 1) 0 = (offsets off ws).getD i 0 + ws.getD i 0 := by
  intro ws
  induction ws with
  | nil => exact fun _ _ h => nomatch h
  | cons w ws ih =>
    intro off i h
    cases i with
    | zero => simpa [offsets] using offsets_getD_zero ws _
    | succ i => simpa [offsets] using ih _ i (Nat.lt_of_succ_lt_succ h)

theorem offsets_diff (ws : List Int) (off : Int) (i n : Nat) : i + n ≤ ws.length →
    (offsets off ws).getD (i + n) 0 - (offsets off ws).getD i 0 = sumRange ws i n := by
  induction n generalizing i with
  | zero => simp [sumRange]
  | succ n ih =>
    intro h
    have := ih (i + 1) (by omega)
    have := offsets_succ ws off i (by omega)
    rw [sumRange, ← Nat.add_assoc, Nat.add_right_comm]
    omega

theorem sumRange_nonneg (ws : List Int) (h : ∀ i, 0 ≤ ws.getD i 0) : ∀ n i, 0 ≤ sumRange ws i n := by
  intro n
  induction n with
  | zero => intro i; simp [sumRange]
  | succ n ih => intro i; simp only [sumRange]; have := h i; have := ih (i + 1); omega

theorem offsets_mono (ws : List Int) (h : ∀ i, 0 ≤ ws.getD i 0) (i j : Nat) (hij : i ≤ j)
    (hj : j < (offsets 0 ws).length) : (offsets 0 ws).getD i 0 ≤ (offsets 0 ws).getD j 0 := by
  rw [offsets_length] at hj
  have := offsets_diff ws 0 i (j - i) (by omega)
  rw [show i + (j - i) = j by omega] at this
  have := sumRange_nonneg ws h (j - i) i
  omega

theorem offsets_nonneg (ws : List Int) (h : ∀ i, 0 ≤ ws.getD i 0) (i : Nat) :
    0 ≤ (offsets 0 ws).getD i 0 := by
  by_cases hi : i < (offsets 0 ws).length
  · have := offsets_mono ws h 0 i (Nat.zero_le _) hi
    rw [offsets_getD_zero] at this
    exact this
  · have : (offsets 0 ws)[i]? = none := List.getElem?_eq_none (by omega)
    simp [List.getD_eq_getElem?_getD, this]

end C16
