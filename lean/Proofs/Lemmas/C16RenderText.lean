/-
C16 — where ToText puts the strings of the cells view. The renderer walks the optional cells of a row with a
running logical column number and skips the absent ones; the walk is treated once, with the per-cell part as a
parameter (`colsOps`/`colsCells`, `CellRuns`). What a stretch of ToText's calls does to the texttab table is
stated as `Adds` (inside a row) and `Rows` (whole rows).
-/
import Model.Tab.Render
import Proofs.Lemmas.Shared.List
import Proofs.Lemmas.C16RenderCsv

namespace C16
open Tab.TextTab Tab.Render

def runOps (t : Table) (ops : List Op) : Option Table := ops.foldlM Table.step t

theorem runOps_nil (t : Table) : runOps t [] = some t := rfl

theorem runOps_cons (t : Table) (op : Op) (ops : List Op) :
    runOps t (op :: ops) = (t.step op).bind (fun t' => runOps t' ops) := by
  simp [runOps, List.foldlM_cons, bind]

theorem runOps_append (t : Table) (a b : List Op) :
    runOps t (a ++ b) = (runOps t a).bind (fun t' => runOps t' b) :=
  List.foldlM_append ..

theorem runOps_row (t : Table) (ops : List Op) : runOps t (Op.row :: ops) = runOps t.row ops :=
  runOps_cons ..

/-- the calls `ops`, made on `t`, do not panic, add the cells `cs` and stay on `t`'s row -/
structure Adds (t : Table) (ops : List Op) (cs : List Cell) (t' : Table) : Prop where
  run : runOps t ops = some t'
  cells : t'.cells = t.cells ++ cs
  row : t'.curRow = t.curRow

theorem Adds.nil (t : Table) : Adds t [] [] t := ⟨rfl, (List.append_nil _).symm, rfl⟩

theorem Adds.append {t t1 t2 : Table} {a b : List Op} {cs cs' : List Cell}
    (h1 : Adds t a cs t1) (h2 : Adds t1 b cs' t2) : Adds t (a ++ b) (cs ++ cs') t2 :=
  ⟨by rw [runOps_append, h1.run]; exact h2.run, by rw [h2.cells, h1.cells, List.append_assoc],
    h2.row.trans h1.row⟩

/-- the calls `ops`, made on `t`, do not panic and write `n` whole rows, each begun by `Row()`, holding
the cells `cs`; `t.row.curRow` is the index of the next row to be started on `t` (0 on the empty table,
where `Row()` does not advance) -/
structure Rows (t : Table) (ops : List Op) (cs : List Cell) (n : Nat) (t' : Table) : Prop where
  run : runOps t ops = some t'
  cells : t'.cells = t.cells ++ cs
  next : t'.row.curRow = t.row.curRow + n

theorem Rows.nil (t : Table) : Rows t [] [] 0 t := ⟨rfl, (List.append_nil _).symm, rfl⟩

theorem Rows.append {t t1 t2 : Table} {a b : List Op} {cs cs' : List Cell} {n m : Nat}
    (h1 : Rows t a cs n t1) (h2 : Rows t1 b cs' m t2) : Rows t (a ++ b) (cs ++ cs') (n + m) t2 :=
  ⟨by rw [runOps_append, h1.run]; exact h2.run, by rw [h2.cells, h1.cells, List.append_assoc],
    by rw [h2.next, h1.next, Nat.add_assoc]⟩

theorem row_curRow_succ (t : Table) (h : t.cells ≠ []) : t.row.curRow = t.curRow + 1 := by
  have : t.cells.isEmpty = false := by
    cases hc : t.cells with
    | nil => exact absurd hc h
    | cons _ _ => rfl
  simp [Table.row, this]

theorem Adds.rows {t t' : Table} {ops : List Op} {cs : List Cell} (h : Adds t.row ops cs t') (hne : cs ≠ []) :
    Rows t (Op.row :: ops) cs 1 t' :=
  ⟨h.run, h.cells, by rw [row_curRow_succ t' (by rw [h.cells]; simpa using fun _ => hne), h.row]⟩

/-- the cell `Span(1, v, opts…)` adds when the cursor is at (row, col) -/
def mkCell (row col : Nat) (v : Bytes) (opts : List Opt) : Cell :=
  opts.foldl Opt.apply
    { row := row, col := col, span := 1, value := v,
      margin := if (col == 0 || v.isEmpty) = true then [] else [0x20], align := .left }

theorem Adds.span (t : Table) (n : Nat) (v : Bytes) (opts : List Opt) :
    Adds t [Op.span n v opts] [opts.foldl Opt.apply
      { row := t.curRow, col := t.curCol, span := n, value := v,
        margin := if (t.curCol == 0 || v.isEmpty) = true then [] else [0x20], align := .left }]
      (t.span n v opts) := ⟨rfl, rfl, rfl⟩

theorem Adds.col {t : Table} {k : Nat} (hk : t.curCol ≤ k) : Adds t [Op.col k] [] { t with curCol := k } :=
  ⟨by rw [runOps_cons, Table.step, Table.col, if_neg (Nat.not_lt.mpr hk)]; rfl, (List.append_nil _).symm, rfl⟩

theorem Adds.col_span {t : Table} {k : Nat} (hk : t.curCol ≤ k) (n : Nat) (v : Bytes) (opts : List Opt) :
    Adds t [Op.col k, Op.span n v opts] [opts.foldl Opt.apply
      { row := t.curRow, col := k, span := n, value := v,
        margin := if (k == 0 || v.isEmpty) = true then [] else [0x20], align := .left }]
      (({ t with curCol := k } : Table).span n v opts) :=
  (Adds.col hk).append (Adds.span ..)

def spansOps (l : List (Bytes × List Opt)) : List Op := l.map fun p => Op.span 1 p.1 p.2

/-- single-column cells placed left to right from `col` -/
def placed (row : Nat) : Nat → List (Bytes × List Opt) → List Cell
  | _, [] => []
  | col, p :: rest => mkCell row col p.1 p.2 :: placed row (col + 1) rest

theorem runOps_spans : ∀ (l : List (Bytes × List Opt)) (t : Table),
    ∃ t', Adds t (spansOps l) (placed t.curRow t.curCol l) t' ∧ t'.curCol = t.curCol + l.length := by
  intro l
  induction l with
  | nil => intro t; exact ⟨t, Adds.nil t, rfl⟩
  | cons p rest ih =>
    intro t
    obtain ⟨t', h, h4⟩ := ih (t.span 1 p.1 p.2)
    refine ⟨t', (Adds.span t 1 p.1 p.2).append h, ?_⟩
    rw [h4, List.length_cons]
    show t.curCol + 1 + rest.length = t.curCol + (rest.length + 1)
    omega

theorem runOps_col_spans (l : List (Bytes × List Opt)) (t : Table) (k : Nat) (hk : t.curCol ≤ k) :
    ∃ t', Adds t (Op.col k :: spansOps l) (placed t.curRow k l) t' ∧ t'.curCol = k + l.length :=
  (runOps_spans l { t with curCol := k }).imp fun _ h => ⟨(Adds.col hk).append h.1, h.2⟩

theorem textStartCol_succ (exp : Nat) : textStartCol (exp + 1) = textStartCol exp + textGroupWidth exp := by
  unfold textStartCol textGroupWidth
  cases exp with
  | zero => rfl
  | succ n => simp; omega

theorem textStartCol_mono {a b : Nat} (h : a ≤ b) : textStartCol a ≤ textStartCol b := by
  induction h with
  | refl => exact Nat.le_refl _
  | step _ ih => rw [textStartCol_succ]; omega

theorem textStartCol_pos (exp : Nat) : 1 ≤ textStartCol exp := textStartCol_mono (Nat.zero_le exp)

theorem textGroupWidth_pos {exp : Nat} (h : exp > 0) : textGroupWidth exp = 6 := by
  cases exp with
  | zero => omega
  | succ n => rfl

section cols
variable {α : Type} (f : List Bytes → Nat → α → List Bytes × List Op)
  (P : Nat → List Bytes → Nat → α → List Cell)

/-- the shape `dataColsOps` and `sumColsOps` share: `f wl e c` is the new warning list and the
calls for the cell `c` present at logical column `e` -/
def colsOps : List Bytes → Nat → List (Option α) → List Bytes × List Op
  | wl, _, [] => (wl, [])
  | wl, e, none :: rest => colsOps wl (e + 1) rest
  | wl, e, some c :: rest =>
    ((colsOps (f wl e c).1 (e + 1) rest).1, (f wl e c).2 ++ (colsOps (f wl e c).1 (e + 1) rest).2)

/-- the texttab cells of a row from logical column `e` on, `P r wl e c` being those of one cell -/
def colsCells (r : Nat) : List Bytes → Nat → List (Option α) → List Cell
  | _, _, [] => []
  | wl, e, none :: rest => colsCells r wl (e + 1) rest
  | wl, e, some c :: rest => P r wl e c ++ colsCells r (f wl e c).1 (e + 1) rest

/-- the calls for one present cell are allowed whenever the cursor is not beyond the first column
of the cell's group; they add the cells `P` on the current row and stay inside the group -/
def CellRuns : Prop :=
  ∀ (wl : List Bytes) (e : Nat) (c : α) (t : Table), t.curCol ≤ textStartCol e →
    ∃ t', Adds t (f wl e c).2 (P t.curRow wl e c) t' ∧ t'.curCol ≤ textStartCol (e + 1)

variable {f P}

theorem cols_run (hf : CellRuns f P) : ∀ (cells : List (Option α)) (wl : List Bytes) (e : Nat) (t : Table),
    t.curCol ≤ textStartCol e →
    ∃ t', Adds t (colsOps f wl e cells).2 (colsCells f P t.curRow wl e cells) t' := by
  intro cells
  induction cells with
  | nil => intro wl e t _; exact ⟨t, Adds.nil t⟩
  | cons oc rest ih =>
    intro wl e t hcur
    cases oc with
    | none => exact ih wl (e + 1) t (Nat.le_trans hcur (textStartCol_mono (Nat.le_succ _)))
    | some c =>
      obtain ⟨t1, h1, h4⟩ := hf wl e c t hcur
      obtain ⟨t2, g⟩ := ih (f wl e c).1 (e + 1) t1 h4
      exact ⟨t2, h1.append (h1.row ▸ g)⟩

theorem colsCells_mem (r : Nat) : ∀ (cells : List (Option α)) (wl : List Bytes) (e i : Nat) (c : α),
    cells[i]? = some (some c) →
    ∃ wl', ∀ x ∈ P r wl' (e + i) c, x ∈ colsCells f P r wl e cells := by
  intro cells
  induction cells with
  | nil => intro wl e i c h; simp at h
  | cons oc rest ih =>
    intro wl e i c h
    cases i with
    | zero =>
      simp only [List.getElem?_cons_zero, Option.some.injEq] at h
      subst h
      exact ⟨wl, fun x hx => List.mem_append_left _ hx⟩
    | succ i =>
      rw [show e + (i + 1) = e + 1 + i from Nat.add_right_comm e i 1]
      rw [List.getElem?_cons_succ] at h
      cases oc with
      | none => exact ih wl (e + 1) i c h
      | some c0 =>
        obtain ⟨wl', hw⟩ := ih (f wl e c0).1 (e + 1) i c h
        exact ⟨wl', fun x hx => List.mem_append_right _ (hw x hx)⟩

theorem colsCells_row (r : Nat) (hP : ∀ wl e c, ∀ x ∈ P r wl e c, x.row = r) :
    ∀ (cells : List (Option α)) (wl : List Bytes) (e : Nat), ∀ x ∈ colsCells f P r wl e cells, x.row = r := by
  intro cells
  induction cells with
  | nil => intro wl e x h; cases h
  | cons oc rest ih =>
    intro wl e x h
    cases oc with
    | none => exact ih wl (e + 1) x h
    | some c =>
      rcases List.mem_append.mp h with h | h
      · exact hP wl e c x h
      · exact ih _ (e + 1) x h

theorem row_run (hf : CellRuns f P) (wl : List Bytes) (label : Bytes) (cells : List (Option α)) (t : Table) :
    ∃ t', Rows t (Op.row :: Op.span 1 label [] :: (colsOps f wl 0 cells).2)
      (mkCell t.row.curRow 0 label [] :: colsCells f P t.row.curRow wl 0 cells) 1 t' :=
  (cols_run hf cells wl 0 (t.row.span 1 label []) (Nat.le_refl 1)).imp fun _ h =>
    ((Adds.span t.row 1 label []).append h).rows (List.cons_ne_nil _ _)

end cols

/-- the strings (with their options) ToText writes for one present cell, in order:
centre, range, footnotes, and for a compared cell delta, (p), footnotes -/
def cellStrings (wl : List Bytes) (exp : Nat) (c : DataCell) : List (Bytes × List Opt) :=
  let w1 := (c.warns.foldl warnStep (wl, []))
  let base : List (Bytes × List Opt) :=
    [(c.centerText, [.right]), (c.range, [.right, .margin pmMargin]), (joinSp w1.2, [])]
  match (if exp > 0 then c.delta else none) with
  | some d => base ++ [(d.delta, [.right]), ([0x28] ++ d.p ++ [0x29], []),
                       (joinSp (d.warns.foldl warnStep (w1.1, [])).2, [])]
  | none => base

theorem dataCellOps_eq (wl : List Bytes) (exp : Nat) (c : DataCell) :
    (dataCellOps wl exp c).2 = Op.col (textStartCol exp) :: spansOps (cellStrings wl exp c) := by
  unfold dataCellOps cellStrings
  cases (if exp > 0 then c.delta else none) <;> rfl

theorem cellStrings_length (wl : List Bytes) (exp : Nat) (c : DataCell) :
    (cellStrings wl exp c).length ≤ textGroupWidth exp := by
  unfold cellStrings
  by_cases he : exp > 0
  · rw [if_pos he, textGroupWidth_pos he]
    cases c.delta <;> simp
  · obtain rfl : exp = 0 := by omega
    exact Nat.le_refl 3

def dataPlaced (r : Nat) (wl : List Bytes) (exp : Nat) (c : DataCell) : List Cell :=
  placed r (textStartCol exp) (cellStrings wl exp c)

theorem dataCell_runs : CellRuns dataCellOps dataPlaced := by
  intro wl e c t hcur
  obtain ⟨t1, h, h4⟩ := runOps_col_spans (cellStrings wl e c) t (textStartCol e) hcur
  refine ⟨t1, dataCellOps_eq wl e c ▸ h, ?_⟩
  have := cellStrings_length wl e c
  rw [h4, textStartCol_succ]
  omega

theorem dataColsOps_eq : ∀ (cells : List (Option DataCell)) (wl : List Bytes) (exp : Nat),
    dataColsOps wl exp cells = colsOps dataCellOps wl exp cells := by
  intro cells
  induction cells with
  | nil => intro wl exp; rfl
  | cons oc rest ih =>
    intro wl exp
    cases oc with
    | none => exact ih wl (exp + 1)
    | some c =>
      show ((dataColsOps (dataCellOps wl exp c).1 (exp + 1) rest).1,
        (dataCellOps wl exp c).2 ++ (dataColsOps (dataCellOps wl exp c).1 (exp + 1) rest).2) = _
      rw [ih]; rfl

/-- the texttab cells of one measurement row from logical column `exp` on -/
def placedRow (r : Nat) : List Bytes → Nat → List (Option DataCell) → List Cell :=
  colsCells dataCellOps dataPlaced r

theorem placed_center_range (r k : Nat) (wl : List Bytes) (e : Nat) (c : DataCell) :
    mkCell r k c.centerText [.right] ∈ placed r k (cellStrings wl e c) ∧
    mkCell r (k + 1) c.range [.right, .margin pmMargin] ∈ placed r k (cellStrings wl e c) := by
  unfold cellStrings
  cases (if e > 0 then c.delta else none) <;>
    exact ⟨List.mem_cons_self .., List.mem_cons_of_mem _ (List.mem_cons_self ..)⟩

theorem placed_delta (r k : Nat) (wl : List Bytes) (e : Nat) (c : DataCell) (d : Delta)
    (he : e > 0) (hd : c.delta = some d) :
    mkCell r (k + 3) d.delta [.right] ∈ placed r k (cellStrings wl e c) ∧
    mkCell r (k + 4) ([0x28] ++ d.p ++ [0x29]) [] ∈ placed r k (cellStrings wl e c) := by
  unfold cellStrings
  rw [if_pos he, hd]
  simp [placed]

def ratioOpts (s : SumCell) : List Opt := if s.hasRatio then [.right] else []

/-- the texttab cells ToText adds for the summary of logical column `exp` -/
def sumPlaced (r : Nat) (wl : List Bytes) (exp : Nat) (s : SumCell) : List Cell :=
  (if s.hasSummary then [mkCell r (textStartCol exp) s.sumText [.right]] else []) ++
  (if exp > 0 then [mkCell r (textStartCol exp + 3) (ratioStr s) (ratioOpts s)] else []) ++
  [mkCell r (textStartCol (exp + 1) - 1) (joinSp (s.warns.foldl warnStep (wl, [])).2) []]

theorem sumPlaced_mem (r : Nat) (wl : List Bytes) (exp : Nat) (s : SumCell) :
    (s.hasSummary = true → mkCell r (textStartCol exp) s.sumText [.right] ∈ sumPlaced r wl exp s) ∧
    (exp > 0 → mkCell r (textStartCol exp + 3) (ratioStr s) (ratioOpts s) ∈ sumPlaced r wl exp s) := by
  unfold sumPlaced
  refine ⟨fun h => ?_, fun h => ?_⟩
  · rw [if_pos h]; exact List.mem_append_left _ (List.mem_append_left _ (List.mem_singleton_self _))
  · rw [if_pos h]; exact List.mem_append_left _ (List.mem_append_right _ (List.mem_singleton_self _))

theorem run_col_cell (k : Nat) (v : Bytes) (opts : List Opt) (t : Table) (hk : t.curCol ≤ k) :
    ∃ t', Adds t [Op.col k, Op.span 1 v opts] [mkCell t.curRow k v opts] t' ∧ t'.curCol = k + 1 :=
  runOps_col_spans [(v, opts)] t k hk

theorem run_opt_cell (b : Bool) (k : Nat) (v : Bytes) (opts : List Opt) (t : Table) (hk : t.curCol ≤ k) :
    ∃ t', Adds t (if b then [Op.col k, Op.span 1 v opts] else []) (if b then [mkCell t.curRow k v opts] else []) t' ∧
      t'.curCol = (if b then k + 1 else t.curCol) := by
  cases b with
  | false => exact ⟨t, Adds.nil t, rfl⟩
  | true => exact run_col_cell k v opts t hk

theorem sumCellOps_eq (wl : List Bytes) (exp : Nat) (s : SumCell) :
    (sumCellOps wl exp s).2 =
      (if s.hasSummary then [Op.col (textStartCol exp), Op.span 1 s.sumText [.right]] else []) ++
      ((if decide (exp > 0) then [Op.col (textStartCol exp + 3), Op.span 1 (ratioStr s) (ratioOpts s)] else []) ++
       [Op.col (textStartCol (exp + 1) - 1), Op.span 1 (joinSp (s.warns.foldl warnStep (wl, [])).2) []]) := by
  unfold sumCellOps warnCell ratioStr ratioOpts
  by_cases h : exp > 0 <;> cases s.hasRatio <;> simp [h]

/-- geomean at the group's first column, delta at `+3` (where "vs base" starts), footnotes in the
group's last column: the cursor only moves forward -/
theorem sumCell_runs : CellRuns sumCellOps sumPlaced := by
  intro wl exp s t hk
  obtain ⟨t1, a, a4⟩ := run_opt_cell s.hasSummary (textStartCol exp) s.sumText [.right] t hk
  have hc1 : t1.curCol ≤ textStartCol exp + 1 := by rw [a4]; split <;> omega
  obtain ⟨t2, b, b4⟩ := run_opt_cell (decide (exp > 0)) (textStartCol exp + 3) (ratioStr s) (ratioOpts s) t1
    (by omega)
  have hc2 : t2.curCol ≤ textStartCol (exp + 1) - 1 := by
    rw [b4, textStartCol_succ]
    by_cases h : exp > 0
    · rw [textGroupWidth_pos h, decide_eq_true h, if_pos rfl]; omega
    · have h0 : exp = 0 := by omega
      subst h0
      exact Nat.le_trans hc1 (by decide)
  obtain ⟨t3, c, c4⟩ := run_col_cell (textStartCol (exp + 1) - 1)
    (joinSp (s.warns.foldl warnStep (wl, [])).2) [] t2 hc2
  refine ⟨t3, ?_, ?_⟩
  · have := a.append (b.append c)
    rw [b.row, a.row] at this
    rw [sumCellOps_eq]
    simpa only [sumPlaced, decide_eq_true_eq, List.append_assoc] using this
  · have := textStartCol_pos (exp + 1)
    omega

theorem sumColsOps_eq : ∀ (sums : List (Option SumCell)) (wl : List Bytes) (exp : Nat),
    sumColsOps wl exp sums = colsOps sumCellOps wl exp sums := by
  intro sums
  induction sums with
  | nil => intro wl exp; rfl
  | cons oc rest ih =>
    intro wl exp
    cases oc with
    | none => exact ih wl (exp + 1)
    | some s =>
      show ((sumColsOps (sumCellOps wl exp s).1 (exp + 1) rest).1,
        (sumCellOps wl exp s).2 ++ (sumColsOps (sumCellOps wl exp s).1 (exp + 1) rest).2) = _
      rw [ih]; rfl

def sumPlacedRow (r : Nat) : List Bytes → Nat → List (Option SumCell) → List Cell :=
  colsCells sumCellOps sumPlaced r

end C16
