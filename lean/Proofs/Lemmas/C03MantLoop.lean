/-
The mantissa loop of `readFloat`: what it does with a point and with a digit (`dotM`, `pushM`), and the
invariant that ties its state to the digits read (`Inv`).
-/
import Proofs.Lemmas.C03Digits

namespace C03
open Num Spec.NumText

/-- REFERENCE evaluation of a mantissa text: every digit counts (no 19-digit cap, no special
treatment of leading zeros, unbounded naturals). Returns (M, F): all digits read as one integer
in `base`, and the number of digits after the point; the text denotes M / base^F. -/
def refMant (hex : Bool) : Bytes → Nat → Nat → Bool → Nat × Nat
  | [], M, F, _ => (M, F)
  | c :: cs, M, F, dot =>
    let base : Nat := if hex then 16 else 10
    if c == 95 then refMant hex cs M F dot
    else if c == 46 then refMant hex cs M F true
    else if isDec c || (hex && isHexDig c) then
      refMant hex cs (M * base + digVal c) (if dot then F + 1 else F) dot
    else (M, F)

def baseOf (hex : Bool) : Nat := if hex then 16 else 10
def maxDOf (hex : Bool) : Nat := if hex then 16 else 19

theorem base_pow_le (hex : Bool) : baseOf hex ^ maxDOf hex ≤ 2 ^ 64 := by
  cases hex <;> decide +kernel

theorem base_ge (hex : Bool) : 2 ≤ baseOf hex := by cases hex <;> decide
theorem maxD_pos (hex : Bool) : 0 < maxDOf hex := by cases hex <;> decide

/-- what the mantissa loop of `readFloat` does at a point: a second one is the failing `return` -/
def dotM (st : MS) : Option MS := if st.sawdot then none else some { st with sawdot := true, dp := st.nd }

/-- what the mantissa loop of `readFloat` does with a digit of value `d`: a leading zero only moves the
point; a digit is appended while there is room (19 / 16 digits); after that it is counted and, if
not zero, sets `trunc` -/
def pushM (hex : Bool) (d : Nat) (st : MS) : MS :=
  if d = 0 ∧ st.nd = 0 then { st with sawdigits := true, dp := st.dp - 1 }
  else if st.ndMant < maxDOf hex then
    { st with sawdigits := true, nd := st.nd + 1,
              mant := ((st.mant * baseOf hex) % 2 ^ 64 + d) % 2 ^ 64, ndMant := st.ndMant + 1 }
  else { st with sawdigits := true, nd := st.nd + 1, trunc := st.trunc || d != 0 }

theorem pushM_flags (hex : Bool) (d : Nat) (st : MS) :
    (pushM hex d st).sawdot = st.sawdot ∧ (pushM hex d st).sawdigits = true := by
  unfold pushM
  split
  · exact ⟨rfl, rfl⟩
  · split <;> exact ⟨rfl, rfl⟩

/-- the state of `readFloat`'s mantissa loop against the digits read so far: `M` = all of them as one
number, `F` of them after the point, `D` = the value of those dropped since the mantissa filled up
(`trunc` says whether it is zero); the kept mantissa has no leading zero -/
structure Inv (hex : Bool) (st : MS) (M F D : Nat) : Prop where
  v : st.mant * baseOf hex ^ (st.nd - st.ndMant) + D = M
  dlt : D < baseOf hex ^ (st.nd - st.ndMant)
  tr : st.trunc = decide (D ≠ 0)
  cnt : st.ndMant ≤ st.nd ∧ st.ndMant ≤ maxDOf hex ∧ (st.ndMant < maxDOf hex → st.ndMant = st.nd)
  pt : (if st.sawdot then (st.nd : Int) - st.dp else 0) = F
  lt : st.mant < baseOf hex ^ st.ndMant
  lead : 0 < st.nd → baseOf hex ^ (st.ndMant - 1) ≤ st.mant ∧ 0 < st.ndMant

theorem inv_init (hex : Bool) : Inv hex {} 0 0 0 := by
  constructor <;> simp [baseOf]

theorem push_fits (hex : Bool) (m k d : Nat) (hd : d < baseOf hex) (hm : m < baseOf hex ^ k) (hk : k < maxDOf hex) :
    ((m * baseOf hex) % 2 ^ 64 + d) % 2 ^ 64 = m * baseOf hex + d ∧ m * baseOf hex + d < baseOf hex ^ (k + 1) := by
  have hlt : m * baseOf hex + d < baseOf hex ^ (k + 1) := by
    rw [Nat.pow_succ]
    calc m * baseOf hex + d < m * baseOf hex + baseOf hex := by omega
      _ = (m + 1) * baseOf hex := by rw [Nat.add_mul]; omega
      _ ≤ baseOf hex ^ k * baseOf hex := Nat.mul_le_mul_right _ hm
  have hle : baseOf hex ^ (k + 1) ≤ 2 ^ 64 :=
    Nat.le_trans (Nat.pow_le_pow_right (by cases hex <;> decide) (by omega)) (base_pow_le hex)
  rw [Nat.mod_eq_of_lt (show m * baseOf hex < 2 ^ 64 by omega), Nat.mod_eq_of_lt (by omega)]
  exact ⟨rfl, hlt⟩

theorem Inv.dot {hex : Bool} {st : MS} {M F D : Nat} (inv : Inv hex st M F D) (hs : st.sawdot = false) :
    Inv hex { st with sawdot := true, dp := st.nd } M F D :=
  ⟨inv.v, inv.dlt, inv.tr, inv.cnt, by have := inv.pt; rw [hs] at this; simpa using this, inv.lt, inv.lead⟩

theorem drop_step (B m P D d : Nat) (hd : d < B) (hD : D < P) :
    m * (P * B) + (D * B + d) = (m * P + D) * B + d ∧ D * B + d < P * B := by
  refine ⟨by rw [Nat.add_mul, Nat.mul_assoc, Nat.add_assoc], ?_⟩
  have : (D + 1) * B ≤ P * B := Nat.mul_le_mul_right _ hD
  rw [Nat.add_mul, Nat.one_mul] at this
  omega

theorem lead_step (B m k d : Nat) (hk : 0 < k) (h : B ^ (k - 1) ≤ m) : B ^ k ≤ m * B + d :=
  calc B ^ k = B ^ (k - 1) * B := by rw [← Nat.pow_succ]; congr 1; omega
    _ ≤ m * B := Nat.mul_le_mul_right _ h
    _ ≤ m * B + d := Nat.le_add_right _ _

theorem point_step (sawdot : Bool) (F : Nat) (nd nd' : Nat) (dp dp' : Int)
    (pt : (if sawdot then (nd : Int) - dp else 0) = F) (h : (nd' : Int) - dp' = (nd : Int) - dp + 1) :
    (if sawdot then (nd' : Int) - dp' else 0) = ((if sawdot then F + 1 else F : Nat) : Int) := by
  cases sawdot
  · exact pt
  · simp only [if_true] at pt ⊢
    push_cast
    omega

theorem Inv.push {hex : Bool} {st : MS} {M F D : Nat} (inv : Inv hex st M F D) (d : Nat) (hd : d < baseOf hex) :
    ∃ D', Inv hex (pushM hex d st) (M * baseOf hex + d) (if st.sawdot then F + 1 else F) D' := by
  obtain ⟨c1, c2, c3⟩ := inv.cnt
  have hv := inv.v
  have hdl := inv.dlt
  unfold pushM
  by_cases hz : d = 0 ∧ st.nd = 0
  · -- a leading zero: nothing has been read but zeros
    rw [if_pos hz]
    obtain ⟨rfl, hnd⟩ := hz
    have h0 : st.ndMant = 0 := Nat.le_zero.mp (hnd ▸ c1)
    have hl := inv.lt
    rw [hnd, h0, Nat.pow_zero] at hv hdl
    rw [h0, Nat.pow_zero] at hl
    have hM : M = 0 := by omega
    have f1 := point_step st.sawdot F st.nd st.nd st.dp (st.dp - 1) inv.pt (by omega)
    refine ⟨D, ⟨?_, inv.dlt, inv.tr, inv.cnt, f1, inv.lt, inv.lead⟩⟩
    show st.mant * baseOf hex ^ (st.nd - st.ndMant) + D = M * baseOf hex + 0
    rw [hnd, h0, Nat.pow_zero, hM]
    omega
  · rw [if_neg hz]
    by_cases hroom : st.ndMant < maxDOf hex
    · -- room: nothing has been dropped yet, and the `uint64` does not wrap
      rw [if_pos hroom]
      have hnd := c3 hroom
      obtain ⟨e, hlt⟩ := push_fits hex st.mant st.ndMant d hd inv.lt hroom
      rw [hnd, Nat.sub_self, Nat.pow_zero] at hv hdl
      have hD : D = 0 := by omega
      have hM : M = st.mant := by omega
      have f1 := point_step st.sawdot F st.nd (st.nd + 1) st.dp st.dp inv.pt (by push_cast; omega)
      refine ⟨0, ⟨?_, Nat.pow_pos (Nat.lt_of_lt_of_le (by decide) (base_ge hex)), ?_,
        ⟨Nat.succ_le_succ c1, hroom, fun _ => congrArg (· + 1) hnd⟩, f1, ?_, fun _ => ⟨?_, Nat.succ_pos _⟩⟩⟩
      · show ((st.mant * baseOf hex) % 2 ^ 64 + d) % 2 ^ 64 * baseOf hex ^ (st.nd + 1 - (st.ndMant + 1)) + 0 = _
        rw [e, hnd, Nat.sub_self, Nat.pow_zero, hM, Nat.mul_one, Nat.add_zero]
      · have := inv.tr; rw [hD] at this; exact this
      · show _ < baseOf hex ^ (st.ndMant + 1); rw [e]; exact hlt
      · show baseOf hex ^ (st.ndMant + 1 - 1) ≤ ((st.mant * baseOf hex) % 2 ^ 64 + d) % 2 ^ 64
        rw [e, Nat.add_sub_cancel]
        by_cases hn0 : st.nd = 0
        · rw [hnd, hn0, Nat.pow_zero]
          have : d ≠ 0 := fun h => hz ⟨h, hn0⟩
          omega
        · have hp : 0 < st.nd := Nat.pos_of_ne_zero hn0
          exact lead_step _ _ _ d (inv.lead hp).2 (inv.lead hp).1
    · -- full: the digit joins the dropped ones
      rw [if_neg hroom]
      have hj : st.nd + 1 - st.ndMant = (st.nd - st.ndMant) + 1 := by omega
      obtain ⟨s1, s2⟩ := drop_step (baseOf hex) st.mant (baseOf hex ^ (st.nd - st.ndMant)) D d hd hdl
      have f1 := point_step st.sawdot F st.nd (st.nd + 1) st.dp st.dp inv.pt (by push_cast; omega)
      refine ⟨D * baseOf hex + d, ⟨?_, ?_, ?_, ⟨Nat.le_succ_of_le c1, c2, fun h => absurd h hroom⟩, f1,
        inv.lt, fun _ => inv.lead ?_⟩⟩
      · show st.mant * baseOf hex ^ (st.nd + 1 - st.ndMant) + (D * baseOf hex + d) = _
        rw [hj, Nat.pow_succ, s1, hv]
      · show D * baseOf hex + d < baseOf hex ^ (st.nd + 1 - st.ndMant)
        rw [hj, Nat.pow_succ]; exact s2
      · show (st.trunc || d != 0) = decide (D * baseOf hex + d ≠ 0)
        rw [inv.tr]
        have hB := base_ge hex
        by_cases hD : D = 0
        · subst hD; by_cases hd0 : d = 0 <;> simp [hd0]
        · have : D * baseOf hex + d ≠ 0 := by
            have : 0 < D * baseOf hex := Nat.mul_pos (Nat.pos_of_ne_zero hD) (by omega)
            omega
          simp only [ne_eq, hD, this, not_false_eq_true, decide_true, Bool.true_or]
      · have := maxD_pos hex; omega

/-- what the invariant says of the results `readFloat` builds from the loop state: no wrap; an exact
mantissa without `trunc`, a strict enclosure by a full mantissa with it; the point -/
theorem Inv.value {hex : Bool} {st : MS} {M F D : Nat} (inv : Inv hex st M F D) :
    st.mant < 2 ^ 64 ∧ (st.trunc = false → M = st.mant * baseOf hex ^ (st.nd - st.ndMant)) ∧
    (st.trunc = true → st.mant * baseOf hex ^ (st.nd - st.ndMant) < M ∧
      M < (st.mant + 1) * baseOf hex ^ (st.nd - st.ndMant) ∧ baseOf hex ^ (maxDOf hex - 1) ≤ st.mant) ∧
    ((if !st.sawdot then (st.nd : Int) else st.dp) - st.ndMant = ((st.nd - st.ndMant : Nat) : Int) - (F : Nat)) := by
  obtain ⟨c1, c2, c3⟩ := inv.cnt
  have hv := inv.v; have hdl := inv.dlt
  refine ⟨?_, fun ht => ?_, fun ht => ?_, ?_⟩
  · exact Nat.lt_of_lt_of_le inv.lt
      (Nat.le_trans (Nat.pow_le_pow_right (by cases hex <;> decide) c2) (base_pow_le hex))
  · have : D = 0 := by have := inv.tr; rw [ht] at this; simpa using this.symm
    omega
  · have hD : D ≠ 0 := by have := inv.tr; rw [ht] at this; simpa using this.symm
    -- something was dropped, so the mantissa is full
    have hfull : st.ndMant = maxDOf hex := by
      apply Classical.byContradiction; intro h
      rw [c3 (by omega), Nat.sub_self, Nat.pow_zero] at hdl
      omega
    rw [Nat.add_mul, Nat.one_mul]
    refine ⟨by omega, by omega, ?_⟩
    rw [← hfull]
    exact (inv.lead (by have := maxD_pos hex; omega)).1
  · have := inv.pt
    cases hs : st.sawdot <;> rw [hs] at this <;> simp at this ⊢ <;> omega

end C03
