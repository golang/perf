/-
Match.All / Any / Apply in terms of Test, for every measurement count (any number of mask words).
-/
import Proofs.Lemmas.C06Eval

namespace C06
open Proc.FilterEval Spec.FilterSem

theorem allLoop_spec (n : Nat) (xs : Mask) (k : Nat) :
    allLoop n xs k = (xs.zipIdx k).all fun p => !((p.1 ||| (ones <<< (n - p.2 * 32))) != ones) := by
  induction xs generalizing k with
  | nil => rfl
  | cons x xs ih => rw [allLoop, ih, List.zipIdx_cons, List.all_cons]; cases (x ||| _) != ones <;> rfl

theorem anyLoop_spec (n : Nat) (xs : Mask) (k : Nat) :
    anyLoop n xs k = (xs.zipIdx k).any fun p => (p.1 &&& ~~~(ones <<< (n - p.2 * 32))) != 0#32 := by
  induction xs generalizing k with
  | nil => rfl
  | cons x xs ih => rw [anyLoop, ih, List.zipIdx_cons, List.any_cons]; cases (x &&& _) != 0#32 <;> rfl

/-- measurement `i < n` is bit `i % 32` of word `i / 32`, below that word's cut-off `n - (i/32)*32` -/
theorem bit_word_of_lt {n : Nat} {m : Mask} (hl : m.length = words n) {i : Nat} (hi : i < n) :
    ∃ x, (x, i / 32) ∈ m.zipIdx ∧ bit m i = x.getLsbD (i % 32) ∧ i % 32 < 32 ∧ i % 32 < n - i / 32 * 32 := by
  have hw : i / 32 < m.length := hl ▸ div32_lt_words hi
  refine ⟨m[i / 32], List.mk_mem_zipIdx_iff_getElem?.mpr (List.getElem?_eq_getElem hw), ?_, by omega, by omega⟩
  rw [bit, List.getElem?_eq_getElem hw]; rfl

theorem bit_of_word {n : Nat} {m : Mask} {x : Word} {w b : Nat} (hx : (x, w) ∈ m.zipIdx) (hb : b < 32)
    (hs : b < n - w * 32) : w * 32 + b < n ∧ bit m (w * 32 + b) = x.getLsbD b := by
  have e1 : (w * 32 + b) / 32 = w := by omega
  have e2 : (w * 32 + b) % 32 = b := by omega
  rw [bit, e1, e2, List.mk_mem_zipIdx_iff_getElem?.mp hx]
  exact ⟨by omega, rfl⟩

theorem all_spec (mt : Match) (hwf : OutWF mt.n (mt.m, mt.x)) (hn : 0 < mt.n) :
    mt.all = true ↔ ∀ i, i < mt.n → mt.test i = true := by
  obtain ⟨n, m, x⟩ := mt
  cases m with
  | none =>
    simp only [Match.all, test_none]
    exact ⟨fun h i hi => by simp [hi, h], fun h => by simpa [hn] using h 0 hn⟩
  | some m =>
    have hl : m.length = words n := hwf m rfl
    simp only [Match.all, test_some, allLoop_spec, List.all_eq_true, Bool.not_eq_true', all_word]
    constructor
    · intro h i hi
      obtain ⟨x, hx, hbit, hb, hs⟩ := bit_word_of_lt hl hi
      simp [hi, hbit, h _ hx _ hb hs]
    · intro h ⟨x, w⟩ hx b hb hs
      obtain ⟨hlt, hbit⟩ := bit_of_word hx hb hs
      simpa [hlt, hbit] using h _ hlt

theorem any_spec (mt : Match) (hwf : OutWF mt.n (mt.m, mt.x)) (hn : 0 < mt.n) :
    mt.any = true ↔ ∃ i, i < mt.n ∧ mt.test i = true := by
  obtain ⟨n, m, x⟩ := mt
  cases m with
  | none =>
    simp only [Match.any, test_none]
    exact ⟨fun h => ⟨0, hn, by simp [hn, h]⟩, fun ⟨i, hi, h⟩ => by simpa [hi] using h⟩
  | some m =>
    have hl : m.length = words n := hwf m rfl
    simp only [Match.any, test_some, anyLoop_spec, List.any_eq_true, any_word]
    constructor
    · rintro ⟨⟨x, w⟩, hx, b, hb, hs, hbit⟩
      obtain ⟨hlt, hbit'⟩ := bit_of_word hx hb hs
      exact ⟨_, hlt, by simp [hlt, hbit', hbit]⟩
    · rintro ⟨i, hi, h⟩
      obtain ⟨x, hx, hbit, hb, hs⟩ := bit_word_of_lt hl hi
      exact ⟨_, hx, _, hb, hs, by simpa [hi, hbit] using h⟩

theorem all_any_of_zero (mt : Match) (hwf : OutWF mt.n (mt.m, mt.x)) (hn : mt.n = 0) :
    mt.all = (match mt.m with | none => mt.x | some _ => true) ∧
    mt.any = (match mt.m with | none => mt.x | some _ => false) := by
  obtain ⟨n, m, x⟩ := mt
  cases m with
  | none => exact ⟨rfl, rfl⟩
  | some m =>
    have hl : m.length = words n := hwf m rfl
    simp only at hn; subst hn
    have : m = [] := by simpa [words] using hl
    subst this; exact ⟨rfl, rfl⟩

theorem keepIdx_congr {p q : Nat → Bool} {vs : List Value} (h : ∀ i, i < vs.length → p i = q i) :
    keepIdx p vs = keepIdx q vs := by
  unfold keepIdx
  rw [List.filter_congr fun vi hvi => h vi.2 (List.snd_lt_of_mem_zipIdx hvi)]

theorem keepIdx_all {p : Nat → Bool} {vs : List Value} (h : ∀ i, i < vs.length → p i = true) :
    keepIdx p vs = vs := by
  rw [keepIdx, List.filter_eq_self.mpr fun vi hvi => h vi.2 (List.snd_lt_of_mem_zipIdx hvi)]
  exact List.zipIdx_map_fst 0 vs

theorem keepIdx_none {p : Nat → Bool} {vs : List Value} (h : ∀ i, i < vs.length → p i = false) :
    keepIdx p vs = [] := by
  rw [keepIdx, List.filter_eq_nil_iff.mpr fun vi hvi => by rw [h vi.2 (List.snd_lt_of_mem_zipIdx hvi)]; nofun]
  rfl

theorem mem_keepIdx {p : Nat → Bool} {vs : List Value} {v : Value} :
    v ∈ keepIdx p vs ↔ ∃ i, vs[i]? = some v ∧ p i = true := by
  simp [keepIdx, List.mem_zipIdx_iff_getElem?]

theorem keepIdx_snoc (p : Nat → Bool) (l : List Value) (v : Value) :
    keepIdx p (l ++ [v]) = keepIdx p l ++ if p l.length then [v] else [] := by
  simp only [keepIdx, List.zipIdx_append, List.filter_append, List.map_append, List.zipIdx_cons, List.zipIdx_nil,
    Nat.zero_add]
  cases h : p l.length <;> simp [h]

/-- the copying loop of `Apply`: when it has read `i` elements it has written the `j` kept ones among them to the
front, and what it has not read yet is untouched (`j ≤ i`: the write position never overtakes the read position) -/
theorem applyInPlace_inv (mt : Match) (orig : List Value) :
    ∀ (fuel i j : Nat) (arr : List Value), arr.length = orig.length → j ≤ i → i + fuel = orig.length →
      arr.drop i = orig.drop i → arr.take j = keepIdx mt.test (orig.take i) →
      (applyInPlace mt fuel i j arr).1.take (applyInPlace mt fuel i j arr).2 = keepIdx mt.test orig := by
  intro fuel
  induction fuel with
  | zero =>
    intro i j arr _ _ hi _ hk
    rw [applyInPlace, hk, List.take_of_length_le (by omega)]
  | succ fuel ih =>
    intro i j arr hlen hji hi hdrop hk
    have hilt : i < orig.length := by omega
    have hget : arr[i]? = some orig[i] := by
      have h0 : (arr.drop i)[0]? = (orig.drop i)[0]? := by rw [hdrop]
      simpa [List.getElem?_drop, hilt] using h0
    have hdrop' : arr.drop (i + 1) = orig.drop (i + 1) := by rw [← List.drop_drop, hdrop, List.drop_drop]
    have hk' : keepIdx mt.test (orig.take (i + 1)) = arr.take j ++ if mt.test i then [orig[i]] else [] := by
      rw [List.take_succ_eq_append_getElem hilt, keepIdx_snoc, hk, List.length_take_of_le (by omega)]
    rw [applyInPlace, hget]
    simp only
    split
    · rename_i ht
      apply ih (i + 1) (j + 1) (arr.set j orig[i]) (by simpa using hlen) (by omega) (by omega)
      · rw [List.drop_set_of_lt (by omega), hdrop']
      · rw [hk', ht, if_pos rfl, List.take_succ_eq_append_getElem (by rw [List.length_set]; omega),
          List.take_set_of_le (Nat.le_refl _), List.getElem_set_self]
    · rename_i ht
      apply ih (i + 1) j arr hlen (by omega) (by omega) hdrop'
      rw [hk', if_neg ht, List.append_nil]

theorem applyInPlace_eq (mt : Match) (vals : List Value) :
    (applyInPlace mt vals.length 0 0 vals).1.take (applyInPlace mt vals.length 0 0 vals).2 = keepIdx mt.test vals :=
  applyInPlace_inv mt vals vals.length 0 0 vals rfl (Nat.le_refl _) (Nat.zero_add _) rfl rfl

theorem apply_values (mt : Match) (hwf : OutWF mt.n (mt.m, mt.x)) (vals : List Value) (hlen : vals.length = mt.n) :
    (mt.apply vals).1 = keepIdx mt.test vals := by
  unfold Match.apply
  by_cases hn : mt.n = 0
  · have : vals = [] := List.length_eq_zero_iff.mp (hlen.trans hn)
    subst this
    split
    · rfl
    · split <;> rfl
  · have hpos : 0 < mt.n := by omega
    split
    · rename_i ha
      exact (keepIdx_all fun i hi => (all_spec mt hwf hpos).mp ha i (hlen ▸ hi)).symm
    · split
      · rename_i hna
        refine (keepIdx_none fun i hi => Bool.eq_false_iff.mpr fun ht => ?_).symm
        simp [(any_spec mt hwf hpos).mpr ⟨i, hlen ▸ hi, ht⟩] at hna
      · exact applyInPlace_eq mt vals

theorem any_eq_keepIdx (mt : Match) (hwf : OutWF mt.n (mt.m, mt.x)) (vals : List Value) (hlen : vals.length = mt.n)
    (hpos : 0 < mt.n) : mt.any = !(keepIdx mt.test vals).isEmpty := by
  rw [Bool.eq_iff_iff, any_spec mt hwf hpos]
  simp only [Bool.not_eq_true', List.isEmpty_eq_false_iff_exists_mem, mem_keepIdx]
  constructor
  · rintro ⟨i, hi, ht⟩
    exact ⟨vals[i], i, List.getElem?_eq_getElem (hlen ▸ hi), ht⟩
  · rintro ⟨v, i, hv, ht⟩
    exact ⟨i, hlen ▸ (List.getElem?_eq_some_iff.mp hv).1, ht⟩

theorem apply_flag (mt : Match) (hwf : OutWF mt.n (mt.m, mt.x)) (vals : List Value) (hlen : vals.length = mt.n)
    (hpos : 0 < mt.n) : (mt.apply vals).2 = mt.any := by
  unfold Match.apply
  split
  · rename_i ha
    exact ((any_spec mt hwf hpos).mpr ⟨0, hpos, (all_spec mt hwf hpos).mp ha 0 hpos⟩).symm
  · split
    · rename_i hna; simpa using hna
    · rename_i hna
      have hany : mt.any = true := by simpa using hna
      have hne := any_eq_keepIdx mt hwf vals hlen hpos
      rw [hany, ← applyInPlace_eq] at hne
      generalize applyInPlace mt vals.length 0 0 vals = r at hne
      obtain ⟨arr, j⟩ := r
      cases j with
      | zero => simp at hne
      | succ j => simp [hany]

theorem apply_of_zero (mt : Match) (vals : List Value) (hlen : vals.length = mt.n) (hn : mt.n = 0) :
    mt.apply vals = ([], mt.all) := by
  have : vals = [] := List.length_eq_zero_iff.mp (hlen.trans hn)
  subst this
  unfold Match.apply
  cases ha : mt.all
  · simp only [Bool.false_eq_true, if_false]
    split <;> simp [applyInPlace]
  · simp

theorem Denotes.all_iff {n : Nat} {o : Out} {P : Nat → Bool} (h : Denotes n o P) (hn : 0 < n) :
    (Match.mk n o.1 o.2).all = true ↔ ∀ i, i < n → P i = true := by
  rw [all_spec _ h.1 hn]
  exact ⟨fun hh i hi => (h.2 i hi).symm.trans (hh i hi), fun hh i hi => (h.2 i hi).trans (hh i hi)⟩

theorem Denotes.any_iff {n : Nat} {o : Out} {P : Nat → Bool} (h : Denotes n o P) (hn : 0 < n) :
    (Match.mk n o.1 o.2).any = true ↔ ∃ i, i < n ∧ P i = true := by
  rw [any_spec _ h.1 hn]
  exact ⟨fun ⟨i, hi, hh⟩ => ⟨i, hi, (h.2 i hi).symm.trans hh⟩, fun ⟨i, hi, hh⟩ => ⟨i, hi, (h.2 i hi).trans hh⟩⟩

/-- `Apply` keeps the measurements at which `P` holds -/
theorem Denotes.apply {f : FilterFn} {res : Res} {P : Nat → Bool} (h : Denotes res.values.length (f res) P) :
    (filterApply f res).1.values = keepIdx P res.values ∧
    (filterApply f res).1.name = res.name ∧ (filterApply f res).1.config = res.config ∧
    (0 < res.values.length → (filterApply f res).2 = !(keepIdx P res.values).isEmpty) ∧
    (0 < res.values.length → (filterApply f res).2 = (filterMatch f res).any) := by
  have hwf : OutWF (filterMatch f res).n ((filterMatch f res).m, (filterMatch f res).x) := h.1
  have hv : ((filterMatch f res).apply res.values).1 = keepIdx P res.values := by
    rw [apply_values _ hwf res.values rfl]
    exact keepIdx_congr h.2
  refine ⟨hv, rfl, rfl, fun hn => ?_, apply_flag _ hwf res.values rfl⟩
  rw [← hv, apply_values _ hwf res.values rfl, ← any_eq_keepIdx _ hwf res.values rfl hn]
  exact apply_flag _ hwf res.values rfl hn

end C06
