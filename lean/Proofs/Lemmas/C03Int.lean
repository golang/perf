/-
C03 helper lemmas: bytesconv.ParseInt(s, 10, 0) against `parseIntSpec`.
-/
import Proofs.Lemmas.C03Uint

namespace C03
open Num Spec.NumText

/-- an integer result against the specification's verdict: the same value, or some error -/
def Refines (r : IntRes) (x : Except NumErr Int) : Prop :=
  (∀ v, x = .ok v → r = ⟨v, none⟩) ∧ (∀ e, x = .error e → r.err ≠ none)

theorem Refines.ok (v : Int) : Refines ⟨v, none⟩ (.ok v) :=
  ⟨fun _ h => (by cases h; rfl), fun _ h => (by cases h)⟩

theorem Refines.error (w : Int) (e' e : NumErr) : Refines ⟨w, some e'⟩ (.error e) :=
  ⟨fun _ h => (by cases h), fun _ _ h => (by cases h)⟩

theorem Refines.toExcept (r : IntRes) : Refines r r.toExcept := by
  obtain ⟨val, err⟩ := r
  cases err with
  | none => exact Refines.ok val
  | some e' => exact Refines.error val e' e'

theorem IntRes.sound {r : IntRes} {spec : Except NumErr Int} (h : Refines r spec) (he : r.err = none) :
    spec = .ok r.val := by
  cases hs : spec with
  | ok v => rw [h.1 v hs]
  | error e => exact absurd he (h.2 e hs)

def parseIntBody (neg : Bool) (s : Bytes) : IntRes :=
  let un := parseUint s
  match un.err with
  | some .syntax => ⟨0, some .syntax⟩
  | _ =>
    let cutoff : Nat := 2 ^ 63
    if !neg && un.val ≥ cutoff then ⟨(cutoff : Int) - 1, some .range⟩
    else if neg && un.val > cutoff then ⟨-(cutoff : Int), some .range⟩
    else
      let n := wrap64 un.val
      ⟨if neg then wrap64 (-n) else n, none⟩

theorem parseInt_cons (c0 : UInt8) (tl : Bytes) :
    parseInt (c0 :: tl) = parseIntBody (c0 == 45) (if c0 == 43 || c0 == 45 then tl else c0 :: tl) := rfl

theorem wrap64_nat (V : Nat) (h : V ≤ 18446744073709551615) :
    (V < 9223372036854775808 → wrap64 V = V) ∧
    (V ≤ 9223372036854775808 → wrap64 (-(wrap64 V)) = -(V : Int)) := by
  unfold wrap64; constructor <;> intro _ <;> omega

theorem pow63 : (2 : Nat) ^ 63 = 9223372036854775808 := by decide +kernel
theorem pow63i : (2 : Int) ^ 63 = 9223372036854775808 := by decide +kernel

theorem parseIntBody_spec (neg : Bool) (ds : Bytes) : Refines (parseIntBody neg ds) (specIntBody neg ds) := by
  by_cases hbad : ds = [] ∨ ds.all isDec = false
  · -- not a digit string: a syntax error by the specification, some error by `ParseUint`, hence by `ParseInt`
    have hs : specIntBody neg ds = .error .syntax := by
      unfold specIntBody
      rcases hbad with h | h
      · subst h; simp
      · simp [h]
    rw [hs]
    unfold parseIntBody
    simp only []
    cases he : (parseUint ds).err with
    | none => exact absurd he (parseUint_reject ds hbad)
    | some e =>
      cases e
      · exact Refines.error _ _ _
      · simp only [parseUint_range_val ds he, maxU, pow63]
        cases neg <;> exact Refines.error _ _ _
  · simp only [not_or, Bool.not_eq_false] at hbad
    obtain ⟨hne, hall⟩ := hbad
    have hemp : ds.isEmpty = false := by
      cases ds with
      | nil => exact absurd rfl hne
      | cons _ _ => rfl
    unfold specIntBody parseIntBody
    simp only [hemp, hall, Bool.not_true, Bool.or_self, Bool.false_eq_true, if_false, parseUint_digits ds hne hall,
      maxU, pow63, pow63i]
    generalize valOf 10 ds = V
    -- `V` against 2^63 (2^63 itself is in range for a negative text) and 2^64 − 1
    have spec_err : ∀ w : Int, (decide (w < -9223372036854775808) || decide (w > 9223372036854775808 - 1)) = true →
        ∀ r e', Refines ⟨r, some e'⟩ (if (decide (w < -9223372036854775808) || decide (w > 9223372036854775808 - 1)) = true
          then .error .range else .ok w) := fun w h r e' => by rw [if_pos h]; exact Refines.error _ _ _
    have spec_ok : ∀ w : Int, -9223372036854775808 ≤ w → w ≤ 9223372036854775807 →
        Refines ⟨w, none⟩ (if (decide (w < -9223372036854775808) || decide (w > 9223372036854775808 - 1)) = true
          then .error .range else .ok w) := fun w h1 h2 => by
      rw [if_neg (by simp only [Bool.or_eq_true, decide_eq_true_eq]; omega)]; exact Refines.ok _
    by_cases hV : V ≤ 18446744073709551615
    · simp only [hV, if_true]
      have hw := wrap64_nat V hV
      cases neg
      · simp only [Bool.false_eq_true, if_false, Bool.not_false, Bool.true_and, Bool.false_and]
        by_cases h63 : V ≥ 9223372036854775808
        · rw [if_pos (by simpa using h63)]; exact spec_err _ (by simp; omega) _ _
        · rw [if_neg (by simpa using h63), hw.1 (by omega)]; exact spec_ok _ (by omega) (by omega)
      · simp only [if_true, Bool.not_true, Bool.false_and, Bool.false_eq_true, if_false, Bool.true_and]
        by_cases h63 : V > 9223372036854775808
        · rw [if_pos (by simpa using h63)]; exact spec_err _ (by simp; omega) _ _
        · rw [if_neg (by simpa using h63), hw.2 (by omega)]; exact spec_ok _ (by omega) (by omega)
    · simp only [hV, if_false]
      cases neg
      · exact spec_err _ (by simp; omega) _ _
      · exact spec_err _ (by simp; omega) _ _
theorem specIntBody_bounds (neg : Bool) (ds : Bytes) (v : Int) (h : specIntBody neg ds = .ok v) :
    -(2 ^ 63 : Int) ≤ v ∧ v ≤ 2 ^ 63 - 1 := by
  unfold specIntBody at h
  split at h
  · cases h
  · simp only [] at h
    generalize (if neg = true then -((valOf 10 ds : Nat) : Int) else ((valOf 10 ds : Nat) : Int)) = w at h
    split at h
    · cases h
    · rename_i hr
      injection h with h; subst h
      simp only [Bool.or_eq_true, decide_eq_true_eq, not_or] at hr
      omega

theorem parseInt_eq_body (s : Bytes) (hne : s ≠ []) :
    parseInt s = parseIntBody (splitSign s).1 (splitSign s).2 := by
  cases s with
  | nil => exact absurd rfl hne
  | cons c0 tl => rw [parseInt_cons, splitSign_cons]; rfl

end C03
