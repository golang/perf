/-
C03 helper lemmas: the fast path of bytesconv.Atoi against `parseIntSpec`.
-/
import Proofs.Lemmas.C03Spec

namespace C03
open Num Spec.NumText

theorem pow10_18 : (10 : Nat) ^ 18 = 1000000000000000000 := by decide +kernel

/-- `Atoi` fast-path loop: while the digits read so far number at most 18, the `int`
accumulator never wraps and the loop returns exactly the value of a digit string, and the
syntax-error exit on anything else. -/
theorem atoiLoop_spec (x : Bytes) : ∀ (n k : Nat), n < 10 ^ k → k + x.length ≤ 18 →
    atoiLoop x n = if x.all isDec then some ((valFrom n x : Nat) : Int) else none := by
  induction x with
  | nil => intro n k _ _; simp [atoiLoop, valFrom]
  | cons c x ih =>
    intro n k hn hk
    unfold atoiLoop
    simp only []
    by_cases hdec : isDec c = true
    · have hgt : ¬ (c - 48 > 9) := sub48_lt hdec
      have hv := sub48 hdec
      have h9 := digVal_le9 hdec
      simp only [hgt, if_false]
      simp only [List.length_cons] at hk
      have hlt : n * 10 + (c - 48).toNat < 10 ^ (k + 1) := by rw [Nat.pow_succ]; omega
      have hle : 10 ^ (k + 1) ≤ 10 ^ 18 := Nat.pow_le_pow_right (by decide) (by omega)
      rw [pow10_18] at hle
      rw [wrap64_id _ (by omega) (by omega)]
      have := ih (n * 10 + (c - 48).toNat) (k + 1) hlt (by omega)
      rw [show ((n : Int) * 10 + ((c - 48).toNat : Int)) = ((n * 10 + (c - 48).toNat : Nat) : Int) by push_cast; rfl]
      rw [this, List.all_cons, hdec, valFrom_cons, hv]
      simp
    · have hgt : (c - 48 > 9) := (sub48_ge c).mpr (by simpa using hdec)
      simp [hgt, hdec]

theorem atoiLoop_zero (x : Bytes) (hl : x.length ≤ 18) :
    atoiLoop x 0 = if x.all isDec then some ((valOf 10 x : Nat) : Int) else none := by
  have := atoiLoop_spec x 0 0 (by decide) (by omega)
  rw [valOf_eq]; exact this

/-- the fast path after the sign has been picked off (`sgn`: there was one) -/
theorem atoiTail_spec (sgn neg : Bool) (x : Bytes) (hne : sgn = false → x ≠ []) (hl : x.length ≤ 18) :
    (if sgn && x.length < 1 then (⟨0, some .syntax⟩ : IntRes)
      else match atoiLoop x 0 with
        | none => ⟨0, some .syntax⟩
        | some n => ⟨if neg then wrap64 (-n) else n, none⟩).toExcept = specIntBody neg x := by
  have hemp : x.isEmpty = false ∨ (sgn = true ∧ x = []) := by
    cases x with
    | nil => cases sgn; exact absurd rfl (hne rfl); exact Or.inr ⟨rfl, rfl⟩
    | cons _ _ => exact Or.inl rfl
  rcases hemp with hemp | ⟨rfl, rfl⟩
  rotate_left
  · rfl
  have hlen : (decide (x.length < 1)) = false := by cases x with | nil => cases hemp | cons _ _ => simp
  unfold specIntBody
  rw [atoiLoop_zero x hl, hemp, hlen, Bool.and_false, Bool.false_or]
  simp only [Bool.false_eq_true, if_false]
  by_cases hall : x.all isDec = true
  · have hlt : valFrom 0 x < 1000000000000000000 := by
      have := valFrom_lt_pow x hall 0 0 (by decide)
      have hle : 10 ^ (0 + x.length) ≤ 10 ^ 18 := Nat.pow_le_pow_right (by decide) (by omega)
      rw [pow10_18] at hle; omega
    rw [← valOf_eq] at hlt
    have hw : wrap64 (-((valOf 10 x : Nat) : Int)) = -((valOf 10 x : Nat) : Int) :=
      wrap64_id _ (by omega) (by omega)
    have hr : ((if neg then -(valOf 10 x : Int) else (valOf 10 x : Int)) < -(2 ^ 63 : Int) ||
        (if neg then -(valOf 10 x : Int) else (valOf 10 x : Int)) > (2 ^ 63 : Int) - 1) = false := by
      cases neg <;> simp <;> omega
    simp only [hall, if_true, hw, Bool.not_true, Bool.false_eq_true, if_false, hr]
    rfl
  · simp only [hall, Bool.false_eq_true, if_false, Bool.not_false, if_true]
    rfl

theorem atoiFast_eq_spec (s : Bytes) (h : atoiFastApplies s = true) :
    (atoiFast s).toExcept = parseIntSpec s := by
  unfold atoiFastApplies at h
  simp only [Bool.and_eq_true, decide_eq_true_eq] at h
  cases s with
  | nil => simp at h
  | cons c0 tl =>
    simp only [List.length_cons] at h
    rw [parseIntSpec_eq, splitSign_cons]
    unfold atoiFast
    simp only [Bool.or_comm (c0 == 45)]
    exact atoiTail_spec (c0 == 43 || c0 == 45) (c0 == 45) (bodyOf c0 tl) (bodyOf_ne_nil c0 tl)
      (by have := bodyOf_length_le c0 tl; omega)

end C03
