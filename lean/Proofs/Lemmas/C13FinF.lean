/-
C13: finite float64 values (with the canonical zero) form a linear order under `F64.lt`/`F64.eq`,
compatible with the exact rational value; the value arithmetic `Math.Val F64.Bits` restricted to
them is lawful, so the summary theorems speak about float64 samples. On NaN-free values the
comparison of `NewSample`'s sort (−0 before +0) is the order of the injective key `F64.tkey`, so the
sorted sample does not depend on the arrival order of the measurements — bit for bit.
-/
import Proofs.Lemmas.C13FloatOrder
import Proofs.Lemmas.C13Exact
import Proofs.Lemmas.Shared.Sort
import Mathlib.Order.Basic
import Mathlib.Data.List.Count

namespace C13
open F64 Math

/-- a finite float64 that is not −0 (the value +0 stands for both zeros) -/
def Canon (b : Bits) : Prop := isFinite b = true ∧ b ≠ negZero

instance (b : Bits) : Decidable (Canon b) := by unfold Canon; infer_instance

/-- finite float64 values (a structure rather than a subtype of `UInt64`, whose own order on the bit
patterns must not be picked up) -/
structure FinF where
  val : Bits
  canon : Canon val

theorem FinF.ext' {a b : FinF} (h : a.val = b.val) : a = b := by
  cases a; cases b; cases h; rfl

theorem FinF.val_injective : Function.Injective FinF.val := fun _ _ h => FinF.ext' h

theorem sval_inj {a b : Bits} (ha : Canon a) (hb : Canon b) (h : sval a = sval b) : a = b :=
  okey_inj a b ha.2 hb.2
    ((eq_iff_okey a b (isNaN_of_finite ha.1) (isNaN_of_finite hb.1)).mp
      ((eq_iff_sval a b ha.1 hb.1).mpr h))

instance : LinearOrder FinF :=
  LinearOrder.lift' (fun x : FinF => sval x.1) (fun x y h => FinF.ext' (sval_inj x.2 y.2 h))

theorem finF_lt_iff (a b : FinF) : a < b ↔ sval a.1 < sval b.1 := Iff.rfl
theorem finF_le_iff (a b : FinF) : a ≤ b ↔ sval a.1 ≤ sval b.1 := Iff.rfl

/-- the float64 value arithmetic on finite values; a non-finite (or −0) interpolation result is
replaced by its first operand so that the operation stays inside the type — `interp` is not used by
the theorems instantiated here (sorting, AssumeExact) -/
instance : Val FinF where
  lt a b := F64.lt a.1 b.1
  eq a b := F64.eq a.1 b.1
  interp a b f :=
    if h : Canon (Val.interp a.1 b.1 f) then ⟨Val.interp a.1 b.1 f, h⟩ else a
  before a b := Val.before a.1 b.1

/-- **float64 comparisons are lawful**: on finite values `F64.lt` is the strict order and `F64.eq`
the equality of a linear order — the order of the exact rational values. -/
instance : LawfulVal FinF where
  lt_iff a b := lt_iff_sval a.1 b.1 a.2.1 b.2.1
  eq_iff a b := (eq_iff_sval a.1 b.1 a.2.1 b.2.1).trans
    ⟨fun h => FinF.ext' (sval_inj a.2 b.2 h), fun h => by rw [h]⟩
  before_irrefl a := by
    show (F64.signBit a.1 && !F64.signBit a.1) = false
    cases F64.signBit a.1 <;> rfl

theorem modeScan_val (l : List FinF) : ∀ (v : FinF) (c : Nat) (mv : FinF) (mc : Nat),
    Exact.modeScan (α := Bits) v.1 c mv.1 mc (l.map FinF.val) =
      ((Exact.modeScan v c mv mc l).1.1, (Exact.modeScan v c mv mc l).2) := by
  induction l with
  | nil => intro v c mv mc; rfl
  | cons x xs ih =>
    intro v c mv mc
    simp only [List.map_cons, Exact.modeScan]
    have e : (Val.eq (α := Bits) x.1 v.1) = Val.eq x v := rfl
    rw [e]
    by_cases h : Val.eq x v = true
    · simp only [h, if_true]
      by_cases h2 : c + 1 > mc
      · simp only [h2, if_true]; exact ih v (c + 1) v (c + 1)
      · simp only [h2, if_false]; exact ih v (c + 1) mv mc
    · simp only [h]; exact ih x 1 mv mc

theorem lift_vals (vals : List Bits) (hc : ∀ v ∈ vals, Canon v) : ∃ l : List FinF, l.map FinF.val = vals :=
  ⟨vals.pmap FinF.mk hc, by simp [List.map_pmap]⟩

theorem summary_val (l : List FinF) (t : Thresholds) (r : Summary FinF)
    (h : Exact.summary (⟨l, t⟩ : Sample FinF) = some r) :
    ∃ r', Exact.summary (⟨l.map FinF.val, t⟩ : Sample Bits) = some r' ∧
      r'.center = r.center.val ∧
      (∀ a, r.lo = .fin a → r'.lo = .fin a.val) ∧ (∀ a, r.hi = .fin a → r'.hi = .fin a.val) ∧
      r'.confidence = r.confidence ∧ (r'.warnings = [] ↔ r.warnings = []) := by
  cases l with
  | nil => simp [Exact.summary] at h
  | cons v0 rest =>
    simp only [Exact.summary, Option.some.injEq] at h
    subst h
    simp only [Exact.summary, List.map_cons, modeScan_val, List.getLastD_map, List.length_cons, List.length_map]
    refine ⟨_, rfl, rfl, ?_, ?_, rfl, ?_⟩
    · intro a ha; cases ha; rfl
    · intro a ha; cases ha; rfl
    · by_cases hw : ((Exact.modeScan v0 1 v0 1 rest).2 != rest.length + 1) = true <;> simp [hw]

/-- the comparison of the sort is `≤` of the keys (non-NaN values): `cmp.Compare` decides by `okey`,
equal keys (only the two zeros) by sign -/
theorem sortLe_iff_tkey (a b : Bits) (ha : isNaN a = false) (hb : isNaN b = false) :
    sortLe a b = true ↔ tkey a ≤ tkey b := by
  have k1 := lt_iff_okey a b ha hb
  have k2 := lt_iff_okey b a hb ha
  have ta := Bool.toNat_le (signBit a)
  have tb := Bool.toNat_le (signBit b)
  show (if F64.lt a b then true else if F64.lt b a then false else !(signBit b && !signBit a)) = true ↔ _
  unfold tkey
  rcases lt_trichotomy (okey a) (okey b) with h | h | h
  · rw [if_pos (k1.mpr h)]
    exact iff_of_true rfl (by omega)
  · rw [if_neg (by rw [k1]; omega), if_neg (by rw [k2]; omega), h]
    cases signBit a <;> cases signBit b <;> simp
  · rw [if_neg (by rw [k1]; omega), if_pos (k2.mpr h)]
    exact iff_of_false Bool.false_ne_true (by omega)

/-- `sortLe` itself is not transitive when a NaN is among the values, so uniqueness of the sorted list
is argued for the key's comparison -/
theorem sortVals_eq_key (l : List Bits) (hl : ∀ v ∈ l, isNaN v = false) :
    sortVals l = l.mergeSort fun a b => decide (tkey a ≤ tkey b) := by
  have := List.map_mergeSort (f := id) (r := sortLe) (s := fun a b => decide (tkey a ≤ tkey b)) (l := l)
    fun a ha b hb => by rw [Bool.eq_iff_iff, sortLe_iff_tkey a b (hl a ha) (hl b hb), decide_eq_true_iff]; rfl
  rwa [List.map_id, List.map_id] at this

theorem sortVals_perm_eq {v1 v2 : List Bits} (hn : ∀ v ∈ v1, isNaN v = false) (h : v1.Perm v2) :
    sortVals v1 = sortVals v2 := by
  rw [sortVals_eq_key v1 hn, sortVals_eq_key v2 fun v hv => hn v (h.symm.subset hv)]
  exact List.mergeSort_eq_of_perm (le := fun a b => decide (tkey a ≤ tkey b))
    (fun a b c hab hbc => decide_eq_true (le_trans (of_decide_eq_true hab) (of_decide_eq_true hbc)))
    (fun a b => by rcases le_total (tkey a) (tkey b) with h | h <;> simp [h]) h
    fun a _ b _ hab hba => tkey_inj a b (le_antisymm (of_decide_eq_true hab) (of_decide_eq_true hba))

end C13
