/-
C15 helper lemmas: goroutine effects commute (disjoint write sets); the two fan-outs of `ToTables` under a valid schedule:
every cell slot holds `summarizeCell` of its cell, every column slot `summarizeCol` of its column (`schedTable_eq`).
-/
import Proofs.Lemmas.C14Tables

namespace C15L
open Tab C14L

section Run
variable {K V : Type} [DecidableEq K]

theorem runTasks_cons (init : List (K × V)) (kv : K × V) (rest : List (K × V)) :
    runTasks init (kv :: rest) = runTasks (AL.upsert kv.1 (fun _ => kv.2) init) rest := rfl

theorem lookup_runTasks_untouched (init tasks : List (K × V)) (k : K) (h : ∀ v, (k, v) ∉ tasks) :
    AL.lookup k (runTasks init tasks) = AL.lookup k init := by
  induction tasks generalizing init with
  | nil => rfl
  | cons kv rest ih =>
    rw [runTasks_cons, ih]
    · have : k ≠ kv.1 := by
        intro e; apply h kv.2; rw [e]; exact List.mem_cons_self ..
      exact lookup_upsert_ne this _ _
    · intro v hv; exact h v (List.mem_cons_of_mem _ hv)

theorem lookup_runTasks_written (init tasks : List (K × V)) (k : K) (v : V) (hm : (k, v) ∈ tasks)
    (hdet : ∀ v', (k, v') ∈ tasks → v' = v) : AL.lookup k (runTasks init tasks) = some v := by
  induction tasks generalizing init with
  | nil => simp at hm
  | cons kv rest ih =>
    rw [runTasks_cons]
    by_cases hr : (k, v) ∈ rest
    · exact ih _ hr (fun v' hv' => hdet v' (List.mem_cons_of_mem _ hv'))
    · have hkv : kv = (k, v) := by
        rcases List.mem_cons.mp hm with e | e
        · exact e.symm
        · exact absurd e hr
      subst hkv
      rw [lookup_runTasks_untouched]
      · simp [lookup_upsert_self]
      · intro v' hv'
        have := hdet v' (List.mem_cons_of_mem _ hv')
        subst this; exact hr hv'

/-- Goroutines of one fan-out: one task per item of every skeleton, taking effect in any order. -/
theorem lookup_runTasks_flatMap {σ ι : Type} (skels : List σ) (items : σ → List ι) (task : σ → ι → K × V)
    (tasks : List (K × V)) (hp : tasks.Perm (skels.flatMap fun sk => (items sk).map (task sk)))
    (sk : σ) (hsk : sk ∈ skels) (a : ι) (ha : a ∈ items sk)
    (hdet : ∀ sk' ∈ skels, ∀ a' ∈ items sk', (task sk' a').1 = (task sk a).1 → (task sk' a').2 = (task sk a).2) :
    AL.lookup (task sk a).1 (runTasks [] tasks) = some (task sk a).2 := by
  apply lookup_runTasks_written
  · rw [hp.mem_iff, List.mem_flatMap]
    exact ⟨sk, hsk, List.mem_map.mpr ⟨a, ha, rfl⟩⟩
  · intro v' hv'
    rw [hp.mem_iff, List.mem_flatMap] at hv'
    obtain ⟨sk', hsk', hm⟩ := hv'
    obtain ⟨a', ha', he⟩ := List.mem_map.mp hm
    have := hdet sk' hsk' a' ha' (by rw [he])
    rw [he] at this
    exact this

end Run

end C15L

namespace C15
open Tab C14L C15L

/-- a schedule is valid when each of its choices is a permutation -/
structure ValidSched (s : Sched) : Prop where
  iter_perm : ∀ (α : Type) (l : List α), (s.iter α l).Perm l
  task_perm : ∀ (α : Type) (l : List α), (s.taskOrder α l).Perm l

variable {κ : Type} [DecidableEq κ]

section Fan
variable (cfg : Cfg κ) (s : Sched) (hs : ValidSched s)

theorem mkCell_residue_perm (a : Assump) (base : Option κ)
    (bcells : List ((κ × κ) × BCell (List Bytes) F64.Bits)) (k : κ × κ) (c : BCell (List Bytes) F64.Bits)
    (res' : List (List Bytes)) (h : res'.Perm c.residue) :
    mkCell cfg a base bcells k { values := c.values, residue := res' } = mkCell cfg a base bcells k c := by
  unfold mkCell
  simp only
  rw [residueWarning_congr cfg.fieldNames (fun z => h.mem_iff)]

def tasks1Of (skels : List (Skel κ)) := skels.flatMap fun sk => (s.iter _ sk.bcells).map (cellTask cfg s sk)
def cells1Of (skels : List (Skel κ)) := runTasks [] (s.taskOrder _ (tasks1Of cfg s skels))
def tasks2Of (skels : List (Skel κ)) :=
  skels.flatMap fun sk => sk.cols.zipIdx.map (colTask cfg sk (cells1Of cfg s skels))
def sums2Of (skels : List (Skel κ)) := runTasks [] (s.taskOrder _ (tasks2Of cfg s skels))

include hs in
theorem cellTask_eq (sk : Skel κ) (kc : (κ × κ) × BCell (List Bytes) F64.Bits) :
    cellTask cfg s sk kc = ((sk.key, kc.1), mkCell cfg sk.assumption sk.cols.head? sk.bcells kc.1 kc.2) := by
  unfold cellTask
  rw [mkCell_residue_perm cfg _ _ _ _ kc.2 _ (hs.iter_perm _ _)]

include hs in
/-- after the first `wg.Wait` every cell slot holds `summarizeCell` of its own cell — whatever the
iteration order of the cell map and the completion order of the goroutines -/
theorem cells1_lookup (skels : List (Skel κ))
    (huniq : ∀ sk ∈ skels, ∀ sk' ∈ skels, sk.key = sk'.key → sk = sk')
    (hnd : ∀ sk ∈ skels, (AL.keys sk.bcells).Nodup)
    (sk : Skel κ) (hsk : sk ∈ skels) (kc : (κ × κ) × BCell (List Bytes) F64.Bits) (hkc : kc ∈ sk.bcells) :
    AL.lookup (sk.key, kc.1) (cells1Of cfg s skels) =
      some (mkCell cfg sk.assumption sk.cols.head? sk.bcells kc.1 kc.2) := by
  have := lookup_runTasks_flatMap skels (fun sk => s.iter _ sk.bcells) (cellTask cfg s) _
    (hs.task_perm _ (tasks1Of cfg s skels)) sk hsk kc ((hs.iter_perm _ _).mem_iff.mpr hkc) ?_
  · rwa [cellTask_eq cfg s hs] at this
  · intro sk' hsk' kc' hkc' he
    rw [cellTask_eq cfg s hs, cellTask_eq cfg s hs] at he ⊢
    obtain ⟨hk, hc⟩ := Prod.mk.inj he
    obtain rfl := huniq sk' hsk' sk hsk hk
    have h1 := mem_lookup (hnd sk' hsk') (show (kc.1, kc.2) ∈ sk'.bcells from hkc)
    have h2 := mem_lookup (hnd sk' hsk') (show (kc'.1, kc'.2) ∈ sk'.bcells from (hs.iter_perm _ _).mem_iff.mp hkc')
    rw [hc, h1] at h2
    rw [hc, Option.some.inj h2]

include hs in
theorem cellsOf_eq (skels : List (Skel κ))
    (huniq : ∀ sk ∈ skels, ∀ sk' ∈ skels, sk.key = sk'.key → sk = sk')
    (hnd : ∀ sk ∈ skels, (AL.keys sk.bcells).Nodup) (sk : Skel κ) (hsk : sk ∈ skels) :
    cellsOf (cells1Of cfg s skels) sk =
      sk.bcells.map fun kc => (kc.1, mkCell cfg sk.assumption sk.cols.head? sk.bcells kc.1 kc.2) := by
  unfold cellsOf
  apply Shared.filterMap_eq_map_of_forall
  intro kc hkc
  rw [cells1_lookup cfg s hs skels huniq hnd sk hsk kc hkc]
  rfl

include hs in
/-- after the second `wg.Wait` every column slot holds `summarizeCol` of its own column -/
theorem sums2_lookup (skels : List (Skel κ))
    (huniq : ∀ sk ∈ skels, ∀ sk' ∈ skels, sk.key = sk'.key → sk = sk')
    (hcn : ∀ sk ∈ skels, sk.cols.Nodup)
    (sk : Skel κ) (hsk : sk ∈ skels) (ci : κ × Nat) (hci : ci ∈ sk.cols.zipIdx) :
    AL.lookup (sk.key, ci.1) (sums2Of cfg s skels) = some (colTask cfg sk (cells1Of cfg s skels) ci).2 := by
  refine lookup_runTasks_flatMap skels (fun sk => sk.cols.zipIdx) (fun sk => colTask cfg sk (cells1Of cfg s skels)) _
    (hs.task_perm _ (tasks2Of cfg s skels)) sk hsk ci hci fun sk' hsk' ci' hci' he => ?_
  obtain ⟨hk, hc⟩ := Prod.mk.inj he
  obtain rfl := huniq sk' hsk' sk hsk hk
  obtain ⟨c', i'⟩ := ci'
  obtain ⟨c, i⟩ := ci
  obtain rfl : c' = c := hc
  rw [Shared.zipIdx_idx_unique (hcn sk' hsk') hci' hci]

/-- the skeletons `ToTables` makes for the tables `ks` of the Builder `b` -/
def skelsOf (b : Builder κ (List Bytes) F64.Bits) (ks : List κ) : List (Skel κ) :=
  ks.filterMap fun k => (AL.lookup k b).map (mkSkel cfg s k)

theorem mem_skelsOf {b : Builder κ (List Bytes) F64.Bits} {ks : List κ} {sk : Skel κ} :
    sk ∈ skelsOf cfg s b ks ↔ ∃ k bt, k ∈ ks ∧ AL.lookup k b = some bt ∧ sk = mkSkel cfg s k bt := by
  simp only [skelsOf, List.mem_filterMap, Option.map_eq_some_iff]
  exact ⟨fun ⟨k, hk, bt, hl, he⟩ => ⟨k, bt, hk, hl, he.symm⟩, fun ⟨k, bt, hk, hl, he⟩ => ⟨k, hk, bt, hl, he.symm⟩⟩

include hs in
theorem skelsOf_ok {b : Builder κ (List Bytes) F64.Bits} (hwf : WF b) (ks : List κ) :
    (∀ sk ∈ skelsOf cfg s b ks, ∀ sk' ∈ skelsOf cfg s b ks, sk.key = sk'.key → sk = sk') ∧
    (∀ sk ∈ skelsOf cfg s b ks, (AL.keys sk.bcells).Nodup) ∧ ∀ sk ∈ skelsOf cfg s b ks, sk.cols.Nodup := by
  refine ⟨fun sk h1 sk' h2 hk => ?_, fun sk h1 => ?_, fun sk h1 => ?_⟩
  · obtain ⟨k, bt, _, hl, rfl⟩ := (mem_skelsOf cfg s).mp h1
    obtain ⟨k', bt', _, hl', rfl⟩ := (mem_skelsOf cfg s).mp h2
    obtain rfl : k = k' := hk
    rw [hl] at hl'
    cases hl'
    rfl
  · obtain ⟨k, bt, _, hl, rfl⟩ := (mem_skelsOf cfg s).mp h1
    exact (hwf.2 k bt (lookup_mem hl)).cellsNodup
  · obtain ⟨k, bt, _, hl, rfl⟩ := (mem_skelsOf cfg s).mp h1
    exact sortKeys_nodup cfg.rankC ((hs.iter_perm _ _).nodup_iff.mpr (hwf.2 k bt (lookup_mem hl)).colsNodup)

include hs in
/-- what the two fan-outs leave in the slots of the table `k` is `toTable` of its Builder table, when the
requested orders separate its rows and its columns -/
theorem schedTable_eq {b : Builder κ (List Bytes) F64.Bits} (hwf : WF b) (ks : List κ) (k : κ) (hk : k ∈ ks)
    (bt : BTable κ (List Bytes) F64.Bits) (hl : AL.lookup k b = some bt)
    (hrInj : ∀ x y, x ∈ bt.rows → y ∈ bt.rows → cfg.rankR x = cfg.rankR y → x = y)
    (hcInj : ∀ x y, x ∈ bt.cols → y ∈ bt.cols → cfg.rankC x = cfg.rankC y → x = y) :
    ({ key := (mkSkel cfg s k bt).key, unit := (mkSkel cfg s k bt).unit,
       assumption := (mkSkel cfg s k bt).assumption, rows := (mkSkel cfg s k bt).rows,
       cols := (mkSkel cfg s k bt).cols,
       cells := cellsOf (cells1Of cfg s (skelsOf cfg s b ks)) (mkSkel cfg s k bt),
       summary := (mkSkel cfg s k bt).cols.filterMap fun c =>
         (AL.lookup ((mkSkel cfg s k bt).key, c) (sums2Of cfg s (skelsOf cfg s b ks))).map fun t => (c, t) } : OTable κ)
      = toTable cfg k bt := by
  obtain ⟨huniq, hnd, hcn⟩ := skelsOf_ok cfg s hs hwf ks
  have hsk : mkSkel cfg s k bt ∈ skelsOf cfg s b ks := (mem_skelsOf cfg s).mpr ⟨k, bt, hk, hl, rfl⟩
  have hskel : mkSkel cfg s k bt = mkSkel cfg Sched.default k bt := by
    unfold mkSkel
    simp only [Sched.default]
    rw [(sortKeys_eq_of_perm cfg.rankR (hs.iter_perm _ _).symm hrInj).symm,
      (sortKeys_eq_of_perm cfg.rankC (hs.iter_perm _ _).symm hcInj).symm]
  have hsum : ((mkSkel cfg s k bt).cols.filterMap fun c =>
        (AL.lookup ((mkSkel cfg s k bt).key, c) (sums2Of cfg s (skelsOf cfg s b ks))).map fun t => (c, t))
      = (mkSkel cfg s k bt).cols.zipIdx.map fun ci =>
          (ci.1, (colTask cfg (mkSkel cfg s k bt) (cells1Of cfg s (skelsOf cfg s b ks)) ci).2) := by
    apply Shared.filterMap_zipIdx
    intro ci hci
    rw [sums2_lookup cfg s hs _ huniq hcn _ hsk ci hci]
    rfl
  rw [hsum]
  simp only [colTask]
  rw [cellsOf_eq cfg s hs _ huniq hnd _ hsk, hskel]
  unfold toTable
  simp only [mkSkel, Sched.default]

end Fan

end C15
