/-
C12 helper lemmas: the exact (ℚ) instance of the descriptive-statistics loops.
-/
import Model.Stats.Descr
import Mathlib.Tactic.Ring
import Mathlib.Tactic.Linarith
import Mathlib.Tactic.LinearCombination
import Mathlib.Tactic.FieldSimp
import Mathlib.Algebra.Order.Field.Rat
import Mathlib.Algebra.Order.Field.Basic

namespace C12
open Stats Stats.Descr

@[simp] theorem add_rat (a b : ℚ) : Arith.add a b = a + b := rfl
@[simp] theorem sub_rat (a b : ℚ) : Arith.sub a b = a - b := rfl
@[simp] theorem mul_rat (a b : ℚ) : Arith.mul a b = a * b := rfl
@[simp] theorem div_rat (a b : ℚ) : Arith.div a b = a / b := rfl
@[simp] theorem neg_rat (a : ℚ) : Arith.neg a = -a := rfl
@[simp] theorem ofNat_rat (n : ℕ) : (Arith.ofNat n : ℚ) = (n : ℚ) := rfl
@[simp] theorem ofFrac_rat (n d : ℕ) : (Arith.ofFrac n d : ℚ) = (n : ℚ) / (d : ℚ) := rfl
@[simp] theorem lt_rat (a b : ℚ) : (Arith.lt a b = true) ↔ a < b := decide_eq_true_iff
@[simp] theorem le_rat (a b : ℚ) : (Arith.le a b = true) ↔ a ≤ b := decide_eq_true_iff
@[simp] theorem eq_rat (a b : ℚ) : (Arith.eq a b = true) ↔ a = b := decide_eq_true_iff
@[simp] theorem isInf_rat (a : ℚ) : Arith.isInf a = false := rfl

theorem abs_rat (a : ℚ) : Arith.abs a = |a| := by
  show ratAbs a = |a|
  unfold ratAbs
  split
  · rw [abs_of_neg ‹_›]
  · rw [abs_of_nonneg (not_lt.mp ‹_›)]

theorem interp_eq {α : Type} [Arith α] (xs : List α) (p n : α)
    (hn : n = Arith.add (Arith.ofFrac 1 3) (Arith.mul p (Arith.add (Arith.ofNat xs.length) (Arith.ofFrac 1 3)))) :
    interp xs p =
      if (Arith.modf n).1 ≤ 0 then xs.getD 0 (Arith.ofNat 0)
      else if (Arith.modf n).1 ≥ (xs.length : Int) then xs.getD (xs.length - 1) (Arith.ofNat 0)
      else Arith.add (xs.getD ((Arith.modf n).1.toNat - 1) (Arith.ofNat 0))
        (Arith.mul (Arith.modf n).2 (Arith.sub (xs.getD (Arith.modf n).1.toNat (Arith.ofNat 0))
          (xs.getD ((Arith.modf n).1.toNat - 1) (Arith.ofNat 0)))) := by
  subst hn; rfl

/-- the sum of a list of rationals, by plain recursion -/
def lsum : List ℚ → ℚ
  | [] => 0
  | x :: xs => x + lsum xs

/-- the update `m += (x - m)/(i+1)` turns a mean of `i` values into the mean of `i + 1` -/
theorem incr_mean (m x : ℚ) (i : ℕ) :
    (m + (x - m) / ((i + 1 : ℕ) : ℚ)) * ((i + 1 : ℕ) : ℚ) = m * i + x := by
  rw [add_mul, div_mul_cancel₀ _ (Nat.cast_ne_zero.mpr i.succ_ne_zero)]
  push_cast
  ring

/-- the loop invariant of `Mean`: `m·i` is the sum of the `i` values consumed so far -/
theorem meanLoop_spec (xs : List ℚ) : ∀ (m : ℚ) (i : ℕ),
    meanLoop m i xs * ((i + xs.length : ℕ) : ℚ) = m * i + lsum xs := by
  induction xs with
  | nil => intro m i; exact (add_zero _).symm
  | cons x xs ih =>
    intro m i
    have h := ih (m + (x - m) / ((i + 1 : ℕ) : ℚ)) (i + 1)
    rw [incr_mean, Nat.add_right_comm] at h
    exact h.trans (add_assoc _ _ _)

theorem length_ne_zero {xs : List ℚ} (h : xs ≠ []) : (xs.length : ℚ) ≠ 0 :=
  Nat.cast_ne_zero.mpr (mt List.length_eq_zero_iff.mp h)

theorem meanLoop_zero (xs : List ℚ) (hne : xs ≠ []) : meanLoop (0 : ℚ) 0 xs = lsum xs / xs.length := by
  have hs := meanLoop_spec xs 0 0
  rw [Nat.zero_add, zero_mul, zero_add] at hs
  exact eq_div_of_mul_eq (length_ne_zero hne) hs

def lsumsq (xs : List ℚ) : ℚ := lsum (xs.map fun x => x * x)

@[simp] theorem lsumsq_nil : lsumsq [] = 0 := rfl
@[simp] theorem lsumsq_cons (x : ℚ) (xs : List ℚ) : lsumsq (x :: xs) = x * x + lsumsq xs := rfl

/-- one Welford step keeps `mean·n = S1` and `M2 = S2 − mean·S1` (S1 = Σx, S2 = Σx² so far) -/
theorem welford_step (mean M2 S1 S2 x : ℚ) (n : ℕ) (h1 : mean * n = S1) (h2 : M2 = S2 - mean * S1) :
    let delta := x - mean
    let mean' := mean + delta / ((n + 1 : ℕ) : ℚ)
    let M2' := M2 + delta * (x - mean')
    mean' * ((n + 1 : ℕ) : ℚ) = S1 + x ∧ M2' = S2 + x * x - mean' * (S1 + x) := by
  intro delta mean' M2'
  have hm : mean' * ((n + 1 : ℕ) : ℚ) = S1 + x := by rw [← h1]; exact incr_mean mean x n
  refine ⟨hm, ?_⟩
  push_cast at hm
  linear_combination h2 + mean * hm - mean' * h1

theorem varLoop_spec (xs : List ℚ) : ∀ (mean M2 S1 S2 : ℚ) (n : ℕ),
    mean * n = S1 → M2 = S2 - mean * S1 →
    (varLoop mean M2 n xs).1 * ((n + xs.length : ℕ) : ℚ) = S1 + lsum xs ∧
    (varLoop mean M2 n xs).2 = S2 + lsumsq xs - (varLoop mean M2 n xs).1 * (S1 + lsum xs) := by
  induction xs with
  | nil =>
    intro mean M2 S1 S2 n h1 h2
    simp only [varLoop, lsum, lsumsq_nil, add_zero, List.length_nil]
    exact ⟨h1, h2⟩
  | cons x xs ih =>
    intro mean M2 S1 S2 n h1 h2
    obtain ⟨a, b⟩ := welford_step mean M2 S1 S2 x n h1 h2
    have h := ih _ _ (S1 + x) (S2 + x * x) (n + 1) a b
    rw [Nat.add_right_comm, add_assoc S1, add_assoc S2] at h
    exact h

theorem lsum_sq_dev (c : ℚ) (xs : List ℚ) :
    lsum (xs.map fun x => (x - c) * (x - c)) = lsumsq xs - 2 * c * lsum xs + xs.length * c ^ 2 := by
  induction xs with
  | nil => simp [lsum]
  | cons x xs ih => simp only [List.map_cons, lsum, ih, lsumsq_cons, List.length_cons]; push_cast; ring

/-- Welford's loop from the start state ends with M2 = Σ(x − x̄)²: the invariant gives Σx² − x̄·Σx -/
theorem varLoop_zero (xs : List ℚ) (hne : xs ≠ []) :
    (varLoop (0 : ℚ) 0 0 xs).2 =
      lsum (xs.map fun x => (x - lsum xs / xs.length) * (x - lsum xs / xs.length)) := by
  obtain ⟨h1, h2⟩ := varLoop_spec xs 0 0 0 0 0 (zero_mul _) (by ring)
  rw [Nat.zero_add, zero_add] at h1
  rw [zero_add, zero_add] at h2
  rw [← eq_div_iff (length_ne_zero hne)] at h1
  rw [h2, h1, lsum_sq_dev]
  have hc := div_mul_cancel₀ (lsum xs) (length_ne_zero hne)
  linear_combination (-(lsum xs / xs.length)) * hc

theorem lsum_eq_sum (xs : List ℚ) : lsum xs = xs.sum := by
  induction xs with
  | nil => rfl
  | cons x t ih => rw [lsum, ih, List.sum_cons]

theorem boundsLoop_spec (xs : List ℚ) : ∀ mn mx : ℚ,
    (boundsLoop mn mx xs).1 ≤ mn ∧ mx ≤ (boundsLoop mn mx xs).2 ∧
    ∀ x ∈ xs, (boundsLoop mn mx xs).1 ≤ x ∧ x ≤ (boundsLoop mn mx xs).2 := by
  induction xs with
  | nil => intro mn mx; exact ⟨le_rfl, le_rfl, fun _ h => absurd h List.not_mem_nil⟩
  | cons x t ih =>
    intro mn mx
    simp only [boundsLoop, lt_rat, ← min_def_lt, ← max_def_lt]
    obtain ⟨a, b, c⟩ := ih (min x mn) (max mx x)
    refine ⟨a.trans (min_le_right _ _), (le_max_left _ _).trans b, fun y hy => ?_⟩
    rcases List.mem_cons.mp hy with rfl | hm
    · exact ⟨a.trans (min_le_left _ _), (le_max_right _ _).trans b⟩
    · exact c y hm

theorem geoLoop_eq (log : ℚ → ℚ) (xs : List ℚ) : ∀ (m : ℚ) (i : ℕ),
    geoLoop log m i xs = if ∀ x ∈ xs, 0 < x then some (meanLoop m i (xs.map log)) else none := by
  induction xs with
  | nil => exact fun m i => (if_pos fun _ h => absurd h List.not_mem_nil).symm
  | cons x t ih =>
    intro m i
    rw [geoLoop, ih]
    split
    · rename_i hx
      exact (if_neg fun h => (h x List.mem_cons_self).not_ge ((le_rat _ _).mp hx)).symm
    · rename_i hx
      have hx : (0 : ℚ) < x := not_le.mp (mt (le_rat _ _).mpr hx)
      exact if_congr (by rw [List.forall_mem_cons, and_iff_right hx]) rfl rfl

end C12
