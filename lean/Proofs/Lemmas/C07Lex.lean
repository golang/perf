/-
One call of `next` as a token or a recorded error; the token stream of a text (a deterministic lexer with the
parser's mode machine) and its end (`t.end()`); parenthesis balance on token kinds.
-/
import Proofs.Lemmas.C07Tok

namespace C07
open Proc.Tok

/-- `q'` behaves like `q` for every tokenizer call (in practice: `q` minus leading white space) -/
def Same (cx : Ctx) (q q' : Bytes) : Prop := ∀ m e, next cx m q' e = next cx m q e

theorem Same.refl (cx : Ctx) (q : Bytes) : Same cx q q := fun _ _ => rfl
theorem Same.trans {cx : Ctx} {a b c : Bytes} (h1 : Same cx a b) (h2 : Same cx b c) : Same cx a c :=
  fun m e => (h2 m e).trans (h1 m e)
theorem Same.symm {cx : Ctx} {a b : Bytes} (h : Same cx a b) : Same cx b a := fun m e => (h m e).symm

/-- in mode `m` the next token at `q` is `(k, tok)`: it stands at `cur` (`q` minus white space) and is followed by
`q'`; no error is recorded, whatever the tracker holds -/
structure Tk (cx : Ctx) (m : Bool) (q : Bytes) (k : UInt8) (tok cur q' : Bytes) : Prop where
  eq : ∀ e, next cx m q e = mkTok cx cur k tok q' e
  le : cur.length ≤ q.length
  rl : q'.length ≤ cur.length
  lt : k ≠ 0 → q'.length < cur.length
  same : Same cx q cur

theorem Tk.here {cx : Ctx} {m : Bool} {q tok q' : Bytes} {k : UInt8} (h : ∀ e, next cx m q e = mkTok cx q k tok q' e)
    (hl : q'.length < q.length) : Tk cx m q k tok q q' :=
  ⟨h, Nat.le_refl _, Nat.le_of_lt hl, fun _ => hl, Same.refl cx _⟩

theorem Tk.nil (cx : Ctx) (m : Bool) : Tk cx m [] 0 [] [] [] :=
  ⟨fun e => next_nil cx m e, Nat.le_refl _, Nat.le_refl _, nofun, Same.refl cx _⟩

theorem Tk.op (cx : Ctx) (m : Bool) (c : UInt8) (r : Bytes) (h : isStartOpB c = true) : Tk cx m (c :: r) c [c] (c :: r) r :=
  Tk.here (fun e => next_op cx m c r e h) (Nat.lt_succ_self _)

theorem Tk.fwd {cx : Ctx} {m : Bool} {q tok cur q' : Bytes} {k : UInt8} (t : Tk cx m q k tok cur q') :
    q'.length ≤ q.length := Nat.le_trans t.rl t.le

theorem Tk.adv {cx : Ctx} {m : Bool} {q tok cur q' : Bytes} {k : UInt8} (t : Tk cx m q k tok cur q') (hk : k ≠ 0) :
    q'.length < q.length := Nat.lt_of_lt_of_le (t.lt hk) t.le

theorem Tk.atCur {cx : Ctx} {m : Bool} {q tok cur q' : Bytes} {k : UInt8} (t : Tk cx m q k tok cur q') :
    Tk cx m cur k tok cur q' :=
  ⟨fun e => (t.same m e).trans (t.eq e), Nat.le_refl _, t.rl, t.lt, Same.refl cx _⟩

/-- white space in front: the same token, further on -/
theorem Tk.skip {cx : Ctx} {m : Bool} {p q tok cur q' : Bytes} {k : UInt8} (t : Tk cx m q k tok cur q')
    (hs : Same cx p q) (hl : q.length ≤ p.length) : Tk cx m p k tok cur q' :=
  ⟨fun e => (hs m e).symm.trans (t.eq e), Nat.le_trans t.le hl, t.rl, t.lt, hs.trans t.same⟩

theorem Tk.space {cx : Ctx} {m : Bool} {q tok cur q' : Bytes} {k : UInt8} (t : Tk cx m q k tok cur q') :
    Tk cx m (0x20 :: q) k tok cur q' :=
  t.skip (fun m e => (next_space cx m q e).symm) (Nat.le_succ _)

theorem next_cases (cx : Ctx) (m : Bool) : ∀ (n : Nat) (q : Bytes), q.length ≤ n →
    (∃ k w cur rest, Tk cx m q k w cur rest) ∨
    (∃ q' msg, q'.length ≤ q.length ∧ ∀ e, next cx m q e = tokError cx q' msg e) := by
  intro n
  induction n with
  | zero =>
    intro q hq
    obtain rfl : q = [] := List.length_eq_zero_iff.mp (by omega)
    exact Or.inl ⟨_, _, _, _, Tk.nil cx m⟩
  | succ n ih =>
    intro q hq
    match q with
    | [] => exact Or.inl ⟨_, _, _, _, Tk.nil cx m⟩
    | c :: r =>
      by_cases hop : isStartOpB c = true
      · exact Or.inl ⟨_, _, _, _, Tk.op cx m c r hop⟩
      · by_cases hsp : isSpaceLen cx (c :: r) > 0
        · have hlen := drop_isSpaceLen_lt hsp
          have skip : ∀ m' e, next cx m' (c :: r) e = next cx m' ((c :: r).drop (isSpaceLen cx (c :: r))) e :=
            fun m' e => next_skip cx m' c r e (by simpa using hop) hsp
          rcases ih ((c :: r).drop (isSpaceLen cx (c :: r))) (by simp only [List.length_cons] at hq hlen; omega) with ⟨k, w, cur, rest, t⟩ | ⟨q', msg, hl, he⟩
          · exact Or.inl ⟨k, w, cur, rest, t.skip (fun m' e => (skip m' e).symm) (Nat.le_of_lt hlen)⟩
          · exact Or.inr ⟨q', msg, Nat.le_trans hl (Nat.le_of_lt hlen), fun e => (skip m e).trans (he e)⟩
        · have word := fun e => next_word cx m c r e (by simpa using hop) (by omega)
          rcases word_word cx m c r (by simpa using hop) (by omega) with ⟨k, w, rest, hl, he⟩ | ⟨q', msg, hl, he⟩
          · exact Or.inl ⟨k, w, _, rest, Tk.here (fun e => (word e).trans (he e)) hl⟩
          · exact Or.inr ⟨q', msg, hl, fun e => (word e).trans (he e)⟩

/-- what every call of `next` in mode `m` at state `q` with error tracker `e` guarantees about its result `r`:
the tokenizer does not grow, a real token (kind ≠ 0) consumes input, the tracker changes only as `ErrOK` allows, the
token's offset is that of `r.cur`, and an error-free result is a token read with an empty tracker -/
structure TokOK (cx : Ctx) (m : Bool) (q : Bytes) (e : ErrSt) (r : TokR) : Prop where
  cur_le : r.cur.length ≤ q.length
  rest_le : r.rest.length ≤ r.cur.length
  rest_lt : r.tok.kind ≠ 0 → r.rest.length < r.cur.length
  err : ErrOK cx q e r.err
  off : r.tok.off = offOf cx r.cur
  tk : r.err = none → e = none ∧ Tk cx m q r.tok.kind r.tok.tok r.cur r.rest

theorem next_ok (cx : Ctx) (m : Bool) (q : Bytes) (e : ErrSt) : TokOK cx m q e (next cx m q e) := by
  rcases next_cases cx m _ q (Nat.le_refl _) with ⟨k, w, cur, rest, t⟩ | ⟨q', msg, hl, he⟩
  · rw [t.eq e]; exact ⟨t.le, t.rl, t.lt, Or.inl rfl, rfl, fun h => ⟨h, t⟩⟩
  · rw [he e]
    exact ⟨hl, Nat.zero_le _, fun h => absurd rfl h, recErr_ok cx msg e hl, rfl,
      fun h => absurd h (Option.isSome_iff_ne_none.mp (recErr_isSome cx q' msg e))⟩

/-- lexer state: key mode, just after `:`, inside a parenthesised value list -/
inductive St | K | V | L
  deriving DecidableEq, Repr

/-- `allowRegexp` in each state -/
def St.mode : St → Bool
  | .K => false
  | .V => true
  | .L => true

/-- state transition of the filter syntax on a token kind -/
def stepF : St → UInt8 → St
  | .K, k => if k == cColon then .V else .K
  | .V, k => if k == cLP then .L else .K
  | .L, k => if k == cRP then .K else .L

/-- projections are tokenized in key mode throughout -/
def stepP : St → UInt8 → St := fun _ _ => .K

/-- `Lex cx δ st q ks st' q'`: starting at `q` in state `st`, the tokenizer (in the mode of the
current state, error tracker empty) yields error-free tokens of kinds `ks` and arrives in state
`st'` at a position that tokenizes like `q'`.  The relation is deterministic (`lex_det`). -/
inductive Lex (cx : Ctx) (δ : St → UInt8 → St) : St → Bytes → List UInt8 → St → Bytes → Prop
  | nil {st : St} {q q' : Bytes} : Same cx q q' → Lex cx δ st q [] st q'
  | cons {st st' : St} {q q' : Bytes} {ks : List UInt8} :
      (next cx st.mode q none).err = none → (next cx st.mode q none).tok.kind ≠ 0 →
      Lex cx δ (δ st (next cx st.mode q none).tok.kind) (next cx st.mode q none).rest ks st' q' →
      Lex cx δ st q ((next cx st.mode q none).tok.kind :: ks) st' q'

theorem Lex.same_left {cx : Ctx} {δ : St → UInt8 → St} {st st' : St} {q q0 q' : Bytes} {ks : List UInt8}
    (hs : Same cx q q0) (h : Lex cx δ st q0 ks st' q') : Lex cx δ st q ks st' q' := by
  cases h with
  | nil h0 => exact Lex.nil (hs.trans h0)
  | cons he hk ht =>
    rw [hs st.mode none] at he hk ht ⊢
    exact Lex.cons he hk ht

theorem Lex.same_right {cx : Ctx} {δ : St → UInt8 → St} {st st' : St} {q q1 q' : Bytes} {ks : List UInt8}
    (h : Lex cx δ st q ks st' q1) (hs : Same cx q1 q') : Lex cx δ st q ks st' q' := by
  induction h with
  | nil h0 => exact Lex.nil (h0.trans hs)
  | cons he hk _ ih => exact Lex.cons he hk (ih hs)

theorem Lex.append {cx : Ctx} {δ : St → UInt8 → St} {st st1 st2 : St} {q q1 q2 : Bytes} {ks1 ks2 : List UInt8}
    (h1 : Lex cx δ st q ks1 st1 q1) (h2 : Lex cx δ st1 q1 ks2 st2 q2) : Lex cx δ st q (ks1 ++ ks2) st2 q2 := by
  induction h1 with
  | nil h0 => exact Lex.same_left h0 h2
  | cons he hk _ ih => exact Lex.cons he hk (ih h2)

theorem Lex.single {cx : Ctx} {δ : St → UInt8 → St} (st : St) (q : Bytes)
    (he : (next cx st.mode q none).err = none) (hk : (next cx st.mode q none).tok.kind ≠ 0) :
    Lex cx δ st q [(next cx st.mode q none).tok.kind] (δ st (next cx st.mode q none).tok.kind)
      (next cx st.mode q none).rest :=
  Lex.cons he hk (Lex.nil (Same.refl cx _))

/-- end of the token stream: the next token (key mode) is EOF and no error is pending -/
def AtEnd (cx : Ctx) (q : Bytes) : Prop :=
  (next cx false q none).tok.kind = 0 ∧ (next cx false q none).err = none

theorem endCheck_some (cx : Ctx) (q : Bytes) (x : Err) : endCheck cx q (some x) = some x := by
  have h := (next_ok cx false q (some x)).err.some
  simp only [endCheck]
  split
  · rw [h]; rfl
  · exact h

theorem endCheck_ok (cx : Ctx) (q : Bytes) (e : ErrSt) : ErrOK cx q e (endCheck cx q e) := by
  have h := next_ok cx false q e
  simp only [endCheck]
  split
  · exact h.err.trans (recErr_ok cx _ _ h.cur_le)
  · exact h.err

theorem endCheck_none {cx : Ctx} {q : Bytes} {e : ErrSt} (h : endCheck cx q e = none) : e = none ∧ AtEnd cx q := by
  unfold endCheck at h
  dsimp only at h
  split at h
  · have := recErr_isSome cx (next cx false q e).cur .unexpected (next cx false q e).err
    rw [h] at this; simp at this
  · rename_i hk
    have he := ((next_ok cx false q e).tk h).1
    subst he
    exact ⟨rfl, by simpa using hk, h⟩

theorem atEnd_nil (cx : Ctx) : AtEnd cx [] := ⟨by rw [next_nil]; rfl, by rw [next_nil]; rfl⟩

theorem lex_det {cx : Ctx} {δ : St → UInt8 → St} {st st1 : St} {q p qend : Bytes} {ks1 ks2 : List UInt8}
    (h1 : Lex cx δ st q ks1 st1 p) (herr : (next cx st1.mode p none).err ≠ none)
    (h2 : Lex cx δ st q ks2 .K qend) (hend : AtEnd cx qend) : False := by
  induction h1 generalizing ks2 with
  | nil h0 =>
    cases h2 with
    | nil h0' =>
      apply herr
      have := hend.2
      rw [h0' false none] at this
      rw [h0 St.K.mode none]
      exact this
    | cons he hk ht =>
      apply herr
      rw [h0 _ none]; exact he
  | cons he hk _ ih =>
    cases h2 with
    | nil h0' =>
      have := hend.1
      rw [h0' false none] at this
      exact hk this
    | cons he' hk' ht' => exact ih herr ht'

/-- depth after reading the kinds from depth `d`; `none` if a `)` has no partner -/
def walk : List UInt8 → Nat → Option Nat
  | [], d => some d
  | k :: ks, d =>
    if k == cLP then walk ks (d + 1)
    else if k == cRP then (match d with | 0 => none | d + 1 => walk ks d)
    else walk ks d

/-- balanced: never closes more than it opened, ends at depth 0 -/
def Balanced (ks : List UInt8) : Prop := walk ks 0 = some 0

/-- a self-contained balanced segment -/
def Seg (ks : List UInt8) : Prop := ∀ d, walk ks d = some d
/-- a segment that closes exactly one parenthesis opened before it -/
def Closes (ks : List UInt8) : Prop := ∀ d, walk ks (d + 1) = some d

theorem walk_append (a b : List UInt8) : ∀ d, walk (a ++ b) d = (walk a d).bind (walk b) := by
  induction a with
  | nil => intro d; rfl
  | cons k a ih =>
    intro d
    simp only [List.cons_append, walk]
    split
    · exact ih _
    · split
      · cases d with
        | zero => rfl
        | succ d => exact ih _
      · exact ih _

theorem Seg.nil : Seg [] := fun _ => rfl
theorem Seg.append {a b : List UInt8} (ha : Seg a) (hb : Seg b) : Seg (a ++ b) := by
  intro d; rw [walk_append, ha d]; exact hb d
theorem Seg.single {k : UInt8} (h1 : k ≠ cLP) (h2 : k ≠ cRP) : Seg [k] := by
  intro d; simp [walk, h1, h2]
theorem Seg.cons {k : UInt8} {a : List UInt8} (h1 : k ≠ cLP) (h2 : k ≠ cRP) (ha : Seg a) : Seg (k :: a) :=
  Seg.append (Seg.single h1 h2) ha
theorem Closes.rp : Closes [cRP] := by
  intro d
  have : (cRP == cLP) = false := by decide
  simp [walk, this]
theorem Closes.cons {k : UInt8} {a : List UInt8} (h1 : k ≠ cLP) (h2 : k ≠ cRP) (ha : Closes a) : Closes (k :: a) := by
  intro d; simp only [walk]; simp [h1, h2]; exact ha d
theorem Closes.prepend {a b : List UInt8} (ha : Seg a) (hb : Closes b) : Closes (a ++ b) := by
  intro d; rw [walk_append, ha (d + 1)]; exact hb d
theorem Seg.open_ {a : List UInt8} (ha : Closes a) : Seg (cLP :: a) := by
  intro d; simp only [walk]; simp; exact ha d
theorem Seg.paren {a : List UInt8} (ha : Seg a) : Seg (cLP :: (a ++ [cRP])) :=
  Seg.open_ (Closes.prepend ha Closes.rp)
theorem Seg.balanced {a : List UInt8} (ha : Seg a) : Balanced a := ha 0

end C07
