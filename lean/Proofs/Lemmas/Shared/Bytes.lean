/-
The byte strings of the model (`Model/Base/Bytes.lean`) in the terms of lists. Core Lean only.

`bytes.HasPrefix`, `bytes.Contains` and `bytes.IndexByte(..) >= 0` are the list relations prefix, infix and membership
(`Bytes.hasPrefix_iff`, `contains_iff`, `hasByte_iff`, with `hasByte_false_iff`, `hasByte_append`, `hasPrefix_append`).

`ByteArray.toList` (and with it `Bytes.ofString`) read off the array's data. The library's definition is an
indexed loop by well-founded recursion, which the kernel evaluates in quadratic time; test vectors with long
string literals rewrite with `ByteArray.toList_eq_data`, `Bytes.ofString_eq` before `decide +kernel`.
-/
import Model.Base.Bytes

namespace Bytes

theorem hasPrefix_iff : ∀ (b k : Bytes), hasPrefix b k = true ↔ k <+: b
  | _, [] => by simp [hasPrefix]
  | [], _ :: _ => by simp [hasPrefix]
  | a :: b, c :: k => by
    simp only [hasPrefix, Bool.and_eq_true, beq_iff_eq, hasPrefix_iff b k, List.cons_prefix_cons]
    exact and_congr_left' eq_comm

theorem contains_iff : ∀ (b k : Bytes), contains b k = true ↔ k <:+: b
  | [], k => by simp [contains]
  | a :: b, k => by simp [contains, hasPrefix_iff, contains_iff b k, List.infix_cons_iff]

theorem hasByte_iff (b : Bytes) (c : UInt8) : hasByte b c = true ↔ c ∈ b := by
  simp [hasByte]

theorem hasByte_false_iff {l : Bytes} {b : UInt8} : hasByte l b = false ↔ ∀ c ∈ l, c ≠ b := by
  simp [hasByte]

theorem hasByte_append (a b : Bytes) (c : UInt8) : hasByte (a ++ b) c = (hasByte a c || hasByte b c) := by
  simp [hasByte, List.any_append]

theorem hasPrefix_append (p rest : Bytes) : hasPrefix (p ++ rest) p = true := by
  induction p with
  | nil => cases rest <;> rfl
  | cons c cs ih => simp [hasPrefix, ih]

end Bytes


theorem ByteArray.toList_loop_eq (bs : ByteArray) (n i : Nat) (r : List UInt8) (hn : i + n = bs.size) :
    ByteArray.toList.loop bs i r = r.reverse ++ bs.data.toList.drop i := by
  have hlen : bs.data.toList.length = bs.size := Array.length_toList
  induction n generalizing i r with
  | zero =>
    have hi : i = bs.size := hn
    rw [ByteArray.toList.loop, if_neg (hi ▸ Nat.lt_irrefl _), List.drop_eq_nil_of_le (hlen ▸ hi ▸ Nat.le_refl _),
      List.append_nil]
  | succ n ih =>
    have hi : i < bs.size := hn ▸ Nat.lt_add_of_pos_right (Nat.succ_pos n)
    have hi' : i < bs.data.toList.length := hlen ▸ hi
    rw [ByteArray.toList.loop, if_pos hi, ih _ _ ((Nat.succ_add_eq_add_succ i n).trans hn), List.reverse_cons,
      List.append_assoc, List.drop_eq_getElem_cons hi', ByteArray.get!, getElem!_pos bs.data i hi]
    rfl

theorem ByteArray.toList_eq_data (bs : ByteArray) : bs.toList = bs.data.toList := by
  rw [ByteArray.toList, ByteArray.toList_loop_eq _ _ 0 [] (Nat.zero_add _)]
  rfl

theorem Bytes.ofString_eq (s : String) : Bytes.ofString s = s.toUTF8.data.toList :=
  ByteArray.toList_eq_data _
