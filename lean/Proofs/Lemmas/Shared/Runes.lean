/-
The runes of a byte string (`Spec.Tidy.runes` with the fuel it needs, `R`): they concatenate to the string
(`R_flat`), do not reach across a byte that cannot continue an encoding (`R_append_ok`), and a decomposition cut between
two runes decodes piecewise (`R_split`). The unit grammar (C04) and the line grammar (C02, C01: `Spec.Format.runes_eq`)
both read their strings as these runes.
-/
import Model.Spec.Tidy
import Proofs.Lemmas.Shared.Utf8

namespace Shared
open Spec.Tidy (runes)

theorem length_induction {P : Bytes → Prop}
    (step : ∀ bs : Bytes, (∀ bs' : Bytes, bs'.length < bs.length → P bs') → P bs) (bs : Bytes) : P bs := by
  induction h : bs.length using Nat.strongRecOn generalizing bs with
  | _ n ih => exact step bs fun bs' hlt => ih bs'.length (h ▸ hlt) bs' rfl

/-- `Spec.Tidy.runes` with exactly the fuel it needs (`runes_eq_R`: more fuel changes nothing) -/
def R (bs : Bytes) : List (Nat × Bytes) := runes bs.length bs

theorem R_nil : R [] = [] := rfl

theorem runes_eq_R (bs : Bytes) : ∀ n, bs.length ≤ n → runes n bs = R bs := by
  induction bs using length_induction with
  | _ bs ih =>
    intro n hn
    cases bs with
    | nil => cases n <;> rfl
    | cons b bs =>
      cases n with
      | zero => simp at hn
      | succ n =>
        have hlt := drop_rune_lt b bs
        simp only [List.length_cons] at hn hlt
        simp only [R, List.length_cons, runes]
        rw [ih _ hlt n (by omega), ih _ hlt bs.length (by omega)]

theorem R_cons (b : UInt8) (bs : Bytes) :
    R (b :: bs) = ((Utf8.decodeRune (b :: bs)).1, (b :: bs).take (Utf8.decodeRune (b :: bs)).2)
      :: R ((b :: bs).drop (Utf8.decodeRune (b :: bs)).2) := by
  have hlt := drop_rune_lt b bs
  simp only [List.length_cons] at hlt
  simp only [R, List.length_cons, runes]
  rw [runes_eq_R _ bs.length (by omega)]; rfl

theorem R_flat (bs : Bytes) : (R bs).flatMap (·.2) = bs := by
  induction bs using length_induction with
  | _ bs ih =>
    cases bs with
    | nil => simp [R_nil]
    | cons b bs => rw [R_cons, List.flatMap_cons, ih _ (drop_rune_lt b bs), List.take_append_drop]

theorem R_append (q X : Bytes) (r : Nat) (hq : q ≠ [])
    (h : Utf8.decodeRune (q ++ X) = (r, q.length)) : R (q ++ X) = (r, q) :: R X := by
  obtain ⟨b, p, rfl⟩ := List.exists_cons_of_ne_nil hq
  rw [List.cons_append] at h ⊢
  rw [R_cons, h, ← List.cons_append]
  simp only
  rw [List.take_left' rfl, List.drop_left' rfl]

/-- Runes do not reach across a byte that cannot continue an encoding: the decomposition of
`t ++ T` is that of `t` followed by that of `T`. -/
theorem R_append_ok (t T : Bytes) (hT : okTail T) : R (t ++ T) = R t ++ R T := by
  induction t using length_induction with
  | _ t ih =>
    cases t with
    | nil => rfl
    | cons b p =>
      have hw := (decodeRune_width b p).2
      rw [List.cons_append, R_cons, R_cons, decodeRune_local b p T hT, ← List.cons_append,
        List.take_append_of_le_length hw, List.drop_append_of_le_length hw, ih _ (drop_rune_lt b p)]
      rfl

theorem R_pos (bs : Bytes) : ∀ x ∈ R bs, x.2 ≠ [] := by
  induction bs using length_induction with
  | _ bs ih =>
    cases bs with
    | nil => intro x hx; cases hx
    | cons b bs =>
      intro x hx
      rw [R_cons] at hx
      rcases List.mem_cons.1 hx with rfl | hx
      · have := (decodeRune_width b bs).1
        generalize (Utf8.decodeRune (b :: bs)).2 = w at this
        obtain ⟨m, rfl⟩ : ∃ m, w = m + 1 := ⟨w - 1, by omega⟩
        simp
      · exact ih _ (drop_rune_lt b bs) x hx

/-- A decomposition cut between two runes decodes piecewise: a rune reads no byte beyond its own. -/
theorem R_split (bs : Bytes) : ∀ A B : List (Nat × Bytes), R bs = A ++ B →
    R (A.flatMap (·.2)) = A ∧ R (B.flatMap (·.2)) = B := by
  induction bs using length_induction with
  | _ bs ih =>
    intro A B h
    cases A with
    | nil => exact ⟨rfl, by rw [← List.nil_append B, ← h, R_flat]⟩
    | cons a A' =>
      cases bs with
      | nil => cases h
      | cons b bs =>
        rw [R_cons] at h
        have ha := (List.cons.inj h).1
        have hA' : R ((b :: bs).drop (Utf8.decodeRune (b :: bs)).2) = A' ++ B := (List.cons.inj h).2
        obtain ⟨h1, h2⟩ := ih _ (drop_rune_lt b bs) A' B hA'
        refine ⟨?_, h2⟩
        have hw := decodeRune_width b bs
        have hcat : (b :: bs).take (Utf8.decodeRune (b :: bs)).2 ++ (A'.flatMap (·.2) ++ B.flatMap (·.2)) = b :: bs := by
          rw [← List.flatMap_append, ← hA', R_flat, List.take_append_drop]
        generalize hd : Utf8.decodeRune (b :: bs) = d at ha hw hcat
        obtain ⟨r, w⟩ := d
        obtain ⟨m, rfl⟩ : ∃ m, w = m + 1 := ⟨w - 1, by omega⟩
        rw [List.take_succ_cons] at ha hcat
        -- the first rune is read from its own bytes, whatever follows them
        have hdec : Utf8.decodeRune (b :: (bs.take m ++ A'.flatMap (·.2))) = (r, (b :: bs.take m).length) := by
          have hlen : (bs.take m).length = m := by
            rw [List.length_take]; simp only [List.length_cons] at hw; omega
          have hfull : b :: (bs.take m ++ A'.flatMap (·.2) ++ B.flatMap (·.2)) = b :: bs := by
            rw [List.append_assoc]; exact hcat
          rw [← decodeRune_of_width_le b _ (B.flatMap (·.2)), hfull, hd, List.length_cons, hlen]
          rw [hfull, hd, List.length_append, hlen]
          omega
        rw [← ha, List.flatMap_cons, R_append _ _ r (List.cons_ne_nil _ _) hdec, h1]

end Shared
