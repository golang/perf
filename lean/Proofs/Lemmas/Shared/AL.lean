/-
The association lists of the table builder (`Tab.AL` in Model/Tab/Pipeline.lean: `lookup`, `upsert`, `keys`, `insertSet`),
which C18's series maps are too. The namespace is `C14L`, after C14, their first user.
-/
import Model.Tab.Pipeline
import Proofs.Lemmas.Shared.FirstOcc

namespace C14L
open Tab

variable {α β : Type} [DecidableEq α]

theorem lookup_upsert (k k' : α) (f : Option β → β) (l : List (α × β)) :
    AL.lookup k' (AL.upsert k f l) = if k' = k then some (f (AL.lookup k l)) else AL.lookup k' l := by
  induction l with
  | nil => by_cases h : k = k' <;> simp [AL.upsert, AL.lookup, h, eq_comm]
  | cons kv rest ih =>
    obtain ⟨k0, v⟩ := kv
    by_cases h0 : k0 = k
    · subst h0
      by_cases h : k0 = k'
      · subst h; simp [AL.upsert, AL.lookup]
      · simp [AL.upsert, AL.lookup, h, Ne.symm h]
    · by_cases h : k0 = k'
      · subst h; simp [AL.upsert, AL.lookup, h0]
      · simp [AL.upsert, AL.lookup, h0, h, ih]

theorem lookup_upsert_self (k : α) (f : Option β → β) (l : List (α × β)) :
    AL.lookup k (AL.upsert k f l) = some (f (AL.lookup k l)) :=
  (lookup_upsert k k f l).trans (if_pos rfl)

theorem lookup_upsert_ne {k k' : α} (h : k' ≠ k) (f : Option β → β) (l : List (α × β)) :
    AL.lookup k' (AL.upsert k f l) = AL.lookup k' l :=
  (lookup_upsert k k' f l).trans (if_neg h)

theorem lookup_isSome_iff_mem_keys (k : α) (l : List (α × β)) :
    (AL.lookup k l).isSome = true ↔ k ∈ AL.keys l := by
  induction l with
  | nil => simp [AL.lookup, AL.keys]
  | cons kv rest ih =>
    obtain ⟨k', v⟩ := kv
    by_cases h : k' = k
    · simp [AL.lookup, AL.keys, h]
    · have : ¬ k = k' := fun e => h e.symm
      simp only [AL.lookup, h, if_false, AL.keys, List.map_cons, List.mem_cons, this, false_or]
      simpa [AL.keys] using ih

theorem lookup_none_iff (k : α) (l : List (α × β)) :
    AL.lookup k l = none ↔ k ∉ AL.keys l := by
  rw [← lookup_isSome_iff_mem_keys]
  cases AL.lookup k l <;> simp

theorem keys_upsert (k : α) (f : Option β → β) (l : List (α × β)) :
    AL.keys (AL.upsert k f l) = if k ∈ AL.keys l then AL.keys l else AL.keys l ++ [k] := by
  induction l with
  | nil => simp [AL.upsert, AL.keys]
  | cons kv rest ih =>
    obtain ⟨k', v⟩ := kv
    by_cases h : k' = k
    · simp [AL.upsert, AL.keys, h]
    · have h' : ¬ k = k' := fun e => h e.symm
      simp only [AL.upsert, h, if_false, AL.keys, List.map_cons, List.mem_cons, h', false_or]
      simp only [AL.keys] at ih
      rw [ih]
      by_cases hm : k ∈ List.map (fun x => x.fst) rest <;> simp [hm]

theorem _root_.Tab.AL.insertSet_eq (k : α) (l : List α) : AL.insertSet k l = FirstOcc.add l k := rfl

theorem nodup_keys_upsert (k : α) (f : Option β → β) (l : List (α × β)) (h : (AL.keys l).Nodup) :
    (AL.keys (AL.upsert k f l)).Nodup :=
  keys_upsert k f l ▸ FirstOcc.nodup_add k h

theorem mem_insertSet (k x : α) (l : List α) : x ∈ AL.insertSet k l ↔ x = k ∨ x ∈ l :=
  FirstOcc.mem_add.trans Or.comm

theorem nodup_insertSet (k : α) (l : List α) (h : l.Nodup) : (AL.insertSet k l).Nodup :=
  FirstOcc.nodup_add k h

theorem lookup_mem {k : α} {v : β} {l : List (α × β)} (h : AL.lookup k l = some v) : (k, v) ∈ l := by
  induction l with
  | nil => simp [AL.lookup] at h
  | cons kv rest ih =>
    obtain ⟨k', v'⟩ := kv
    by_cases hk : k' = k
    · simp [AL.lookup, hk] at h; subst h; subst hk; simp
    · simp [AL.lookup, hk] at h; exact List.mem_cons_of_mem _ (ih h)

theorem mem_lookup {k : α} {v : β} {l : List (α × β)} (hn : (AL.keys l).Nodup) (h : (k, v) ∈ l) :
    AL.lookup k l = some v := by
  induction l with
  | nil => simp at h
  | cons kv rest ih =>
    obtain ⟨k', v'⟩ := kv
    simp only [AL.keys, List.map_cons, List.nodup_cons] at hn
    rcases List.mem_cons.mp h with e | hm
    · cases e; simp [AL.lookup]
    · have : k' ≠ k := by
        intro e; subst e
        exact hn.1 (List.mem_map.mpr ⟨(k', v), hm, rfl⟩)
      simp [AL.lookup, this]
      exact ih hn.2 hm

theorem mem_upsert {k : α} {f : Option β → β} {l : List (α × β)} {k' : α} {v' : β}
    (h : (k', v') ∈ AL.upsert k f l) : (k', v') ∈ l ∨ (k' = k ∧ v' = f (AL.lookup k l)) := by
  induction l with
  | nil => simp [AL.upsert, AL.lookup] at h ⊢; exact h
  | cons kv rest ih =>
    obtain ⟨k0, v0⟩ := kv
    by_cases hk : k0 = k
    · subst hk
      simp only [AL.upsert, if_true, List.mem_cons] at h
      rcases h with e | hm
      · cases e; right; simp [AL.lookup]
      · left; exact List.mem_cons_of_mem _ hm
    · simp only [AL.upsert, hk, if_false, List.mem_cons] at h
      rcases h with e | hm
      · left; rw [e]; exact List.mem_cons_self ..
      · rcases ih hm with h1 | ⟨h1, h2⟩
        · left; exact List.mem_cons_of_mem _ h1
        · right; refine ⟨h1, ?_⟩; simp [AL.lookup, hk, h2]

theorem sum_upsert (w : β → Nat) (k : α) (f : Option β → β) (l : List (α × β))
    (hf : ∀ o, w (f o) = (o.map w).getD 0 + 1) :
    ((AL.upsert k f l).map (fun kv => w kv.2)).sum = (l.map (fun kv => w kv.2)).sum + 1 := by
  induction l with
  | nil => simp [AL.upsert, hf]
  | cons kv rest ih =>
    obtain ⟨k0, v0⟩ := kv
    by_cases hk : k0 = k
    · simp [AL.upsert, hk, hf]; omega
    · simp [AL.upsert, hk, ih]; omega

end C14L

namespace C14L
open Tab

section MapAL
variable {α β γ : Type} [DecidableEq α]

theorem lookup_map_values (g : α → β → γ) (k : α) (l : List (α × β)) :
    AL.lookup k (l.map fun kc => (kc.1, g kc.1 kc.2)) = (AL.lookup k l).map (g k) := by
  induction l with
  | nil => simp [AL.lookup]
  | cons kv rest ih =>
    obtain ⟨k', v⟩ := kv
    by_cases h : k' = k
    · subst h; simp [AL.lookup]
    · simp [AL.lookup, h, ih]

theorem keys_map_values (g : α → β → γ) (l : List (α × β)) :
    AL.keys (l.map fun kc => (kc.1, g kc.1 kc.2)) = AL.keys l := by
  simp [AL.keys, List.map_map, Function.comp_def]

end MapAL

end C14L
