/-
The list of first appearances: "append unless already listed". Several Go loops keep one (the
footnotes of benchtab's ToText, the configs/groups/units of the legacy Collection, the row and
column key sets of the table builder); each model writes it out with its own membership test, and a
lemma next to the client says that it is `FirstOcc.add`. At the end positions (`idxOf`): in a list against its
pairwise relation, and in the list of first appearances against the list itself. Core Lean only.
-/

namespace FirstOcc
variable {α : Type} [BEq α] [LawfulBEq α]

def add (l : List α) (x : α) : List α := if x ∈ l then l else l ++ [x]

theorem add_of_mem {l : List α} {x : α} (h : x ∈ l) : add l x = l := if_pos h

theorem mem_add {l : List α} {x y : α} : y ∈ add l x ↔ y ∈ l ∨ y = x := by
  unfold add
  by_cases h : x ∈ l
  · rw [if_pos h]; exact ⟨Or.inl, fun o => o.elim id (· ▸ h)⟩
  · rw [if_neg h, List.mem_append, List.mem_singleton]

theorem add_prefix (l : List α) (x : α) : l <+: add l x := by
  unfold add
  split
  · exact List.prefix_refl l
  · exact List.prefix_append l [x]

theorem nodup_add {l : List α} (x : α) (h : l.Nodup) : (add l x).Nodup := by
  unfold add
  split
  · exact h
  · rename_i hx
    exact List.nodup_append.mpr ⟨h, List.pairwise_singleton _ x, fun a ha b hb e =>
      hx (List.mem_singleton.mp hb ▸ e ▸ ha)⟩

/-- a fold of `add` keeps every reflexive transitive relation that one `add` keeps -/
theorem foldl_add_ind {R : List α → List α → Prop} (hr : ∀ l, R l l) (ht : ∀ a b c, R a b → R b c → R a c)
    (hadd : ∀ l x, R l (add l x)) (xs : List α) : ∀ l, R l (xs.foldl add l) := by
  induction xs with
  | nil => exact hr
  | cons x xs ih => exact fun l => ht _ _ _ (hadd l x) (ih _)

theorem foldl_add_prefix (xs l : List α) : l <+: xs.foldl add l :=
  foldl_add_ind List.prefix_refl (fun _ _ _ => List.IsPrefix.trans) add_prefix xs l

theorem nodup_foldl_add (xs : List α) {l : List α} : l.Nodup → (xs.foldl add l).Nodup :=
  foldl_add_ind (R := fun a b => a.Nodup → b.Nodup) (fun _ => id) (fun _ _ _ f g => g ∘ f) (fun _ x => nodup_add x) xs l

theorem mem_foldl_add (xs : List α) : ∀ {l : List α} {y : α}, y ∈ xs.foldl add l ↔ y ∈ l ∨ y ∈ xs := by
  induction xs with
  | nil => simp
  | cons x xs ih => intro l y; rw [List.foldl_cons, ih, mem_add, List.mem_cons, or_assoc]

/-! ### positions: `idxOf` on a list and on its list of first appearances -/

/-- elements of a list stand in the list's pairwise relation when their first positions are in order -/
theorem rel_of_idxOf_lt {R : α → α → Prop} {L : List α} (hL : L.Pairwise R) {a b : α} (ha : a ∈ L) (hb : b ∈ L)
    (h : L.idxOf a < L.idxOf b) : R a b := by
  have := List.pairwise_iff_getElem.mp hL _ _ (List.idxOf_lt_length_of_mem ha) (List.idxOf_lt_length_of_mem hb) h
  rwa [List.getElem_idxOf, List.getElem_idxOf] at this

theorem eq_of_idxOf_eq {L : List α} {a b : α} (ha : a ∈ L) (hb : b ∈ L) (h : L.idxOf a = L.idxOf b) : a = b := by
  rw [← List.getElem_idxOf (List.idxOf_lt_length_of_mem ha), ← List.getElem_idxOf (List.idxOf_lt_length_of_mem hb)]
  simp only [h]

theorem snoc_induction {α : Type} {P : List α → Prop} (hnil : P []) (hsnoc : ∀ l a, P l → P (l ++ [a])) : ∀ l, P l := by
  intro l
  have : ∀ r : List α, P r.reverse := by
    intro r
    induction r with
    | nil => exact hnil
    | cons a r ih => rw [List.reverse_cons]; exact hsnoc _ _ ih
  have h := this l.reverse
  rwa [List.reverse_reverse] at h

theorem idxOf_snoc_lt (l : List α) (x v w : α) (hv : v ∈ l ++ [x]) (hw : w ∈ l ++ [x]) :
    (l ++ [x]).idxOf v < (l ++ [x]).idxOf w ↔ v ∈ l ∧ (w ∈ l → l.idxOf v < l.idxOf w) := by
  rw [List.idxOf_append, List.idxOf_append]
  by_cases h1 : v ∈ l
  · rw [if_pos h1]
    by_cases h2 : w ∈ l
    · rw [if_pos h2]
      exact ⟨fun h => ⟨h1, fun _ => h⟩, fun h => h.2 h2⟩
    · rw [if_neg h2]
      exact ⟨fun _ => ⟨h1, fun h => absurd h h2⟩,
        fun _ => Nat.lt_add_left _ (List.idxOf_lt_length_of_mem h1)⟩
  · rw [if_neg h1]
    refine ⟨fun h => ?_, fun h => absurd h.1 h1⟩
    have hlen : l.length ≤ ([x].idxOf v + l.length) := Nat.le_add_left _ _
    by_cases h2 : w ∈ l
    · rw [if_pos h2] at h
      exact absurd (Nat.lt_trans (Nat.lt_of_le_of_lt hlen h) (List.idxOf_lt_length_of_mem h2))
        (Nat.lt_irrefl _)
    · rw [if_neg h2, List.mem_singleton.1 ((List.mem_append.1 hv).resolve_left h1),
        List.mem_singleton.1 ((List.mem_append.1 hw).resolve_left h2)] at h
      exact absurd h (Nat.lt_irrefl _)

theorem foldl_add_snoc (s l : List α) (x : α) :
    (s ++ [x]).foldl add l = if x ∈ s.foldl add l then s.foldl add l else s.foldl add l ++ [x] := by
  rw [List.foldl_append]; rfl

/-- the order of first appearance among the distinct values is the order of first appearance in the list -/
theorem idxOf_foldl_add_lt (s : List α) : ∀ (v w : α), v ∈ s → w ∈ s →
    ((s.foldl add []).idxOf v < (s.foldl add []).idxOf w ↔ s.idxOf v < s.idxOf w) := by
  have mem : ∀ (s : List α) (y : α), y ∈ s.foldl add [] ↔ y ∈ s := fun s y => by
    rw [mem_foldl_add]; exact or_iff_right (List.not_mem_nil)
  refine snoc_induction (P := fun s => ∀ (v w : α), v ∈ s → w ∈ s →
    ((s.foldl add []).idxOf v < (s.foldl add []).idxOf w ↔ s.idxOf v < s.idxOf w)) ?_ ?_ s
  · intro v w hv; cases hv
  · intro s x ih v w hv hw
    have key : (v ∈ s ∧ (w ∈ s → (s.foldl add []).idxOf v < (s.foldl add []).idxOf w)) ↔
        (s ++ [x]).idxOf v < (s ++ [x]).idxOf w := by
      rw [idxOf_snoc_lt s x v w hv hw]
      exact and_congr_right fun h1 => imp_congr_right fun h2 => ih v w h1 h2
    rw [foldl_add_snoc, ← key]
    split
    · rename_i hx
      have hxs := (mem s x).1 hx
      have mem' : ∀ a, a ∈ s ++ [x] → a ∈ s := fun a ha =>
        (List.mem_append.1 ha).elim id fun e => (List.mem_singleton.1 e) ▸ hxs
      exact ⟨fun h => ⟨mem' v hv, fun _ => h⟩, fun h => h.2 (mem' w hw)⟩
    · have hv' : v ∈ s.foldl add [] ++ [x] := by
        rw [List.mem_append, mem, ← List.mem_append]; exact hv
      have hw' : w ∈ s.foldl add [] ++ [x] := by
        rw [List.mem_append, mem, ← List.mem_append]; exact hw
      rw [idxOf_snoc_lt _ x v w hv' hw', mem, mem]

end FirstOcc
