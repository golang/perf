/-
`utf8.DecodeRune` (model `Utf8.decodeRune`), once: the valid encodings (`Shared.Enc`), what the decoder returns on
them and off them (`decodeRune_enc`, `decodeRune_invalid`), and what follows for every client: the width, a rune
≥ 0x80 from a non-ASCII lead byte, continuation bytes consumed, locality (bytes beyond the first
non-continuation byte, or beyond the bytes consumed, do not matter). Utf8Copies.lean carries it over to the other two
model copies of the decoder. Core Lean only.
-/
import Model.Base.Utf8

namespace Shared

theorem or_shl (a : Nat) {b i : Nat} (h : b < 2 ^ i) : a * 2 ^ i ||| b = a * 2 ^ i + b := by
  rw [← Nat.shiftLeft_eq, Nat.shiftLeft_add_eq_or_of_lt h]

theorem pack2 (a b : Nat) : (a &&& 0x1F) <<< 6 ||| (b &&& 0x3F) = a % 32 * 64 + b % 64 := by
  rw [Nat.and_two_pow_sub_one_eq_mod a 5, Nat.and_two_pow_sub_one_eq_mod b 6, Nat.shiftLeft_eq]
  exact or_shl _ (i := 6) (Nat.mod_lt _ (by decide))

theorem pack3 (a b c : Nat) :
    (a &&& 0x0F) <<< 12 ||| (b &&& 0x3F) <<< 6 ||| (c &&& 0x3F) = a % 16 * 4096 + b % 64 * 64 + c % 64 := by
  rw [Nat.and_two_pow_sub_one_eq_mod a 4, Nat.and_two_pow_sub_one_eq_mod b 6, Nat.and_two_pow_sub_one_eq_mod c 6,
    Nat.shiftLeft_eq, Nat.shiftLeft_eq, or_shl _ (i := 12) (by omega),
    show a % 2 ^ 4 * 2 ^ 12 + b % 2 ^ 6 * 2 ^ 6 = (a % 16 * 64 + b % 64) * 2 ^ 6 by omega,
    or_shl _ (i := 6) (Nat.mod_lt _ (by decide))]

theorem pack4 (a b c d : Nat) :
    (a &&& 0x07) <<< 18 ||| (b &&& 0x3F) <<< 12 ||| (c &&& 0x3F) <<< 6 ||| (d &&& 0x3F) =
      a % 8 * 262144 + b % 64 * 4096 + c % 64 * 64 + d % 64 := by
  rw [Nat.and_two_pow_sub_one_eq_mod a 3, Nat.and_two_pow_sub_one_eq_mod b 6, Nat.and_two_pow_sub_one_eq_mod c 6,
    Nat.and_two_pow_sub_one_eq_mod d 6,
    Nat.shiftLeft_eq, Nat.shiftLeft_eq, Nat.shiftLeft_eq, or_shl _ (i := 18) (by omega),
    show a % 2 ^ 3 * 2 ^ 18 + b % 2 ^ 6 * 2 ^ 12 = (a % 8 * 64 + b % 64) * 2 ^ 12 by omega,
    or_shl _ (i := 12) (by omega),
    show (a % 8 * 64 + b % 64) * 2 ^ 12 + c % 2 ^ 6 * 2 ^ 6 = ((a % 8 * 64 + b % 64) * 64 + c % 64) * 2 ^ 6 by omega,
    or_shl _ (i := 6) (Nat.mod_lt _ (by decide))]

/-- not a continuation byte `10xxxxxx` -/
def nonCont (c : UInt8) : Prop := c.toNat < 0x80 ∨ 0xC0 ≤ c.toNat

/-- `Enc b l r`: the lead byte `b` followed by the continuation bytes `l` is a valid encoding, of
the rune `r` (the table of `utf8.DecodeRune`: no overlong forms, surrogates or values above
U+10FFFF). The last hypothesis of each constructor is the decoder's own test. -/
inductive Enc (b : UInt8) : Bytes → Nat → Prop
  | one : b.toNat < 0x80 → Enc b [] b.toNat
  | two {b1 : UInt8} : 0xC2 ≤ b.toNat → b.toNat < 0xE0 → 0x80 ≤ b1.toNat ∧ b1.toNat ≤ 0xBF →
      Enc b [b1] ((b.toNat &&& 0x1F) <<< 6 ||| (b1.toNat &&& 0x3F))
  | three {b1 b2 : UInt8} : 0xE0 ≤ b.toNat → b.toNat < 0xF0 →
      (if b.toNat == 0xE0 then 0xA0 else 0x80) ≤ b1.toNat ∧
        b1.toNat ≤ (if b.toNat == 0xED then 0x9F else 0xBF) ∧ 0x80 ≤ b2.toNat ∧ b2.toNat ≤ 0xBF →
      Enc b [b1, b2] ((b.toNat &&& 0x0F) <<< 12 ||| (b1.toNat &&& 0x3F) <<< 6 ||| (b2.toNat &&& 0x3F))
  | four {b1 b2 b3 : UInt8} : 0xF0 ≤ b.toNat → b.toNat < 0xF5 →
      (if b.toNat == 0xF0 then 0x90 else 0x80) ≤ b1.toNat ∧
        b1.toNat ≤ (if b.toNat == 0xF4 then 0x8F else 0xBF) ∧ 0x80 ≤ b2.toNat ∧ b2.toNat ≤ 0xBF ∧
        0x80 ≤ b3.toNat ∧ b3.toNat ≤ 0xBF →
      Enc b [b1, b2, b3] ((b.toNat &&& 0x07) <<< 18 ||| (b1.toNat &&& 0x3F) <<< 12 |||
        (b2.toNat &&& 0x3F) <<< 6 ||| (b3.toNat &&& 0x3F))

/-- `b :: bs` starts with a valid encoding -/
def Valid (b : UInt8) (bs : Bytes) : Prop := ∃ l t r, bs = l ++ t ∧ Enc b l r

theorem Enc.head {b : UInt8} {l : Bytes} {r : Nat} (h : Enc b l r) : nonCont b := by
  unfold nonCont
  cases h <;> omega

theorem Enc.cont {b : UInt8} {l : Bytes} {r : Nat} (h : Enc b l r) : ∀ c ∈ l, ¬ nonCont c := by
  unfold nonCont
  cases h with
  | one => intro c hc; cases hc
  | two _ _ h =>
    simp only [List.mem_cons, List.not_mem_nil, or_false, forall_eq]
    omega
  | three _ _ h =>
    simp only [List.mem_cons, List.not_mem_nil, or_false, forall_eq_or_imp, forall_eq]
    split at h <;> split at h <;> omega
  | four _ _ h =>
    simp only [List.mem_cons, List.not_mem_nil, or_false, forall_eq_or_imp, forall_eq]
    split at h <;> split at h <;> omega

theorem decodeRune_enc {b : UInt8} {l : Bytes} {r : Nat} (h : Enc b l r) (t : Bytes) :
    Utf8.decodeRune (b :: (l ++ t)) = (r, l.length + 1) := by
  simp only [Utf8.decodeRune]
  cases h with
  | one h => rw [if_pos h]; rfl
  | two h1 h2 h =>
    rw [if_neg (by omega), if_neg (by omega), if_pos h2]
    exact if_pos h
  | three h1 h2 h =>
    rw [if_neg (by omega), if_neg (by omega), if_neg (by omega), if_pos h2]
    exact if_pos h
  | four h1 h2 h =>
    rw [if_neg (by omega), if_neg (by omega), if_neg (by omega), if_neg (by omega), if_pos h2]
    exact if_pos h

theorem dec1 (b : UInt8) (bs : Bytes) (h : b.toNat < 0x80) : Utf8.decodeRune (b :: bs) = (b.toNat, 1) :=
  decodeRune_enc (.one h) bs

theorem decodeRune_invalid (b : UInt8) (bs : Bytes) (h : ¬ Valid b bs) :
    Utf8.decodeRune (b :: bs) = (Utf8.runeError, 1) := by
  have h' : ∀ l t r, bs = l ++ t → ¬ Enc b l r := fun l t r e hl => h ⟨l, t, r, e, hl⟩
  simp only [Utf8.decodeRune]
  rw [if_neg (fun a => h' [] bs _ rfl (.one a))]
  by_cases a2 : b.toNat < 0xC2
  · rw [if_pos a2]
  rw [if_neg a2]
  by_cases a3 : b.toNat < 0xE0
  · rw [if_pos a3]
    cases bs with
    | nil => rfl
    | cons b1 t => exact if_neg (fun c => h' [b1] t _ rfl (.two (by omega) a3 c))
  rw [if_neg a3]
  by_cases a4 : b.toNat < 0xF0
  · rw [if_pos a4]
    rcases bs with _ | ⟨b1, _ | ⟨b2, t⟩⟩
    · rfl
    · rfl
    · exact if_neg (fun c => h' [b1, b2] t _ rfl (.three (by omega) a4 c))
  rw [if_neg a4]
  by_cases a5 : b.toNat < 0xF5
  · rw [if_pos a5]
    rcases bs with _ | ⟨b1, _ | ⟨b2, _ | ⟨b3, t⟩⟩⟩
    · rfl
    · rfl
    · rfl
    · exact if_neg (fun c => h' [b1, b2, b3] t _ rfl (.four (by omega) a5 c))
  · rw [if_neg a5]

theorem decodeRune_width (b : UInt8) (bs : Bytes) :
    1 ≤ (Utf8.decodeRune (b :: bs)).2 ∧ (Utf8.decodeRune (b :: bs)).2 ≤ (b :: bs).length := by
  by_cases h : Valid b bs
  · obtain ⟨l, t, r, rfl, h⟩ := h
    rw [decodeRune_enc h]
    simp only [List.length_cons, List.length_append]
    omega
  · rw [decodeRune_invalid b bs h]
    simp

theorem drop_rune_lt (b : UInt8) (bs : Bytes) :
    ((b :: bs).drop (Utf8.decodeRune (b :: bs)).2).length < (b :: bs).length := by
  have := decodeRune_width b bs
  simp only [List.length_drop, List.length_cons] at *
  omega

theorem valid_of_ne_error (b : UInt8) (bs : Bytes) (h : (Utf8.decodeRune (b :: bs)).1 ≠ 0xFFFD) :
    Valid b bs :=
  Classical.byContradiction fun hv => h (by rw [decodeRune_invalid b bs hv]; rfl)

theorem decodeRune_valid_head (b : UInt8) (bs : Bytes) (h : (Utf8.decodeRune (b :: bs)).1 ≠ 0xFFFD) :
    nonCont b := by
  obtain ⟨l, t, r, -, hl⟩ := valid_of_ne_error b bs h
  exact hl.head

/-- what may follow an encoding without being taken into it: nothing, or a byte that cannot continue one -/
def okTail (t : Bytes) : Prop := t = [] ∨ ∃ c t', t = c :: t' ∧ nonCont c

/-- a valid encoding ends before the first non-continuation byte -/
theorem valid_append_iff (b : UInt8) (p x : Bytes) (hx : okTail x) : Valid b (p ++ x) ↔ Valid b p := by
  constructor
  · rintro ⟨l, s, r, e, hl⟩
    rcases hx with rfl | ⟨c, t, rfl, hc⟩
    · exact ⟨l, s, r, by simpa using e, hl⟩
    · rcases List.append_eq_append_iff.mp e with ⟨a, rfl, e'⟩ | ⟨a, rfl, -⟩
      · cases a with
        | nil => exact ⟨p, [], r, (List.append_nil p).symm, by simpa using hl⟩
        | cons c' a =>
          obtain ⟨rfl, -⟩ := List.cons.inj e'
          exact absurd hc (hl.cont c (by simp))
      · exact ⟨l, a, r, rfl, hl⟩
  · rintro ⟨l, s, r, rfl, hl⟩
    exact ⟨l, s ++ x, r, List.append_assoc .., hl⟩

/-- what lies beyond the first non-continuation byte (or the end) does not influence decoding -/
theorem decodeRune_local (b : UInt8) (p x : Bytes) (hx : okTail x) :
    Utf8.decodeRune (b :: (p ++ x)) = Utf8.decodeRune (b :: p) := by
  by_cases h : Valid b p
  · obtain ⟨l, s, r, rfl, hl⟩ := h
    rw [List.append_assoc, decodeRune_enc hl, decodeRune_enc hl]
  · rw [decodeRune_invalid b p h, decodeRune_invalid b _ (mt (valid_append_iff b p x hx).mp h)]

theorem decodeRune_local' (q x : Bytes) (hq : q ≠ []) (hx : okTail x) :
    Utf8.decodeRune (q ++ x) = Utf8.decodeRune q := by
  cases q with
  | nil => exact absurd rfl hq
  | cons b p => exact decodeRune_local b p x hx

theorem Enc.hi {b : UInt8} {l : Bytes} {r : Nat} (h : Enc b l r) (hb : 0x80 ≤ b.toNat) : 0x80 ≤ r := by
  cases h with
  | one h => omega
  | two h1 h2 h => rw [pack2]; omega
  | three h1 h2 h => rw [pack3]; simp only [beq_iff_eq] at h; split at h <;> split at h <;> omega
  | four h1 h2 h => rw [pack4]; simp only [beq_iff_eq] at h; split at h <;> split at h <;> omega

theorem decodeRune_hi (b : UInt8) (bs : Bytes) (hb : 0x80 ≤ b.toNat) : 0x80 ≤ (Utf8.decodeRune (b :: bs)).1 := by
  by_cases h : Valid b bs
  · obtain ⟨l, t, r, rfl, h⟩ := h
    rw [decodeRune_enc h]
    exact h.hi hb
  · rw [decodeRune_invalid b bs h]; decide

theorem not_nonCont_iff (d : UInt8) : ¬ nonCont d ↔ 0x80 ≤ d.toNat ∧ d.toNat ≤ 0xBF := by
  unfold nonCont; omega

theorem okTail_cons {d : UInt8} (t : Bytes) (h : ¬ (0x80 ≤ d.toNat ∧ d.toNat ≤ 0xBF)) : okTail (d :: t) :=
  .inr ⟨d, t, rfl, by unfold nonCont; omega⟩

/-- the bytes the decoder consumes after the lead byte are continuation bytes -/
theorem decodeRune_tail (c : UInt8) (rest : Bytes) :
    ∀ b ∈ rest.take ((Utf8.decodeRune (c :: rest)).2 - 1), ¬ nonCont b := by
  by_cases h : Valid c rest
  · obtain ⟨l, t, r, rfl, h⟩ := h
    rw [decodeRune_enc h, Nat.add_sub_cancel, List.take_left' rfl]
    exact h.cont
  · rw [decodeRune_invalid c rest h]; exact nofun

/-- a decode that stays within `f` does not see what follows `f` -/
theorem decodeRune_of_width_le (c : UInt8) (f more : Bytes)
    (h : (Utf8.decodeRune (c :: (f ++ more))).2 ≤ f.length + 1) :
    Utf8.decodeRune (c :: (f ++ more)) = Utf8.decodeRune (c :: f) := by
  by_cases hv : Valid c (f ++ more)
  · obtain ⟨l, t, r, e, hl⟩ := hv
    rw [e, decodeRune_enc hl] at h ⊢
    obtain ⟨a, rfl, -⟩ | ⟨a, rfl, -⟩ := List.append_eq_append_iff.1 e
    · have : a = [] := List.eq_nil_of_length_eq_zero (by simp only [List.length_append] at h; omega)
      subst this; simpa using (decodeRune_enc hl []).symm
    · exact (decodeRune_enc hl a).symm
  · rw [decodeRune_invalid _ _ hv, decodeRune_invalid _ _ fun ⟨l, t, r, e, hl⟩ => hv ⟨l, t ++ more, r, by rw [e, List.append_assoc], hl⟩]

end Shared
