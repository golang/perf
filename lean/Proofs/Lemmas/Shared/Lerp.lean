/-
A sorted sample read at a real rank by linear interpolation between neighbours.  `seg xs k f` is the
point at fraction `f` between `xs[k]` and `xs[k+1]` (indices cut to the list, so beyond the last
element the segment is a point); `lerp xs t` reads at rank `t` (0-based; ranks below 0 read `xs[0]`).
On a sorted list `lerp` is monotone on the whole line and stays between the ends.  The R8 percentile
of internal/stats (C12), the bootstrap percentile and median of benchseries (C18) are `lerp` at their own rank;
the two predicates their theorems are stated with, `C12.SortedL` and `C18.Within`, stand here for that reason.
Before that the other summary that stays between bounds of the values, the mean (`Shared.mean_between`: any ordered
field, any valuation; C12's means, C17's mean of floats read as rationals).
-/
import Mathlib.Algebra.Order.Field.Basic
import Mathlib.Data.Rat.Floor
import Mathlib.Data.List.GetD
import Mathlib.Tactic.Linarith
import Mathlib.Tactic.Ring

namespace Shared

theorem sum_bounds {K : Type} [Semiring K] [PartialOrder K] [IsOrderedRing K]
    (l : List K) (a b : K) (h : ∀ x ∈ l, a ≤ x ∧ x ≤ b) :
    a * (l.length : K) ≤ l.sum ∧ l.sum ≤ b * (l.length : K) := by
  induction l with
  | nil => simp
  | cons x l ih =>
    have hx := h x (List.mem_cons_self ..)
    have := ih (fun y hy => h y (List.mem_cons_of_mem _ hy))
    rw [List.sum_cons, List.length_cons, Nat.cast_succ, mul_add, mul_one, mul_add, mul_one, add_comm x]
    exact ⟨add_le_add this.1 hx.1, add_le_add this.2 hx.2⟩

theorem mean_between {K : Type} [Field K] [LinearOrder K] [IsStrictOrderedRing K] {ι : Type} (val : ι → K)
    (rv : List ι) (hne : rv ≠ []) (a b : K) (h : ∀ x ∈ rv, a ≤ val x ∧ val x ≤ b) :
    a ≤ (rv.map val).sum / (rv.length : K) ∧ (rv.map val).sum / (rv.length : K) ≤ b := by
  have hlen : (0 : K) < (rv.length : K) := Nat.cast_pos.2 (List.length_pos_iff.2 hne)
  have hs := sum_bounds (rv.map val) a b (by
    intro y hy
    obtain ⟨x, hx, rfl⟩ := List.mem_map.mp hy
    exact h x hx)
  rw [List.length_map] at hs
  exact ⟨(le_div_iff₀ hlen).mpr hs.1, (div_le_iff₀ hlen).mpr hs.2⟩

end Shared

/-- ascending order, in the indexed form the interpolation uses -/
def C12.SortedL (xs : List ℚ) : Prop := ∀ i j, i ≤ j → j < xs.length → xs.getD i 0 ≤ xs.getD j 0

/-- every element lies in [L, H] -/
def C18.Within (L H : Rat) (a : List Rat) : Prop := ∀ v ∈ a, L ≤ v ∧ v ≤ H

namespace Lerp
open C12 (SortedL)
open C18 (Within)

/-- element `i`, the last one beyond the end -/
def at' (xs : List ℚ) (i : ℕ) : ℚ := xs.getD (min i (xs.length - 1)) 0

theorem at'_of_lt {xs : List ℚ} {i : ℕ} (h : i < xs.length) : at' xs i = xs.getD i 0 := by
  rw [at', min_eq_left (by omega)]

theorem at'_of_ge {xs : List ℚ} {i : ℕ} (h : xs.length - 1 ≤ i) : at' xs i = xs.getD (xs.length - 1) 0 := by
  rw [at', min_eq_right h]

theorem sorted_of_pairwise {xs : List ℚ} (h : xs.Pairwise (· ≤ ·)) : SortedL xs := by
  intro i j hij hj
  rcases Nat.lt_or_eq_of_le hij with hlt | rfl
  · rw [List.getD_eq_getElem _ _ (hlt.trans hj), List.getD_eq_getElem _ _ hj]
    exact List.pairwise_iff_getElem.mp h i j _ hj hlt
  · exact le_refl _

theorem _root_.C12.SortedL.at'_le {xs : List ℚ} (hs : SortedL xs) {i j : ℕ} (h : i ≤ j) : at' xs i ≤ at' xs j := by
  rcases Nat.eq_zero_or_pos xs.length with h0 | hp
  · rw [List.length_eq_zero_iff.mp h0]; exact le_refl _
  · exact hs _ _ (min_le_min h le_rfl) (lt_of_le_of_lt (min_le_right _ _) (Nat.sub_lt hp Nat.one_pos))

theorem _root_.C12.SortedL.at'_le_last {xs : List ℚ} (hs : SortedL xs) (i : ℕ) : at' xs i ≤ at' xs (xs.length - 1) := by
  have h := hs.at'_le (min_le_right i (xs.length - 1))
  rwa [at', min_assoc, min_self] at h

theorem _root_.C18.Within.at' {L H : ℚ} {xs : List ℚ} (h : Within L H xs) (hne : xs ≠ []) (i : ℕ) :
    L ≤ at' xs i ∧ at' xs i ≤ H := by
  have hp : 0 < xs.length := List.length_pos_iff.mpr hne
  have hi : min i (xs.length - 1) < xs.length := lt_of_le_of_lt (min_le_right _ _) (Nat.sub_lt hp Nat.one_pos)
  rw [Lerp.at', List.getD_eq_getElem _ _ hi]
  exact h _ (List.getElem_mem hi)

/-- the point at fraction `f` of the segment from `xs[k]` to `xs[k+1]` -/
def seg (xs : List ℚ) (k : ℕ) (f : ℚ) : ℚ := at' xs k + f * (at' xs (k + 1) - at' xs k)

theorem seg_zero (xs : List ℚ) (k : ℕ) : seg xs k 0 = at' xs k := by rw [seg, zero_mul, add_zero]

theorem seg_of_ge (xs : List ℚ) {k : ℕ} (h : xs.length - 1 ≤ k) (f : ℚ) : seg xs k f = at' xs k := by
  rw [seg, at'_of_ge h, at'_of_ge (h.trans k.le_succ), sub_self, mul_zero, add_zero]

theorem seg_eq_convex (xs : List ℚ) (k : ℕ) (f : ℚ) : seg xs k f = at' xs k * (1 - f) + at' xs (k + 1) * f := by
  rw [seg]; ring

/-- a point of a segment lies between its ends -/
theorem between {lo hi f : ℚ} (h : lo ≤ hi) (f0 : 0 ≤ f) (f1 : f ≤ 1) :
    lo ≤ lo + f * (hi - lo) ∧ lo + f * (hi - lo) ≤ hi := by
  have hd := sub_nonneg.mpr h
  have := mul_le_of_le_one_left hd f1
  exact ⟨le_add_of_nonneg_right (mul_nonneg f0 hd), by linarith⟩

theorem _root_.C12.SortedL.seg_between {xs : List ℚ} (hs : SortedL xs) (k : ℕ) {f : ℚ} (f0 : 0 ≤ f) (f1 : f ≤ 1) :
    at' xs k ≤ seg xs k f ∧ seg xs k f ≤ at' xs (k + 1) :=
  between (hs.at'_le k.le_succ) f0 f1

theorem _root_.C18.Within.seg {L H : ℚ} {xs : List ℚ} (h : Within L H xs) (hne : xs ≠ []) (k : ℕ) {f : ℚ}
    (f0 : 0 ≤ f) (f1 : f ≤ 1) : L ≤ seg xs k f ∧ seg xs k f ≤ H := by
  obtain ⟨a1, a2⟩ := h.at' hne k
  obtain ⟨b1, b2⟩ := h.at' hne (k + 1)
  have := mul_le_mul_of_nonneg_right a1 (sub_nonneg.mpr f1)
  have := mul_le_mul_of_nonneg_right a2 (sub_nonneg.mpr f1)
  have := mul_le_mul_of_nonneg_right b1 f0
  have := mul_le_mul_of_nonneg_right b2 f0
  rw [seg_eq_convex]
  constructor <;> linarith

/-- `seg` is monotone in (k, f) ordered lexicographically -/
theorem _root_.C12.SortedL.seg_mono {xs : List ℚ} (hs : SortedL xs) {i j : ℕ} {x y : ℚ} (x0 : 0 ≤ x) (x1 : x ≤ 1)
    (y0 : 0 ≤ y) (y1 : y ≤ 1) (h : i < j ∨ (i = j ∧ x ≤ y)) : seg xs i x ≤ seg xs j y := by
  rcases h with h | ⟨rfl, h⟩
  · exact (hs.seg_between i x0 x1).2.trans ((hs.at'_le h).trans (hs.seg_between j y0 y1).1)
  · exact add_le_add le_rfl (mul_le_mul_of_nonneg_right h (sub_nonneg.mpr (hs.at'_le i.le_succ)))

/-- the sample at rank `t` -/
def lerp (xs : List ℚ) (t : ℚ) : ℚ := seg xs ⌊t⌋₊ (max t 0 - ⌊t⌋₊)

theorem frac_range (t : ℚ) : 0 ≤ max t 0 - (⌊t⌋₊ : ℚ) ∧ max t 0 - (⌊t⌋₊ : ℚ) < 1 := by
  rcases le_total t 0 with h | h
  · rw [max_eq_right h, Nat.floor_of_nonpos h, Nat.cast_zero, sub_zero]; exact ⟨le_rfl, one_pos⟩
  · rw [max_eq_left h]; exact ⟨sub_nonneg.mpr (Nat.floor_le h), sub_lt_iff_lt_add'.mpr (Nat.lt_floor_add_one t)⟩

theorem lerp_of_nonneg (xs : List ℚ) {t : ℚ} (h : 0 ≤ t) : lerp xs t = seg xs ⌊t⌋₊ (t - ⌊t⌋₊) := by
  rw [lerp, max_eq_left h]

/-- at rank `k + x`, `0 ≤ x < 1` -/
theorem lerp_add (xs : List ℚ) (k : ℕ) {x : ℚ} (x0 : 0 ≤ x) (x1 : x < 1) : lerp xs (k + x) = seg xs k x := by
  have hk : ⌊(k : ℚ) + x⌋₊ = k := by
    rw [Nat.floor_eq_iff (add_nonneg (Nat.cast_nonneg k) x0)]
    exact ⟨le_add_of_nonneg_right x0, add_lt_add_right x1 _⟩
  rw [lerp_of_nonneg xs (add_nonneg (Nat.cast_nonneg k) x0), hk, add_sub_cancel_left]

theorem lerp_natCast (xs : List ℚ) (k : ℕ) : lerp xs k = at' xs k := by
  simpa [seg_zero] using lerp_add xs k le_rfl one_pos

theorem lerp_of_nonpos (xs : List ℚ) {t : ℚ} (h : t ≤ 0) : lerp xs t = at' xs 0 := by
  rw [lerp, Nat.floor_of_nonpos h, max_eq_right h, Nat.cast_zero, sub_zero, seg_zero]

theorem lerp_of_ge (xs : List ℚ) {t : ℚ} (h : ((xs.length - 1 : ℕ) : ℚ) ≤ t) : lerp xs t = at' xs (xs.length - 1) := by
  have := Nat.le_floor h
  rw [lerp, seg_of_ge xs this, at'_of_ge this, at'_of_ge le_rfl]

/-- **monotone in the rank**, over the whole line -/
theorem _root_.C12.SortedL.lerp_mono {xs : List ℚ} (hs : SortedL xs) {s t : ℚ} (h : s ≤ t) : lerp xs s ≤ lerp xs t := by
  obtain ⟨x0, x1⟩ := frac_range s
  obtain ⟨y0, y1⟩ := frac_range t
  refine hs.seg_mono x0 x1.le y0 y1.le ?_
  rcases Nat.lt_or_eq_of_le (Nat.floor_mono h) with hlt | he
  · exact Or.inl hlt
  · exact Or.inr ⟨he, by rw [he]; exact sub_le_sub_right (max_le_max h le_rfl) _⟩

theorem _root_.C12.SortedL.lerp_ends {xs : List ℚ} (hs : SortedL xs) (t : ℚ) :
    at' xs 0 ≤ lerp xs t ∧ lerp xs t ≤ at' xs (xs.length - 1) := by
  obtain ⟨x0, x1⟩ := frac_range t
  obtain ⟨a, b⟩ := hs.seg_between ⌊t⌋₊ x0 x1.le
  exact ⟨(hs.at'_le (Nat.zero_le _)).trans a, b.trans (hs.at'_le_last _)⟩

theorem _root_.C18.Within.lerp {L H : ℚ} {xs : List ℚ} (h : Within L H xs) (hne : xs ≠ []) (t : ℚ) :
    L ≤ lerp xs t ∧ lerp xs t ≤ H :=
  h.seg hne _ (frac_range t).1 (frac_range t).2.le

end Lerp
