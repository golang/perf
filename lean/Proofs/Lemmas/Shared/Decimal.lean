/-
`%d` of a natural number, for all properties. The model spells it `(Nat.toDigits 10 n).map (fun c => UInt8.ofNat c.toNat)`
three times (`Fmt.decimalDigits`, `Fmt.decimal`, `Spec.FmtFloat.digitsOf`: each is `dec` by `rfl`) and as a
fuelled loop once (`Storage.Upload.natBytes`, `C20.natBytes_dec`). Digits only, the value read back, the length
(core's `Nat.length_toDigits_le_iff` as the powers of ten around the number, `toDigits_len`, which determine it,
`pow10_unique`); and that a text followed by a separator and digits splits in one way. Core Lean only.
-/
import Model.Base.Bytes

namespace Shared

def dec (n : Nat) : Bytes := (Nat.toDigits 10 n).map (fun c => UInt8.ofNat c.toNat)

theorem digitChar_byte : ∀ d, d < 10 → UInt8.ofNat (Nat.digitChar d).toNat = UInt8.ofNat (48 + d)
  | 0, _ | 1, _ | 2, _ | 3, _ | 4, _ | 5, _ | 6, _ | 7, _ | 8, _ | 9, _ => rfl
  | _ + 10, h => absurd h (by omega)

/-- the recursion every rendering loop follows -/
theorem dec_eq (n : Nat) :
    dec n = if n < 10 then [UInt8.ofNat (48 + n)] else dec (n / 10) ++ [UInt8.ofNat (48 + n % 10)] := by
  unfold dec
  rw [Nat.toDigits_eq_if (by decide)]
  split
  · rw [List.map_singleton, digitChar_byte n ‹_›]
  · rw [List.map_append, List.map_singleton, digitChar_byte _ (Nat.mod_lt _ (by decide))]

theorem toNat_digit {d : Nat} (h : d < 10) : (UInt8.ofNat (48 + d)).toNat = 48 + d := by
  rw [UInt8.toNat_ofNat']; omega

theorem dec_ne_nil (n : Nat) : dec n ≠ [] := by
  rw [dec_eq]; split <;> simp

theorem dec_digit (n : Nat) : ∀ c ∈ dec n, 48 ≤ c.toNat ∧ c.toNat ≤ 57 := by
  intro c hc
  obtain ⟨ch, hch, rfl⟩ := List.mem_map.1 hc
  have := Nat.isDigit_of_mem_toDigits (by decide) (by decide) hch
  simp only [Char.isDigit, Bool.and_eq_true, decide_eq_true_eq, UInt32.le_iff_toNat_le] at this
  rw [UInt8.toNat_ofNat']
  change 48 ≤ ch.toNat ∧ ch.toNat ≤ 57 at this
  omega

/-- reading the digits back -/
theorem dec_val (n : Nat) : (dec n).foldl (fun a c => a * 10 + (c.toNat - 48)) 0 = n := by
  induction n using Nat.strongRecOn with
  | _ n ih =>
    rw [dec_eq]
    split
    · rw [List.foldl_cons, List.foldl_nil, toNat_digit ‹_›]; omega
    · rw [List.foldl_append, ih _ (by omega), List.foldl_cons, List.foldl_nil, toNat_digit (Nat.mod_lt _ (by decide))]
      omega

theorem dec_injective {m n : Nat} (h : dec m = dec n) : m = n := by
  rw [← dec_val m, ← dec_val n, h]

/-- the powers of ten around a number determine how many digits it has -/
theorem pow10_unique (a b V : Nat) (ha : 1 ≤ a) (hb : 1 ≤ b) (h1 : 10 ^ (a - 1) ≤ V) (h2 : V < 10 ^ a)
    (h3 : 10 ^ (b - 1) ≤ V) (h4 : V < 10 ^ b) : a = b := by
  apply Classical.byContradiction
  intro hne
  rcases Nat.lt_or_gt_of_ne hne with h | h
  · have : 10 ^ a ≤ 10 ^ (b - 1) := Nat.pow_le_pow_right (by decide) (by omega)
    omega
  · have : 10 ^ b ≤ 10 ^ (a - 1) := Nat.pow_le_pow_right (by decide) (by omega)
    omega

theorem toDigits_len (n : Nat) : n < 10 ^ (Nat.toDigits 10 n).length ∧
    (0 < n → 10 ^ ((Nat.toDigits 10 n).length - 1) ≤ n) := by
  have hL : 0 < (Nat.toDigits 10 n).length := Nat.length_toDigits_pos
  refine ⟨(Nat.length_toDigits_le_iff (by decide) hL).1 (Nat.le_refl _), fun hn => Nat.le_of_not_lt fun h => ?_⟩
  by_cases h1 : (Nat.toDigits 10 n).length - 1 = 0
  · rw [h1] at h; omega
  · have := (Nat.length_toDigits_le_iff (by decide) (Nat.pos_of_ne_zero h1)).2 h
    omega

theorem dec_length_eq {n k : Nat} (h1 : 10 ^ k ≤ n) (h2 : n < 10 ^ (k + 1)) : (dec n).length = k + 1 := by
  have ⟨a, b⟩ := toDigits_len n
  rw [dec, List.length_map]
  exact pow10_unique _ _ n Nat.length_toDigits_pos (Nat.succ_pos k)
    (b (Nat.lt_of_lt_of_le (Nat.pow_pos (by decide)) h1)) a h1 h2

/-- `l ++ x :: r` determines `l` and `r` when `x` does not occur in `l` -/
theorem split_at_sep {x : UInt8} : ∀ (l1 l2 r1 r2 : Bytes), x ∉ l1 → x ∉ l2 →
    l1 ++ x :: r1 = l2 ++ x :: r2 → l1 = l2 ∧ r1 = r2
  | [], [], _, _, _, _, h => ⟨rfl, (List.cons.inj h).2⟩
  | [], b :: _, _, _, _, h2, h => absurd (List.mem_cons_self ..) ((List.cons.inj h).1 ▸ h2)
  | a :: _, [], _, _, h1, _, h => absurd (List.mem_cons_self ..) ((List.cons.inj h).1 ▸ h1)
  | a :: l1, b :: l2, r1, r2, h1, h2, h => by
    have ⟨e, h'⟩ := List.cons.inj h
    have := split_at_sep l1 l2 r1 r2 (fun hx => h1 (List.mem_cons_of_mem _ hx)) (fun hx => h2 (List.mem_cons_of_mem _ hx)) h'
    exact ⟨by rw [e, this.1], this.2⟩

end Shared
