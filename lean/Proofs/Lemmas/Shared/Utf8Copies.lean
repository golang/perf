/-
The three model copies of `utf8.DecodeRune` (`Utf8.decodeRune` for units and tables, `Fmt.decodeRune` for the
benchmark-format reader and the storage lexer, `Proc.Tok.decodeRune` for the filter tokenizer) are one
function: they differ in comparing bytes or their numbers, in ranges or a cascade of upper bounds for the lead
byte, and in assembling the rune by shifts or by multiplication. Core Lean only.
-/
import Model.Fmt.Rune
import Model.Proc.Tok
import Proofs.Lemmas.Shared.Utf8

namespace Shared

theorem fmt_isCont (b : UInt8) : Fmt.isCont b = true ↔ 0x80 ≤ b.toNat ∧ b.toNat ≤ 0xBF := by
  simp [Fmt.isCont, UInt8.le_iff_toNat_le]

theorem fmt_decodeRune_eq (p : Bytes) : Fmt.decodeRune p = Utf8.decodeRune p := by
  rcases p with _ | ⟨p0, _ | ⟨b1, _ | ⟨b2, _ | ⟨b3, t⟩⟩⟩⟩ <;>
    simp [Fmt.decodeRune, Utf8.decodeRune, UInt8.lt_iff_toNat_lt, UInt8.le_iff_toNat_le, fmt_isCont,
      ← UInt8.toNat_inj, apply_ite UInt8.toNat, and_assoc, Fmt.runeError, Utf8.runeError]

theorem tok_isCont (b : UInt8) : Proc.Tok.isCont b = true ↔ 0x80 ≤ b.toNat ∧ b.toNat ≤ 0xBF := by
  simp [Proc.Tok.isCont, UInt8.le_iff_toNat_le]

/-- the lead-byte classes as ranges (Proc.Tok) and as a cascade of upper bounds (Utf8, Fmt) -/
theorem lead_cascade {α : Type} (c : Nat) (a e x y z : α) :
    (if c < 128 then a else if 194 ≤ c ∧ c ≤ 223 then x else if 224 ≤ c ∧ c ≤ 239 then y
      else if 240 ≤ c ∧ c ≤ 244 then z else e) =
    if c < 128 then a else if c < 194 then e else if c < 224 then x else if c < 240 then y
      else if c < 245 then z else e := by
  by_cases h1 : c < 128
  · rw [if_pos h1, if_pos h1]
  by_cases h2 : c < 194
  · rw [if_neg h1, if_neg h1, if_pos h2, if_neg (by omega), if_neg (by omega), if_neg (by omega)]
  by_cases h3 : c < 224
  · rw [if_neg h1, if_neg h1, if_neg h2, if_pos h3, if_pos (by omega)]
  by_cases h4 : c < 240
  · rw [if_neg h1, if_neg h1, if_neg h2, if_neg h3, if_pos h4, if_neg (by omega), if_pos (by omega)]
  by_cases h5 : c < 245
  · rw [if_neg h1, if_neg h1, if_neg h2, if_neg h3, if_neg h4, if_pos h5, if_neg (by omega), if_neg (by omega),
      if_pos (by omega)]
  · rw [if_neg h1, if_neg h1, if_neg h2, if_neg h3, if_neg h4, if_neg h5, if_neg (by omega), if_neg (by omega),
      if_neg (by omega)]

theorem tok_decodeRune_eq (p : Bytes) : Proc.Tok.decodeRune p = Utf8.decodeRune p := by
  rcases p with _ | ⟨p0, _ | ⟨b1, _ | ⟨b2, _ | ⟨b3, t⟩⟩⟩⟩ <;>
    simp only [Proc.Tok.decodeRune, Utf8.decodeRune, UInt8.lt_iff_toNat_lt, UInt8.le_iff_toNat_le, tok_isCont,
      ← UInt8.toNat_inj, apply_ite UInt8.toNat, and_assoc, Proc.Tok.runeError, Utf8.runeError, pack2, pack3, pack4,
      Proc.Tok.lo3, Proc.Tok.hi3, Proc.Tok.lo4, Proc.Tok.hi4, Bool.and_eq_true, decide_eq_true_eq, beq_iff_eq, UInt8.reduceToNat]
  all_goals exact lead_cascade ..

end Shared
