/-
Go's `<` on strings. The model writes it out several times; a copy that follows the recursion of Go's comparison is
core's lexicographic `<` on `List UInt8` (`bytesLt_iff`), and what the proofs need of the order is core's
(`DecidesLt`). Clients: `Proc.Sort.ltBytes` (C09 `ltBytes_lt`), `Legacy.bytesLt` (C17 `bytesLt_lt`),
`Storage.Query.blt` (C19 `blt_lt`). `Series.bytesLe` (`≤`) has its own `C18.bytesLe_iff`; of
`Storage.Upload.bytesLt` and `Spec.Keys.bytesLt` no theorem needs the order. Core Lean only.
-/
import Model.Base.Bytes

namespace Shared

/-- a Boolean function that follows the recursion of Go's string comparison decides core's `<` -/
theorem bytesLt_iff {f : Bytes → Bytes → Bool} (h1 : ∀ a, f a [] = false) (h2 : ∀ b bs, f [] (b :: bs) = true)
    (h3 : ∀ a as b bs, f (a :: as) (b :: bs) = (decide (a < b) || (a == b && f as bs))) :
    ∀ a b, f a b = true ↔ a < b
  | _, [] => by simp [h1]
  | [], _ :: _ => by simp [h2]
  | x :: xs, y :: ys => by
    simp only [h3, Bool.or_eq_true, Bool.and_eq_true, decide_eq_true_eq, beq_iff_eq, List.cons_lt_cons_iff,
      bytesLt_iff h1 h2 h3 xs ys]

/-- the spelling `if a < b then true else if b < a then false else ..` of the same step -/
theorem step_if (a b : UInt8) (r : Bool) :
    (if a < b then true else if b < a then false else r) = (decide (a < b) || (a == b && r)) := by
  by_cases h1 : a < b
  · simp [h1]
  · by_cases h2 : b < a
    · simp [h1, h2, (UInt8.ne_of_lt h2).symm]
    · simp [h1, h2, UInt8.le_antisymm (UInt8.not_lt.1 h2) (UInt8.not_lt.1 h1)]

/-- What a Boolean `lt` inherits from deciding core's order on byte strings. -/
structure DecidesLt (lt : Bytes → Bytes → Bool) : Prop where
  iff : ∀ a b, lt a b = true ↔ a < b

namespace DecidesLt
variable {lt : Bytes → Bytes → Bool} (H : DecidesLt lt)
include H

theorem irrefl (a : Bytes) : lt a a = false :=
  Bool.eq_false_iff.2 fun h => List.lt_irrefl a ((H.iff a a).1 h)

theorem trans (a b c : Bytes) (h1 : lt a b = true) (h2 : lt b c = true) : lt a c = true :=
  (H.iff a c).2 (List.lt_trans ((H.iff a b).1 h1) ((H.iff b c).1 h2))

theorem asymm (a b : Bytes) (h : lt a b = true) : lt b a = false :=
  Bool.eq_false_iff.2 fun h' => List.lt_asymm ((H.iff a b).1 h) ((H.iff b a).1 h')

theorem total (a b : Bytes) : lt a b = true ∨ a = b ∨ lt b a = true := by
  rw [H.iff, H.iff]
  rcases List.le_total a b with h | h
  · exact (List.le_iff_lt_or_eq.1 h).imp_right .inl
  · exact (List.le_iff_lt_or_eq.1 h).elim (.inr ∘ .inr) (.inr ∘ .inl ∘ Eq.symm)

theorem negtrans (a b c : Bytes) (h1 : lt a b = false) (h2 : lt b c = false) : lt a c = false := by
  rw [Bool.eq_false_iff, Ne, H.iff] at h1 h2 ⊢
  exact List.le_trans h2 h1

end DecidesLt
end Shared
