/-
Facts about lists that speak of no model. Core Lean only.

`Varying.exists_ne_head_iff`: "do the members of a list differ under `g`?" is tested by the Go code (`NonSingularFields`)
against the first member only (C08 `nonsingular_spec`, C14 `nonSingular_eq_varying`). `Shared`: reading with a default
(`getD_set`, `getD_append_left`, …), sums under permutation, `pairwise_total`, `subset_of_nodup_length`, core's `List.span`
in closed form (`span_eq`), `takeWhile`/`dropWhile` of a list all of whose members pass, `filterMap` on lists with
positions and under `set`; one fact about strings, read off their lists of characters (`append_pct_ne_tilde`: a percentage is not the "~" of the delta columns, C13 and C17).
-/

namespace Varying

/-- some member of the tail differs from the head iff two members of the list differ -/
theorem exists_ne_head_iff {α β : Type} (g : α → β) (k0 : α) (rest : List α) :
    (∃ k ∈ rest, g k ≠ g k0) ↔ ∃ a ∈ k0 :: rest, ∃ b ∈ k0 :: rest, g a ≠ g b := by
  constructor
  · rintro ⟨k, hk, hne⟩
    exact ⟨k, List.mem_cons_of_mem _ hk, k0, List.mem_cons_self, hne⟩
  · rintro ⟨a, ha, b, hb, hne⟩
    -- one of `a`, `b` differs from the head, and that one is not the head
    by_cases h1 : g a = g k0
    · have h2 : g b ≠ g k0 := fun e => hne (h1.trans e.symm)
      exact ⟨b, (List.mem_cons.mp hb).resolve_left fun e => h2 (e ▸ rfl), h2⟩
    · exact ⟨a, (List.mem_cons.mp ha).resolve_left fun e => h1 (e ▸ rfl), h1⟩

end Varying

namespace Shared

theorem getD_set {α : Type} (l : List α) (i j : Nat) (v d : α) :
    (l.set i v).getD j d = if i = j ∧ i < l.length then v else l.getD j d := by
  simp only [List.getD_eq_getElem?_getD, List.getElem?_set]
  by_cases hij : i = j
  · subst hij
    by_cases hl : i < l.length <;> simp [hl]
  · simp [hij]

theorem perm_sum_map {α : Type} (f : α → Int) {l₁ l₂ : List α} (h : l₁.Perm l₂) :
    (l₁.map f).sum = (l₂.map f).sum := by
  induction h with
  | nil => rfl
  | cons x _ ih => simp [ih]
  | swap x y l => simp only [List.map_cons, List.sum_cons]; omega
  | trans _ _ ih1 ih2 => exact ih1.trans ih2

theorem pairwise_total {α : Type} (R : α → α → Prop) : ∀ (l : List α), l.Pairwise R →
    ∀ a ∈ l, ∀ b ∈ l, a ≠ b → R a b ∨ R b a := by
  intro l
  induction l with
  | nil => intro _ a ha; cases ha
  | cons x xs ih =>
    intro hp a ha b hb hab
    rw [List.pairwise_cons] at hp
    rcases List.mem_cons.mp ha with ha1 | ha1
    · rcases List.mem_cons.mp hb with hb1 | hb1
      · exact absurd (ha1.trans hb1.symm) hab
      · rw [ha1]; exact Or.inl (hp.1 b hb1)
    · rcases List.mem_cons.mp hb with hb1 | hb1
      · rw [hb1]; exact Or.inr (hp.1 a ha1)
      · exact ih hp.2 a ha1 b hb1 hab

theorem getLast?_append_ne_nil {α : Type} (l l' : List α) (h : l' ≠ []) :
    (l ++ l').getLast? = l'.getLast? := by
  rw [List.getLast?_append]
  cases l' with
  | nil => exact absurd rfl h
  | cons a as => simp [List.getLast?_eq_some_getLast]

theorem getD_append_left {α : Type} {d : α} (a b : List α) (j : Nat) (h : j < a.length) :
    (a ++ b).getD j d = a.getD j d := by
  simp [List.getD_eq_getElem?_getD, List.getElem?_append_left h]

theorem getD_append_right {α : Type} {d : α} (a b : List α) (j : Nat) : (a ++ b).getD (a.length + j) d = b.getD j d := by
  simp [List.getD_eq_getElem?_getD, List.getElem?_append_right]

theorem getD_of_length_le {α : Type} {d : α} (a : List α) (j : Nat) (h : a.length ≤ j) : a.getD j d = d := by
  rw [List.getD_eq_getElem?_getD, List.getElem?_eq_none h]; rfl

/-- pigeonhole: a duplicate-free list inside a list that is not longer covers it -/
theorem subset_of_nodup_length {α : Type} [DecidableEq α] : ∀ (A B : List α), A.Nodup → A ⊆ B →
    B.length ≤ A.length → B ⊆ A := by
  intro A
  induction A with
  | nil =>
    intro B _ _ hl b hb
    cases B with
    | nil => exact hb
    | cons x xs => simp at hl
  | cons a A ih =>
    intro B hnd hsub hl b hb
    simp only [List.nodup_cons] at hnd
    have haB : a ∈ B := hsub (List.mem_cons_self)
    have hsub' : A ⊆ B.erase a := by
      intro x hx
      have hxa : x ≠ a := fun e => hnd.1 (e ▸ hx)
      exact (List.mem_erase_of_ne hxa).2 (hsub (List.mem_cons_of_mem _ hx))
    have hl' : (B.erase a).length ≤ A.length := by
      rw [List.length_erase_of_mem haB]
      simp only [List.length_cons] at hl
      omega
    by_cases hba : b = a
    · subst hba; exact List.mem_cons_self
    · exact List.mem_cons_of_mem _ (ih (B.erase a) hnd.2 hsub' hl' ((List.mem_erase_of_ne hba).2 hb))

theorem span_loop_eq {α : Type} (p : α → Bool) : ∀ (l acc : List α),
    List.span.loop p l acc = (acc.reverse ++ l.takeWhile p, l.dropWhile p)
  | [], acc => by simp [List.span.loop]
  | a :: l, acc => by
    unfold List.span.loop
    cases h : p a with
    | true => simp [span_loop_eq p l (a :: acc), h]
    | false => simp [h]

theorem takeWhile_of_all {α : Type} {p : α → Bool} (t : List α) (h : t.all p = true) : t.takeWhile p = t := by
  simpa using List.takeWhile_append_of_pos (p := p) (l₂ := []) (List.all_eq_true.mp h)

theorem dropWhile_of_all {α : Type} {p : α → Bool} (t : List α) (h : t.all p = true) : t.dropWhile p = [] := by
  simpa using List.dropWhile_append_of_pos (p := p) (l₂ := []) (List.all_eq_true.mp h)

theorem span_eq {α : Type} (p : α → Bool) (l : List α) : l.span p = (l.takeWhile p, l.dropWhile p) := by
  unfold List.span; rw [span_loop_eq]; simp

section
variable {α β : Type}

theorem filterMap_eq_map_of_forall {f : α → Option β} {g : α → β} {l : List α}
    (h : ∀ x ∈ l, f x = some (g x)) : l.filterMap f = l.map g := by
  induction l with
  | nil => rfl
  | cons x xs ih =>
    rw [List.filterMap_cons, h x (List.mem_cons_self ..), List.map_cons, ih]
    intro y hy; exact h y (List.mem_cons_of_mem _ hy)

theorem filterMap_congr {f g : α → Option β} {l : List α} (h : ∀ x ∈ l, f x = g x) :
    l.filterMap f = l.filterMap g := by
  induction l with
  | nil => rfl
  | cons x xs ih =>
    rw [List.filterMap_cons, List.filterMap_cons, h x (List.mem_cons_self ..), ih]
    intro y hy; exact h y (List.mem_cons_of_mem _ hy)

theorem zipIdx_idx_unique {l : List α} (hn : l.Nodup) {x : α} {i j n : Nat}
    (hi : (x, i) ∈ l.zipIdx n) (hj : (x, j) ∈ l.zipIdx n) : i = j := by
  induction l generalizing n with
  | nil => simp at hi
  | cons y ys ih =>
    simp only [List.zipIdx_cons, List.mem_cons, Prod.mk.injEq] at hi hj
    rw [List.nodup_cons] at hn
    rcases hi with ⟨rfl, rfl⟩ | hi
    · rcases hj with ⟨_, rfl⟩ | hj
      · rfl
      · exact absurd (List.fst_mem_of_mem_zipIdx hj) hn.1
    · rcases hj with ⟨rfl, rfl⟩ | hj
      · exact absurd (List.fst_mem_of_mem_zipIdx hi) hn.1
      · exact ih hn.2 hi hj

theorem filterMap_zipIdx {γ : Type} (f : α → Option γ) (g : α × Nat → γ) (l : List α) (n : Nat)
    (h : ∀ ci ∈ l.zipIdx n, f ci.1 = some (g ci)) : l.filterMap f = (l.zipIdx n).map g := by
  induction l generalizing n with
  | nil => rfl
  | cons x xs ih =>
    rw [List.zipIdx_cons, List.map_cons, List.filterMap_cons, h (x, n) (by simp)]
    simp only
    congr 1
    apply ih
    intro ci hci; exact h ci (by rw [List.zipIdx_cons]; exact List.mem_cons_of_mem _ hci)

end

theorem filterMap_cons_toList {α β : Type} (g : α → Option β) (a : α) (l : List α) :
    (a :: l).filterMap g = (g a).toList ++ l.filterMap g := by
  cases h : g a <;> simp [h]

theorem filterMap_set_perm {α β : Type} (g : α → Option β) {l : List α} {i : Nat} {t : α} (h : l[i]? = some t)
    (t' : α) : ∃ rest, (l.filterMap g).Perm ((g t).toList ++ rest) ∧
      ((l.set i t').filterMap g).Perm ((g t').toList ++ rest) := by
  induction l generalizing i with
  | nil => simp at h
  | cons a as ih =>
    cases i with
    | zero =>
      obtain rfl : a = t := by simpa using h
      exact ⟨as.filterMap g, by rw [filterMap_cons_toList], by rw [List.set_cons_zero, filterMap_cons_toList]⟩
    | succ j =>
      obtain ⟨rest, h1, h2⟩ := ih (by simpa using h)
      refine ⟨(g a).toList ++ rest, ?_, ?_⟩
      · rw [filterMap_cons_toList]
        exact (h1.append_left _).trans (List.perm_append_comm_assoc ..)
      · rw [List.set_cons_succ, filterMap_cons_toList]
        exact (h2.append_left _).trans (List.perm_append_comm_assoc ..)

theorem append_pct_ne_tilde (s : String) : s ++ "%" ≠ "~" := by
  intro h
  have h1 := congrArg String.toList h
  have h2 := congrArg List.getLast? h1
  simp at h2

end Shared
