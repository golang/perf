/-
`bufio.ScanLines` (`Fmt.splitLines`), once: the scanner's tokens are the LF-free runs of the text (`rawFrom`, on
the specification's `splitLF`), each with one trailing CR dropped (`splitLinesAux_eq`). Lines written one per
line are the runs of what was written (`rawFrom_flatMap`), so clean lines come back (`splitLines_flatMap`), and
no run holds a line feed (`rawFrom_noLF`). The reader with the 64 KiB limit (C02Limit) and the storage server's
legacy reader (`Storage.Fmt.scanLines`, see C19PrintLines) scan with the same function.
-/
import Model.Spec.Format
import Proofs.Lemmas.Shared.Bytes

namespace Spec.Format
open Fmt

theorem splitLF_ne_nil (t : Bytes) : splitLF t ≠ [] := by
  cases t with
  | nil => simp [splitLF]
  | cons c r =>
    unfold splitLF
    split
    · simp
    · split <;> simp

/-- Dropping a final empty piece. -/
def trimLast (ps : List Bytes) : List Bytes := if ps.getLast? == some [] then ps.dropLast else ps

theorem trimLast_cons (x : Bytes) (ps : List Bytes) (h : ps ≠ []) :
    trimLast (x :: ps) = x :: trimLast ps := by
  cases ps with
  | nil => exact absurd rfl h
  | cons p ps' =>
    unfold trimLast
    simp only [List.getLast?_cons_cons, List.dropLast_cons_cons]
    split <;> rfl

theorem stripCR_eq (l : Bytes) : stripCR l = dropCR l := rfl

/-- The raw lines of `rest` (LF-free runs, a final empty one dropped), the first of them prefixed
with the run `cur` that the scanners carry reversed. -/
def rawFrom (cur rest : Bytes) : List Bytes :=
  match splitLF rest with
  | [] => []
  | p :: ps => trimLast ((cur.reverse ++ p) :: ps)

theorem rawFrom_nil (cur : Bytes) : rawFrom cur [] = if cur.isEmpty then [] else [cur.reverse] := by
  cases cur <;> simp [rawFrom, splitLF, trimLast]

theorem rawFrom_lf (cur rest : Bytes) : rawFrom cur (10 :: rest) = cur.reverse :: rawFrom [] rest := by
  have hne := splitLF_ne_nil rest
  unfold rawFrom
  rw [show splitLF (10 :: rest) = [] :: splitLF rest from rfl]
  simp only [List.append_nil]
  rw [trimLast_cons _ _ hne]
  cases hs : splitLF rest with
  | nil => exact absurd hs hne
  | cons p ps => rfl

theorem rawFrom_cons (cur : Bytes) (c : UInt8) (rest : Bytes) (h : (c == 10) = false) :
    rawFrom cur (c :: rest) = rawFrom (c :: cur) rest := by
  have hne := splitLF_ne_nil rest
  unfold rawFrom
  rw [show splitLF (c :: rest) = (if c == 10 then [] :: splitLF rest
        else match splitLF rest with
          | l :: ls => (c :: l) :: ls
          | [] => [[c]]) from rfl, h]
  cases hs : splitLF rest with
  | nil => exact absurd hs hne
  | cons p ps => simp

theorem rawFrom_text (text : Bytes) : rawFrom [] text = rawPieces text := by
  have hne := splitLF_ne_nil text
  unfold rawFrom rawPieces
  cases hs : splitLF text with
  | nil => exact absurd hs hne
  | cons p ps => rfl

/-- a line without LF, written with its LF, is the first run of what follows `cur` -/
theorem rawFrom_line (x : Bytes) (h : ∀ c ∈ x, c ≠ 10) (R : Bytes) :
    ∀ cur, rawFrom cur (x ++ 10 :: R) = (cur.reverse ++ x) :: rawFrom [] R := by
  induction x with
  | nil => intro cur; rw [List.nil_append, rawFrom_lf, List.append_nil]
  | cons c x ih =>
    intro cur
    have hc : (c == 10) = false := by simpa using h c (List.mem_cons_self ..)
    rw [List.cons_append, rawFrom_cons _ _ _ hc, ih (fun d hd => h d (List.mem_cons_of_mem _ hd))]
    simp

/-- lines without LF, written one per line, are the runs of what was written -/
theorem rawFrom_flatMap (ls : List Bytes) (h : ∀ l ∈ ls, ∀ c ∈ l, c ≠ 10) :
    rawFrom [] (ls.flatMap (· ++ [10])) = ls := by
  induction ls with
  | nil => rfl
  | cons l ls ih =>
    rw [List.flatMap_cons, List.append_assoc, List.singleton_append, rawFrom_line l (h l List.mem_cons_self),
      ih fun l' h' => h l' (List.mem_cons_of_mem _ h')]
    rfl

theorem rawFrom_noLF : ∀ (rest cur : Bytes), (∀ c ∈ cur, c ≠ 10) → ∀ p ∈ rawFrom cur rest, ∀ c ∈ p, c ≠ 10 := by
  intro rest
  induction rest with
  | nil =>
    intro cur hc p hp
    rw [rawFrom_nil] at hp
    split at hp
    · cases hp
    · rw [List.mem_singleton.1 hp]; exact fun c h => hc c (List.mem_reverse.1 h)
  | cons c rest ih =>
    intro cur hc p hp
    cases h10 : c == 10
    · rw [rawFrom_cons _ _ _ h10] at hp
      exact ih (c :: cur) (fun d hd => by
        rcases List.mem_cons.1 hd with rfl | hd
        · exact fun e => by rw [e] at h10; cases h10
        · exact hc d hd) p hp
    · rw [beq_iff_eq.1 h10, rawFrom_lf] at hp
      rcases List.mem_cons.1 hp with rfl | hp
      · exact fun c h => hc c (List.mem_reverse.1 h)
      · exact ih [] nofun p hp

theorem splitLinesAux_eq (cur rest : Bytes) : splitLinesAux cur rest = (rawFrom cur rest).map dropCR := by
  induction rest generalizing cur with
  | nil => rw [rawFrom_nil]; cases cur <;> rfl
  | cons c rest ih =>
    cases hc : c == 10
    · rw [rawFrom_cons _ _ _ hc, ← ih]
      simp only [splitLinesAux, hc, Bool.false_eq_true, ↓reduceIte]
    · rw [beq_iff_eq.1 hc, rawFrom_lf, List.map_cons, ← ih]
      rfl

theorem lines_eq (text : Bytes) : splitLines text = lines text := by
  unfold splitLines
  rw [splitLinesAux_eq, rawFrom_text]
  rfl

end Spec.Format

namespace Fmt
open Spec.Format

/-- a line that survives `bufio.ScanLines`: no LF inside, no CR at the end -/
def Clean (l : Bytes) : Prop := Bytes.hasByte l 10 = false ∧ l.getLast? ≠ some 13

theorem dropCR_clean {l : Bytes} (h : l.getLast? ≠ some 13) : dropCR l = l := by
  unfold dropCR; simp [h]

theorem map_dropCR_clean {ls : List Bytes} (h : ∀ l ∈ ls, Clean l) : ls.map dropCR = ls :=
  (List.map_congr_left fun l hl => dropCR_clean (h l hl).2).trans (List.map_id ls)

theorem splitLines_flatMap (ls : List Bytes) (h : ∀ l ∈ ls, Clean l) :
    splitLines (ls.flatMap (· ++ [10])) = ls := by
  rw [splitLines, splitLinesAux_eq, rawFrom_flatMap ls fun l hl => Bytes.hasByte_false_iff.1 (h l hl).1, map_dropCR_clean h]

theorem splitLinesAux_noLF (rest cur : Bytes) (hc : Bytes.hasByte cur 10 = false) :
    ∀ l ∈ splitLinesAux cur rest, Bytes.hasByte l 10 = false := by
  intro l hl
  rw [splitLinesAux_eq] at hl
  obtain ⟨p, hp, rfl⟩ := List.mem_map.1 hl
  have := rawFrom_noLF rest cur (Bytes.hasByte_false_iff.1 hc) p hp
  refine Bytes.hasByte_false_iff.2 fun c hcm => this c ?_
  unfold dropCR at hcm
  split at hcm
  · exact List.dropLast_subset _ hcm
  · exact hcm

end Fmt
