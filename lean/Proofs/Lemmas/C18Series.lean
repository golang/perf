/-
C18 helper lemmas about the comparison-series model: locality of the rearrangement fold (a
contribution only touches its own (benchmark, series) cell), the per-cell folds of the two duplicate
policies, permutation lemmas for the iteration orders, `sortStringSet` as a function of the set.
-/
import Proofs.Lemmas.C18AL
import Proofs.Lemmas.C18Order
import Mathlib.Data.List.Dedup
import Mathlib.Data.List.Perm.Basic
import Proofs.Lemmas.Shared.Sort

namespace C18
open Series

def fresh (c : Contrib) : Cmp := { num := c.num, den := c.den, date := c.date }

/-- what one contribution does to the cell it belongs to -/
def stepCell (env : Env) (pol : Policy) (o : Option Cmp) (c : Contrib) : Option Cmp :=
  match o with
  | none => some (fresh c)
  | some cc =>
    match pol with
    | .replace => if env.lt cc.date c.date then some (fresh c) else some cc
    | .combine => some { num := cc.num ++ c.num, den := combineDen cc.den c.den,
                         date := if env.lt cc.date c.date then c.date else cc.date }

def _root_.Series.Contrib.key (c : Contrib) : Bytes × Bytes := (c.bench, c.ser)

theorem step_lookup (env : Env) (pol : Policy) (a : Acc) (c : Contrib) (sk : Bytes × Bytes) :
    alookup sk (step env pol a c).cells =
      if c.key = sk then stepCell env pol (alookup sk a.cells) c else alookup sk a.cells := by
  unfold step Contrib.key
  by_cases h : (c.bench, c.ser) = sk
  · subst h
    cases hl : alookup (c.bench, c.ser) a.cells with
    | none => simp [stepCell, fresh, hl, alookup_aset]
    | some cc =>
      cases pol with
      | replace => by_cases hd : env.lt cc.date c.date = true <;> simp [stepCell, fresh, hd, hl, alookup_aset]
      | combine => simp [stepCell, hl, alookup_aset]
  · have h' : ¬ sk = (c.bench, c.ser) := fun e => h e.symm
    cases hl : alookup (c.bench, c.ser) a.cells with
    | none => simp [h, h', hl, alookup_aset]
    | some cc =>
      cases pol with
      | replace => by_cases hd : env.lt cc.date c.date = true <;> simp [h, h', hd, hl, alookup_aset]
      | combine => simp [h, h', hl, alookup_aset]

theorem cells_lookup_foldl (env : Env) (pol : Policy) (cs : List Contrib) (a : Acc) (sk : Bytes × Bytes) :
    alookup sk (cs.foldl (step env pol) a).cells =
      (cs.filter (fun c => c.key = sk)).foldl (stepCell env pol) (alookup sk a.cells) := by
  induction cs generalizing a with
  | nil => rfl
  | cons c cs ih =>
    simp only [List.foldl_cons, ih, step_lookup]
    by_cases h : c.key = sk <;> simp [h]

theorem replace_fold (env : Env) (F : List Contrib) (c0 : Contrib) :
    F.foldl (stepCell env .replace) (some (fresh c0)) = some (fresh (latest env.lt (·.date) c0 F)) := by
  induction F generalizing c0 with
  | nil => rfl
  | cons x F ih =>
    rw [latest_cons, List.foldl_cons, ← ih]
    congr 1
    by_cases h : env.lt c0.date x.date = true <;> simp [stepCell, fresh, h]

theorem combine_fold (env : Env) (F : List Contrib) (z : Cmp) :
    F.foldl (stepCell env .combine) (some z) =
      some { num := z.num ++ F.flatMap (·.num), den := (F.map (·.den)).foldl combineDen z.den,
             date := latest env.lt id z.date (F.map (·.date)) } := by
  induction F generalizing z with
  | nil => simp [latest]
  | cons x F ih => simp [stepCell, ih, latest, List.append_assoc]

/-- a map iteration order only rearranges: each of the three traversals returns a permutation of
the keys it is given -/
structure _root_.Series.Iter.Valid (it : Iter) : Prop where
  tables : ∀ l, (it.tables l).Perm l
  trials : ∀ l, (it.trials l).Perm l
  tests : ∀ l, (it.tests l).Perm l

theorem contribs_perm (env : Env) (it : Iter) (hv : it.Valid) (b : Builder) (t : TKey) :
    (contribs env it b t).Perm (contribs env Iter.id b t) := by
  unfold contribs
  exact (List.Perm.flatMap_left _ (fun k _ => (hv.tests _).map _)).trans ((hv.trials _).flatMap_right _)

theorem replace_fold_perm (env : Env) (ho : StrictOrder env.lt) {F1 F2 : List Contrib} (hp : F1.Perm F2)
    (hdist : ∀ x ∈ F1, ∀ y ∈ F1, x.date = y.date → x = y) :
    F1.foldl (stepCell env .replace) none = F2.foldl (stepCell env .replace) none := by
  rcases perm_nil_or_cons hp with ⟨rfl, rfl⟩ | ⟨a, F1, b, F2, rfl, rfl⟩
  · rfl
  · show F1.foldl _ (some (fresh a)) = F2.foldl _ (some (fresh b))
    rw [replace_fold, replace_fold, hdist _ (latest_mem env.lt (·.date) a F1) _
      (hp.mem_iff.mpr (latest_mem env.lt (·.date) b F2)) (latest_perm ho _ hp)]

theorem dedup_eq {α} [DecidableEq α] (l : List α) : dedup l = l.dedup := by
  induction l with
  | nil => rfl
  | cons x l ih =>
    by_cases hx : x ∈ l
    · rw [dedup, if_pos hx, ih, List.dedup_cons_of_mem hx]
    · rw [dedup, if_neg hx, ih, List.dedup_cons_of_notMem hx]

theorem mem_dedup {α} [DecidableEq α] (a : α) (l : List α) : a ∈ dedup l ↔ a ∈ l := by
  rw [dedup_eq]; exact List.mem_dedup

theorem nodup_dedup {α} [DecidableEq α] (l : List α) : (dedup l).Nodup := by
  rw [dedup_eq]; exact List.nodup_dedup l

theorem sortSet_ext (env : Env) (ho : TotalOrder env.le) {l1 l2 : List Bytes} (h : ∀ a, a ∈ l1 ↔ a ∈ l2) :
    sortSet env l1 = sortSet env l2 :=
  List.mergeSort_eq_of_perm ho.trans ho.total
    ((List.perm_ext_iff_of_nodup (nodup_dedup l1) (nodup_dedup l2)).mpr (by intro a; simp [mem_dedup, h]))
    fun a _ b _ => ho.antisymm a b

end C18
