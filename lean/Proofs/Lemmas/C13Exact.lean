/-
C13 helper lemmas: sorting on construction and the mode scan of AssumeExact, over any linear
order whose `<` and `==` are what the value arithmetic `Math.Val` computes (`LawfulVal`).
-/
import Mathlib.Order.Defs.LinearOrder
import Model.Math.Exact

namespace C13
open Math

/-- the comparisons of the value arithmetic are those of a linear order. For float64 this is the
order of the real values of finite floats with −0 = +0 (Model/Base/F64 `lt`/`eq`, validated
bit-exactly against Go by the correspondence runs of C10 and C13). -/
class LawfulVal (α : Type) [LinearOrder α] [Val α] : Prop where
  lt_iff : ∀ a b : α, Val.lt a b = true ↔ a < b
  eq_iff : ∀ a b : α, Val.eq a b = true ↔ a = b
  before_irrefl : ∀ a : α, Val.before a a = false

variable {α : Type} [LinearOrder α] [Val α] [LawfulVal α]

theorem sortLe_iff (a b : α) : sortLe a b = true ↔ a ≤ b := by
  unfold sortLe
  by_cases h1 : Val.lt a b = true
  · simp only [h1, if_true, true_iff]; exact le_of_lt ((LawfulVal.lt_iff a b).mp h1)
  · by_cases h2 : Val.lt b a = true
    · simp only [h1, h2, if_true, if_false, Bool.false_eq_true, false_iff, not_le]
      exact (LawfulVal.lt_iff b a).mp h2
    · have n1 : ¬ a < b := fun h => h1 ((LawfulVal.lt_iff a b).mpr h)
      have n2 : ¬ b < a := fun h => h2 ((LawfulVal.lt_iff b a).mpr h)
      have e : a = b := le_antisymm (not_lt.mp n2) (not_lt.mp n1)
      subst e
      simp [h1, LawfulVal.before_irrefl]

theorem sortVals_pairwise (l : List α) : (sortVals l).Pairwise (· ≤ ·) := by
  have hp := List.pairwise_mergeSort (le := fun a b : α => sortLe a b)
    (fun a b c hab hbc => by rw [sortLe_iff] at *; exact le_trans hab hbc)
    (fun a b => by
      rcases le_total a b with hab | hab
      · simp [(sortLe_iff a b).mpr hab]
      · simp [(sortLe_iff b a).mpr hab]) l
  exact hp.imp fun hab => (sortLe_iff _ _).mp hab

omit [LinearOrder α] [LawfulVal α] in
theorem sortVals_map {β : Type} [Val β] (f : α → β) (h : ∀ a b, sortLe a b = sortLe (f a) (f b)) (l : List α) :
    sortVals (l.map f) = (sortVals l).map f :=
  (List.map_mergeSort (fun a _ b _ => h a b)).symm

omit [LinearOrder α] [LawfulVal α] in
theorem sortVals_perm (l : List α) : (sortVals l).Perm l := List.mergeSort_perm _ _

omit [Val α] [LawfulVal α] in
theorem le_getLastD (rest : List α) (v0 : α) (h : (v0 :: rest).Pairwise (· ≤ ·)) :
    ∀ x ∈ v0 :: rest, x ≤ rest.getLastD v0 := by
  induction rest generalizing v0 with
  | nil => intro x hx; simp at hx; simp [hx]
  | cons a as ih =>
    intro x hx
    simp only [List.getLastD_cons]
    have h' := List.pairwise_cons.mp h
    rcases List.mem_cons.mp hx with hx | hx
    · subst hx
      exact h'.1 _ List.getLastD_mem_cons
    · exact ih a h'.2 x hx

omit [LinearOrder α] [Val α] [LawfulVal α] in
theorem count_concat_ne [DecidableEq α] {x v : α} (pre : List α) (h : x ≠ v) : (pre ++ [v]).count x = pre.count x := by
  simp [List.count_append, Ne.symm h]

/-- `mv` is the smallest most frequent value of `l` and `mc ≥ 1` its multiplicity -/
def SmallestMode (l : List α) (mv : α) (mc : Nat) : Prop :=
  mc = l.count mv ∧ 1 ≤ mc ∧ (∀ x, l.count x ≤ mc) ∧ ∀ x, l.count x = mc → mv ≤ x

/-- invariant of the scan: after the prefix `pre` (non-empty, ending in a run of `val`),
`count` is the multiplicity of `val` and `(mv, mc)` is the smallest mode of `pre`. The result is the
smallest mode of `pre ++ rest`. -/
theorem modeScan_spec (rest : List α) : ∀ (pre : List α) (val : α) (count : Nat) (mv : α) (mc : Nat),
    (pre ++ rest).Pairwise (· ≤ ·) →
    (∀ x ∈ pre, x ≤ val) → val ∈ pre →
    count = pre.count val →
    SmallestMode pre mv mc →
    SmallestMode (pre ++ rest) (Exact.modeScan val count mv mc rest).1
      (Exact.modeScan val count mv mc rest).2 := by
  induction rest with
  | nil =>
    intro pre val count mv mc _ _ _ _ hm
    simpa only [Exact.modeScan, List.append_nil] using hm
  | cons v vs ih =>
    intro pre val count mv mc hs ha hvalin hb ⟨hc, hmc, hd, he⟩
    have hs' : ((pre ++ [v]) ++ vs).Pairwise (· ≤ ·) := by simpa using hs
    have hpv : ∀ x ∈ pre, x ≤ v := by
      intro x hx
      have := (List.pairwise_append.mp hs).2.2 x hx v (by simp)
      exact this
    have hmvmem : mv ∈ pre := by
      apply List.count_pos_iff.mp; omega
    have hall : ∀ x ∈ pre ++ [v], x ≤ v := fun x hx =>
      (List.mem_append.mp hx).elim (hpv x) fun h => le_of_eq (List.mem_singleton.mp h)
    have hvmem : v ∈ pre ++ [v] := by simp
    have cntv : (pre ++ [v]).count v = pre.count v + 1 := by simp [List.count_append]
    -- when the mode is kept: its record carries over once `v` has not overtaken it
    have keep : mv ≠ v → (pre ++ [v]).count v ≤ mc → SmallestMode (pre ++ [v]) mv mc := fun hne hle =>
      ⟨by rw [count_concat_ne pre hne]; exact hc, hmc,
        fun x => by
          by_cases hx : x = v
          · rw [hx]; exact hle
          · rw [count_concat_ne pre hx]; exact hd x,
        fun x hx => by
          by_cases hxv : x = v
          · rw [hxv]; exact hpv mv hmvmem
          · rw [count_concat_ne pre hxv] at hx; exact he x hx⟩
    rw [show pre ++ v :: vs = (pre ++ [v]) ++ vs by simp]
    unfold Exact.modeScan
    by_cases hv : Val.eq v val = true
    · obtain rfl : v = val := (LawfulVal.eq_iff v val).mp hv
      simp only [hv, if_true]
      by_cases hgt : count + 1 > mc
      · simp only [hgt, if_true]
        refine ih (pre ++ [v]) v (count + 1) v (count + 1) hs' hall hvmem (by omega)
          ⟨by omega, by omega, fun x => ?_, fun x hx => ?_⟩
        · by_cases hx : x = v
          · rw [hx]; omega
          · rw [count_concat_ne pre hx]; have := hd x; omega
        · by_cases hxv : x = v
          · exact le_of_eq hxv.symm
          · rw [count_concat_ne pre hxv] at hx; have := hd x; omega
      · simp only [hgt, if_false]
        have hmvne : mv ≠ v := by
          intro h; subst h; omega
        exact ih (pre ++ [v]) v (count + 1) mv mc hs' hall hvmem (by omega) (keep hmvne (by omega))
    · have hne : v ≠ val := fun h => hv ((LawfulVal.eq_iff v val).mpr h)
      simp only [hv]
      have hvin : v ∉ pre := fun h => hne (le_antisymm (ha v h) (hpv val hvalin))
      have hc0 : pre.count v = 0 := List.count_eq_zero.mpr hvin
      exact ih (pre ++ [v]) v 1 mv mc hs' hall hvmem (by omega)
        (keep (fun h => hvin (h ▸ hmvmem)) (by omega))

end C13
