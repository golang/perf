/-
Double-quoted literals read back by the model of strconv.Unquote: a body written escape by escape (`Esc`),
the `\xHH` literal `hexQuote` of every byte string.
-/
import Proofs.Lemmas.C07Tok

namespace C07
open Proc.Tok

theorem Items.append {a b : Bytes} (ha : Items a) (hb : Items b) : Items (a ++ b) := by
  induction ha with
  | nil => simpa using hb
  | plain hq hbs _ ih => exact Items.plain hq hbs ih
  | esc _ ih => exact Items.esc ih

theorem lowerhex_plain (n : Nat) (h : n < 16) : lowerhex n ≠ cQuote ∧ lowerhex n ≠ cBsl := by
  have : ∀ n, n < 16 → lowerhex n ≠ cQuote ∧ lowerhex n ≠ cBsl := by decide
  exact this n h

theorem unhex_lowerhex (n : Nat) (h : n < 16) : unhex (lowerhex n) = some n := by
  have : ∀ n, n < 16 → unhex (lowerhex n) = some n := by decide
  exact this n h

/-- the `n` lower-case hex digits of `r`, most significant first -/
def hexDigits : Nat → Nat → Bytes
  | 0, _ => []
  | n + 1, r => lowerhex (r / 16 ^ n % 16) :: hexDigits n r

theorem hexN_hexDigits (r : Nat) (tail : Bytes) : ∀ (n v : Nat),
    hexN n (hexDigits n r ++ tail) v = some (v * 16 ^ n + r % 16 ^ n, tail) := by
  intro n
  induction n with
  | zero => intro v; simp [hexN, hexDigits, Nat.mod_one]
  | succ n ih =>
    intro v
    have hu := unhex_lowerhex (r / 16 ^ n % 16) (Nat.mod_lt _ (by decide))
    simp only [hexDigits, List.cons_append, hexN, hu, ih]
    rw [Nat.mod_pow_succ, Nat.pow_succ, Nat.add_mul]
    ac_rfl

theorem items_hexDigits (r : Nat) : ∀ n, Items (hexDigits n r)
  | 0 => Items.nil
  | n + 1 =>
    have h := lowerhex_plain (r / 16 ^ n % 16) (Nat.mod_lt _ (by decide))
    Items.plain h.1 h.2 (items_hexDigits r n)

theorem hexEsc_eq (b : UInt8) : hexEsc b = cBsl :: 120 :: hexDigits 2 b.toNat := by
  have : b.toNat / 16 % 16 = b.toNat / 16 := Nat.mod_eq_of_lt (by have := b.toNat_lt; omega)
  simp [hexEsc, hexDigits, this]

theorem items_hexEsc (b : UInt8) : Items (hexEsc b) := by
  rw [hexEsc_eq]; exact Items.esc (items_hexDigits _ 2)

theorem unquoteChar_hexEsc (b : UInt8) (tail : Bytes) :
    unquoteChar (hexEsc b ++ tail) = some ([b], tail) := by
  have hx : hexN 2 (hexDigits 2 b.toNat ++ tail) 0 = some (b.toNat, tail) := by
    rw [hexN_hexDigits, Nat.zero_mul, Nat.zero_add, Nat.mod_eq_of_lt b.toNat_lt]
  rw [hexEsc_eq]
  simp [unquoteChar, cBsl, cQuote, hx]

/-- one step of a quoting round trip: the escape `esc` written for the source bytes `orig` is read back by
`unquoteChar` as exactly `orig`, does not start with a quote or newline, and is made of items -/
def StepOK (esc orig : Bytes) : Prop :=
  (∀ tail, unquoteChar (esc ++ tail) = some (orig, tail)) ∧
  (∃ h tl, esc = h :: tl ∧ h ≠ cQuote ∧ h ≠ 10) ∧ Items esc

/-- a literal body written escape by escape: each escape of `body` is read back as the next stretch of `s` -/
inductive Esc : Bytes → Bytes → Prop
  | nil : Esc [] []
  | cons {esc orig b s : Bytes} : StepOK esc orig → Esc b s → Esc (esc ++ b) (orig ++ s)

theorem Esc.items {b s : Bytes} (h : Esc b s) : Items b := by
  induction h with
  | nil => exact Items.nil
  | cons st _ ih => exact st.2.2.append ih

theorem Esc.unquoteLoop {b s : Bytes} (h : Esc b s) : ∀ (f : Nat) (acc : Bytes), b.length < f →
    unquoteLoop f (b ++ [cQuote]) acc = some (acc ++ s) := by
  induction h with
  | nil =>
    intro f acc hf
    obtain ⟨f, rfl⟩ : ∃ g, f = g + 1 := ⟨f - 1, by simp at hf; omega⟩
    simp [Proc.Tok.unquoteLoop]
  | @cons esc orig b s st _ ih =>
    intro f acc hf
    obtain ⟨f, rfl⟩ : ∃ g, f = g + 1 := ⟨f - 1, by omega⟩
    obtain ⟨hun, ⟨h, tl, rfl, hq, hn⟩, _⟩ := st
    have hu := hun (b ++ [cQuote])
    have e1 : (h == cQuote) = false := by simpa using hq
    have e2 : (h == 10) = false := by simpa using hn
    simp only [List.cons_append, List.append_assoc] at hu hf ⊢
    simp only [Proc.Tok.unquoteLoop, e1, e2, Bool.false_eq_true, if_false, hu]
    rw [ih f _ (by simp only [List.length_cons, List.length_append] at hf; omega), List.append_assoc]

/-- `strconv.Unquote` reads such a literal back as `s` -/
theorem Esc.unquote {b s : Bytes} (h : Esc b s) : unquote (cQuote :: (b ++ [cQuote])) = some s := by
  have h1 : (decide ((b ++ [cQuote]).length ≥ 1)) = true := by simp
  simp only [Proc.Tok.unquote, beq_self_eq_true, h1, Bool.and_self, if_true]
  simpa using h.unquoteLoop ((b ++ [cQuote]).length + 1) [] (by simp; omega)

theorem stepOK_hex (b : UInt8) : StepOK (hexEsc b) [b] :=
  ⟨fun tail => unquoteChar_hexEsc b tail, ⟨cBsl, _, rfl, by decide, by decide⟩, items_hexEsc b⟩

theorem esc_hex : ∀ s : Bytes, Esc (s.flatMap hexEsc) s
  | [] => Esc.nil
  | b :: s => by simpa [List.flatMap_cons] using Esc.cons (stepOK_hex b) (esc_hex s)

theorem items_hexBody (s : Bytes) : Items (s.flatMap hexEsc) := (esc_hex s).items

theorem unquote_hexQuote (s : Bytes) : unquote (hexQuote s) = some s := (esc_hex s).unquote

end C07
