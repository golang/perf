/-
What the reader delivers is well formed. Fields are `tokenOK` and keys `keyOK`; `scanLine` is taken apart by
`Fmt.scanLine_cases`, a unit line by `Fmt.parseUnitLine_ind`, and the invariants of the stream
(well-formed records, one record per unit setting, iteration counts from `Atoi`) follow.
-/
import Proofs.Lemmas.C01Tokens
import Proofs.Lemmas.C02Reader
import Proofs.Lemmas.Shared.ScanLines

namespace C01
open Fmt Spec.RoundTrip

theorem fieldsN_tokens (uc : UC) : ∀ (n : Nat) (x : Bytes), ∀ f ∈ fieldsN uc n x, f ≠ [] ∧ tokenOK uc f = true := by
  intro n
  induction n with
  | zero => intro x f hf; simp [fieldsN] at hf
  | succ n ih =>
    intro x f hf
    refine ⟨Spec.Format.fieldsN_ne_nil uc _ x f hf, ?_⟩
    simp only [fieldsN] at hf
    split at hf
    · simp at hf
    · simp only [List.mem_cons] at hf
      rcases hf with hf | hf
      · subst hf
        exact Spec.Format.splitField_tokenOK uc x
      · exact (ih _ f hf).2

theorem fields_tokens (uc : UC) (x : Bytes) : ∀ f ∈ fields uc x, f ≠ [] ∧ tokenOK uc f = true :=
  fieldsN_tokens uc _ x

theorem parseKeyValueLine_conv (uc : UC) (line k v : Bytes) (h : parseKeyValueLine uc line = some (k, v)) :
    keyOK uc k = true ∧ (∀ b ∈ v, b ∈ line) ∧ (v.head?.map isBlank).getD false = false :=
  Spec.Format.kvLine_conv ((Spec.Format.kvLine_eq uc line).trans h)

theorem valOK_mkVal (O : Oracles) (val : UInt64) (unit : Bytes) (hne : unit ≠ []) (htok : tokenOK O.uc unit = true) :
    valOK O.uc (Spec.Format.mkVal O val unit) = true := by
  have hue : unit.isEmpty = false := by cases unit <;> simp_all
  unfold Spec.Format.mkVal
  split <;> simp [valOK, hue, htok]

theorem meas_valOK {O : Oracles} {ms : List Bytes} {vals : List Val} (h : Spec.Format.Meas O ms vals)
    (hms : ∀ f ∈ ms, f ≠ [] ∧ tokenOK O.uc f = true) : ∀ v ∈ vals, valOK O.uc v = true := by
  induction h with
  | nil => exact nofun
  | @cons v u ms x vals _ _ ih =>
    intro w hw
    rcases List.mem_cons.1 hw with rfl | hw
    · have hu := hms u (by simp)
      exact valOK_mkVal O x u hu.1 hu.2
    · exact ih (fun f hf => hms f (by simp [hf])) w hw

theorem firstAndFields_tokens (uc : UC) (x : Bytes) :
    tokenOK uc (Spec.Format.firstAndFields uc x).1 = true ∧
      ∀ f ∈ (Spec.Format.firstAndFields uc x).2.2, f ≠ [] ∧ tokenOK uc f = true := by
  have h1 := Spec.Format.splitField_tokenOK uc x
  rw [Spec.Format.splitField_spec] at h1
  rw [Spec.Format.firstAndFields_eq, ← Spec.Format.fields_after_split]
  exact ⟨h1, fields_tokens uc _⟩

theorem parseBenchmarkLine_conv (O : Oracles) (line name : Bytes) (iters : Int) (vals : List Val)
    (h : parseBenchmarkLine O line = .ok name iters vals) :
    tokenOK O.uc name = true ∧ vals ≠ [] ∧ ∀ v ∈ vals, valOK O.uc v = true := by
  rw [← Spec.Format.benchLine_eq] at h
  obtain ⟨it, ms, hf, _, hne, hm⟩ := Spec.Format.benchLine_ok h
  obtain ⟨h1, h2⟩ := firstAndFields_tokens O.uc (line.drop 9)
  rw [hf] at h1 h2
  refine ⟨h1, ?_, meas_valOK hm fun f hf' => h2 f (List.mem_cons_of_mem _ hf')⟩
  cases hm with
  | nil => exact absurd rfl hne
  | cons _ _ => exact List.cons_ne_nil _ _

theorem parseUnitLine_ok (O : Oracles) (fn : Bytes) (n : Nat) (units : UnitMap) (line : Bytes) :
    ∀ r ∈ (parseUnitLine O fn n units line).2, recOKnoCR O r = true :=
  Fmt.parseUnitLine_ind O fn n (P := fun _ _ q => ∀ r ∈ q, recOKnoCR O r = true) (fun _ => nofun)
    (fun _ _ r hr => by rw [List.mem_singleton.1 hr]; rfl)
    (fun h1 h2 r hr => (List.mem_append.1 hr).elim (h1 r) (h2 r)) line
    (fun unit fs hf key value hmem hk hk61 _ _ r hr => by
      have hall := fields_tokens O.uc line
      rw [hf] at hall
      have hu := hall unit List.mem_cons_self
      have hue : unit.isEmpty = false := by cases hh : unit <;> simp_all
      have hfeq : key ++ [61] ++ value = key ++ 61 :: value := by simp
      rw [List.mem_singleton.1 hr]
      simp only [recOKnoCR, unitOK, hue, hu.2, hk, hk61, hfeq, (hall _ (List.mem_cons_of_mem _ hmem)).2,
        Bool.not_false, Bool.and_self, beq_self_eq_true]) units

/-- every entry of the reader's configuration came from an accepted `key: value` line -/
def SGood (uc : UC) (s : Store) : Prop :=
  ∀ k v f, s.toMap k = some (v, f) → f = true ∧ keyOK uc k = true ∧ valueOKnoCR v = true

theorem live_cfgOK (O : Oracles) {s : Store} (hi : s.Inv) (hg : SGood O.uc s) :
    ∀ c ∈ s.live, cfgOKnoCR O c = true := by
  have hnd := Store.live_keys_nodup hi
  intro c hc
  have h1 := cfgGet_of_mem hnd hc
  rw [Store.cfgGet_live hi] at h1
  obtain ⟨hf, hk, hv⟩ := hg _ _ _ h1
  simp [cfgOKnoCR, hf, hk, hv]

theorem noLF_of_subset {v line : Bytes} (h : ∀ b ∈ v, b ∈ line) (hl : Bytes.hasByte line 10 = false) :
    Bytes.hasByte v 10 = false := by
  simp only [Bytes.hasByte, List.any_eq_false, beq_iff_eq] at hl ⊢
  exact fun b hb => hl b (h b hb)

theorem scanLine_wf (O : Oracles) (st : RState) (l : Bytes) (hi : st.store.Inv) (hg : SGood O.uc st.store)
    (hl : Bytes.hasByte l 10 = false) :
    (scanLine O st l).1.store.Inv ∧ SGood O.uc (scanLine O st l).1.store ∧
    ∀ r ∈ (scanLine O st l).2, recOKnoCR O r = true := by
  rcases Fmt.scanLine_cases O l with ⟨_, h⟩ | ⟨rest, _, _, h⟩ | ⟨key, val, _, _, hp, h⟩ | ⟨_, _, _, h⟩ <;>
    rw [h st]
  · refine ⟨hi, hg, fun r hr => ?_⟩
    cases hp : parseBenchmarkLine O l with
    | skip => rw [hp] at hr; cases hr
    | err m => rw [hp] at hr; rw [List.mem_singleton.1 hr]; rfl
    | ok name iters vals =>
      rw [hp] at hr
      rw [List.mem_singleton.1 hr]
      obtain ⟨h1, h2, h3⟩ := parseBenchmarkLine_conv O l name iters vals hp
      exact resOKnoCR_iff.2 ⟨Store.live_keys_nodup hi, live_cfgOK O hi hg, h2, h1, h3⟩
  · exact ⟨hi, hg, parseUnitLine_ok O _ _ _ _⟩
  · obtain ⟨hk, hsub, hhead⟩ := parseKeyValueLine_conv O.uc l key val hp
    refine ⟨Store.inv_set hi key val true, fun k v f hm => ?_, fun _ hr => nomatch hr⟩
    rw [Store.toMap_set hi] at hm
    split at hm
    · rename_i hkk
      split at hm
      · cases hm
      · rename_i hv
        injection hm with hm
        injection hm with hv1 hf1
        have hne : val.isEmpty = false := by cases val <;> simp_all
        rw [hkk, ← hv1]
        refine ⟨hf1.symm, hk, ?_⟩
        simp [valueOKnoCR, hne, noLF_of_subset hsub hl, hhead]
    · exact hg k v f hm
  · exact ⟨hi, hg, fun _ hr => nomatch hr⟩

/-- the (tidied unit, key) a unit-metadata record is filed under -/
def ukey (u : UnitMeta) : Bytes × Bytes := (u.unit, u.key)

/-- on the way from `u` to `u'` exactly the settings `ps` were added, and a map (one entry per setting) stays one -/
structure UStep (u u' : UnitMap) (ps : List (Bytes × Bytes)) : Prop where
  keys : u'.map ukey = u.map ukey ++ ps
  nodup : (u.map ukey).Nodup → (u'.map ukey).Nodup

theorem ustep_refl (u : UnitMap) : UStep u u [] := ⟨(List.append_nil _).symm, id⟩

theorem ustep_trans {u u1 u2 : UnitMap} {p1 p2 : List (Bytes × Bytes)} (h1 : UStep u u1 p1)
    (h2 : UStep u1 u2 p2) : UStep u u2 (p1 ++ p2) :=
  ⟨by rw [h2.keys, h1.keys, List.append_assoc], fun h => h2.nodup (h1.nodup h)⟩

theorem ustep_insert (u : UnitMap) (md : UnitMeta) (h : u.get md.unit md.key = none) :
    UStep u (u.insert md) [(md.unit, md.key)] := by
  have hk : (u.insert md).map ukey = u.map ukey ++ [(md.unit, md.key)] := by simp [UnitMap.insert, ukey]
  refine ⟨hk, fun hn => ?_⟩
  rw [hk]
  refine List.nodup_append.2 ⟨hn, by simp, fun a ha b hb e => ?_⟩
  obtain ⟨x, hx, rfl⟩ := List.mem_map.1 ha
  rw [List.mem_singleton.1 hb] at e
  have := List.find?_eq_none.1 h x hx
  simp [ukey] at e
  simp [e.1, e.2] at this

theorem unitKeys_append (a b : List Rec) : unitKeys (a ++ b) = unitKeys a ++ unitKeys b := by
  simp [unitKeys, List.filterMap_append]

theorem scanLine_ustep (O : Oracles) (st : RState) (l : Bytes) :
    UStep st.units (scanLine O st l).1.units (unitKeys (scanLine O st l).2) := by
  rcases Fmt.scanLine_cases O l with ⟨_, h⟩ | ⟨rest, _, _, h⟩ | ⟨_, _, _, _, _, h⟩ | ⟨_, _, _, h⟩ <;> rw [h st]
  · cases parseBenchmarkLine O l <;> exact ustep_refl st.units
  · exact Fmt.parseUnitLine_ind O _ _ (P := fun u u' q => UStep u u' (unitKeys q)) ustep_refl
      (fun u _ => ustep_refl u) (fun h1 h2 => unitKeys_append _ _ ▸ ustep_trans h1 h2) rest
      (fun _ _ _ _ _ _ _ _ u h => ustep_insert u _ h) st.units
  · exact ustep_refl st.units
  · exact ustep_refl st.units

theorem readLines_ustep (O : Oracles) : ∀ (ls : List Bytes) (st : RState),
    UStep st.units (finalState O st ls).units (unitKeys (readLines O st ls)) := by
  intro ls
  induction ls with
  | nil => intro st; simpa [readLines, finalState, unitKeys] using ustep_refl st.units
  | cons l ls ih =>
    intro st
    simp only [readLines, finalState, unitKeys_append]
    exact ustep_trans (scanLine_ustep O st l) (ih _)

theorem readLines_wf (O : Oracles) : ∀ (ls : List Bytes) (st : RState), st.store.Inv → SGood O.uc st.store →
    (∀ l ∈ ls, Bytes.hasByte l 10 = false) → ∀ r ∈ readLines O st ls, recOKnoCR O r = true := by
  intro ls
  induction ls with
  | nil => intro st _ _ _ r hr; simp [readLines] at hr
  | cons l ls ih =>
    intro st hi hg hl r hr
    obtain ⟨h1, h2, h3⟩ := scanLine_wf O st l hi hg (hl l List.mem_cons_self)
    simp only [readLines, List.mem_append] at hr
    rcases hr with hr | hr
    · exact h3 r hr
    · exact ih _ h1 h2 (fun l' hl' => hl l' (List.mem_cons_of_mem _ hl')) r hr

theorem sgood_reset (uc : UC) (s : Store) : SGood uc s.reset := by
  intro k v f h
  rw [Store.toMap_reset] at h
  simp at h

/-- **reader_results_WF**: whatever the text, the stream the model reader delivers satisfies
every clause of `WF` except (possibly) the CR clause. -/
theorem reader_results_WF (O : Oracles) (fn text : Bytes) : WFnoCR O (readAll O fn text) = true := by
  unfold readAll
  have hst : (RState.zero.reset fn []).store = Store.empty.reset := rfl
  have hrecs := readLines_wf O (splitLines text) (RState.zero.reset fn [])
    (by rw [hst]; exact Store.inv_reset _) (by rw [hst]; exact sgood_reset _ _)
    (splitLinesAux_noLF text [] rfl)
  have hu := readLines_ustep O (splitLines text) (RState.zero.reset fn [])
  simp only [WFnoCR, Bool.and_eq_true, List.all_eq_true]
  have hk := hu.keys
  rw [show (RState.zero.reset fn []).units = [] from rfl, List.map_nil, List.nil_append] at hk
  exact ⟨hrecs, (distinctPairs_iff _).2 (hk ▸ hu.nodup List.nodup_nil)⟩

theorem readLines_iters (O : Oracles) (ls : List Bytes) (st : RState) (r : Res)
    (hr : Rec.result r ∈ readLines O st ls) : ∃ f, O.atoi f = .ok r.iters := by
  obtain ⟨_, l, _, _, _, hb⟩ := readLines_result_origin O ls st r hr
  rw [← Spec.Format.benchLine_eq] at hb
  obtain ⟨it, _, _, ha, _⟩ := Spec.Format.benchLine_ok hb
  exact ⟨it, ha⟩

end C01
