/-
C17 helper lemmas: `sortStable` (the insertion sort sort.SliceStable performs) is the insertion sort
of `Shared/Sort.lean` on the reversed list; permutation and stability follow. Sortedness needs the
strict-weak-order laws only among the elements of the list (`SWOn`, `sortStable_sorted_on`); every
`Order` has them on rows whose `ByDelta` key is not NaN (`order_swo`).
-/
import Model.Legacy.Collection
import Proofs.Lemmas.Shared.Sort
import Proofs.Lemmas.Shared.BytesOrder
import Proofs.Lemmas.F64Bits

namespace C17
open Legacy

/-- `sortStable` inserts into the reversed prefix -/
theorem insRev_is {α : Type} (less : α → α → Bool) : Shared.IsInsert (fun x y => ¬ less x y = true) (insRev less) :=
  .of_flip (fun _ => rfl) fun _ _ _ => rfl

theorem sortStable_eq {α : Type} (less : α → α → Bool) (xs : List α) :
    sortStable less xs = (xs.reverse.foldr (insRev less) []).reverse := by
  rw [sortStable, List.foldr_reverse]

theorem sortStable_perm {α : Type} (less : α → α → Bool) (xs : List α) :
    (sortStable less xs).Perm xs := by
  rw [sortStable_eq]
  exact (List.reverse_perm _).trans (((insRev_is less).sort_perm _).trans (List.reverse_perm _))

theorem sortStable_stable {α : Type} (less : α → α → Bool) (xs : List α) :
    ∀ a b, List.Sublist [a, b] xs → less b a = false → List.Sublist [a, b] (sortStable less xs) := by
  intro a b hsub hba
  rw [sortStable_eq]
  have := (insRev_is less).sort_sublist (c := [b, a]) (List.pairwise_pair.2 (Bool.eq_false_iff.1 hba))
    (by simpa using List.reverse_sublist.2 hsub)
  simpa using List.reverse_sublist.2 this

theorem bytesLt_lt : Shared.DecidesLt bytesLt :=
  ⟨Shared.bytesLt_iff (fun a => by cases a <;> rfl) (fun _ _ => rfl) fun _ _ _ _ => rfl⟩

/-- the sort key of `ByDelta`: `math.Abs(PctDelta) * float64(Change)` -/
def dkey (r : Row) : F64.Bits := F64.mul (F64.abs r.pctDelta) (F64.ofInt r.change)

/-- `less` is a strict weak order on the elements satisfying `S` -/
structure SWOn {α : Type} (less : α → α → Bool) (S : α → Prop) : Prop where
  asymm : ∀ a b, S a → S b → less a b = true → less b a = false
  negtrans : ∀ a b c, S a → S b → S c → less a b = false → less b c = false → less a c = false

theorem SWOn.mono {α : Type} {less : α → α → Bool} {S T : α → Prop} (h : SWOn less S) (hST : ∀ a, T a → S a) :
    SWOn less T :=
  ⟨fun a b ha hb => h.asymm a b (hST a ha) (hST b hb),
    fun a b c ha hb hc => h.negtrans a b c (hST a ha) (hST b hb) (hST c hc)⟩

/-- `ByName` is a strict weak order on all rows: `bytesLt` is core's `<` on byte lists -/
theorem byName_swo : SWOn Order.byName.less fun _ => True :=
  ⟨fun a b _ _ => bytesLt_lt.asymm a.bench b.bench, fun a b c _ _ _ => bytesLt_lt.negtrans a.bench b.bench c.bench⟩

theorem SWOn.reverse {o : Order} {S : Row → Prop} (h : SWOn o.less S) : SWOn (Order.reverse o).less S :=
  ⟨fun a b ha hb => h.asymm b a hb ha, fun a b c ha hb hc h1 h2 => h.negtrans c b a hc hb ha h2 h1⟩

theorem sortStable_sorted_on {α : Type} {less : α → α → Bool} {S : α → Prop} (h : SWOn less S) (xs : List α)
    (hS : ∀ a ∈ xs, S a) : (sortStable less xs).Pairwise (fun a b => less b a = false) := by
  rw [sortStable_eq, List.pairwise_reverse]
  have hS' : ∀ a ∈ xs.reverse, S a := fun a ha => hS a (List.mem_reverse.1 ha)
  exact (insRev_is less).sort_pairwise_on (fun _ _ _ _ => Bool.eq_false_iff.2)
    (fun x hx y hy hxy => h.asymm x y (hS' x hx) (hS' y hy) (Classical.not_not.1 hxy))
    fun x hx y hy z hz hxy => h.negtrans x y z (hS' x hx) (hS' y hy) (hS' z hz) (Bool.eq_false_iff.2 hxy)

theorem order_swo (o : Order) : SWOn o.less fun r => F64.isNaN (dkey r) = false := by
  induction o with
  | byName => exact byName_swo.mono fun _ _ => trivial
  | byDelta => exact ⟨fun a b _ _ => F64.lt_asymm' _ _, fun a b c ha hb hc => F64.lt_negtrans _ _ _ ha hb hc⟩
  | reverse o ih => exact ih.reverse


end C17
