/-
C03 — the mirrored decimal slow path: `decimal.set` against the specification's recogniser.
On a text with more than 800 significant digits (all the excess after the decimal point — the other
case is finding N3) the decimal is the text's value cut to 800 digits, `trunc` set exactly when
something non-zero was cut; on a shorter text it is the exact value.
-/
import Proofs.Lemmas.C03Shift
import Proofs.Lemmas.C03Recognise
import Proofs.Lemmas.C03Frac

namespace C03
open Num Spec.NumText

theorem setLoop_us (cs : Bytes) (st : SetSt) : setLoop (95 :: cs) st = setLoop cs st := by
  conv => lhs; unfold setLoop
  simp

/-- what the digit loop of `decimal.set` does at a point: a second one is the failing `return` -/
def dotS (st : SetSt) : Option SetSt := if st.sawdot then none else some { st with sawdot := true, dp := st.nd }

/-- what the digit loop of `decimal.set` does with a digit: a leading zero only moves the point; a digit
is stored while the 800-digit buffer has room; after that a non-zero digit sets `trunc` -/
def pushS (c : UInt8) (st : SetSt) : SetSt :=
  if c = 48 ∧ st.nd = 0 then { st with sawdigits := true, dp := st.dp - 1 }
  else if st.nd < bufLen then { st with sawdigits := true, acc := c :: st.acc, nd := st.nd + 1 }
  else { st with sawdigits := true, trunc := st.trunc || c != 48 }

theorem setLoop_eq_scan (t : Bytes) : ∀ st, setLoop t st = scan isDec dotS pushS t st := by
  induction t with
  | nil => intro st; rfl
  | cons c cs ih =>
    intro st
    have hb : (48 ≤ c && c ≤ 57) = isDec c := rfl
    refine scan_cases isDec (fun t => setLoop t st = scan isDec dotS pushS t st) c cs ?_ ?_ ?_ ?_
    · rintro rfl; rw [setLoop_us, scan_us]; exact ih st
    · rintro rfl
      rw [scan_dot, show dotS st = if st.sawdot then none else some { st with sawdot := true, dp := st.nd } from rfl]
      conv => lhs; unfold setLoop
      cases st.sawdot <;> simp [ih]
    · intro h95 h46 hd
      rw [scan_dig _ _ _ c cs st h95 h46 hd, ← ih]; conv => lhs; unfold setLoop
      simp only [beq_eq_false_iff_ne.mpr h95, beq_eq_false_iff_ne.mpr h46, Bool.false_eq_true, if_false, hb, hd,
        if_true, Bool.and_eq_true, beq_iff_eq]
      unfold pushS
      split
      · rfl
      · split
        · rfl
        · by_cases h48 : c = 48
          · simp [h48]
          · have : (c != 48) = true := by simpa using h48
            simp [this]
    · intro h95 h46 hd hs
      rw [scan_stop _ _ _ _ _ hs]; conv => lhs; unfold setLoop
      simp [h95, h46, hb, hd]

/-- the significant digits read: leading zeros do not count -/
def sigOf (L : Lex) : Bytes := (L.ip ++ L.fp).dropWhile (· == 48)

theorem sigOf_of_fp_nil {L : Lex} (h : L.fp = []) : sigOf L = L.ip.dropWhile (· == 48) := by
  unfold sigOf; rw [h, List.append_nil]

/-- the state of `set`'s digit loop as a function of the digits read: the buffer holds the first 800
significant digits, `trunc` says whether a non-zero digit is among the others, and the point stands
after the significant digits of the integer part — as long as these fit into the buffer (otherwise
`dp` is the capped count: finding N3) -/
structure SInv (ss : SetSt) (L : Lex) : Prop where
  acc : ss.acc.reverse = (sigOf L).take bufLen
  nd : ss.nd = ss.acc.length
  tr : ss.trunc = ((sigOf L).drop bufLen).any (· != 48)
  dot : L.dot = ss.sawdot
  sd : ss.sawdigits = !(L.ip.isEmpty && L.fp.isEmpty)
  dp : L.dot = true → (L.ip.dropWhile (· == 48)).length ≤ bufLen →
    ss.dp = ((sigOf L).length : Int) - (L.fp.length : Int)

theorem sinv_init : SInv {} (.int []) := by
  constructor <;> simp [sigOf, Lex.ip, Lex.fp, Lex.dot]

theorem SInv.nd_eq {ss : SetSt} {L : Lex} (inv : SInv ss L) : ss.nd = ((sigOf L).take bufLen).length := by
  rw [inv.nd, ← List.length_reverse, inv.acc]

theorem SInv.nd_zero {ss : SetSt} {L : Lex} (inv : SInv ss L) : ss.nd = 0 ↔ sigOf L = [] := by
  rw [inv.nd_eq, List.length_take]
  have : 0 < bufLen := by decide
  constructor
  · intro h; exact List.eq_nil_of_length_eq_zero (by omega)
  · intro h; rw [h]; rfl

theorem SInv.atDot {ss : SetSt} {ip : Bytes} (inv : SInv ss (.int ip)) :
    SInv { ss with sawdot := true, dp := ss.nd } (.frac ip []) := by
  refine ⟨inv.acc, inv.nd, inv.tr, rfl, inv.sd, fun _ (hI : (ip.dropWhile (· == 48)).length ≤ bufLen) => ?_⟩
  show (ss.nd : Int) = ((sigOf (.int ip)).length : Int) - (([] : Bytes).length : Int)
  rw [inv.nd_eq, sigOf_of_fp_nil rfl, show (Lex.int ip).ip = ip from rfl, List.take_of_length_le hI]
  simp

theorem sig_push (L : Lex) (c : UInt8) :
    sigOf (pushL c L) = if sigOf L = [] ∧ c = 48 then [] else sigOf L ++ [c] := by
  unfold sigOf
  rw [pushL_all, List.dropWhile_append]
  by_cases hS : List.dropWhile (· == 48) (L.ip ++ L.fp) = []
  · rw [hS]
    by_cases hc : c = 48
    · simp [hc]
    · have : (c == 48) = false := by simpa using hc
      simp [this, hc]
  · have : (List.dropWhile (· == 48) (L.ip ++ L.fp)).isEmpty = false := by
      cases h : List.dropWhile (· == 48) (L.ip ++ L.fp) with
      | nil => exact absurd h hS
      | cons _ _ => rfl
    rw [this]
    simp [hS]

theorem SInv.push {ss : SetSt} {L : Lex} (inv : SInv ss L) (c : UInt8) :
    SInv (pushS c ss) (pushL c L) := by
  have v2 := pushL_fp c L
  have v3 := pushL_dot c L
  have v4 := pushL_nonempty c L
  have hsig := sig_push L c
  have hnd0 := inv.nd_zero
  have hlen := inv.nd_eq
  rw [List.length_take] at hlen
  have hip' : (pushL c L).dot = true → (pushL c L).ip = L.ip := fun h => by
    cases L with
    | int _ => cases h
    | frac _ _ => rfl
  -- the point, whichever way the digit goes: one more significant digit and one more fraction digit,
  -- or (a leading zero) `dp` one less
  have hdp : ∀ (dp' : Int) (k : Int), ((sigOf (pushL c L)).length : Int) = (sigOf L).length + k → dp' = ss.dp + k - 1 →
      (pushL c L).dot = true → ((pushL c L).ip.dropWhile (· == 48)).length ≤ bufLen →
      dp' = ((sigOf (pushL c L)).length : Int) - ((pushL c L).fp.length : Int) := by
    intro dp' k h1 h2 hd hI
    rw [hip' hd] at hI
    rw [v3] at hd
    have := inv.dp hd hI
    rw [v2, if_pos hd, h1, h2, this]
    push_cast; omega
  unfold pushS
  by_cases hz : c = 48 ∧ ss.nd = 0
  · rw [if_pos hz]
    have hS := hnd0.mp hz.2
    rw [if_pos ⟨hS, hz.1⟩] at hsig
    refine ⟨by rw [hsig, ← hS]; exact inv.acc, inv.nd, by rw [hsig, ← hS]; exact inv.tr, by rw [v3]; exact inv.dot,
      by rw [v4]; rfl, hdp _ 0 (by rw [hsig, hS]; rfl) (by show ss.dp - 1 = _; omega)⟩
  · rw [if_neg hz]
    have hsig' : sigOf (pushL c L) = sigOf L ++ [c] := by
      rw [hsig, if_neg (fun h => hz ⟨h.2, hnd0.mpr h.1⟩)]
    have hk : ((sigOf (pushL c L)).length : Int) = (sigOf L).length + 1 := by rw [hsig', List.length_append]; rfl
    by_cases hroom : ss.nd < bufLen
    · rw [if_pos hroom]
      have hl : (sigOf L).length < bufLen := by omega
      refine ⟨?_, by show ss.nd + 1 = (c :: ss.acc).length; rw [inv.nd]; rfl, ?_, by rw [v3]; exact inv.dot,
        by rw [v4]; rfl, hdp _ 1 hk (by show ss.dp = _; omega)⟩
      · show (c :: ss.acc).reverse = _
        rw [List.reverse_cons, inv.acc, hsig', List.take_of_length_le (Nat.le_of_lt hl),
          List.take_of_length_le (by rw [List.length_append]; exact hl)]
      · show ss.trunc = _
        rw [inv.tr, hsig', List.drop_eq_nil_of_le (Nat.le_of_lt hl),
          List.drop_eq_nil_of_le (by rw [List.length_append]; exact hl)]
    · rw [if_neg hroom]
      have hl : bufLen ≤ (sigOf L).length := by omega
      refine ⟨by rw [hsig', List.take_append_of_le_length hl]; exact inv.acc, inv.nd, ?_, by rw [v3]; exact inv.dot,
        by rw [v4]; rfl, hdp _ 1 hk (by show ss.dp = _; omega)⟩
      show (ss.trunc || c != 48) = _
      rw [hsig', List.drop_append_of_le_length hl, List.any_append, inv.tr]
      simp

/-- **`set` after the sign in the specification's terms** (`frame_spec` for its digit loop): it fails where `parseBody`
does; otherwise its state is the function `SInv` of the specification's digits -/
theorem setLoop_invT (t : Bytes) (prev : Bool) (hu : underscoresOK isDec prev t = true) :
    (specBody false (strip t) = none → frame false SetSt.sawdigits (setLoop t {}) = none) ∧
    ∀ M E, specBody false (strip t) = some (M, E) →
      ∃ ss x L, frame false SetSt.sawdigits (setLoop t {}) = some (ss, x) ∧
        SInv ss L ∧ L.ip = (strip t).takeWhile isDec ∧ L.fp = spFP isDec (strip t) ∧
        M = valOf 10 ((strip t).takeWhile isDec ++ spFP isDec (strip t)) ∧
        x = E + ((spFP isDec (strip t)).length : Int) + expGap isDec (strip t) := by
  have ed : digS false = isDec := rfl
  have eb : baseOf false = 10 := rfl
  have sim : Sim (digS false) dotS pushS SInv :=
    ⟨fun a ip h => by unfold dotS; rw [← h.dot]; exact ⟨_, rfl, h.atDot⟩,
     fun a ip fp h => by unfold dotS; rw [← h.dot]; rfl, fun a L c h _ => h.push c⟩
  have := frame_spec sim SetSt.sawdigits (fun _ _ h => h.sd) {} sinv_init t prev hu
  rw [setLoop_eq_scan]
  simpa only [ed, eb, Bool.false_eq_true, if_false, Nat.one_mul] using this

/-- the decimal `set` builds from its loop state and the exponent adjustment -/
def mkDc (st : SetSt) (neg : Bool) (x : Int) : Dc :=
  { d := st.acc.reverse, dp := (if !st.sawdot then (st.nd : Int) else st.dp) + x, neg := neg, trunc := st.trunc }

/-- `set` after the sign: the digit loop, then the exponent part moves the point -/
def setBody (neg : Bool) (t : Bytes) : Option Dc :=
  (frame false SetSt.sawdigits (setLoop t {})).map fun p => mkDc p.1 neg p.2

theorem decSet_cons (c0 : UInt8) (tl : Bytes) : decSet (c0 :: tl) = setBody (c0 == 45) (bodyOf c0 tl) := by
  unfold decSet bodyOf setBody frame
  simp only []
  cases hs : setLoop (if (c0 == 43 || c0 == 45) = true then tl else c0 :: tl) {} with
  | none => rfl
  | some p =>
    obtain ⟨st, rest⟩ := p
    simp only []
    by_cases hsd : st.sawdigits = true
    · simp only [hsd, Bool.not_true, Bool.false_eq_true, if_false]
      cases rest with
      | nil => simp [tailAdj, mkDc]
      | cons c r1 =>
        rw [tailAdj_cons]
        simp only [Bool.false_eq_true, if_false]
        by_cases hc : (lower c == 101) = true
        · simp only [hc, if_true]
          exact (expFrag (fail := none) (ok := fun x => some (mkDc st (c0 == 45) x)) r1).trans (by cases okPart r1 <;> rfl)
        · simp [hc]
    · simp [hsd]

theorem SInv.built {ss : SetSt} {L : Lex} (inv : SInv ss L) (hdig : (L.ip ++ L.fp).all isDec = true)
    (neg : Bool) (y : Int) :
    WF (mkDc ss neg y) ∧
    (valOf 10 (L.ip ++ L.fp) = 0 → (mkDc ss neg y).d = [] ∧ (mkDc ss neg y).trunc = false) ∧
    (valOf 10 (L.ip ++ L.fp) ≠ 0 → (mkDc ss neg y).d ≠ []) ∧
    (valOf 10 (L.ip ++ L.fp) < 10 ^ 800 →
      (mkDc ss neg y).trunc = false ∧ (L.ip.dropWhile (· == 48)).length ≤ bufLen) ∧
    ((L.ip.dropWhile (· == 48)).length ≤ bufLen →
      Cut (mkDc ss neg y) ((valOf 10 (L.ip ++ L.fp) : ℚ) * (10 : ℚ) ^ (y - (L.fp.length : Int))) false) := by
  have hbl : bufLen = 800 := rfl
  have hd : (mkDc ss neg y).d = (sigOf L).take bufLen := inv.acc
  have ht : (mkDc ss neg y).trunc = ((sigOf L).drop bufLen).any (· != 48) := inv.tr
  have hSd : (sigOf L).all isDec = true :=
    List.all_eq_true.mpr fun c hc => List.all_eq_true.mp hdig c ((List.dropWhile_sublist _).mem hc)
  have hval : valOf 10 (sigOf L) = valOf 10 (L.ip ++ L.fp) := valOf_sig 10 _
  -- the significant digits start with the first digit that is not `0`
  have hlo : sigOf L ≠ [] → 10 ^ ((sigOf L).length - 1) ≤ valOf 10 (L.ip ++ L.fp) := fun hne =>
    hval ▸ (lead_iff _ hSd hne).mp fun c cs e => by simpa using dropWhile_head (L.ip ++ L.fp) c cs e
  have hip : (L.ip.dropWhile (· == 48)).length ≤ (sigOf L).length := by
    unfold sigOf
    rw [List.dropWhile_append]
    split
    · rename_i h; rw [List.isEmpty_iff.mp h]; exact Nat.zero_le _
    · rw [List.length_append]; exact Nat.le_add_right _ _
  refine ⟨WF.of_take (sigOf L) hSd (fun h => hval ▸ hlo h) hd, fun h0 => ?_, fun h0 h => ?_, fun hM => ?_, fun hI => ?_⟩
  · have hS : sigOf L = [] := Classical.byContradiction fun hne => by
      have := Nat.lt_of_lt_of_le (Nat.pow_pos (by decide)) (hlo hne); omega
    rw [hd, ht, hS]; exact ⟨rfl, rfl⟩
  · rw [hd] at h
    apply h0
    rw [← hval, show sigOf L = [] from by
      cases hS : sigOf L with
      | nil => rfl
      | cons c cs => rw [hS, hbl] at h; cases h]
    rfl
  · have hl : (sigOf L).length ≤ bufLen := by
      by_cases hne : sigOf L = []
      · rw [hne]; exact Nat.zero_le _
      · have h1 := Nat.lt_of_le_of_lt (hlo hne) hM
        have := (Nat.pow_lt_pow_iff_right (by decide : 1 < 10)).mp h1
        omega
    exact ⟨by rw [ht, List.drop_eq_nil_of_le hl]; rfl, Nat.le_trans hip hl⟩
  · have hc := cut_digits (sigOf L) hSd (mkDc ss neg y) false hd (by rw [ht, Bool.false_or])
    rw [hval] at hc
    have he : (mkDc ss neg y).dp - ((sigOf L).length : Int) = y - (L.fp.length : Int) := by
      show (if !ss.sawdot then (ss.nd : Int) else ss.dp) + y - _ = _
      cases hs : ss.sawdot
      · have hdot : L.dot = false := by rw [inv.dot, hs]
        have hfp := Lex.fp_nil hdot
        have : ss.nd = (sigOf L).length := by
          rw [inv.nd_eq, List.take_of_length_le (by rw [sigOf_of_fp_nil hfp]; exact hI)]
        rw [this, hfp]
        simp
      · have := inv.dp (by rw [inv.dot, hs]) hI
        simp only [Bool.not_true, Bool.false_eq_true, if_false]
        omega
    rw [he] at hc
    exact hc

theorem setBody_specT (neg : Bool) (t : Bytes) (prev : Bool) (hu : underscoresOK isDec prev t = true) :
    (specBody false (strip t) = none → setBody neg t = none) ∧
    ∀ M E, specBody false (strip t) = some (M, E) →
      ((((strip t).takeWhile isDec).dropWhile (· == 48)).length ≤ 800 ∨ M < 10 ^ 800) →
      ∃ d, setBody neg t = some d ∧
        WF d ∧ d.neg = neg ∧ (M = 0 → d.d = [] ∧ d.trunc = false) ∧
        (M ≠ 0 → d.d ≠ [] ∧ Cut d ((M : ℚ) * (10 : ℚ) ^ (E + expGap isDec (strip t))) false) ∧
        (M < 10 ^ 800 → d.trunc = false) := by
  obtain ⟨k1, k2⟩ := setLoop_invT t prev hu
  unfold setBody
  refine ⟨fun h => by rw [k1 h]; rfl, fun M E h hI => ?_⟩
  obtain ⟨ss, x, L, hf, sinv, hip, hfp, hM, hx⟩ := k2 M E h
  obtain ⟨w1, w2, w3, w4, w5⟩ := sinv.built (by rw [hip, hfp, List.all_append, List.all_takeWhile, spFP_all]; rfl) neg x
  rw [hip, hfp, ← hM] at w2 w3 w4 w5
  have hI' : (((strip t).takeWhile isDec).dropWhile (· == 48)).length ≤ bufLen :=
    hI.elim id fun hM => (w4 hM).2
  rw [hf]
  refine ⟨_, rfl, w1, rfl, w2, fun h => ⟨w3 h, ?_⟩, fun hM => (w4 hM).1⟩
  have := w5 hI'
  rw [show x - ((spFP isDec (strip t)).length : Int) = E + expGap isDec (strip t) by rw [hx]; omega] at this
  exact this

theorem setBody_zero_letter (neg : Bool) (x : UInt8) (r : Bytes) (hl : lowerLetter x = true) (he : lower x ≠ 101) :
    setBody neg (48 :: x :: r) = none := by
  unfold setBody
  rw [setLoop_eq_scan, frame_zero_letter _ _ _ _ x r hl he]
  rfl

/-- `decimal.set` against the specification's recogniser, for texts that passed `underscoreOK`: it
fails exactly when the recogniser rejects the text or sees a hex literal; otherwise, when at most
800 significant digits stand before the point, it builds a well-formed decimal with the numeral's
sign that is the value of the numeral as the code reads it (exponent literal clamped: `expGapS`,
0 below 100000) cut to the 800-digit buffer, `trunc` set exactly when a non-zero digit was cut —
never when the whole mantissa has at most 800 digits. -/
theorem decSet_full (s : Bytes) (hu : underscoreOK s = true) :
    (recognise s = none → decSet s = none) ∧
    (∀ p, recognise s = some p → p.hex = true → decSet s = none) ∧
    (∀ p, recognise s = some p → p.hex = false → ((mantDigits s).1.length ≤ 800 ∨ p.mant < 10 ^ 800) →
      ∃ d, decSet s = some d ∧ WF d ∧ d.neg = p.neg ∧ (p.mant = 0 → d.d = [] ∧ d.trunc = false) ∧
        (p.mant ≠ 0 → d.d ≠ [] ∧ Cut d (valueOf (clampP p (expGapS s))) false) ∧
        (p.mant < 10 ^ 800 → d.trunc = false)) := by
  cases s with
  | nil =>
    exact ⟨fun _ => rfl, fun p h => (by rw [recognise_nil] at h; cases h), fun p h => (by rw [recognise_nil] at h; cases h)⟩
  | cons c0 tl =>
    -- a recognised hex literal has a hex prefix
    have hhex : ∀ p, recognise (c0 :: tl) = some p → p.hex = isHexPrefix (bodyOf c0 tl) := fun p h => by
      have := (recog_facts _ p h).1
      rw [splitSign_cons] at this; exact this
    rw [decSet_cons]
    rcases prefix_cases c0 tl with ⟨x, b, hb, hx, _, hp, _, _⟩ | ⟨x, r, hb, hl, he, _, hrec⟩ | ⟨_, h1, hu', hrec⟩
    · -- `0x…`: `set` stops at the `x`
      rw [hb, setBody_zero_letter (c0 == 45) x b (lowerLetter_of_eq hx rfl) (by rw [hx]; decide)]
      exact ⟨fun _ => rfl, fun _ _ _ => rfl, fun p h hh => by rw [hhex p h, hp] at hh; cases hh⟩
    · -- `0b…`, `0o…`, a bare `0x`: neither side accepts
      rw [hb, setBody_zero_letter (c0 == 45) x r hl he, hrec]
      exact ⟨fun _ => rfl, fun p h => (by cases h), fun p h => (by cases h)⟩
    · -- no prefix: a decimal literal
      rw [hu'] at hu
      obtain ⟨k1, k2⟩ := setBody_specT (c0 == 45) (bodyOf c0 tl) false hu
      rw [hrec, hu]
      simp only [Bool.not_true, Bool.false_eq_true, if_false]
      cases hpb : specBody false (strip (bodyOf c0 tl)) with
      | none => exact ⟨fun _ => k1 hpb, fun p h => (by cases h), fun p h => (by cases h)⟩
      | some q =>
        obtain ⟨M, E⟩ := q
        refine ⟨fun h => (by cases h), fun p h hh => ?_, fun p h hh hI => ?_⟩
        · cases h; cases hh
        · cases h
          have hI' : ((((strip (bodyOf c0 tl)).takeWhile isDec).dropWhile (· == 48)).length ≤ 800 ∨ M < 10 ^ 800) := by
            unfold mantDigits at hI
            rw [splitSign_cons] at hI
            exact hI
          obtain ⟨d, e1, e2, e3, e4, e5, e7⟩ := k2 M E hpb hI'
          refine ⟨d, e1, e2, e3, e4, fun hm0 => ?_, e7⟩
          have := e5 hm0
          unfold expGapS valueOf clampP
          rw [splitSign_cons]
          simpa [h1] using this

end C03
