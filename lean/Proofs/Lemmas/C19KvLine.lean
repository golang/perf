/-
C19 helper lemmas: the configuration lines of the legacy benchfmt Reader. `kvScan` and `parseKeyValueLine`
characterised once; read off them: the two kinds of line the Printer writes are read back as written.
-/
import Model.Storage.Fmt

namespace C19
open Storage.Query Storage.Fmt

/-- a key the Reader accepts: lower-case first byte, no blank, upper-case letter or colon -/
def validKey (k : Bytes) : Prop :=
  (∃ c r, k = c :: r ∧ isAsciiLower c = true) ∧
  ∀ c ∈ k, isAsciiSpace c = false ∧ isAsciiUpper c = false ∧ c ≠ cColon

/-- what `kvScan` accepts from offset `i` on: the rest `k` of a key (lower-case first byte at offset 0; no blank,
upper-case letter or colon), ended by a colon at a positive offset -/
def KeyAt (i : Nat) (k : Bytes) : Prop :=
  (i = 0 → ∃ c r, k = c :: r ∧ isAsciiLower c = true) ∧
  ∀ c ∈ k, isAsciiSpace c = false ∧ isAsciiUpper c = false ∧ c ≠ cColon

theorem KeyAt.tail {i : Nat} {c : UInt8} {k : Bytes} (h : KeyAt i (c :: k)) : KeyAt (i + 1) k :=
  ⟨nofun, fun x hx => h.2 x (List.mem_cons_of_mem _ hx)⟩

theorem kvScan_eq_some {i j : Nat} {l : Bytes} :
    kvScan i l = some j ↔ ∃ k rest, l = k ++ cColon :: rest ∧ j = i + k.length ∧ KeyAt i k := by
  fun_induction kvScan i l
  case case1 => simp
  case case2 i c rest h =>
    -- the first byte is not a lower-case letter
    simp only [Bool.and_eq_true, beq_iff_eq, Bool.not_eq_true'] at h
    refine ⟨nofun, ?_⟩
    rintro ⟨k, r, e, rfl, hk⟩
    obtain ⟨c', r', rfl, hl⟩ := hk.1 h.1
    cases (List.cons.inj e).1
    rw [h.2] at hl; cases hl
  case case3 i c rest _ h =>
    -- a blank or an upper-case letter
    refine ⟨nofun, ?_⟩
    rintro ⟨k, r, e, -, hk⟩
    cases k with
    | nil => cases (List.cons.inj e).1; exact absurd h (by decide)
    | cons c' k' =>
      cases (List.cons.inj e).1
      have := hk.2 c List.mem_cons_self
      simp [this.1, this.2.1] at h
  case case4 i c rest _ _ h =>
    -- the colon
    simp only [Bool.and_eq_true, decide_eq_true_eq, beq_iff_eq] at h
    obtain ⟨hi, rfl⟩ := h
    refine ⟨fun e => ⟨[], rest, rfl, by simpa using (Option.some.inj e).symm, by omega, by simp⟩, ?_⟩
    rintro ⟨k, r, e, rfl, hk⟩
    cases k with
    | nil => rfl
    | cons c' k' => cases (List.cons.inj e).1; exact absurd rfl (hk.2 _ List.mem_cons_self).2.2
  case case5 i c rest h1 h2 h3 ih =>
    rw [ih]
    constructor
    · rintro ⟨k, r, rfl, rfl, hk⟩
      have hsu : isAsciiSpace c = false ∧ isAsciiUpper c = false := by simpa using h2
      refine ⟨c :: k, r, rfl, by simp only [List.length_cons]; omega, fun hi => ⟨c, k, rfl, by simpa [hi] using h1⟩, ?_⟩
      intro x hx
      rcases List.mem_cons.mp hx with rfl | hx
      · refine ⟨hsu.1, hsu.2, fun e2 => ?_⟩
        subst e2
        by_cases hi : i = 0
        · have : isAsciiLower cColon = true := by simpa [hi] using h1
          revert this; decide
        · exact h3 (by simp; omega)
      · exact hk.2 x hx
    · rintro ⟨k, r, e, rfl, hk⟩
      cases k with
      | nil =>
        -- the colon did not end the scan, so the offset is 0, where a key is not empty
        cases (List.cons.inj e).1
        obtain ⟨_, _, h, -⟩ := hk.1 (by simpa using h3)
        cases h
      | cons c' k' =>
        obtain ⟨rfl, rfl⟩ := List.cons.inj e
        exact ⟨k', r, rfl, by simp only [List.length_cons]; omega, hk.tail⟩

theorem kvScan_key (k rest : Bytes) (hk : validKey k) : kvScan 0 (k ++ cColon :: rest) = some k.length :=
  kvScan_eq_some.mpr ⟨k, rest, rfl, (Nat.zero_add _).symm, fun _ => hk.1, hk.2⟩

theorem parseKV_key (k val : Bytes) (hk : validKey k) :
    parseKeyValueLine (k ++ cColon :: val) =
      if val.isEmpty then some (k, [])
      else if (val.dropWhile isBlank).length < val.length then some (k, val.dropWhile isBlank) else none := by
  have ht : (k ++ cColon :: val).take k.length = k := by simp
  have hd : (k ++ cColon :: val).drop (k.length + 1) = val := by rw [← List.drop_drop]; simp
  unfold parseKeyValueLine
  rw [kvScan_key k val hk]
  dsimp only
  rw [ht, hd]

theorem parseKeyValueLine_eq_some {line k v : Bytes} :
    parseKeyValueLine line = some (k, v) ↔ validKey k ∧ ∃ val, line = k ++ cColon :: val ∧
      v = val.dropWhile isBlank ∧ (val = [] ∨ v.length < val.length) := by
  constructor
  · intro h
    cases hj : kvScan 0 line with
    | none => rw [parseKeyValueLine, hj] at h; cases h
    | some j =>
      obtain ⟨key, val, rfl, -, hfirst, hall⟩ := kvScan_eq_some.mp hj
      have hvk : validKey key := ⟨hfirst rfl, hall⟩
      rw [parseKV_key key val hvk] at h
      split at h
      next he => cases h; exact ⟨hvk, [], by rw [List.isEmpty_iff.mp he], rfl, Or.inl rfl⟩
      next =>
        split at h <;> cases h
        exact ⟨hvk, val, rfl, rfl, Or.inr ‹_›⟩
  · rintro ⟨hk, val, rfl, rfl, h⟩
    rw [parseKV_key k val hk]
    rcases h with rfl | h
    · rfl
    · rw [if_neg (by rintro he; rw [List.isEmpty_iff.mp he] at h; cases h), if_pos h]

theorem kv_line_roundtrip (k v : Bytes) (hk : validKey k)
    (hv : ∃ c r, v = c :: r ∧ isBlank c = false) :
    parseKeyValueLine (k ++ [cColon, cSpace] ++ v) = some (k, v) := by
  obtain ⟨c, r, rfl, hc⟩ := hv
  have hb : isBlank cSpace = true := by decide
  exact parseKeyValueLine_eq_some.mpr ⟨hk, cSpace :: c :: r, by simp, by simp [List.dropWhile, hb, hc],
    Or.inr (by simp)⟩

theorem kv_unset_roundtrip (k : Bytes) (hk : validKey k) :
    parseKeyValueLine (k ++ [cColon]) = some (k, []) :=
  parseKeyValueLine_eq_some.mpr ⟨hk, [], rfl, rfl, Or.inl rfl⟩

end C19
