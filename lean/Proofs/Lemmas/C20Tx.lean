/-
C20 helper lemmas: the record transaction (`db.Upload`). `TxExt t t' ls` says that `t'` comes from `t` by
operations that inserted results with the benchmark lines `ls`; one lemma per operation, put together by
`TxExt.trans`. The legacy reader yields one result per benchmark line.
-/
import Model.Storage.Upload

namespace C20
open Storage.Upload

/-- rows written by a transaction carry its upload id -/
def RowsOf (t : Tx) : Prop := ∀ row ∈ t.txRec ++ t.pendRec, row.up = t.id

/-- benchmark lines held by a transaction (sent or pending), in insertion order -/
def txLines (t : Tx) : List Bytes := (t.txRec ++ t.pendRec).flatMap (·.lines)

/-- `lastResult != nil` implies a pending row to append to -/
def LastOk (t : Tx) : Prop := t.last.isSome → t.pendRec ≠ []

/-- `t'` comes from `t` by operations of the record transaction that inserted results with the
benchmark lines `ls`: same upload id, rows still owned, lines appended in order. -/
structure TxExt (t t' : Tx) (ls : List Bytes) : Prop where
  id : t'.id = t.id
  rows : RowsOf t → RowsOf t'
  lines : LastOk t → txLines t' = txLines t ++ ls ∧ LastOk t'

theorem TxExt.refl (t : Tx) : TxExt t t [] := ⟨rfl, fun h => h, fun h => ⟨by simp, h⟩⟩

theorem TxExt.trans {t a b : Tx} {l1 l2 : List Bytes} (h1 : TxExt t a l1) (h2 : TxExt a b l2) :
    TxExt t b (l1 ++ l2) := by
  refine ⟨h2.id.trans h1.id, h2.rows ∘ h1.rows, fun h => ?_⟩
  obtain ⟨e1, k1⟩ := h1.lines h
  obtain ⟨e2, k2⟩ := h2.lines k1
  exact ⟨by rw [e2, e1, List.append_assoc], k2⟩

theorem flush_eq_some {t t' : Tx} (h : t.flush = some t') :
    t' = { t with txRec := t.txRec ++ t.pendRec, pendRec := [], txLab := t.txLab ++ t.pendLab, pendLab := [],
                  last := none } := by
  unfold Tx.flush at h
  split at h
  · cases h
  · exact (Option.some.inj h).symm

theorem TxExt.flush {a b : Tx} (hf : a.flush = some b) : TxExt a b [] := by
  have e := flush_eq_some hf
  subst e
  exact ⟨rfl, fun hr row hrow => hr row (by simpa using hrow), fun hl => ⟨by simp [txLines], by simp [LastOk]⟩⟩

theorem TxExt.insertLabel {a b : Tx} {k : Bytes} (hk : a.insertLabel k = some b) : TxExt a b [] := by
  -- queueing the label row changes neither the record rows nor `last`
  have go : ∀ {a'}, TxExt a a' [] → TxExt a { a' with pendLab := a'.pendLab ++ [(a'.recordid, k)] } [] :=
    fun h => ⟨h.id, h.rows, h.lines⟩
  unfold Tx.insertLabel at hk
  split at hk
  · obtain ⟨a', ha', rfl⟩ := Option.map_eq_some_iff.mp hk
    exact go (.flush ha')
  · cases hk
    exact go (.refl a)

theorem TxExt.insertLabels {a b : Tx} {ks : List Bytes} (hk : a.insertLabels ks = some b) : TxExt a b [] := by
  induction ks generalizing a with
  | nil => cases hk; exact .refl _
  | cons k ks ih =>
    simp only [Tx.insertLabels] at hk
    split at hk
    · cases hk
    · rename_i a' ha'
      exact (TxExt.insertLabel ha').trans (ih hk)

theorem appendLine_up {rows : List RRow} {l : Bytes} {k : UKey} (h : ∀ row ∈ rows, row.up = k) :
    ∀ row ∈ appendLine rows l, row.up = k := by
  induction rows with
  | nil => simp [appendLine]
  | cons r rs ih =>
    cases rs with
    | nil =>
      intro row hrow
      obtain rfl := List.mem_singleton.mp hrow
      exact h r (by simp)
    | cons r2 rs2 =>
      intro row hrow
      rcases List.mem_cons.mp hrow with rfl | hrow
      · exact h _ (by simp)
      · exact ih (fun row hr => h row (List.mem_cons_of_mem _ hr)) row hrow

theorem appendLine_lines (rows : List RRow) (l : Bytes) (h : rows ≠ []) :
    (appendLine rows l).flatMap (·.lines) = rows.flatMap (·.lines) ++ [l] ∧ appendLine rows l ≠ [] := by
  induction rows with
  | nil => exact absurd rfl h
  | cons r rs ih =>
    cases rs with
    | nil => simp [appendLine]
    | cons r2 rs2 => simp [appendLine, (ih (by simp)).1]

theorem TxExt.insertRecordNew {a b : Tx} {r : Res} (hr : a.insertRecordNew r = some b) : TxExt a b [r.line] := by
  unfold Tx.insertRecordNew at hr
  simp only at hr
  split at hr
  · cases hr
  · rename_i a2 ha2
    cases hr
    have h1 : TxExt a { a with last := some (r.labels, r.name)
                               pendRec := a.pendRec ++ [⟨a.id, a.recordid, r.labels, r.name, [r.line]⟩] }
        [r.line] := by
      refine ⟨rfl, fun hr row hrow => ?_, fun _ => ⟨by simp [txLines], by simp [LastOk]⟩⟩
      rcases List.mem_append.mp hrow with hrow | hrow
      · exact hr row (List.mem_append_left _ hrow)
      · rcases List.mem_append.mp hrow with hrow | hrow
        · exact hr row (List.mem_append_right _ hrow)
        · obtain rfl := List.mem_singleton.mp hrow
          rfl
    have := h1.trans (TxExt.insertLabels ha2)
    exact ⟨this.id, this.rows, this.lines⟩

theorem TxExt.insertRecord {a b : Tx} {r : Res} (hr : a.insertRecord r = some b) : TxExt a b [r.line] := by
  have happ : ∀ ll ln, a.last = some (ll, ln) →
      TxExt a { a with pendRec := appendLine a.pendRec r.line } [r.line] := by
    intro ll ln hlast
    refine ⟨rfl, fun hr row hrow => ?_, fun hl => ?_⟩
    · rcases List.mem_append.mp hrow with hrow | hrow
      · exact hr row (List.mem_append_left _ hrow)
      · exact appendLine_up (fun row h => hr row (List.mem_append_right _ h)) row hrow
    · have := appendLine_lines a.pendRec r.line (hl (by simp [hlast]))
      exact ⟨by simp [txLines, this.1], fun _ => this.2⟩
  unfold Tx.insertRecord at hr
  split at hr
  · split at hr
    · cases hr
      exact happ _ _ ‹_›
    · exact .insertRecordNew hr
  · exact .insertRecordNew hr

theorem TxExt.insertRecords {a b : Tx} {rs : List Res} (hr : a.insertRecords rs = some b) :
    TxExt a b (rs.map (·.line)) := by
  induction rs generalizing a with
  | nil => cases hr; exact .refl _
  | cons r rs ih =>
    simp only [Tx.insertRecords] at hr
    split at hr
    · cases hr
    · rename_i a' ha'
      exact (TxExt.insertRecord ha').trans (ih hr)

/-- a line the legacy reader turns into a result -/
def isResultLine (l : Bytes) : Bool := (parseKV l).isNone && (benchName l).isSome

theorem readResults_lines (perm : Labels) (lines : List Bytes) (labels : Labels) :
    (readResults perm lines labels).map (·.line) = lines.filter isResultLine := by
  induction lines generalizing labels with
  | nil => rfl
  | cons l rest ih =>
    rw [readResults, List.filter_cons, isResultLine]
    cases parseKV l with
    | some kv =>
      simp only [Option.isNone_some, Bool.false_and]
      split
      · exact ih _
      · split
        · exact ih _
        · exact ih _
    | none =>
      cases benchName l with
      | some name => simp [ih]
      | none => simp [ih]

/-- the benchmark lines of a file -/
def fileLines (content : Bytes) : List Bytes := (splitLines content).filter isResultLine

theorem TxExt.flushed {k : UKey} {t t' : Tx} {ls : List Bytes} (h : TxExt { id := k } t ls) (hf : t.flush = some t') :
    (∀ row ∈ t'.txRec, row.up = k) ∧ t'.txRec.flatMap (·.lines) = ls := by
  have ext := List.append_nil ls ▸ h.trans (.flush hf)
  have hpend : t'.pendRec = [] := by rw [flush_eq_some hf]
  have hlines := (ext.lines (by simp [LastOk])).1
  rw [txLines, hpend, List.append_nil] at hlines
  exact ⟨fun row hr => (ext.rows (fun _ hr => by simp at hr) row (List.mem_append_left _ hr)).trans ext.id, hlines⟩

end C20
