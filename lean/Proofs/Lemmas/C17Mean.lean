/-
C17 helper lemmas: one step `m' = m + (x − m)/k` of the float mean loop stays between m and x
(in signed exact value), provided x − m does not overflow: the interpolation step of the float64
library (`F64.interp_term`, `F64.add_between`) with factor 1/k.
-/
import Model.Legacy.Collection
import Proofs.Lemmas.F64Interp
import Mathlib.Data.Int.Log
import Mathlib.Data.Rat.Floor

namespace C17
open Legacy F64

/-- signed value of a rounded rational -/
noncomputable def sR (q : ℚ) : ℚ := sval (roundQ q)

theorem sR_eq (q : ℚ) : sR q = R q := rfl

/-- 2^-1075 is a tie between 0 and the smallest subnormal: it rounds to (even) zero -/
theorem R_half_min : R ((2 : ℚ) ^ (-1075 : Int)) = 0 := by
  have h : roundRat false 1 (2 ^ 1075) = posZero := by decide +kernel
  have e : (2 : ℚ) ^ (-1075 : Int) = ((1 : ℕ) : ℚ) / ((2 ^ 1075 : ℕ) : ℚ) := by
    rw [zpow_neg, zpow_ofNat]; push_cast; rw [one_div]
  unfold R
  rw [e, ← roundRat_false_eq 1 (2 ^ 1075) (by positivity), h, sval_posZero]

theorem shrink_of_half {δ p k : ℚ} (hD : 0 ≤ R δ) (hk : 2 ≤ k) (hp : R p ≤ δ) (h : R δ ≤ 2 * p) :
    R (R δ / k) ≤ δ := by
  have h1 : R δ / k ≤ R δ / 2 := div_le_div_of_nonneg_left hD (by norm_num) hk
  have h2 : R δ / 2 ≤ p := by rwa [div_le_iff₀ (by norm_num : (0 : ℚ) < 2), _root_.mul_comm]
  exact le_trans (R_mono (le_trans h1 h2)) hp

/-- **shrink** — for δ > 0 whose rounding does not overflow and k ≥ 2,
`0 ≤ R(R(δ)/k) ≤ δ` in exact value (`≤ R(δ)`: `shrink_le_self`). The half is 2^-1075 (which rounds to 0) below
the subnormals, 2^1023 at the top, and the power of two below δ otherwise. -/
theorem shrink (δ : ℚ) (hδ : 0 < δ) (hfin : sR δ < (2 : ℚ) ^ (1024 : Int)) (k : ℚ) (hk : 2 ≤ k) :
    0 ≤ sR (sR δ / k) ∧ sR (sR δ / k) ≤ δ := by
  simp only [sR_eq] at hfin ⊢
  have hD : 0 ≤ R δ := R_nonneg hδ.le
  refine ⟨R_nonneg (div_nonneg hD (le_trans zero_le_two hk)), ?_⟩
  have double : ∀ e : Int, (2 : ℚ) * 2 ^ e = 2 ^ (e + 1) := fun e => by
    rw [zpow_add_one₀ (by norm_num : (2 : ℚ) ≠ 0), _root_.mul_comm]
  by_cases hA : δ < (2 : ℚ) ^ (-1074 : Int)
  · refine shrink_of_half (p := 2 ^ (-1075 : Int)) hD hk (by rw [R_half_min]; exact hδ.le) ?_
    have := R_mono hA.le
    rw [R_two_zpow (-1074) (by norm_num) (by norm_num)] at this
    rw [double]
    exact this
  by_cases hB : (2 : ℚ) ^ (1023 : Int) ≤ δ
  · refine shrink_of_half (p := 2 ^ (1023 : Int)) hD hk ?_ (by rw [double]; exact hfin.le)
    rwa [R_two_zpow 1023 (by norm_num) (by norm_num)]
  have hlo : ((2 : ℕ) : ℚ) ^ Int.log 2 δ ≤ δ := Int.zpow_log_le_self (by norm_num) hδ
  have hhi : δ < ((2 : ℕ) : ℚ) ^ (Int.log 2 δ + 1) := Int.lt_zpow_succ_log_self (by norm_num) δ
  rw [Nat.cast_ofNat] at hlo hhi
  generalize Int.log 2 δ = e at hlo hhi
  have he1 : e < 1023 :=
    (zpow_lt_zpow_iff_right₀ (by norm_num : (1 : ℚ) < 2)).mp (lt_of_le_of_lt hlo (not_le.mp hB))
  have he2 : -1074 < e + 1 :=
    (zpow_lt_zpow_iff_right₀ (by norm_num : (1 : ℚ) < 2)).mp (lt_of_le_of_lt (not_lt.mp hA) hhi)
  refine shrink_of_half (p := 2 ^ e) hD hk ?_ ?_
  · rwa [R_two_zpow e (by omega) (by omega)]
  · have := R_mono hhi.le
    rwa [R_two_zpow (e + 1) (by omega) (by omega), ← double] at this

theorem shrink_le_self (δ : ℚ) (hδ : 0 < δ) (x : Bits) (hx : isFinite x = true) (hxs : sval x = sR δ)
    (k : ℚ) (hk : 1 ≤ k) : sR (sR δ / k) ≤ sR δ := by
  simp only [sR_eq] at hxs ⊢
  have hD : 0 ≤ R δ := R_nonneg hδ.le
  have : R δ / k ≤ R δ := div_le_self hD hk
  have h := R_mono this
  rwa [← hxs, R_sval x hx, hxs] at h

/-- the interpolation step of the library with factor 1/k, K the float of k ≥ 2 -/
theorem step_between (m x K : Bits) (k : ℚ) (hm : isFinite m = true) (hx : isFinite x = true)
    (hK : isFinite K = true) (hKs : sval K = k) (hk : 2 ≤ k) (hd : isFinite (sub x m) = true) :
    isFinite (add m (div (sub x m) K)) = true ∧
    min (sval m) (sval x) ≤ sval (add m (div (sub x m) K)) ∧
    sval (add m (div (sub x m) K)) ≤ max (sval m) (sval x) := by
  have hk0 : (0 : ℚ) < k := lt_of_lt_of_le two_pos hk
  have ht : sval (div (sub x m) K) = R (1 / k * sval (sub x m)) := by
    rw [sval_div _ _ hd hK (isZero_false_of_sval hKs hk0.ne'), hKs, one_div, inv_mul_eq_div]
  obtain ⟨tf, t0, t1⟩ := interp_term m x _ (1 / k) hm hx hd ht (by positivity)
    ((div_le_div_of_nonneg_left zero_le_one two_pos hk).trans (by norm_num))
  obtain ⟨lo, hi, fin⟩ := add_between m x _ hm hx tf t0 t1
  exact ⟨fin, lo, hi⟩

/-- the first iteration (m = +0, k = 1) gives the first value exactly (in value) -/
theorem step_first (x K : Bits) (hx : isFinite x = true) (hK : isFinite K = true) (hKs : sval K = 1) :
    isFinite (add posZero (div (sub x posZero) K)) = true ∧
    sval (add posZero (div (sub x posZero) K)) = sval x := by
  have h0 : isFinite posZero = true := by decide
  have zK : isZero K = false := isZero_false_of_sval hKs (by norm_num)
  have hsd : sval (sub x posZero) = sval x := by
    rw [sval_sub x posZero hx h0, sval_posZero, sub_zero]; exact R_sval x hx
  have hd := isFinite_of_sval_eq hsd hx
  have hst : sval (div (sub x posZero) K) = sval x := by
    rw [sval_div _ _ hd hK zK, hKs, hsd, div_one]; exact R_sval x hx
  have hs : sval (add posZero (div (sub x posZero) K)) = sval x := by
    rw [sval_add _ _ h0 (isFinite_of_sval_eq hst hx), sval_posZero, zero_add, hst]; exact R_sval x hx
  exact ⟨isFinite_of_sval_eq hs hx, hs⟩

theorem sub_finite_of_span (lo hi m x : Bits) (hlo : isFinite lo = true) (hhi : isFinite hi = true)
    (hm : isFinite m = true) (hx : isFinite x = true) (hspan : isFinite (sub hi lo) = true)
    (m1 : sval lo ≤ sval m) (m2 : sval m ≤ sval hi) (x1 : sval lo ≤ sval x) (x2 : sval x ≤ sval hi) :
    isFinite (sub x m) = true := by
  rw [isFinite_iff_sval] at hspan ⊢
  rw [sval_sub hi lo hhi hlo] at hspan
  rw [sval_sub x m hx hm]
  rw [R_abs] at hspan ⊢
  exact lt_of_le_of_lt (R_mono ((abs_sub_le_of_le_of_le x1 x2 m1 m2).trans (le_abs_self _))) hspan

theorem meanLoop_between (lo hi : Bits) (hlo : isFinite lo = true) (hhi : isFinite hi = true)
    (hspan : isFinite (sub hi lo) = true) (xs : List Bits) (i : Nat) (m : Bits)
    (hi1 : 1 ≤ i) (hlen : i + xs.length < 2 ^ 53)
    (hm : isFinite m = true) (m1 : sval lo ≤ sval m) (m2 : sval m ≤ sval hi)
    (hxs : ∀ x ∈ xs, isFinite x = true ∧ sval lo ≤ sval x ∧ sval x ≤ sval hi) :
    isFinite (meanLoop xs i m) = true ∧ sval lo ≤ sval (meanLoop xs i m) ∧ sval (meanLoop xs i m) ≤ sval hi := by
  induction xs generalizing i m with
  | nil => exact ⟨hm, m1, m2⟩
  | cons x xs ih =>
    obtain ⟨hx, x1, x2⟩ := hxs x (List.mem_cons_self ..)
    simp only [meanLoop]
    simp only [List.length_cons] at hlen
    have hK := ofInt_exact (((i + 1 : Nat) : Int)) (by simp only [Int.natAbs_natCast]; omega)
    have hd := sub_finite_of_span lo hi m x hlo hhi hm hx hspan m1 m2 x1 x2
    have hk : (2 : ℚ) ≤ (((i + 1 : Nat) : Int) : ℚ) := by
      have : 2 ≤ i + 1 := by omega
      exact_mod_cast this
    obtain ⟨f, b1, b2⟩ := step_between m x (ofInt ((i + 1 : Nat) : Int)) _ hm hx hK.fin hK.val hk hd
    apply ih (i + 1) _ (by omega) (by omega) f
    · exact le_trans (le_min m1 x1) b1
    · exact le_trans b2 (max_le m2 x2)
    · intro y hy; exact hxs y (List.mem_cons_of_mem _ hy)

theorem mean_within (lo hi : Bits) (hlo : isFinite lo = true) (hhi : isFinite hi = true)
    (hspan : isFinite (sub hi lo) = true) (rv : List Bits) (hne : rv ≠ []) (hlen : rv.length < 2 ^ 53)
    (hxs : ∀ x ∈ rv, isFinite x = true ∧ sval lo ≤ sval x ∧ sval x ≤ sval hi) :
    isFinite (mean rv) = true ∧ sval lo ≤ sval (mean rv) ∧ sval (mean rv) ≤ sval hi := by
  cases rv with
  | nil => exact absurd rfl hne
  | cons x0 xs =>
    obtain ⟨hx0, l0, u0⟩ := hxs x0 (List.mem_cons_self ..)
    have hK := ofInt_exact (((0 + 1 : Nat) : Int)) (by decide)
    obtain ⟨f0, s0⟩ := step_first x0 (ofInt ((0 + 1 : Nat) : Int)) hx0 hK.fin (by rw [hK.val]; norm_num)
    have hmean : mean (x0 :: xs) =
        meanLoop xs 1 (add posZero (div (sub x0 posZero) (ofInt ((0 + 1 : Nat) : Int)))) := by
      simp [mean, meanLoop]
    rw [hmean]
    exact meanLoop_between lo hi hlo hhi hspan xs 1 _ (le_refl _)
      (by simp only [List.length_cons] at hlen; omega) f0 (by rw [s0]; exact l0) (by rw [s0]; exact u0)
      fun y hy => hxs y (List.mem_cons_of_mem _ hy)

end C17
