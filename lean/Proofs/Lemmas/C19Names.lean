/-
C19 helper lemmas: name-derived labels. The Reader derives them from the content line alone; results
that `SameLabels` a result without empty values have exactly its name labels.
-/
import Model.Storage.Fmt
import Proofs.Lemmas.C19Assoc
import Proofs.Lemmas.C19Reader
import Mathlib.Data.List.Perm.Subperm

namespace C19
open Storage.Query Storage.Fmt

/-- the name labels of a result are those of the name on its content line (or absent altogether for
an empty name met first by the Reader: the one-entry cache) -/
def NameOK (r : Result) : Prop :=
  ∃ name, parseBenchmarkLine r.content = some name ∧
    (r.nameL = parseNameLabels name ∨ (name = [] ∧ r.nameL = []))

def NInv (rd : Reader) : Prop :=
  rd.lastNameLabels = some (parseNameLabels rd.lastName) ∨ (rd.lastName = [] ∧ rd.lastNameLabels = none)

theorem newResult_name (rd : Reader) (name line : Bytes) (h : NInv rd)
    (hb : parseBenchmarkLine line = some name) :
    NameOK (rd.newResult name line).1 ∧ NInv (rd.newResult name line).2 := by
  unfold Reader.newResult
  simp only
  split
  · exact ⟨⟨name, hb, Or.inl rfl⟩, Or.inl rfl⟩
  · rename_i hne
    have he : rd.lastName = name := by simpa using hne
    refine ⟨⟨name, hb, ?_⟩, h⟩
    rcases h with h | ⟨h1, h2⟩
    · exact Or.inl (by simp only [Result.nameL, h, he, Option.getD_some])
    · exact Or.inr ⟨he ▸ h1, by simp only [Result.nameL, h2, Option.getD_none]⟩

theorem reader_names (lbls : Option Labels) (content : Bytes) :
    ∀ r ∈ (match lbls with | some l => Reader.addLabels {} l | none => ({} : Reader)).all content, NameOK r := by
  -- only `newResult` touches the name cache
  have rule : ReaderRule NInv (fun _ => True) NameOK :=
    { erase := fun _ _ h _ => h
      set := fun _ _ _ _ h _ _ _ _ => h
      num := fun _ _ h => h
      perm := Or.inr fun _ _ h => h
      result := fun rd line name h _ hb => newResult_name rd name line h hb }
  refine rule.all _ content ?_ (fun _ _ => trivial)
  cases lbls <;> exact Or.inr ⟨rfl, rfl⟩

theorem subLabels_sorted (subs : List Bytes) (i : Nat) (l : Labels) (hs : StrictSorted l) :
    StrictSorted (subLabels i subs l) := by
  induction subs generalizing i l with
  | nil => exact hs
  | cons s rest ih =>
    unfold subLabels
    simp only
    split <;> exact ih _ _ (sorted_set _ _ _ hs)

theorem parseNameLabels_sorted (name : Bytes) : StrictSorted (parseNameLabels name) := by
  have core : ∀ (nm : Bytes) (l : Labels), StrictSorted l → StrictSorted (match splitOn cSlash nm with
      | [] => l
      | p :: subs => subLabels 1 subs (l.set (Bytes.ofString "name") p)) := by
    intro nm l hs
    split
    · exact hs
    · exact subLabels_sorted _ _ _ (sorted_set _ _ _ hs)
  have hnil : StrictSorted ([] : Labels) := List.Pairwise.nil
  unfold parseNameLabels
  cases hsl : splitLast cDash name with
  | none => exact core name [] hnil
  | some ba =>
    obtain ⟨before, after⟩ := ba
    by_cases ha : atoiOk after = true
    · simp only [ha, if_true]
      exact core before _ (sorted_set _ _ _ hnil)
    · simp only [ha, Bool.false_eq_true, if_false]
      exact core name [] hnil

theorem NameOK.sorted {r : Result} (h : NameOK r) : StrictSorted r.nameL := by
  obtain ⟨n, _, h1 | ⟨_, h2⟩⟩ := h
  · rw [h1]; exact parseNameLabels_sorted n
  · rw [h2]; exact List.Pairwise.nil

theorem parseNameLabels_nil : parseNameLabels [] = [(Bytes.ofString "name", [])] := by decide +kernel

theorem equal_eq (l b : Labels) (hl : StrictSorted l) (hb : StrictSorted b)
    (hne : ∀ x ∈ l, x.2 ≠ []) (heq : Labels.equal l b = true) : l = b := by
  unfold Labels.equal at heq
  simp only [Bool.and_eq_true, beq_iff_eq, List.all_eq_true] at heq
  obtain ⟨hlen, hall⟩ := heq
  -- every pair of `l` is in `b`, and `b` is no longer than `l`
  have hsub : l ⊆ b := by
    intro x hx
    have h1 := hall x hx
    have := get_mem b x.1 (h1 ▸ hne x hx)
    rwa [← h1] at this
  exact sorted_perm_eq l b hl hb
    ((List.subperm_of_subset (sorted_nodup l hl) hsub).perm_of_length_le (by omega))

theorem NameOK.nameL_of_sameLabels {hd r : Result} (hh : NameOK hd) (hr : NameOK r)
    (hv : ∀ kv ∈ hd.nameL, kv.2 ≠ []) (hs : hd.sameLabels r = true) : r.nameL = hd.nameL :=
  (equal_eq hd.nameL r.nameL hh.sorted hr.sorted hv (Bool.and_eq_true_iff.mp hs).2).symm

theorem NameOK.nameL_eq {x r : Result} (hx : NameOK x) (hr : NameOK r) (hc : x.content = r.content)
    (hne : r.nameL ≠ []) (hv : ∀ kv ∈ r.nameL, kv.2 ≠ []) : x.nameL = r.nameL := by
  obtain ⟨n, hbn, hrl⟩ := hr
  obtain ⟨n', hbn', hxl⟩ := hx
  obtain rfl : n' = n := Option.some.inj ((hbn'.symm.trans (hc ▸ rfl)).trans hbn)
  have hparse : r.nameL = parseNameLabels n' := hrl.elim id fun h => absurd h.2 hne
  rcases hxl with h1 | ⟨h1, _⟩
  · rw [h1, hparse]
  · -- the name is empty: `r` would hold the empty `name` label
    subst h1
    rw [parseNameLabels_nil] at hparse
    exact absurd rfl (hv (Bytes.ofString "name", []) (hparse ▸ List.mem_singleton.mpr rfl))

end C19
