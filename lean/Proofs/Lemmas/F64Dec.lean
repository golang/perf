/-
Decimal side: `ofDecimal` as `roundQ` of the decimal value, monotonicity, exactness, the
round-trip lemma `parse_of_inRound`, and `fmtFixed_reads_back_partial`.
-/
import Proofs.Lemmas.F64Arith

namespace F64

/-- the rational denoted by sign, decimal mantissa and decimal exponent -/
def decVal (neg : Bool) (m : Nat) (e : Int) : ℚ :=
  if neg then -((m : ℚ) * (10 : ℚ) ^ e) else (m : ℚ) * (10 : ℚ) ^ e

theorem ten_zpow_pos (k : Int) : (0 : ℚ) < (10 : ℚ) ^ k := zpow_pos (by norm_num) k

/-- correctly rounded decimal → binary conversion is `roundQ` of the decimal value. -/
theorem ofDecimal_eq (neg : Bool) (m : Nat) (e : Int) (hm : 0 < m) :
    ofDecimal neg m e = roundQ (decVal neg m e) := by
  rw [ofDecimal_eq_roundRat neg m e hm, roundRat_eq_roundQ _ _ _ (powFrac_fst_pos e (by decide) hm)
    (powFrac_snd_pos m e (by decide)), powFrac_ratio 10 m e (by decide), Nat.cast_ofNat]
  rfl

theorem decVal_zero (neg : Bool) (e : Int) : decVal neg 0 e = 0 := by
  unfold decVal; cases neg <;> simp

theorem decVal_ne_zero (neg : Bool) {m : Nat} (e : Int) (hm : 0 < m) : decVal neg m e ≠ 0 := by
  have : (m : ℚ) * (10 : ℚ) ^ e ≠ 0 := (mul_pos (Nat.cast_pos.2 hm) (ten_zpow_pos e)).ne'
  unfold decVal; split
  · exact neg_ne_zero.2 this
  · exact this

theorem ofDecimal_zero (neg : Bool) (e : Int) : ofDecimal neg 0 e = zero neg := by
  unfold ofDecimal; simp

theorem sval_ofDecimal (neg : Bool) (m : Nat) (e : Int) :
    sval (ofDecimal neg m e) = R (decVal neg m e) := by
  rcases Nat.eq_zero_or_pos m with h | h
  · rw [h, ofDecimal_zero, sval_zero, decVal_zero, R_zero]
  · rw [ofDecimal_eq neg m e h, R]

theorem ofDecimal_isNaN (neg : Bool) (m : Nat) (e : Int) : isNaN (ofDecimal neg m e) = false := by
  rcases Nat.eq_zero_or_pos m with h | h
  · rw [h, ofDecimal_zero]; cases neg <;> decide
  · rw [ofDecimal_eq neg m e h]; exact roundQ_isNaN _

theorem ofDecimal_mono (n1 : Bool) (m1 : Nat) (e1 : Int) (n2 : Bool) (m2 : Nat) (e2 : Int)
    (h : decVal n1 m1 e1 ≤ decVal n2 m2 e2) :
    sval (ofDecimal n1 m1 e1) ≤ sval (ofDecimal n2 m2 e2) := by
  rw [sval_ofDecimal, sval_ofDecimal]; exact R_mono h

theorem ofDecimal_mono_le (n1 : Bool) (m1 : Nat) (e1 : Int) (n2 : Bool) (m2 : Nat) (e2 : Int)
    (h : decVal n1 m1 e1 ≤ decVal n2 m2 e2) : le (ofDecimal n1 m1 e1) (ofDecimal n2 m2 e2) = true := by
  rw [le_iff_sval _ _ (ofDecimal_isNaN _ _ _) (ofDecimal_isNaN _ _ _)]
  exact ofDecimal_mono _ _ _ _ _ _ h

/-- a decimal that denotes exactly the value of a finite non-zero float parses
to that float. -/
theorem ofDecimal_exact (x : Bits) (hx : isFinite x = true) (zx : isZero x = false)
    (neg : Bool) (m : Nat) (e : Int) (h : decVal neg m e = sval x) : ofDecimal neg m e = x := by
  have hm : 0 < m := by
    rcases Nat.eq_zero_or_pos m with h0 | h0
    · subst h0; rw [decVal_zero] at h
      have := (sval_eq_zero_iff x).mp h.symm; rw [zx] at this; cases this
    · exact h0
  rw [ofDecimal_eq neg m e hm, h, roundQ_exact x hx zx]

/-- a decimal with the sign of the finite non-zero float x whose magnitude lies in the rounding interval of |x|
parses to x -/
theorem parse_of_inRound (x : Bits) (hx : isFinite x = true) (zx : isZero x = false) (m : Nat) (e : Int)
    (h : InRound (abs x) ((m : ℚ) * (10 : ℚ) ^ e)) : ofDecimal (signBit x) m e = x := by
  have hq := inRound_pos _ (posFin_abs x hx zx) _ h
  have hm : 0 < m := Nat.pos_of_ne_zero fun h0 => by rw [h0, Nat.cast_zero, zero_mul] at hq; exact lt_irrefl _ hq
  rw [ofDecimal_eq _ m e hm]
  unfold decVal
  cases hs : signBit x
  · exact roundQ_of_inRound_abs x hx zx _ (by simp [hs, hq.le]) (by rw [if_neg Bool.false_ne_true, abs_of_pos hq]; exact h)
  · exact roundQ_of_inRound_abs x hx zx _ (by simp [hs, hq]) (by rw [if_pos rfl, _root_.abs_neg, abs_of_pos hq]; exact h)

theorem fixedScaled_errQ (x : Bits) (p : Nat) :
    |(fixedScaled x p : ℚ) * (10 : ℚ) ^ (-(p : Int)) - val x| ≤ (10 : ℚ) ^ (-(p : Int)) / 2 := by
  unfold fixedScaled
  have hd := toFrac_snd_pos (mant x) (expo x)
  have h := rne_errQ ((toFrac (mant x) (expo x)).1 * 10 ^ p) (toFrac (mant x) (expo x)).2 hd
  have hv : (((toFrac (mant x) (expo x)).1 * 10 ^ p : Nat) : ℚ) / ((toFrac (mant x) (expo x)).2 : ℚ)
      = val x * (10 : ℚ) ^ p := by
    unfold val; rw [← toFrac_ratio]; push_cast; ring
  rw [hv] at h
  have h10 : (0 : ℚ) < (10 : ℚ) ^ p := pow_pos (by norm_num) p
  have e : (10 : ℚ) ^ (-(p : Int)) = ((10 : ℚ) ^ p)⁻¹ := by rw [zpow_neg, zpow_natCast]
  rw [e]
  generalize (rne ((toFrac (mant x) (expo x)).1 * 10 ^ p) (toFrac (mant x) (expo x)).2 : ℚ) = k at h ⊢
  have : k * ((10 : ℚ) ^ p)⁻¹ - val x = (k - val x * (10 : ℚ) ^ p) * ((10 : ℚ) ^ p)⁻¹ := by
    field_simp
  rw [this, abs_mul, abs_of_pos (inv_pos.mpr h10)]
  have := mul_le_mul_of_nonneg_right h (inv_pos.mpr h10).le
  linarith

/-- if half a unit of the last printed decimal place is smaller
than half the gap from x to its nearer neighbour, the number printed by `fmtFixed x p`
(sign, integer `fixedScaled x p`, exponent −p) parses back to x.
Partial: stated on the parsed numeral (sign, mantissa, exponent), not on the character string. -/
theorem fmtFixed_reads_back_partial (x : Bits) (hx : isFinite x = true) (zx : isZero x = false) (p : Nat)
    (h : (10 : ℚ) ^ (-(p : Int)) / 2 < lowGap x * (2 : ℚ) ^ (expo x)) :
    ofDecimal (signBit x) (fixedScaled x p) (-(p : Int)) = x := by
  apply parse_of_inRound x hx zx
  apply inRound_of_abs_lt
  have hl : lowGap (abs x) = lowGap x := by unfold lowGap; rw [mant_abs, expo_abs]
  rw [val_abs, hl, expo_abs]
  exact lt_of_le_of_lt (fixedScaled_errQ x p) h

/-- instances: "0.5" and a 20-digit decimal just above 0.5 both parse to 0.5 -/
example : ofDecimal false 5 (-1) = 0x3FE0000000000000 :=
  ofDecimal_exact _ (by decide) (by decide) false 5 (-1) (by rw [sval_half]; unfold decVal; norm_num)
example : ofDecimal false 50000000000000000001 (-20) = 0x3FE0000000000000 := by decide +kernel

end F64
