/-
C11, untied Mann–Whitney distribution: the integer count table (`gaussRow` / `cntUntied`, what the
compiled driver evaluates) is the recurrence `pRec` multiplied by the binomial, so the driver's
untied evaluator `pUntied` agrees entrywise with the proved one `pUntiedRec`.
-/
import Model.Stats.UDist
import Proofs.Lemmas.C11Basic
import Proofs.Lemmas.C11Untied
import Mathlib.Data.Nat.Choose.Basic
import Mathlib.Algebra.Order.Field.Rat
import Mathlib.Tactic.Ring
import Mathlib.Tactic.Linarith

namespace C11.Count
open Stats.UDist

theorem getD_of_lt (a : Array Nat) (i : Nat) (h : i < a.size) : a.getD i 0 = a[i] := by
  simp [Array.getD, h]

theorem getD_of_ge (a : Array Nat) (i : Nat) (h : a.size ≤ i) : a.getD i 0 = 0 := by
  simp [Array.getD, Nat.not_lt.2 h]

theorem addShift_getD (a b : Array Nat) (s i : Nat) :
    (addShift a b s).getD i 0 = a.getD i 0 + (if i < s then 0 else b.getD (i - s) 0) := by
  unfold addShift
  by_cases hi : i < max a.size (b.size + s)
  · simp only [Array.getD, Array.size_ofFn, hi, dite_true, Array.getInternal_eq_getElem,
      Array.getElem_ofFn]
  · have h1 : a.size ≤ i := by omega
    have h2 : ¬ i < s → b.size ≤ i - s := by omega
    simp only [Array.getD, Array.size_ofFn, hi, dite_false]
    rw [dif_neg (by omega)]
    split
    · rfl
    · rename_i hs
      rw [dif_neg (by have := h2 hs; omega)]

theorem singleton_getD (u : Nat) :
    (((#[1] : Array Nat).getD u 0 : Nat) : Rat) = if (u : Int) = 0 then 1 else 0 := by
  cases u with
  | zero => simp
  | succ u => simp [Array.getD]; omega

/-- what a row of the table must satisfy up to column `k`: entry `n` holds the counts
    `q n m u = p_{n,m}(u) · C(n+m, n)` -/
def RowOK (m k : Nat) (row : Array (Array Nat)) : Prop :=
  row.size = k + 1 ∧ ∀ n, n ≤ k → ∀ u : Nat, (((row.getD n #[]).getD u 0 : Nat) : Rat) = q n m (u : Int)

theorem getDrow_push_lt (row : Array (Array Nat)) (x : Array Nat) (n : Nat) (h : n < row.size) :
    (row.push x).getD n #[] = row.getD n #[] := by
  simp [Array.getD, h, Nat.lt_succ_of_lt h, Array.getElem_push_lt]

theorem getDrow_push_eq (row : Array (Array Nat)) (x : Array Nat) :
    (row.push x).getD row.size #[] = x := by
  simp [Array.getD]

/-- loop invariant of the inner fold of `gaussRow`: `addShift` is the integer recurrence `q_rec1` -/
theorem fold_rowOK (N m : Nat) (prev : Array (Array Nat))
    (hprev : ∀ n, n ≤ N → ∀ u : Nat, (((prev.getD n #[]).getD u 0 : Nat) : Rat) = q n m (u : Int)) :
    ∀ k, k ≤ N → RowOK (m + 1) k
      ((List.range k).foldl (fun (row : Array (Array Nat)) i =>
        row.push (addShift (prev.getD (i + 1) #[]) (row.getD i #[]) (m + 1))) #[#[1]]) := by
  intro k
  induction k with
  | zero =>
    intro _
    refine ⟨rfl, ?_⟩
    intro n hn u
    obtain rfl : n = 0 := by omega
    rw [q_zero_left]
    exact singleton_getD u
  | succ k ih =>
    intro hk
    obtain ⟨hsz, hent⟩ := ih (by omega)
    rw [List.range_succ, List.foldl_append]
    simp only [List.foldl_cons, List.foldl_nil]
    generalize (List.range k).foldl (fun (row : Array (Array Nat)) i =>
        row.push (addShift (prev.getD (i + 1) #[]) (row.getD i #[]) (m + 1))) #[#[1]] = row
      at hsz hent ⊢
    refine ⟨by rw [Array.size_push, hsz], ?_⟩
    intro n hn u
    by_cases hlt : n ≤ k
    · rw [getDrow_push_lt _ _ _ (by omega)]
      exact hent n hlt u
    · obtain rfl : n = row.size := by omega
      rw [getDrow_push_eq, addShift_getD, hsz, Nat.cast_add, hprev (k + 1) hk, q_rec1, add_comm]
      congr 1
      by_cases hu : u < m + 1
      · rw [if_pos hu, Nat.cast_zero]
        unfold q
        rw [pRec_neg _ _ _ (by omega), zero_mul]
      · rw [if_neg hu, hent k (le_refl _)]
        congr 1
        omega

theorem gaussRow_ok (N : Nat) : ∀ m, RowOK m N (gaussRow N m) := by
  intro m
  induction m with
  | zero =>
    unfold gaussRow
    refine ⟨by simp, ?_⟩
    intro n hn u
    have hlt : n < N + 1 := by omega
    have : (Array.replicate (N + 1) (#[1] : Array Nat)).getD n #[] = #[1] := by
      simp [Array.getD, hlt]
    rw [this, q_zero_right]
    exact singleton_getD u
  | succ m ih =>
    rw [gaussRow]
    exact fold_rowOK N m (gaussRow N m) ih.2 N (le_refl _)

theorem getD_map_div (a : Array Nat) (d : Rat) (u : Nat) :
    (a.map fun (k : Nat) => ((k : Nat) : Rat) / d).getD u 0 = ((a.getD u 0 : Nat) : Rat) / d := by
  by_cases hu : u < a.size
  · simp [Array.getD, hu]
  · simp [Array.getD, hu]

end C11.Count

namespace C11
open Stats.UDist C11.Count

theorem cntUntied_getD (n m u : Nat) :
    (((Stats.UDist.cntUntied n m).getD u 0 : Nat) : Rat)
      = Stats.UDist.pRec n m (u : Int) * (Nat.choose (n + m) n : Rat) :=
  (gaussRow_ok n m).2 n (le_refl _) u

theorem pUntied_getD_eq (n1 n2 u : Nat) :
    (Stats.UDist.pUntied n1 n2).getD u 0 = (Stats.UDist.pUntiedRec n1 n2).getD u 0 := by
  rw [pUntiedRec_getD]
  unfold pUntied untiedCounts
  simp only []
  rw [getD_map_div, choose_eq]
  have hne := choose_cast_ne_zero n1 n2
  split
  · rw [cntUntied_getD, pRec_swap n1 n2, Nat.choose_symm_add, Nat.add_comm n2 n1,
      mul_div_cancel_right₀ _ hne]
  · rw [cntUntied_getD, mul_div_cancel_right₀ _ hne]

end C11
