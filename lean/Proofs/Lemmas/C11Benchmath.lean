/-
C11: benchmath's `AssumeNothing.Compare` (model: `Stats.UStat.compareAssumeNothing`): swapping the
samples mirrors the null distribution, so inside the exact regime the comparison is the exact two-sided
permutation p-value (tied or not) and does not depend on the order of the samples.
-/
import Model.Stats.UDist
import Model.Stats.UStat
import Model.Spec.UExact
import Proofs.Lemmas.C11Rank
import Proofs.Lemmas.C11ErrIff
import Proofs.Lemmas.C11EndToEnd
import Mathlib.Data.List.Basic
import Mathlib.Data.List.Count
import Mathlib.Data.List.Perm.Basic
import Mathlib.Algebra.Order.Field.Rat
import Mathlib.Tactic.Ring
import Mathlib.Tactic.Linarith

namespace C11
open Stats Stats.UStat Spec.UExact

section Branch
variable {α : Type} [LinearOrder α]

theorem sortF_eq_of_perm {l l' : List α} (h : l.Perm l') : sortF l = sortF l' :=
  insertSorted_is.sort_eq_of_perm le_decides h fun _ _ _ _ => le_antisymm

theorem tieVector_swap (x1 x2 : List α) : tieVector x2 x1 = tieVector x1 x2 := by
  rw [tie_vector_is_run_lengths, tie_vector_is_run_lengths,
    sortF_eq_of_perm (List.perm_append_comm : (x2 ++ x1).Perm (x1 ++ x2))]
  exact tieVectorOf_perm _ List.perm_append_comm

theorem hasTies_swap (x1 x2 : List α) :
    (ranks (labeledMerge (sortF x2) (sortF x1))).hasTies
      = (ranks (labeledMerge (sortF x1) (sortF x2))).hasTies := by
  rw [model_hasTies_eq, model_hasTies_eq, tieVector_swap]

theorem exactBranch_comm (t : Bool) (n1 n2 lim limT : Nat) :
    exactBranch t n2 n1 lim limT = exactBranch t n1 n2 lim limT := by
  unfold exactBranch
  cases t <;> simp [Bool.and_comm]

theorem exactBranch_swap_iff (x1 x2 : List α) (lim limT : Nat) :
    exactBranch (ranks (labeledMerge (sortF x2) (sortF x1))).hasTies x2.length x1.length lim limT
      = exactBranch (ranks (labeledMerge (sortF x1) (sortF x2))).hasTies x1.length x2.length
          lim limT := by
  rw [hasTies_swap, exactBranch_comm]

theorem allEqual_swap (x1 x2 : List α) (hne : allEqual x1 x2 = false) : allEqual x2 x1 = false := by
  cases h : allEqual x2 x1 with
  | false => rfl
  | true =>
    have h' : allEqual x1 x2 = true := by
      rw [allEqual_iff] at h ⊢
      intro a ha b hb
      exact h a (List.perm_append_comm.mem_iff.mp ha) b (List.perm_append_comm.mem_iff.mp hb)
    rw [h'] at hne
    cases hne

end Branch

section Benchmath
variable {α : Type} [LinearOrder α]

/-- Inside the exact regime benchmath's comparison is the exact two-sided permutation p-value of the
    samples, tied or not: the second one-sided call is on the exact branch as well, and its lower
    tail is the upper tail of the first. -/
theorem compare_eq_pTwoSided (x1 x2 : List α) (lim limT : Nat)
    (h1 : x1 ≠ []) (h2 : x2 ≠ []) (hne : Spec.UExact.allEqual x1 x2 = false)
    (hb : exactBranch (ranks (labeledMerge (sortF x1) (sortF x2))).hasTies x1.length x2.length
      lim limT = true) :
    compareAssumeNothing Stats.UDist.cdfPure lim limT x1 x2
      = .ok (Spec.UExact.pTwoSided (Spec.UExact.nullDist x1 x2) (Spec.UExact.twoUPairs x1 x2)) := by
  have cap : ∀ y : Rat, (if y ≤ 1 then y else 1) = ratMin 1 y := fun y => by
    rw [ratMin_eq_min, min_comm, min_def]
  unfold compareAssumeNothing
  rw [exact_outcome_shape _ lim limT x1 x2 .differs h1 h2 hne hb,
    less_exact x1 x2 lim limT h1 h2 hne hb,
    less_exact x2 x1 lim limT h2 h1 (allEqual_swap x1 x2 hne)
      ((exactBranch_swap_iff x1 x2 lim limT).trans hb)]
  simp only
  rw [cap]
  unfold pTwoSided
  rw [twoUPairs_swap_eq x1 x2, pLess_swap x1 x2 _ (twoUPairs_le x1 x2)]
  rfl

set_option linter.unusedVariables false in
/-- **compare_exact.** Inside the exact regime (both orders) benchmath's comparison is the exact
    two-sided permutation p-value of the samples, tied or not. -/
theorem compare_exact (x1 x2 : List α) (lim limT : Nat)
    (h1 : x1 ≠ []) (h2 : x2 ≠ []) (hne : Spec.UExact.allEqual x1 x2 = false)
    (hb : exactBranch (ranks (labeledMerge (sortF x1) (sortF x2))).hasTies x1.length x2.length
      lim limT = true)
    (hb' : exactBranch (ranks (labeledMerge (sortF x2) (sortF x1))).hasTies x2.length x1.length
      lim limT = true) :
    compareAssumeNothing Stats.UDist.cdfPure lim limT x1 x2
      = .ok (Spec.UExact.pTwoSided (Spec.UExact.nullDist x1 x2) (Spec.UExact.twoUPairs x1 x2)) :=
  compare_eq_pTwoSided x1 x2 lim limT h1 h2 hne hb

theorem compare_swap (x1 x2 : List α) (lim limT : Nat)
    (h1 : x1 ≠ []) (h2 : x2 ≠ []) (hne : Spec.UExact.allEqual x1 x2 = false)
    (hb : exactBranch (ranks (labeledMerge (sortF x1) (sortF x2))).hasTies x1.length x2.length
      lim limT = true) :
    compareAssumeNothing Stats.UDist.cdfPure lim limT x1 x2
      = compareAssumeNothing Stats.UDist.cdfPure lim limT x2 x1 := by
  rw [compare_eq_pTwoSided x1 x2 lim limT h1 h2 hne hb,
    compare_eq_pTwoSided x2 x1 lim limT h2 h1 (allEqual_swap x1 x2 hne)
      ((exactBranch_swap_iff x1 x2 lim limT).trans hb), pTwoSided_swap]

set_option linter.unusedVariables false in
/-- **compare_swap_symmetric.** Inside the exact regime the comparison does not depend on the order
    of the samples. -/
theorem compare_swap_symmetric (x1 x2 : List α) (lim limT : Nat)
    (h1 : x1 ≠ []) (h2 : x2 ≠ []) (hne : Spec.UExact.allEqual x1 x2 = false)
    (hb : exactBranch (ranks (labeledMerge (sortF x1) (sortF x2))).hasTies x1.length x2.length
      lim limT = true)
    (hb' : exactBranch (ranks (labeledMerge (sortF x2) (sortF x1))).hasTies x2.length x1.length
      lim limT = true) :
    compareAssumeNothing Stats.UDist.cdfPure lim limT x1 x2
      = compareAssumeNothing Stats.UDist.cdfPure lim limT x2 x1 :=
  compare_swap x1 x2 lim limT h1 h2 hne hb

theorem compare_cdf_eq (lim limT : Nat) (x1 x2 : List α) :
    compareAssumeNothing Stats.UDist.cdf lim limT x1 x2
      = compareAssumeNothing Stats.UDist.cdfPure lim limT x1 x2 := by
  rw [cdf_eq_cdfPure_fun]

theorem compare_swap_symmetric_driver (x1 x2 : List α) (lim limT : Nat)
    (h1 : x1 ≠ []) (h2 : x2 ≠ []) (hne : Spec.UExact.allEqual x1 x2 = false)
    (hb : exactBranch (ranks (labeledMerge (sortF x1) (sortF x2))).hasTies x1.length x2.length
      lim limT = true) :
    compareAssumeNothing Stats.UDist.cdf lim limT x1 x2
      = compareAssumeNothing Stats.UDist.cdf lim limT x2 x1 := by
  rw [compare_cdf_eq, compare_cdf_eq, compare_swap x1 x2 lim limT h1 h2 hne hb]

end Benchmath

theorem example_merged :
    labeledMerge (sortF [(1 : Int)]) (sortF [(0 : Int), 0]) = [(0, false), (0, false), (1, true)] := by
  simp [sortF, insertSorted, labeledMerge]

theorem example_branch :
    exactBranch (ranks (labeledMerge (sortF [(1 : Int)]) (sortF [(0 : Int), 0]))).hasTies
      [(1 : Int)].length [(0 : Int), 0].length 50 25 = true := by
  rw [example_merged]
  decide

theorem example_spec :
    pTwoSided (nullDist [(1 : Int)] [0, 0]) (twoUPairs [(1 : Int)] [0, 0]) = 2 / 3 := by
  decide +kernel

theorem compare_example :
    compareAssumeNothing Stats.UDist.cdfPure 50 25 [(1 : Int)] [0, 0] = .ok (2 / 3) := by
  have h := compare_eq_pTwoSided [(1 : Int)] [0, 0] 50 25 (by simp) (by simp) (by decide)
    example_branch
  rw [example_spec] at h
  exact h

theorem compare_example_swapped :
    compareAssumeNothing Stats.UDist.cdfPure 50 25 [(0 : Int), 0] [1] = .ok (2 / 3) := by
  rw [← compare_swap [(1 : Int)] [0, 0] 50 25 (by simp) (by simp) (by decide)
    example_branch]
  exact compare_example

end C11
