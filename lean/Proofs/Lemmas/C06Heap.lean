/-
Aliasing facts about the heap model of the evaluator (Model/Proc/FilterHeap.lean):
frame (cells that existed before a call are untouched), freshness (the returned mask was allocated
during the call) and refinement (reading the returned address gives the functional model's mask).
-/
import Model.Proc.FilterHeap
import Proofs.Lemmas.C06Walk

namespace C06
open Proc.FilterEval Proc.FilterHeap Proc.Extract

/-- `h` is `hb` with cells appended: every cell of `hb` is still there, unchanged -/
def Ext (hb h : Heap) : Prop := ∃ ext, h = hb ++ ext

theorem ext_iff_prefix {hb h : Heap} : Ext hb h ↔ hb <+: h :=
  ⟨fun ⟨x, e⟩ => ⟨x, e.symm⟩, fun ⟨x, e⟩ => ⟨x, e.symm⟩⟩

theorem cell_of_prefix {hb h : Heap} (e : hb <+: h) (a : Nat) (ha : a < hb.length) : cell h a = cell hb a := by
  obtain ⟨x, rfl⟩ := e
  unfold Proc.FilterHeap.cell
  rw [List.getD_eq_getElem?_getD, List.getD_eq_getElem?_getD, List.getElem?_append_left ha]

theorem updAt_eq (f : Mask → Mask) (h : Heap) (a : Nat) : Proc.FilterHeap.updAt f h a = h.modify a f := by
  induction h generalizing a with
  | nil => simp [Proc.FilterHeap.updAt]
  | cons m h ih => cases a <;> simp [Proc.FilterHeap.updAt, ih]

theorem length_updAt (f : Mask → Mask) (h : Heap) (a : Nat) : (updAt f h a).length = h.length := by
  rw [updAt_eq, List.length_modify]

/-- an in-place update at an address beyond `hb` leaves `hb` alone -/
theorem prefix_updAt {hb h : Heap} (e : hb <+: h) (f : Mask → Mask) (a : Nat) (ha : hb.length ≤ a) :
    hb <+: updAt f h a := by
  rw [updAt_eq, List.prefix_iff_eq_take, List.take_modify, ← List.prefix_iff_eq_take.mp e, List.modify_eq_self ha]

theorem cell_updAt_same (f : Mask → Mask) (h : Heap) (a : Nat) (ha : a < h.length) :
    cell (updAt f h a) a = f (cell h a) := by
  simp [cell, updAt_eq, List.getElem?_eq_getElem ha]

theorem cell_snoc (h : Heap) (m : Mask) : cell (h ++ [m]) h.length = m := by
  simp [cell]

/-- the loop of `andH` and of `orH` over any evaluator `ev` of the operands (cf. `opLoop`) -/
def loopH (ev : Filter → Heap → HOut × Heap) (stop : Bool) (op : Mask → Mask → Mask) :
    List Filter → Option Nat → Heap → HOut × Heap
  | [], m, h => ((m, !stop), h)
  | e :: es, m, h =>
    match ev e h with
    | ((none, x), h') => if x = stop then ((none, stop), h') else loopH ev stop op es m h'
    | ((some a2, _), h') =>
      match m with
      | none => loopH ev stop op es (some a2) h'
      | some a => loopH ev stop op es (some a) (updAt (fun ma => op ma (cell h' a2)) h' a)

theorem andH_eq (re : ReOracle) (res : Res) (es : List Filter) (m : Option Nat) (h : Heap) :
    andH re res es m h = loopH (evalH re res) false maskAnd es m h := by
  induction es generalizing m h with
  | nil => rw [andH, loopH]; rfl
  | cons e es ih =>
    rw [andH, loopH]
    rcases evalH re res e h with ⟨⟨_ | a2, x⟩, h'⟩
    · cases x <;> simp [ih]
    · cases m <;> simp [ih]

theorem orH_eq (re : ReOracle) (res : Res) (es : List Filter) (m : Option Nat) (h : Heap) :
    orH re res es m h = loopH (evalH re res) true maskOr es m h := by
  induction es generalizing m h with
  | nil => rw [orH, loopH]; rfl
  | cons e es ih =>
    rw [orH, loopH]
    rcases evalH re res e h with ⟨⟨_ | a2, x⟩, h'⟩
    · cases x <;> simp [ih]
    · cases m <;> simp [ih]

/-- a call that started from an extension of `hb` kept the cells of `hb`, and a mask it returns lies beyond `hb` -/
def Framed (hb : Heap) (r : HOut × Heap) : Prop :=
  hb <+: r.2 ∧ ∀ a, r.1.1 = some a → hb.length ≤ a ∧ a < r.2.length

theorem frameLoop {ev : Filter → Heap → HOut × Heap} {stop : Bool} {op : Mask → Mask → Mask} :
    ∀ (es : List Filter), (∀ e, e ∈ es → ∀ h, Framed h (ev e h)) →
    ∀ (m : Option Nat) (h hb : Heap), hb <+: h → (∀ a, m = some a → hb.length ≤ a ∧ a < h.length) →
    Framed hb (loopH ev stop op es m h)
  | [], _, m, h, hb, hx, hm => ⟨hx, hm⟩
  | e :: es, hev, m, h, hb, hx, hm => by
    obtain ⟨ex, ef⟩ := hev e (by simp) h
    have ih := frameLoop (stop := stop) (op := op) es (fun e' he' => hev e' (by simp [he']))
    rw [loopH]
    rcases hr : ev e h with ⟨⟨_ | a2, x⟩, h'⟩
    · rw [hr] at ex
      have hm' : ∀ a, m = some a → hb.length ≤ a ∧ a < h'.length :=
        fun a ha => ⟨(hm a ha).1, Nat.lt_of_lt_of_le (hm a ha).2 ex.length_le⟩
      by_cases hs : x = stop
      · simp only [hs, if_true]; exact ⟨hx.trans ex, nofun⟩
      · simp only [hs, if_false]; exact ih m h' hb (hx.trans ex) hm'
    · rw [hr] at ex ef
      obtain ⟨f1, f2⟩ := ef a2 rfl
      cases m with
      | none =>
        exact ih (some a2) h' hb (hx.trans ex) (fun a ha => by cases ha; exact ⟨Nat.le_trans hx.length_le f1, f2⟩)
      | some a =>
        obtain ⟨m1, m2⟩ := hm a rfl
        exact ih (some a) _ hb (prefix_updAt (hx.trans ex) _ a m1)
          (fun b hb' => by cases hb'; exact ⟨m1, by rw [length_updAt]; exact Nat.lt_of_lt_of_le m2 ex.length_le⟩)

theorem frameE (re : ReOracle) (res : Res) (e : Filter) : ∀ h, Framed h (evalH re res e h) := by
  induction e using filter_induction with
  | mtch key off mt =>
    intro h
    rw [evalH]
    split
    · exact ⟨List.prefix_append _ _, fun a ha => by simp at ha; subst ha; simp⟩
    · exact ⟨List.prefix_refl _, nofun⟩
  | not e ih =>
    intro h
    obtain ⟨hx, hf⟩ := ih h
    rw [evalH]
    rcases hr : evalH re res e h with ⟨⟨_ | a, x⟩, h'⟩
    · rw [hr] at hx
      exact ⟨hx, nofun⟩
    · rw [hr] at hx hf
      obtain ⟨h1, h2⟩ := hf a rfl
      exact ⟨prefix_updAt hx _ a h1, fun b hb => by cases hb; exact ⟨h1, by rw [length_updAt]; exact h2⟩⟩
  | and es ih =>
    intro h
    rw [evalH, andH_eq]
    exact frameLoop es ih none h h (List.prefix_refl _) nofun
  | or es ih =>
    intro h
    rw [evalH, orH_eq]
    exact frameLoop es ih none h h (List.prefix_refl _) nofun

theorem frameAnd (re : ReOracle) (res : Res) : ∀ (es : List Filter) (m : Option Nat) (h hb : Heap),
    Ext hb h → (∀ a, m = some a → hb.length ≤ a ∧ a < h.length) →
    Ext hb (andH re res es m h).2 ∧
    ∀ a, (andH re res es m h).1.1 = some a → hb.length ≤ a ∧ a < (andH re res es m h).2.length := by
  intro es m h hb hx hm
  rw [andH_eq]
  exact And.imp ext_iff_prefix.mpr id (frameLoop es (fun e _ h' => frameE re res e h') m h hb (ext_iff_prefix.mp hx) hm)

theorem frameOr (re : ReOracle) (res : Res) : ∀ (es : List Filter) (m : Option Nat) (h hb : Heap),
    Ext hb h → (∀ a, m = some a → hb.length ≤ a ∧ a < h.length) →
    Ext hb (orH re res es m h).2 ∧
    ∀ a, (orH re res es m h).1.1 = some a → hb.length ≤ a ∧ a < (orH re res es m h).2.length := by
  intro es m h hb hx hm
  rw [orH_eq]
  exact And.imp ext_iff_prefix.mpr id (frameLoop es (fun e _ h' => frameE re res e h') m h hb (ext_iff_prefix.mp hx) hm)

/-- "the functional out `o` is the heap out `r` read in heap `h`" -/
def Reads (o : Out) (r : HOut) (h : Heap) : Prop := o.2 = r.2 ∧ o.1 = r.1.map (cell h)

theorem refLoop (re : ReOracle) (res : Res) (stop : Bool) (op : Mask → Mask → Mask) :
    ∀ (es : List Filter),
    (∀ e, e ∈ es → ∀ f, walk re e = .ok f → ∀ h, Reads (f res) (evalH re res e h).1 (evalH re res e h).2) →
    ∀ (fs : List FilterFn), walkList re es = .ok fs →
    ∀ (mf : Option Mask) (mh : Option Nat) (h : Heap), mf = mh.map (cell h) → (∀ a, mh = some a → a < h.length) →
    Reads (opLoop stop op res fs mf) (loopH (evalH re res) stop op es mh h).1
      (loopH (evalH re res) stop op es mh h).2
  | [], _, fs, hw, mf, mh, h, hm, _ => by
    cases hw
    exact ⟨rfl, hm⟩
  | e :: es, hes, fs, hw, mf, mh, h, hm, hlt => by
    obtain ⟨f, fs', hf, hfs, rfl⟩ := walkList_cons_ok hw
    obtain ⟨r1, r2⟩ := hes e (by simp) f hf h
    obtain ⟨ex, ef⟩ := frameE re res e h
    have ih := refLoop re res stop op es (fun e' he' => hes e' (by simp [he'])) fs' hfs
    rw [loopH, opLoop]
    rcases hr : evalH re res e h with ⟨⟨_ | a2, x⟩, h'⟩
    · rw [hr] at r1 r2 ex
      have hfr : f res = (none, x) := Prod.ext r2 r1
      -- the accumulator's cell is older than this call and was not touched by it
      have hm' : mf = mh.map (cell h') := by
        rw [hm]; cases mh with
        | none => rfl
        | some a => simp [cell_of_prefix ex a (hlt a rfl)]
      rw [hfr]
      by_cases hs : x = stop
      · simp only [hs, if_true]; exact ⟨rfl, rfl⟩
      · simp only [hs, if_false]
        exact ih mf mh h' hm' fun a ha => Nat.lt_of_lt_of_le (hlt a ha) ex.length_le
    · rw [hr] at r1 r2 ex ef
      obtain ⟨_, f2⟩ := ef a2 rfl
      have hfr : f res = (some (cell h' a2), x) := Prod.ext r2 r1
      rw [hfr]
      cases mh with
      | none =>
        subst hm
        exact ih (some (cell h' a2)) (some a2) h' rfl (fun a ha => by cases ha; exact f2)
      | some a =>
        have ha := hlt a rfl
        have ha' : a < h'.length := Nat.lt_of_lt_of_le ha ex.length_le
        subst hm
        refine ih _ (some a) _ ?_ (fun b hb => by cases hb; rw [length_updAt]; exact ha')
        simp [cell_updAt_same _ _ _ ha', cell_of_prefix ex a ha]

theorem refE (re : ReOracle) (res : Res) (e : Filter) : ∀ (f : FilterFn), walk re e = .ok f →
    ∀ h, Reads (f res) (evalH re res e h).1 (evalH re res e h).2 := by
  induction e using filter_induction with
  | mtch key off mt =>
    intro f hw h
    rw [evalH]
    rcases walk_mtch_ok hw with ⟨rfl, rfl⟩ | ⟨hk, rfl⟩
    · exact ⟨rfl, by simp [unitFn, cell_snoc]⟩
    · rw [if_neg (by simpa using hk)]
      exact ⟨rfl, rfl⟩
  | not e ih =>
    intro f hw h
    obtain ⟨sub, hs, rfl⟩ := walk_not_ok hw
    obtain ⟨r1, r2⟩ := ih sub hs h
    obtain ⟨_, hf⟩ := frameE re res e h
    rw [evalH]
    rcases hr : evalH re res e h with ⟨⟨_ | a, x⟩, h'⟩
    · rw [hr] at r1 r2
      have : sub res = (none, x) := Prod.ext r2 r1
      simp [Reads, notFn, this]
    · rw [hr] at r1 r2 hf
      have : sub res = (some (cell h' a), x) := Prod.ext r2 r1
      simp [Reads, notFn, this, cell_updAt_same _ _ _ (hf a rfl).2]
  | and es ih =>
    intro f hw h
    obtain ⟨subs, hs, rfl⟩ := walk_and_ok hw
    rw [evalH, andH_eq, andFn, andLoop_eq]
    exact refLoop re res _ _ es ih subs hs none none h rfl nofun
  | or es ih =>
    intro f hw h
    obtain ⟨subs, hs, rfl⟩ := walk_or_ok hw
    rw [evalH, orH_eq, orFn, orLoop_eq]
    exact refLoop re res _ _ es ih subs hs none none h rfl nofun

theorem refAnd (re : ReOracle) (res : Res) : ∀ (es : List Filter) (fs : List FilterFn), walkList re es = .ok fs →
    ∀ (mf : Option Mask) (mh : Option Nat) (h : Heap), mf = mh.map (cell h) → (∀ a, mh = some a → a < h.length) →
    Reads (andLoop res fs mf) (andH re res es mh h).1 (andH re res es mh h).2 := by
  intro es fs hw mf mh h
  rw [andH_eq, andLoop_eq]
  exact refLoop re res _ _ es (fun e _ => refE re res e) fs hw mf mh h

theorem refOr (re : ReOracle) (res : Res) : ∀ (es : List Filter) (fs : List FilterFn), walkList re es = .ok fs →
    ∀ (mf : Option Mask) (mh : Option Nat) (h : Heap), mf = mh.map (cell h) → (∀ a, mh = some a → a < h.length) →
    Reads (orLoop res fs mf) (orH re res es mh h).1 (orH re res es mh h).2 := by
  intro es fs hw mf mh h
  rw [orH_eq, orLoop_eq]
  exact refLoop re res _ _ es (fun e _ => refE re res e) fs hw mf mh h

end C06
