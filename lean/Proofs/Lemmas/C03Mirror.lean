/-
C03 — truncating runs of the decimal slow path: the mirrored slow path and the fully
mirrored `ParseFloat` agree with the specification on EVERY run — no "nothing was truncated"
condition.
-/
import Proofs.Lemmas.C03Set
import Proofs.Lemmas.C03Total
import Proofs.Lemmas.C03FloatBits

namespace C03
open Num Spec.NumText F64

/-- no step of the slow path's run on `s` dropped a non-zero digit from the 800-digit buffer -/
def NoTrunc (s : Bytes) : Prop := ∀ d, decSet s = some d → (floatBits d).trunc = false

theorem parseFloatMirror_with : parseFloatMirror = parseFloatWith slowPathMirror := rfl

theorem parseFloatMirror_of_slow (s : Bytes)
    (hslow : underscoreOK s = true → (slowPathMirror s).toExcept = slowSpec s) :
    (parseFloatMirror s).toExcept = parseFloatSpecG (expGapS s) s := by
  rw [parseFloatMirror_with]
  exact parseFloatWith_of_slow slowPathMirror s hslow

theorem fbRes_toExcept (r : FbRes) :
    (⟨r.bits, if r.ovf then some NumErr.range else none⟩ : FloatRes).toExcept = r.toExcept := by
  unfold FloatRes.toExcept FbRes.toExcept
  cases r.ovf <;> rfl

/-- **the mirrored slow path = the specification**, whenever the 800-digit buffer holds the integer
part of the mantissa (or all of it) — also when `set` itself truncates, and on every run of
`floatBits` -/
theorem slowPathMirror_gen (s : Bytes) (hu : underscoreOK s = true)
    (hdig : ∀ p, recognise s = some p → p.hex = false → (mantDigits s).1.length ≤ 800 ∨ p.mant < 10 ^ 800) :
    (slowPathMirror s).toExcept = slowSpec s := by
  obtain ⟨k1, k2, k3⟩ := decSet_full s hu
  unfold slowPathMirror slowSpec
  cases hrec : recognise s with
  | none => rw [k1 hrec]; rfl
  | some p =>
    simp only []
    cases hph : p.hex
    · obtain ⟨d, e1, e2, e4, e5, e6, _⟩ := k3 p hrec hph (hdig p hrec hph)
      rw [e1]
      simp only [Bool.false_eq_true, if_false]
      rw [fbRes_toExcept]
      by_cases hm0 : p.mant = 0
      · obtain ⟨f1, f2⟩ := e5 hm0
        rw [floatBits_correct_all d e2 f2, if_pos f1, eval_zero (clampP p (expGapS s)) hm0, e4]; rfl
      · obtain ⟨f1, c⟩ := e6 hm0
        rw [floatBits_of_cut d ⟨e2, f1⟩ _ c, e4]
        exact (eval_of_valueQ (clampP p (expGapS s)) (Nat.pos_of_ne_zero hm0)).symm
    · rw [k2 p hrec hph]; rfl

/-- **parseFloatMirror_full** — the FULLY MIRRORED model of `bytesconv.ParseFloat(s, 64)` returns
exactly what `parseFloatSpec` says, for every byte string whose exponent literal is below the
clamp and whose mantissa has at most 800 significant digits — including every run on which the
multiprecision shifts overflow the 800-digit buffer and set `trunc`. -/
theorem parseFloatMirror_full (s : Bytes) (hlit : expLit s < 100000)
    (hmant : ∀ p, recognise s = some p → p.mant < 10 ^ 800) :
    (parseFloatMirror s).toExcept = parseFloatSpec s := by
  rw [parseFloatMirror_of_slow s (fun hu => slowPathMirror_gen s hu (fun p h _ => Or.inr (hmant p h))),
    parseFloatSpecG_small s hlit]

theorem slowPathMirror_all (s : Bytes) (hu : underscoreOK s = true)
    (hN3 : inClassN3 s = false) :
    (slowPathMirror s).toExcept = slowSpec s := by
  apply slowPathMirror_gen s hu
  intro p hrec hph
  unfold inClassN3 at hN3
  rw [hrec] at hN3
  simp only [hph, Bool.not_false, Bool.true_and, decide_eq_false_iff_not] at hN3
  exact Or.inl (by omega)

/-- the fully mirrored `ParseFloat` = the specification with the exponent literal clamped the way
the code clamps it (`expGapS`), outside the class of finding N3 -/
theorem parseFloatMirror_clamped (s : Bytes) (hN3 : inClassN3 s = false) :
    (parseFloatMirror s).toExcept = parseFloatSpecG (expGapS s) s :=
  parseFloatMirror_of_slow s (fun hu => slowPathMirror_all s hu hN3)

/-- **parseFloatMirror_all** — … hence equals `parseFloatSpec` when the exponent literal is below
100000: the same two hypotheses as `parseFloat_eq_spec` for the model with the specified slow
path. -/
theorem parseFloatMirror_all (s : Bytes) (hlit : expLit s < 100000) (hN3 : inClassN3 s = false) :
    (parseFloatMirror s).toExcept = parseFloatSpec s := by
  rw [parseFloatMirror_clamped s hN3, parseFloatSpecG_small s hlit]

end C03
