/-
C12 helper lemmas: the weighted incremental mean (exact instance).
-/
import Proofs.Lemmas.C12Descr
import Model.Stats.Weighted

namespace C12
open Stats Stats.Weighted

/-- total weight Σw of a list of (value, weight) pairs -/
def wsumQ : List (ℚ × ℚ) → ℚ
  | [] => 0
  | (_, w) :: r => w + wsumQ r

/-- weighted sum Σ w·val(x) of a list of (value, weight) pairs -/
def wdotQ (val : ℚ → ℚ) : List (ℚ × ℚ) → ℚ
  | [] => 0
  | (x, w) :: r => w * val x + wdotQ val r

theorem wsumQ_nonneg (xs : List (ℚ × ℚ)) (h : ∀ p ∈ xs, 0 ≤ p.2) : 0 ≤ wsumQ xs := by
  induction xs with
  | nil => simp [wsumQ]
  | cons p r ih =>
    obtain ⟨x, w⟩ := p
    have := h (x, w) List.mem_cons_self
    have := ih (fun q hq => h q (List.mem_cons_of_mem _ hq))
    simp only [wsumQ]; linarith

/-- invariant of the weighted loop: m·wsum = Σ w·val(x) over the entries consumed so far -/
theorem wmeanLoop_spec (val : ℚ → ℚ) (xs : List (ℚ × ℚ)) (hw : ∀ p ∈ xs, 0 ≤ p.2) :
    ∀ (m wsum S : ℚ), 0 ≤ wsum → m * wsum = S →
      (wmeanLoop val m wsum xs).2 = wsum + wsumQ xs ∧
      (wmeanLoop val m wsum xs).1 * (wmeanLoop val m wsum xs).2 = S + wdotQ val xs := by
  induction xs with
  | nil => intro m wsum S _ h; exact ⟨(add_zero _).symm, h.trans (add_zero _).symm⟩
  | cons p r ih =>
    obtain ⟨x, w⟩ := p
    intro m wsum S h0 hS
    have hw0 : 0 ≤ w := hw (x, w) List.mem_cons_self
    have hr := fun q hq => hw q (List.mem_cons_of_mem _ hq)
    rw [wmeanLoop]
    split
    · rename_i hz
      obtain rfl : w = 0 := (eq_rat _ _).mp hz
      simpa only [wsumQ, wdotQ, zero_mul, zero_add] using ih hr m wsum S h0 hS
    · rename_i hz
      have hpos : 0 < wsum + w :=
        add_pos_of_nonneg_of_pos h0 (lt_of_le_of_ne hw0 fun e => hz ((eq_rat _ _).mpr e.symm))
      have key : (m + (val x - m) * w / (wsum + w)) * (wsum + w) = S + w * val x := by
        rw [add_mul, div_mul_cancel₀ _ hpos.ne', ← hS]; ring
      obtain ⟨a, b⟩ := ih hr _ _ _ hpos.le key
      exact ⟨a.trans (add_assoc _ _ _), b.trans (add_assoc _ _ _)⟩

/-- the result `g m` (or NaN for total weight 0) is the shape of both `Sample.Mean` and `Sample.GeoMean` -/
theorem wmeanLoop_zero (val g : ℚ → ℚ) (xs : List (ℚ × ℚ)) (hw : ∀ p ∈ xs, 0 ≤ p.2) :
    (if Arith.eq (wmeanLoop val 0 0 xs).2 (Arith.ofNat 0 : ℚ) then none
      else some (g (wmeanLoop val 0 0 xs).1)) =
    if wsumQ xs = 0 then none else some (g (wdotQ val xs / wsumQ xs)) := by
  obtain ⟨a, b⟩ := wmeanLoop_spec val xs hw 0 0 0 le_rfl (zero_mul _)
  rw [zero_add] at a b
  simp only [eq_rat, ofNat_rat, Nat.cast_zero, a]
  split
  · rfl
  · rw [← eq_div_of_mul_eq ‹_› (a ▸ b)]

end C12
