/-
The projection parser model (Model/Proc/ParseProj.lean): every run moves forward and records at most a first
error inside the text; an error-free run read a balanced token stream (`Bal`) and stored offsets inside the text
(`FieldOK`).  Fuel stability; what `makeProjection` can report.
-/
import Proofs.Lemmas.C07Parse
import Model.Proc.ParseProj

namespace C07
open Proc.Tok Proc.ParseProj

/-- `KeyOff` is inside the text; so is `OrderOff` unless the order is the default `first`
(without `@`, `OrderOff = KeyOff + len(key)` may lie beyond the text when a quoted key holds
invalid UTF-8 — it is never reported, because `first` is never rejected) -/
def FieldOK (cx : Ctx) (f : Field) : Prop := InR cx f.keyOff ∧ (f.order = oFirst ∨ InR cx f.orderOff)

theorem pisWord_facts {k : UInt8} (h : isWord k = true) : k ≠ 0 ∧ k ≠ cLP ∧ k ≠ cRP :=
  have ⟨h0, h1, h2, _⟩ := isWord_facts (k := k) h
  ⟨h0, h1, h2⟩

/-- from `q` to `q'` the text is a run of error-free tokens (projection syntax: key mode throughout) whose
kinds satisfy `P` -/
def Bal (cx : Ctx) (P : List UInt8 → Prop) (q q' : Bytes) : Prop := ∃ ks, Lex cx stepP .K q ks .K q' ∧ P ks

theorem Bal.append {cx : Ctx} {P Q R : List UInt8 → Prop} {q q1 q2 : Bytes} (a : Bal cx P q q1) (b : Bal cx Q q1 q2)
    (h : ∀ x y, P x → Q y → R (x ++ y)) : Bal cx R q q2 :=
  let ⟨x, lx, px⟩ := a
  let ⟨y, ly, py⟩ := b
  ⟨x ++ y, lx.append ly, h x y px py⟩

theorem Tk.bal {cx : Ctx} {q tok cur q' : Bytes} {k : UInt8} (t : Tk cx false q k tok cur q')
    (h : k ≠ 0 ∧ k ≠ cLP ∧ k ≠ cRP) : Bal cx Seg q q' := ⟨[k], t.lex .K h.1 rfl, Seg.single h.2.1 h.2.2⟩

theorem Tk.balPeek {cx : Ctx} {q tok cur q' : Bytes} {k : UInt8} (t : Tk cx false q k tok cur q') : Bal cx Seg q cur :=
  ⟨[], Lex.nil t.same, Seg.nil⟩

theorem TokOK.inR {cx : Ctx} {m : Bool} {q : Bytes} {e : ErrSt} {t : TokR} (T : TokOK cx m q e t) {p : Bytes}
    (hp : q.length ≤ p.length) (hn : p.length ≤ cx.n) : InR cx t.tok.off :=
  T.off ▸ inR_offOf cx (Nat.le_trans T.cur_le (Nat.le_trans hp hn))

theorem fixedLoop_post (cx : Ctx) : ∀ (n : Nat) (f : Field) (q : Bytes) (e : ErrSt),
    Post cx q e (fixedLoop cx n f q e).rest (fixedLoop cx n f q e).err
      (Bal cx Closes q (fixedLoop cx n f q e).rest ∧ (FieldOK cx f → FieldOK cx (fixedLoop cx n f q e).f)) := by
  intro n
  induction n with
  | zero => intro f q e; exact (Post.refl cx q e).fail _ (Nat.le_refl _)
  | succ n ih =>
    intro f q e
    have T := next_ok cx false q e
    simp only [fixedLoop]
    generalize next cx false q e = t at T ⊢
    split
    · rename_i hw
      exact (T.rd.bind (ih { f with fixed := f.fixed ++ [t.tok.tok] } t.rest t.err)).imp fun ⟨tk, b, ok⟩ =>
        ⟨(tk.bal (pisWord_facts hw)).append b fun _ _ => Closes.prepend, ok⟩
    · split
      · rename_i hrp
        split
        · exact T.pk.fail _ T.cur_le
        · exact T.rd.imp fun tk => ⟨⟨[cRP], (kind_eq hrp ▸ tk).lex .K (by decide) rfl, Closes.rp⟩, id⟩
      · exact T.pk.fail _ T.cur_le

theorem parseField_post (cx : Ctx) (q : Bytes) (e : ErrSt) :
    Post cx q e (parseField cx q e).rest (parseField cx q e).err
      (Bal cx Seg q (parseField cx q e).rest ∧ (q.length ≤ cx.n → FieldOK cx (parseField cx q e).f)) ∧
    (0 < q.length → (parseField cx q e).rest.length < q.length) := by
  have K := next_ok cx false q e
  generalize hr : parseField cx q e = r
  simp only [parseField] at hr
  generalize next cx false q e = k at K hr
  by_cases hw : (!isWord k.tok.kind) = true
  · rw [if_pos hw] at hr
    subst hr
    exact ⟨K.pk.fail _ K.cur_le, id⟩
  · rw [if_neg hw] at hr
    have hwf := pisWord_facts (k := k.tok.kind) (by simpa using hw)
    have hlt : k.rest.length < q.length := Nat.lt_of_lt_of_le (K.rest_lt hwf.1) K.cur_le
    have S := next_ok cx false k.rest k.err
    generalize next cx false k.rest k.err = s at S hr
    by_cases hat : (s.tok.kind != cAt) = true
    · rw [if_pos hat] at hr
      subst hr
      exact ⟨(K.rd.bind S.pk).imp fun ⟨tkk, tks⟩ =>
          ⟨(tkk.bal hwf).append tks.balPeek fun _ _ => Seg.append, fun hq => ⟨K.inR (Nat.le_refl _) hq, Or.inl rfl⟩⟩,
        fun _ => Nat.lt_of_le_of_lt S.cur_le hlt⟩
    · rw [if_neg hat] at hr
      have hat' : s.tok.kind = cAt := by simpa using hat
      have O := next_ok cx false s.rest s.err
      generalize next cx false s.rest s.err = o at O hr
      have P := (K.rd.bind S.rd).bind O.rd
      have offs : q.length ≤ cx.n → InR cx k.tok.off ∧ InR cx o.tok.off := fun hq =>
        ⟨K.inR (Nat.le_refl _) hq, O.inR (K.rd.bind S.rd).len hq⟩
      have bal2 : Tk cx false q k.tok.kind k.tok.tok k.cur k.rest → Tk cx false k.rest s.tok.kind s.tok.tok s.cur s.rest →
          Bal cx Seg q s.rest := fun tkk tks =>
        (tkk.bal hwf).append (tks.bal (hat' ▸ by decide)) fun _ _ => Seg.append
      split at hr
      · rename_i how
        subst hr
        exact ⟨P.imp fun ⟨⟨tkk, tks⟩, tko⟩ =>
            ⟨(bal2 tkk tks).append (tko.bal (pisWord_facts how)) fun _ _ => Seg.append,
              fun hq => ⟨(offs hq).1, Or.inr (offs hq).2⟩⟩,
          fun _ => Nat.lt_of_le_of_lt (Nat.le_trans O.rd.len S.rd.len) hlt⟩
      · split at hr
        · rename_i hlp
          have F := fixedLoop_post cx (o.rest.length + 1) ⟨k.tok.tok, oFixed, [], k.tok.off, o.tok.off⟩ o.rest o.err
          rw [hr] at F
          exact ⟨(P.bind F).imp fun ⟨⟨⟨tkk, tks⟩, tko⟩, ⟨ks, l, c⟩, ok⟩ => ⟨(bal2 tkk tks).append
              ⟨cLP :: ks, ((kind_eq hlp ▸ tko).lex .K (by decide) rfl).append l, Seg.open_ c⟩ fun _ _ => Seg.append,
              fun hq => ok ⟨(offs hq).1, Or.inr (offs hq).2⟩⟩,
            fun _ => Nat.lt_of_le_of_lt (Nat.le_trans F.len (Nat.le_trans O.rd.len S.rd.len)) hlt⟩
        · subst hr
          exact ⟨P.fail _ (Nat.le_trans O.cur_le (K.rd.bind S.rd).len), id⟩

theorem projLoop_post (cx : Ctx) : ∀ (n : Nat) (fs : List Field) (q : Bytes) (e : ErrSt),
    Post cx q e (projLoop cx n fs q e).2.1 (projLoop cx n fs q e).2.2
      (Bal cx Seg q (projLoop cx n fs q e).2.1 ∧
        (q.length ≤ cx.n → (∀ f, f ∈ fs → FieldOK cx f) → ∀ f, f ∈ (projLoop cx n fs q e).1 → FieldOK cx f)) := by
  intro n
  induction n with
  | zero => intro fs q e; exact (Post.refl cx q e).fail _ (Nat.le_refl _)
  | succ n ih =>
    intro fs q e
    have T := next_ok cx false q e
    simp only [projLoop]
    generalize next cx false q e = t at T ⊢
    split
    · exact T.pk.imp fun tk => ⟨tk.balPeek, fun _ h => h⟩
    · -- the field starts after a separating comma, or at the token itself
      have hS : Post cx q e (if (t.tok.kind == cComma && !fs.isEmpty) = true then t.rest else t.cur) t.err
          (Bal cx Seg q (if (t.tok.kind == cComma && !fs.isEmpty) = true then t.rest else t.cur)) := by
        split
        · rename_i hcm
          have hc : t.tok.kind = cComma := by simp only [Bool.and_eq_true, beq_iff_eq] at hcm; exact hcm.1
          exact T.rd.imp fun tk => tk.bal (hc ▸ by decide)
        · exact T.pk.imp Tk.balPeek
      generalize (if (t.tok.kind == cComma && !fs.isEmpty) = true then t.rest else t.cur) = q1 at hS ⊢
      have P := (parseField_post cx q1 t.err).1
      generalize parseField cx q1 t.err = r at P ⊢
      have IH := ih (fs ++ [r.f]) r.rest r.err
      exact ((hS.bind P).bind IH).imp fun ⟨⟨b0, b1, ok1⟩, b2, ok2⟩ =>
        ⟨(b0.append b1 fun _ _ => Seg.append).append b2 fun _ _ => Seg.append, fun hq h => ok2 (Nat.le_trans (hS.bind P).len hq)
          fun f hf => (List.mem_append.mp hf).elim (h f) fun hf => List.mem_singleton.mp hf ▸ ok1 (Nat.le_trans hS.len hq)⟩

theorem fixedLoop_fuel (cx : Ctx) : ∀ (n1 n2 : Nat) (f : Field) (q : Bytes) (e : ErrSt),
    q.length < n1 → q.length < n2 → fixedLoop cx n1 f q e = fixedLoop cx n2 f q e := by
  intro n1
  induction n1 with
  | zero => intros; omega
  | succ n1 ih =>
    intro n2 f q e h1 h2
    match n2, h2 with
    | n2 + 1, h2 =>
      have ht := next_ok cx false q e
      simp only [fixedLoop]
      generalize next cx false q e = t at ht ⊢
      have := ht.cur_le
      by_cases hk : isWord t.tok.kind = true
      · have := ht.rest_lt (pisWord_facts hk).1
        rw [if_pos hk, if_pos hk, ih n2 _ t.rest t.err (by omega) (by omega)]
      · rw [if_neg hk, if_neg hk]

theorem projLoop_fuel (cx : Ctx) : ∀ (n1 n2 : Nat) (fs : List Field) (q : Bytes) (e : ErrSt),
    q.length < n1 → q.length < n2 → projLoop cx n1 fs q e = projLoop cx n2 fs q e := by
  intro n1
  induction n1 with
  | zero => intros; omega
  | succ n1 ih =>
    intro n2 fs q e h1 h2
    match n2, h2 with
    | n2 + 1, h2 =>
      have ht := next_ok cx false q e
      simp only [projLoop]
      generalize next cx false q e = t at ht ⊢
      have htc := ht.cur_le
      split
      · rfl
      · rename_i hk
        have hlt := ht.rest_lt (by simpa using hk)
        split
        · have hp := (parseField_post cx t.rest t.err).1.len
          exact ih n2 _ _ _ (by omega) (by omega)
        · have hp := (parseField_post cx t.cur t.err).2 (Nat.zero_lt_of_lt hlt)
          exact ih n2 _ _ _ (by omega) (by omega)

theorem checkField_off {f : Field} {err : Err} (h : checkField f = some err) :
    (err.off = f.orderOff ∧ f.order ≠ oFirst) ∨ err.off = f.keyOff := by
  have ord : ∀ m, f.order ≠ oFirst → (some ⟨f.orderOff, m⟩ : Option Err) = some err →
      (err.off = f.orderOff ∧ f.order ≠ oFirst) ∨ err.off = f.keyOff := fun m hne h => by cases h; exact Or.inl ⟨rfl, hne⟩
  have key : ∀ m, (some ⟨f.keyOff, m⟩ : Option Err) = some err →
      (err.off = f.orderOff ∧ f.order ≠ oFirst) ∨ err.off = f.keyOff := fun m h => by cases h; exact Or.inr rfl
  have nofirst : (f.order == oFixed) = true → f.order ≠ oFirst := fun h e => by rw [e] at h; exact absurd h (by decide)
  unfold checkField at h
  dsimp only at h
  by_cases c1 : (f.order == oFixed && f.fixed.isEmpty) = true
  · rw [if_pos c1] at h
    exact ord _ (nofirst (Bool.and_eq_true_iff.mp c1).1) h
  · rw [if_neg c1] at h
    by_cases c2 : (!(f.order == oFixed || f.order == oFirst || f.order == oAlpha || f.order == oNum)) = true
    · rw [if_pos c2] at h
      exact ord _ (fun e => by rw [e] at c2; exact absurd c2 (by decide)) h
    · rw [if_neg c2] at h
      by_cases c3 : (f.key == kConfig) = true
      · rw [if_pos c3] at h
        by_cases c4 : (f.order == oFixed) = true
        · rw [if_pos c4] at h; exact ord _ (nofirst c4) h
        · rw [if_neg c4] at h; cases h
      · rw [if_neg c3] at h
        by_cases c5 : (f.key == kFullname) = true
        · rw [if_pos c5] at h; cases h
        · rw [if_neg c5] at h
          by_cases c6 : (f.key == kUnit) = true
          · rw [if_pos c6] at h; exact key _ h
          · rw [if_neg c6] at h
            by_cases c7 : f.key.isEmpty = true
            · rw [if_pos c7] at h; exact key _ h
            · rw [if_neg c7] at h; cases h

theorem checkField_unit {f : Field} (hk : f.key = kUnit) : checkField f ≠ none := by
  unfold checkField
  dsimp only
  by_cases c1 : (f.order == oFixed && f.fixed.isEmpty) = true
  · rw [if_pos c1]; exact Option.some_ne_none _
  · rw [if_neg c1]
    by_cases c2 : (!(f.order == oFixed || f.order == oFirst || f.order == oAlpha || f.order == oNum)) = true
    · rw [if_pos c2]; exact Option.some_ne_none _
    · rw [if_neg c2, hk, if_neg (by decide), if_neg (by decide), if_pos (by decide)]
      exact Option.some_ne_none _

theorem checkFields_eq (fs : List Field) : checkFields fs = fs.findSome? checkField := by
  induction fs with
  | nil => rfl
  | cons g gs ih =>
    simp only [checkFields, List.findSome?_cons]
    cases checkField g with
    | some y => rfl
    | none => exact ih

theorem checkFields_inR (cx : Ctx) {fs : List Field} (hf : ∀ f, f ∈ fs → FieldOK cx f) {err : Err}
    (h : checkFields fs = some err) : InR cx err.off := by
  rw [checkFields_eq] at h
  obtain ⟨f, hm, hc⟩ := List.exists_of_findSome?_eq_some h
  rcases checkField_off hc with ⟨ho, hne⟩ | hk
  · rw [ho]; exact (hf f hm).2.resolve_left hne
  · rw [hk]; exact (hf f hm).1

theorem parseProjection_ok_end (cx : Ctx) (q : Bytes) (fs : List Field) :
    parseProjection cx q = .ok fs ↔
      endCheck cx (projLoop cx (q.length + 1) [] q none).2.1 (projLoop cx (q.length + 1) [] q none).2.2 = none ∧
        (projLoop cx (q.length + 1) [] q none).1 = fs := by
  unfold parseProjection
  cases h : endCheck cx (projLoop cx (q.length + 1) [] q none).2.1 (projLoop cx (q.length + 1) [] q none).2.2 <;> simp [h]

theorem parseProjection_error_end (cx : Ctx) (q : Bytes) (err : Err) :
    parseProjection cx q = .error err ↔
      endCheck cx (projLoop cx (q.length + 1) [] q none).2.1 (projLoop cx (q.length + 1) [] q none).2.2 = some err := by
  unfold parseProjection
  cases h : endCheck cx (projLoop cx (q.length + 1) [] q none).2.1 (projLoop cx (q.length + 1) [] q none).2.2 <;> simp [h]

theorem parseProjection_ok {cx : Ctx} {q : Bytes} {fs : List Field} (h : parseProjection cx q = .ok fs) :
    ∃ qend, Bal cx Seg q qend ∧ AtEnd cx qend ∧ (q.length ≤ cx.n → ∀ f, f ∈ fs → FieldOK cx f) := by
  obtain ⟨hend, rfl⟩ := (parseProjection_ok_end cx q fs).mp h
  obtain ⟨hre, hat⟩ := endCheck_none hend
  obtain ⟨_, b, ok⟩ := (projLoop_post cx (q.length + 1) [] q none).deriv hre
  exact ⟨_, b, hat, fun hq => ok hq (List.forall_mem_nil _)⟩

theorem parseProjection_error_inR {cx : Ctx} {q : Bytes} {err : Err} (hn : q.length ≤ cx.n)
    (h : parseProjection cx q = .error err) : InR cx err.off :=
  (projLoop_post cx (q.length + 1) [] q none).end_inR hn ((parseProjection_error_end cx q err).mp h)

theorem parse_error_iff (cx : Ctx) (q : Bytes) (err : Err) :
    parse cx q = .error err ↔
      parseProjection cx q = .error err ∨ ∃ fs, parseProjection cx q = .ok fs ∧ checkFields fs = some err := by
  unfold parse
  cases parseProjection cx q with
  | error e => simp
  | ok fs => cases hc : checkFields fs <;> simp [hc]

end C07
