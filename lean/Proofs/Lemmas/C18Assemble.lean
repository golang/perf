/-
C18 helper: assembling a table from its contributions; ordering of the tables; the date check
(`datesOk`) on a built state and under permutation of the measurements.
-/
import Proofs.Lemmas.C18HP

namespace C18
open Series

/-- `tableOut` as a function of the raw benchmark list and the contribution list -/
def assemble (env : Env) (pol : Policy) (unit : Bytes) (benchesRaw : List Bytes) (cs : List Contrib) : TableOut :=
  let acc := cs.foldl (step env pol) {}
  let benches := sortSet env benchesRaw
  let series := sortSet env (cs.map (·.ser))
  { unit := unit, benches := benches, series := series,
    hp := series.map (fun s => (s, alookup s acc.hp)),
    points := benches.flatMap fun bn => series.filterMap fun s => (alookup (bn, s) acc.cells).map (pointOf bn s) }

theorem tableOut_eq_assemble (env : Env) (pol : Policy) (it : Iter) (b : Builder) (t : TKey) :
    tableOut env pol it b t =
      assemble env pol (uString t) ((it.trials (trialsOf b t)).map (·.2.1)) (contribs env it b t) := rfl

theorem assemble_congr (env : Env) (ho : TotalOrder env.le) (pol : Policy) (unit : Bytes) {br1 br2 : List Bytes}
    {cs1 cs2 : List Contrib} (hb : sortSet env br1 = sortSet env br2)
    (hp : (cs1.map canonC).Perm (cs2.map canonC)) (hd : CDet pol cs1) :
    assemble env pol unit br1 cs1 = assemble env pol unit br2 cs2 := by
  have hso := strictOrder_of_total env ho
  have hs : sortSet env (cs1.map (·.ser)) = sortSet env (cs2.map (·.ser)) := by
    apply sortSet_ext env ho
    intro a
    have h := (hp.map (·.ser)).mem_iff (a := a)
    rw [List.map_map, List.map_map] at h
    exact h
  unfold assemble
  simp only [hb, hs, cell_congr env hso pol hp hd, hp_congr env pol hp hd]

theorem tableOut_congr (env : Env) (ho : TotalOrder env.le) (o : Opts) (pol : Policy) {evs1 evs2 : List Ev}
    (hp : evs1.Perm evs2) (hw : WFp env o pol evs1) (it1 it2 : Iter) (hv1 : it1.Valid) (hv2 : it2.Valid) (t : TKey) :
    tableOut env pol it1 (build o evs1) t = tableOut env pol it2 (build o evs2) t := by
  rw [tableOut_eq_assemble, tableOut_eq_assemble]
  apply assemble_congr env ho pol
  · apply sortSet_ext env ho
    intro a
    simp only [List.mem_map, mem_iter_trials hv1, mem_iter_trials hv2, trials_mem, hp.mem_iff]
  · exact contribs_canon_perm env o pol hp hw it1 it2 hv1 hv2 t
  · exact cdet_of_wf env o pol evs1 hw it1 hv1 t

theorem tableLe_iff (env : Env) (ho : TotalOrder env.le) (a b : TKey) :
    (!tableLess env b a) = true ↔
      env.le a.1 b.1 = true ∧ (a.1 = b.1 → env.le (joinVals a.2) (joinVals b.2) = true) := by
  have refl : ∀ x, env.le x x = true := fun x => by simpa using ho.total x x
  unfold tableLess Env.lt
  by_cases h1 : b.1 = a.1
  · by_cases h2 : b.2 = a.2
    · simp [h1, h2, refl]
    · simp [h1, h2, refl]
  · have h1' : ¬ a.1 = b.1 := fun e => h1 e.symm
    simp [h1, h1']

theorem tableLe_trans (env : Env) (ho : TotalOrder env.le) (a b c : TKey)
    (h1 : (!tableLess env b a) = true) (h2 : (!tableLess env c b) = true) : (!tableLess env c a) = true := by
  rw [tableLe_iff env ho] at h1 h2 ⊢
  refine ⟨ho.trans _ _ _ h1.1 h2.1, ?_⟩
  intro e
  have hab : a.1 = b.1 := ho.antisymm _ _ h1.1 (by rw [e]; exact h2.1)
  have hbc : b.1 = c.1 := hab.symm.trans e
  exact ho.trans _ _ _ (h1.2 hab) (h2.2 hbc)

theorem tableLe_total (env : Env) (ho : TotalOrder env.le) (a b : TKey) :
    ((!tableLess env b a) || (!tableLess env a b)) = true := by
  rw [Bool.or_eq_true, tableLe_iff env ho, tableLe_iff env ho]
  by_cases e : a.1 = b.1
  · have refl : ∀ x, env.le x x = true := fun x => by simpa using ho.total x x
    have := ho.total (joinVals a.2) (joinVals b.2)
    rw [Bool.or_eq_true] at this
    rcases this with h | h
    · left; exact ⟨by rw [e]; exact refl _, fun _ => h⟩
    · right; exact ⟨by rw [e]; exact refl _, fun _ => h⟩
  · have := ho.total a.1 b.1
    rw [Bool.or_eq_true] at this
    rcases this with h | h
    · left; exact ⟨h, fun e' => absurd e' e⟩
    · right; exact ⟨h, fun e' => absurd e'.symm e⟩

theorem uString_eq_of (a b : TKey) (h1 : a.1 = b.1) (h2 : joinVals a.2 = joinVals b.2) : uString a = uString b := by
  unfold uString; rw [h1, h2]

theorem mem_tableKeys (o : Opts) (evs : List Ev) (t : TKey) :
    t ∈ tableKeys (build o evs) ↔ ∃ e ∈ evs, e.tkey = t := by
  unfold tableKeys
  rw [mem_dedup, List.mem_map]
  constructor
  · rintro ⟨k, hk, rfl⟩
    obtain ⟨e, he, rfl⟩ := (trials_mem o evs k).mp hk
    exact ⟨e, he, rfl⟩
  · rintro ⟨e, he, rfl⟩
    exact ⟨e.trial, (trials_mem o evs e.trial).mpr ⟨e, he, rfl⟩, rfl⟩

theorem sortTableKeys_congr (env : Env) (ho : TotalOrder env.le) (o : Opts) (pol : Policy) {evs1 evs2 : List Ev}
    (hp : evs1.Perm evs2) (hw : WFp env o pol evs1) (it1 it2 : Iter) (hv1 : it1.Valid) (hv2 : it2.Valid) :
    sortTableKeys env it1 (build o evs1) = sortTableKeys env it2 (build o evs2) := by
  unfold sortTableKeys
  have hk : (tableKeys (build o evs1)).Perm (tableKeys (build o evs2)) := by
    apply (List.perm_ext_iff_of_nodup (nodup_dedup _) (nodup_dedup _)).mpr
    intro t
    show t ∈ tableKeys (build o evs1) ↔ t ∈ tableKeys (build o evs2)
    simp only [mem_tableKeys, hp.mem_iff]
  refine List.mergeSort_eq_of_perm (tableLe_trans env ho) (tableLe_total env ho)
    ((hv1.tables _).trans (hk.trans (hv2.tables _).symm)) fun a ha b hb h1 h2 => ?_
  rw [tableLe_iff env ho] at h1 h2
  have e1 : a.1 = b.1 := ho.antisymm _ _ h1.1 h2.1
  have e2 : joinVals a.2 = joinVals b.2 := ho.antisymm _ _ (h1.2 e1) (h2.2 e1.symm)
  obtain ⟨ea, hea, rfl⟩ := (mem_tableKeys o evs1 a).mp ((hv1.tables _).mem_iff.mp ha)
  obtain ⟨eb, heb, rfl⟩ := (mem_tableKeys o evs1 b).mp ((hv1.tables _).mem_iff.mp hb)
  exact hw.w5 ea hea eb heb (uString_eq_of _ _ e1 e2)

theorem datesOk_build (env : Env) (o : Opts) {evs : List Ev} (w1 : W1p env o evs) :
    datesOk env (build o evs) = Spec.Series.datesOk env o evs := by
  apply Bool.eq_iff_iff.mpr
  simp only [datesOk, Spec.Series.datesOk, Bool.and_eq_true, List.all_eq_true, Bool.or_eq_true, Bool.not_eq_true']
  constructor
  · rintro ⟨ht, hs⟩ e he
    refine ⟨ht e.trial ((trials_mem o evs _).mpr ⟨e, he, rfl⟩), ?_⟩
    cases hn : e.isNum o with
    | false => exact Or.inl rfl
    | true =>
      obtain ⟨v, hv⟩ := Option.isSome_iff_exists.mp ((test_present_iff o evs (e.trial, e.nh)).mpr ⟨e, he, hn, rfl⟩)
      rw [← hto_norm env o evs w1 e he hn]
      exact Or.inr (hs _ (mem_of_alookup hv))
  · intro h
    constructor
    · intro k hk
      obtain ⟨e, he, rfl⟩ := (trials_mem o evs k).mp hk
      exact (h e he).1
    · intro x hx
      obtain ⟨e, he, hn, hkey⟩ := (test_present_iff o evs x.1).mp (by simp [(mem_tests_iff o evs x).mp hx])
      rw [hkey, hto_norm env o evs w1 e he hn]
      simpa [hn] using (h e he).2

theorem datesOk_congr (env : Env) (o : Opts) (pol : Policy) {evs1 evs2 : List Ev} (hp : evs1.Perm evs2)
    (hw : WFp env o pol evs1) : datesOk env (build o evs1) = datesOk env (build o evs2) := by
  rw [datesOk_build env o hw.w1, datesOk_build env o (hw.w1.perm hp)]
  apply Bool.eq_iff_iff.mpr
  simp only [Spec.Series.datesOk, List.all_eq_true, hp.mem_iff]

end C18
