/-
C14 helper lemmas for the composition with C08's model of projection
(Model/Proc/Projection.lean, Proofs/C08.lean): the loop of
cmd/benchstat over raw results keeps every projection reachable and every key it returned valid.
-/
import Proofs.C08
import Proofs.C09
import Proofs.Lemmas.C14Tables
import Model.Tab.RawPass

namespace C14L
open Proc.Projection Proc.Sort

/-- every projection of the shared parser state is one the C08 theorems speak about -/
def WorldOK (h : List Bytes → UInt64) (w : World) : Prop := ∀ p ∈ w.projs, C08.Reachable h p

def nodesLen (w : World) (i : Nat) : Nat := ((w.projs[i]?).map (·.nodes.length)).getD 0

theorem getElem?_set_self' {α : Type} (l : List α) (i : Nat) (x : α) (hi : i < l.length) :
    (l.set i x)[i]? = some x := by
  simp [hi]

theorem nodesLen_set (projs : List Proj) (parser : Parser) (i j : Nat) (q : Proj) (hi : i < projs.length) :
    nodesLen { parser := parser, projs := projs.set i q } j =
      if j = i then q.nodes.length else nodesLen { parser := parser, projs := projs } j := by
  unfold nodesLen
  by_cases hj : j = i
  · subst hj; simp [hi]
  · have : i ≠ j := fun e => hj e.symm
    simp [hj, List.getElem?_set_ne this]

theorem WorldOK_set (h : List Bytes → UInt64) (w : World) (parser : Parser) (i : Nat) (q : Proj)
    (hok : WorldOK h w) (hq : C08.Reachable h q) :
    WorldOK h { parser := parser, projs := w.projs.set i q } :=
  fun p hp => (List.mem_or_eq_of_mem_set hp).elim (hok p) (· ▸ hq)

theorem projectValues_keys_valid (h : List Bytes → UInt64) (env : Env) (p : Proj) (r : Res) :
    ∀ k ∈ (p.projectValues h env r).2, k < (p.projectValues h env r).1.nodes.length := by
  unfold Proj.projectValues
  dsimp only
  split
  · intro k hk
    obtain ⟨_, _, rfl⟩ := List.mem_map.mp hk
    exact (C08.internRow_key h (p.populateRow env r)).1
  · intro k hk
    obtain ⟨hl, hv⟩ := C08.projectUnits_vals h _ r.units (p.populateRow env r)
    obtain ⟨j, hj, rfl⟩ := List.getElem_of_mem hk
    have := (hv j (hl ▸ hj)).1
    rwa [List.getD_eq_getElem?_getD, List.getElem?_eq_getElem hj] at this

/-- `World.project` and `World.projectValues` are one step: an operation `op` of projection `i`, run under
the environment the parser state gives it. -/
theorem world_step_spec {α : Type} (h : List Bytes → UInt64) (op : Env → Proj → Proj × α) (d : α)
    (valid : α → Nat → Prop)
    (hop : ∀ env p, C08.Reachable h p → C08.Reachable h (op env p).1 ∧ p.nodes <+: (op env p).1.nodes ∧
      valid (op env p).2 (op env p).1.nodes.length)
    (w : World) (i : Nat) (hok : WorldOK h w) (hi : i < w.projs.length) :
    let res : World × α := match (w.env i).1.projs[i]? with
      | some p => ({ (w.env i).1 with projs := (w.env i).1.projs.set i (op (w.env i).2 p).1 }, (op (w.env i).2 p).2)
      | none => ((w.env i).1, d)
    WorldOK h res.1 ∧ res.1.projs.length = w.projs.length ∧ valid res.2 (nodesLen res.1 i) ∧
    ∀ j, nodesLen w j ≤ nodesLen res.1 j := by
  have hp : w.projs[i]? = some w.projs[i] := List.getElem?_eq_getElem hi
  obtain ⟨h1, h2, h3⟩ := hop (w.env i).2 w.projs[i] (hok _ (List.getElem_mem hi))
  simp only [(C08.world_env_spec w i).2.2.2.2, hp]
  refine ⟨WorldOK_set h w _ i _ hok h1, by simp, by rw [nodesLen_set _ _ _ _ _ hi, if_pos rfl]; exact h3, fun j => ?_⟩
  rw [nodesLen_set _ _ _ _ _ hi]
  split
  · rename_i hj; subst hj
    simpa [nodesLen, hp] using h2.length_le
  · exact Nat.le_refl _

theorem world_project_spec (h : List Bytes → UInt64) (w : World) (i : Nat) (r : Res)
    (hok : WorldOK h w) (hi : i < w.projs.length) :
    WorldOK h (World.project h w i r).1 ∧ (World.project h w i r).1.projs.length = w.projs.length ∧
    (World.project h w i r).2 < nodesLen (World.project h w i r).1 i ∧
    ∀ j, nodesLen w j ≤ nodesLen (World.project h w i r).1 j :=
  world_step_spec h (fun env p => p.project h env r) 0 (· < ·)
    (fun env p hr => ⟨.project p env r hr, C08.project_nodes h env p r (C08.reachable_inv h p hr),
      C08.project_key_valid h env p r⟩) w i hok hi

theorem world_projectValues_spec (h : List Bytes → UInt64) (w : World) (i : Nat) (r : Res)
    (hok : WorldOK h w) (hi : i < w.projs.length) :
    WorldOK h (World.projectValues h w i r).1 ∧ (World.projectValues h w i r).1.projs.length = w.projs.length ∧
    (∀ k ∈ (World.projectValues h w i r).2, k < nodesLen (World.projectValues h w i r).1 i) ∧
    ∀ j, nodesLen w j ≤ nodesLen (World.projectValues h w i r).1 j :=
  world_step_spec h (fun env p => p.projectValues h env r) [] (fun ks n => ∀ k ∈ ks, k < n)
    (fun env p hr => ⟨.projectValues p env r hr, C08.projectValues_nodes h env p r (C08.reachable_inv h p hr),
      projectValues_keys_valid h env p r⟩) w i hok hi

open Tab.RawPass

/-- all table, row and column keys recorded so far are keys of the current projection states -/
def KeysValid (w : World) (ks : List Keyed) : Prop :=
  ∀ e ∈ ks, (∀ t ∈ e.1, t < nodesLen w 0) ∧ e.2.1 < nodesLen w 1 ∧ e.2.2.1 < nodesLen w 2

theorem KeysValid_mono (w w' : World) (ks : List Keyed) (hm : ∀ j, nodesLen w j ≤ nodesLen w' j)
    (hv : KeysValid w ks) : KeysValid w' ks := by
  intro e he
  obtain ⟨h0, h1, h2⟩ := hv e he
  exact ⟨fun t ht => Nat.lt_of_lt_of_le (h0 t ht) (hm 0), Nat.lt_of_lt_of_le h1 (hm 1),
    Nat.lt_of_lt_of_le h2 (hm 2)⟩

theorem rawStep_eq (h : List Bytes → UInt64) (iz : Nat) (acc : World × List Keyed) (r : Res) :
    rawStep h iz acc r =
      (let s1 := World.projectValues h acc.1 0 r
       let s2 := World.project h s1.1 1 r
       let s3 := World.project h s2.1 2 r
       let s4 := World.project h s3.1 iz r
       (s4.1, acc.2 ++ [(s1.2, s2.2, s3.2, s4.2)])) := by
  unfold rawStep
  with_reducible rfl

theorem rawStep_inv (h : List Bytes → UInt64) (iz : Nat) (acc : World × List Keyed) (r : Res)
    (hok : WorldOK h acc.1) (hlen : 2 < acc.1.projs.length ∧ iz < acc.1.projs.length) (hv : KeysValid acc.1 acc.2) :
    WorldOK h (rawStep h iz acc r).1 ∧ (rawStep h iz acc r).1.projs.length = acc.1.projs.length ∧
    KeysValid (rawStep h iz acc r).1 (rawStep h iz acc r).2 := by
  obtain ⟨a1, l1, k1, m1⟩ := world_projectValues_spec h acc.1 0 r hok (by omega)
  obtain ⟨a2, l2, k2, m2⟩ := world_project_spec h _ 1 r a1 (by omega)
  obtain ⟨a3, l3, k3, m3⟩ := world_project_spec h _ 2 r a2 (by omega)
  obtain ⟨a4, l4, _, m4⟩ := world_project_spec h _ iz r a3 (by omega)
  rw [rawStep_eq]
  dsimp only
  refine ⟨a4, l4.trans (l3.trans (l2.trans l1)), fun e he => ?_⟩
  rcases List.mem_append.mp he with he | he
  · exact KeysValid_mono _ _ _
      (fun j => Nat.le_trans (Nat.le_trans (Nat.le_trans (m1 j) (m2 j)) (m3 j)) (m4 j)) hv e he
  · rw [List.mem_singleton.mp he]
    dsimp only
    refine ⟨fun t ht => ?_, ?_, ?_⟩
    · exact Nat.lt_of_lt_of_le (k1 t ht) (Nat.le_trans (Nat.le_trans (m2 0) (m3 0)) (m4 0))
    · exact Nat.lt_of_lt_of_le k2 (Nat.le_trans (m3 1) (m4 1))
    · exact Nat.lt_of_lt_of_le k3 (m4 2)

theorem rawFold_inv (h : List Bytes → UInt64) (iz : Nat) (raws : List Res) (acc : World × List Keyed)
    (hok : WorldOK h acc.1) (hlen : 2 < acc.1.projs.length ∧ iz < acc.1.projs.length) (hv : KeysValid acc.1 acc.2) :
    WorldOK h (raws.foldl (rawStep h iz) acc).1 ∧ KeysValid (raws.foldl (rawStep h iz) acc).1 (raws.foldl (rawStep h iz) acc).2 := by
  induction raws generalizing acc with
  | nil => exact ⟨hok, hv⟩
  | cons r rest ih =>
    obtain ⟨a, l, k⟩ := rawStep_inv h iz acc r hok hlen hv
    rw [List.foldl_cons]
    exact ih _ a (by rw [l]; exact hlen) k

theorem WorldOK_append (h : List Bytes → UInt64) (w : World) (pa : Parser) (q : Proj) (hok : WorldOK h w)
    (hq : C08.Reachable h q) : WorldOK h { parser := pa, projs := w.projs ++ [q] } :=
  fun p hp => (List.mem_append.mp hp).elim (hok p) fun e => List.mem_singleton.mp e ▸ hq

theorem WorldOK_parse (h : List Bytes → UInt64) (w : World) (specs : List Spec) (u : Bool) (hok : WorldOK h w) :
    WorldOK h (w.parse specs u).1 := by
  unfold World.parse
  cases u
  · simp only [Bool.false_eq_true, if_false]
    cases hp : w.parser.parse specs with
    | mk pa res =>
      cases res with
      | error e => exact hok
      | ok s => exact WorldOK_append h w pa s hok (.parsed _ specs pa s hp)
  · simp only [if_true]
    cases hp : w.parser.parseWithUnit specs with
    | mk pa res =>
      cases res with
      | error e => exact hok
      | ok s => exact WorldOK_append h w pa s hok (.parsedWithUnit _ specs pa s hp)

theorem WorldOK_residue (h : List Bytes → UInt64) (w : World) (hok : WorldOK h w) : WorldOK h w.residue :=
  WorldOK_append h w _ _ hok (.residue _)

theorem WorldOK_rawWorld (h : List Bytes → UInt64) (specs : List (List Spec)) : WorldOK h (rawWorld specs) := by
  unfold rawWorld
  apply WorldOK_residue
  apply WorldOK_parse
  apply WorldOK_parse
  apply WorldOK_parse
  apply WorldOK_parse
  exact fun p hp => nomatch hp

theorem idStream_keys_valid {ν : Type} {w : World} {ks : List Keyed} (hv : KeysValid w ks)
    {vals : List (List ν)} {m : Spec.Cells.Meas Nat Nat ν} (hm : m ∈ Spec.Cells.measOf (idStream ks vals)) :
    m.table < nodesLen w 0 ∧ m.row < nodesLen w 1 ∧ m.col < nodesLen w 2 := by
  simp only [Spec.Cells.measOf, idStream, List.mem_flatMap, List.mem_map] at hm
  obtain ⟨res, ⟨kv, hkv, rfl⟩, tv, htv, rfl⟩ := hm
  obtain ⟨h0, h1, h2⟩ := hv kv.1 (List.of_mem_zip hkv).1
  exact ⟨h0 _ (List.of_mem_zip htv).1, h1, h2⟩

theorem tuple_eq_iff (h : List Bytes → UInt64) (p : Proj) (hr : C08.Reachable h p) (k₁ k₂ : Nat)
    (h₁ : k₁ < p.nodes.length) (h₂ : k₂ < p.nodes.length) : k₁ = k₂ ↔ tupleOf p k₁ = tupleOf p k₂ := by
  rw [C08.key_eq_iff h p hr k₁ k₂ h₁ h₂]
  unfold tupleOf
  exact (List.map_inj_left).symm

end C14L
