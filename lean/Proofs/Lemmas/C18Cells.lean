/-
C18 helper: the (benchmark, series) cells produced by the rearrangement loop, in canonical form,
depend only on the multiset of canonical contributions (under `CDet`): both duplicate policies.
As for HashPairs (`C18HP`): canonicalising the contributions changes nothing (`fold_canon`), and
rearranging them changes nothing (`cell_perm`).
-/
import Proofs.Lemmas.C18Canon

namespace C18
open Series

/-- a comparison with its samples as sorted multisets -/
def canonCmp (cc : Cmp) : Cmp := { num := sortBits cc.num, den := cc.den.map sortBits, date := cc.date }

theorem sortBits_self_perm (l : List Bits) : (sortBits l).Perm l := List.mergeSort_perm _ _

theorem sortBits_idem (l : List Bits) : sortBits (sortBits l) = sortBits l :=
  sortBits_perm (sortBits_self_perm l)

theorem sortBits_append {a a' b b' : List Bits} (ha : sortBits a = sortBits a') (hb : sortBits b = sortBits b') :
    sortBits (a ++ b) = sortBits (a' ++ b') :=
  sortBits_perm (((sortBits_self_perm a).symm.trans (ha ▸ sortBits_self_perm a')).append
    ((sortBits_self_perm b).symm.trans (hb ▸ sortBits_self_perm b')))

theorem canonCmp_eq {n n' : List Bits} {d d' : Option (List Bits)} (hn : sortBits n = sortBits n')
    (hd : d.map sortBits = d'.map sortBits) (t : Bytes) :
    canonCmp { num := n, den := d, date := t } = canonCmp { num := n', den := d', date := t } := by
  rw [canonCmp, canonCmp, hn, hd]

theorem combineDen_canon {x x' y y' : Option (List Bits)} (hx : x.map sortBits = x'.map sortBits)
    (hy : y.map sortBits = y'.map sortBits) :
    (combineDen x y).map sortBits = (combineDen x' y').map sortBits := by
  cases x <;> cases x' <;> cases y <;> cases y' <;> simp_all [combineDen]
  exact sortBits_append hx hy

theorem stepCell_canon (env : Env) (pol : Policy) {o o' : Option Cmp} (h : o.map canonCmp = o'.map canonCmp)
    (c : Contrib) : (stepCell env pol o c).map canonCmp = (stepCell env pol o' (canonC c)).map canonCmp := by
  have cn : sortBits c.num = sortBits (canonC c).num := (sortBits_idem _).symm
  have cd : c.den.map sortBits = (canonC c).den.map sortBits := by
    cases hc : c.den <;> simp [canonC, hc, sortBits_idem]
  cases o <;> cases o' <;> simp only [Option.map_some, Option.map_none, reduceCtorEq, Option.some.injEq] at h
  · exact congrArg some (canonCmp_eq cn cd _)
  · rename_i cc cc'
    obtain ⟨hn, hd, ht⟩ := Cmp.mk.inj h
    have ht : cc.date = cc'.date := ht
    cases pol with
    | replace =>
      show (if env.lt cc.date c.date then some (fresh c) else some cc).map canonCmp =
        (if env.lt cc'.date c.date then some (fresh (canonC c)) else some cc').map canonCmp
      rw [← ht]
      split
      · exact congrArg some (canonCmp_eq cn cd _)
      · exact congrArg some h
    | combine =>
      show some (canonCmp _) = some (canonCmp _)
      rw [← ht]
      exact congrArg some (canonCmp_eq (sortBits_append hn cn) (combineDen_canon hd cd) _)

theorem fold_canon (env : Env) (pol : Policy) (F : List Contrib) {o o' : Option Cmp}
    (h : o.map canonCmp = o'.map canonCmp) :
    (F.foldl (stepCell env pol) o).map canonCmp = ((F.map canonC).foldl (stepCell env pol) o').map canonCmp := by
  induction F generalizing o o' with
  | nil => exact h
  | cons c F ih => exact ih (stepCell_canon env pol h c)

/-- the combined denominator of a list of contributions -/
def denJoin (F : List Contrib) : Option (List Bits) :=
  if F.all (fun c => c.den.isNone) then none else some (F.flatMap fun c => c.den.getD [])

theorem combineDen_fold (ds : List (Option (List Bits))) (z : Option (List Bits)) :
    ds.foldl combineDen z =
      (if z.isNone && ds.all (·.isNone) then none else some (z.getD [] ++ ds.flatMap (·.getD []))) := by
  induction ds generalizing z with
  | nil => cases z <;> simp
  | cons d ds ih =>
    simp only [List.foldl_cons]
    rw [ih]
    cases z with
    | none => cases d <;> simp [combineDen]
    | some a => cases d <;> simp [combineDen]

theorem combine_fold_none (env : Env) (c0 : Contrib) (F : List Contrib) :
    (c0 :: F).foldl (stepCell env .combine) none =
      some { num := (c0 :: F).flatMap (·.num), den := denJoin (c0 :: F),
             date := latest env.lt id c0.date (F.map (·.date)) } := by
  show F.foldl _ (some (fresh c0)) = _
  rw [combine_fold, combineDen_fold]
  simp [fresh, denJoin, List.all_map, List.flatMap_map, Function.comp_def]

theorem denJoin_perm {F1 F2 : List Contrib} (p : F1.Perm F2) :
    (denJoin F1).map sortBits = (denJoin F2).map sortBits := by
  unfold denJoin
  rw [p.all_eq]
  split
  · rfl
  · exact congrArg some (sortBits_perm (p.flatMap_right _))

theorem cell_perm (env : Env) (ho : StrictOrder env.lt) (pol : Policy) {F1 F2 : List Contrib} (p : F1.Perm F2)
    (hd : pol = .replace → ∀ x ∈ F1, ∀ y ∈ F1, x.date = y.date → x = y) :
    (F1.foldl (stepCell env pol) none).map canonCmp = (F2.foldl (stepCell env pol) none).map canonCmp := by
  cases pol with
  | replace => rw [replace_fold_perm env ho p (hd rfl)]
  | combine =>
    rcases perm_nil_or_cons p with ⟨rfl, rfl⟩ | ⟨c1, G1, c2, G2, rfl, rfl⟩
    · rfl
    · rw [combine_fold_none, combine_fold_none]
      have hdate : latest env.lt id c1.date (G1.map (·.date)) = latest env.lt id c2.date (G2.map (·.date)) :=
        latest_perm ho id (p.map fun c : Contrib => c.date)
      exact congrArg some (hdate ▸ canonCmp_eq (sortBits_perm (p.flatMap_right _)) (denJoin_perm p) _)

/-- the point a table shows for the cell of benchmark `bn` and series `s` -/
def pointOf (bn s : Bytes) (cc : Cmp) : Point :=
  { bench := bn, ser := s, date := cc.date, num := sortBits cc.num, den := cc.den.map sortBits }

theorem cell_congr (env : Env) (ho : StrictOrder env.lt) (pol : Policy) {cs1 cs2 : List Contrib}
    (hp : (cs1.map canonC).Perm (cs2.map canonC)) (hd : CDet pol cs1) (bn s : Bytes) :
    (alookup (bn, s) (cs1.foldl (step env pol) {}).cells).map (pointOf bn s) =
    (alookup (bn, s) (cs2.foldl (step env pol) {}).cells).map (pointOf bn s) := by
  -- a point is read off the canonical form of the cell
  suffices h : (alookup (bn, s) (cs1.foldl (step env pol) {}).cells).map canonCmp =
      (alookup (bn, s) (cs2.foldl (step env pol) {}).cells).map canonCmp by
    have h := congrArg (Option.map fun c : Cmp => (⟨bn, s, c.date, c.num, c.den⟩ : Point)) h
    rwa [Option.map_map, Option.map_map] at h
  rw [cells_lookup_foldl, cells_lookup_foldl]
  refine (fold_canon env pol _ rfl).trans (Eq.trans ?_ (fold_canon env pol _ rfl).symm)
  rw [← filter_map_canon _ (fun _ => rfl), ← filter_map_canon _ (fun _ => rfl)]
  refine cell_perm env ho pol (hp.filter _) fun hpol x hx y hy => ?_
  obtain ⟨hx, kx⟩ := List.mem_filter.mp hx
  obtain ⟨hy, ky⟩ := List.mem_filter.mp hy
  exact hd.canon.dates hpol x hx y hy ((of_decide_eq_true kx).trans (of_decide_eq_true ky).symm)

end C18
