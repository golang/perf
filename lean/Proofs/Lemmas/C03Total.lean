/-
C03: assembling the paths — `ParseFloat` as a whole against `parseFloatSpec`.
-/
import Proofs.Lemmas.C03Hex
import Proofs.Lemmas.C03ExactPath
import Proofs.Lemmas.C03Clamp
import Proofs.Lemmas.C03Special
import Proofs.Lemmas.Shared.Decimal

namespace C03
open Num F64 Spec.NumText

theorem agrees_clamp (r : RF) (p : Parsed) (g : Int) (ha : Agrees r p g) : Agrees r (clampP p g) 0 := by
  obtain ⟨a1, a2, a3, a4, a5, a6⟩ := ha
  refine ⟨a1, a2, a3, a4, fun ht => ?_, fun ht => ?_⟩
  · obtain ⟨j, h1, h2⟩ := a5 ht
    refine ⟨j, h1, fun hm => ?_⟩
    have := h2 hm
    show r.exp = (p.exp + g) + (((if p.hex then 4 else 1) * j : Nat) : Int) + 0
    rw [this]; ring
  · obtain ⟨j, h1, h2, h3, h4⟩ := a6 ht
    refine ⟨j, h1, h2, h3, ?_⟩
    show r.exp = (p.exp + g) + (((if p.hex then 4 else 1) * j : Nat) : Int) + 0
    rw [h4]; ring

theorem agrees_eval (r : RF) (p : Parsed) (ha : Agrees r p 0) (ht : r.trunc = false) :
    Parsed.eval { neg := r.neg, hex := r.hex, mant := r.mant, exp := r.exp } = p.eval := by
  obtain ⟨_, hneg, hhex, _, hval, _⟩ := ha
  obtain ⟨j, hM, hE⟩ := hval ht
  have hb : 0 < baseOf p.hex := by cases p.hex <;> decide
  apply eval_congr
  · exact hneg
  · show r.mant = 0 ↔ p.mant = 0
    rw [hM]
    constructor
    · intro h; rw [h]; simp
    · intro h
      rcases Nat.mul_eq_zero.mp h with h' | h'
      · exact h'
      · exact absurd h' (Nat.pos_iff_ne_zero.mp (Nat.pow_pos hb))
  · intro hm0
    have hE' := hE hm0
    rw [Int.add_zero] at hE'
    show valueOf { neg := r.neg, hex := r.hex, mant := r.mant, exp := r.exp } = valueOf p
    unfold valueOf
    simp only [hhex]
    rw [hM, hE']
    cases hph : p.hex
    · simp only [Bool.false_eq_true, if_false, baseOf, Nat.one_mul]
      rw [zpow_add₀ (by norm_num : (10 : ℚ) ≠ 0), zpow_natCast]
      push_cast; ring
    · simp only [if_true, baseOf]
      rw [zpow_add₀ (by norm_num : (2 : ℚ) ≠ 0), zpow_natCast]
      push_cast
      rw [pow_mul]
      norm_num
      ring

theorem exact_max_lt_threshold : (2 : Nat) ^ 52 * 10 ^ 37 < overflowThreshold := by decide +kernel

theorem exact_no_overflow (m : Nat) (e : Int) (neg : Bool) (f : Bits) (h : atof64exact m e neg = some f) :
    overflows 10 m e = false := by
  have b1 := exact_max_lt_threshold
  obtain ⟨hm, hc⟩ := atof64exact_some m e neg f h
  have he : e ≤ 37 := by
    rcases hc _ rfl with ⟨h0, _⟩ | ⟨_, h1, _⟩ | ⟨_, h1, _⟩ | ⟨h1, _⟩ <;> omega
  rw [← Bool.not_eq_true, overflows_iff 10 m e (by decide), ← threshold_cast, not_le]
  calc (m : ℚ) * ((10 : ℕ) : ℚ) ^ e ≤ (2 : ℚ) ^ 52 * (10 : ℚ) ^ (37 : ℤ) := by
        push_cast
        exact mul_le_mul (by exact_mod_cast hm.le) (zpow_le_zpow_right₀ (by norm_num) he) (by positivity) (by positivity)
    _ < (overflowThreshold : ℚ) := by exact_mod_cast b1

theorem exact_path_eval (r : RF) (p : Parsed) (ha : Agrees r p 0) (hph : p.hex = false) (ht : r.trunc = false)
    (f : Bits) (hf : atof64exact r.mant r.exp r.neg = some f) : .ok f = p.eval := by
  rw [← agrees_eval r p ha ht, ha.2.2.1, hph]
  unfold Parsed.eval
  simp only [Bool.false_eq_true, if_false, exact_no_overflow _ _ _ _ hf, atof64exact_correct _ _ _ _ hf]

/-- the core of the model's slow path on a decimal numeral (mantissa, exponent as the code reads
them): the two "obvious overflow / underflow" exits of `floatBits` agree with the range rule and
with the rounding of a tiny value to zero -/
theorem slowCore_spec (q : Parsed) (hhex : q.hex = false) :
    (if q.mant == 0 then (⟨F64.zero q.neg, none⟩ : FloatRes)
     else
       let dp : Int := ((Nat.toDigits 10 q.mant).length : Int) + q.exp
       if dp > 310 then ⟨F64.inf q.neg, some .range⟩
       else if dp < -330 then ⟨F64.zero q.neg, none⟩
       else match ({ q with mant := q.mant, exp := q.exp } : Parsed).eval with
         | .ok b => ⟨b, none⟩
         | .error _ => ⟨F64.inf q.neg, some .range⟩).toExcept = q.eval := by
  by_cases h0 : q.mant = 0
  · have : (q.mant == 0) = true := by simp [h0]
    simp only [this, if_true, FloatRes.toExcept]
    rw [eval_zero q h0]
  · have hz : (q.mant == 0) = false := by simpa using h0
    have hpos : 0 < q.mant := Nat.pos_of_ne_zero h0
    simp only [hz, Bool.false_eq_true, if_false]
    -- the mantissa has L digits: 10^(L-1) ≤ mant < 10^L, so the value lies in [10^(dp-1), 10^dp)
    obtain ⟨L1, L2⟩ := Shared.toDigits_len q.mant
    have L2' := L2 hpos
    have hLpos : 0 < (Nat.toDigits 10 q.mant).length := Nat.length_toDigits_pos
    generalize (Nat.toDigits 10 q.mant).length = L at *
    have hv : valueOf q = (q.mant : ℚ) * (10 : ℚ) ^ q.exp := by simp [valueOf, hhex]
    by_cases hbig : (L : Int) + q.exp > 310
    · simp only [hbig, if_true, FloatRes.toExcept]
      rw [eval_of_big q hpos]
      rw [hv]
      exact pow_sat_big 10 _ _ (by norm_num) (L - 1) (by exact_mod_cast L2') 309 _ thr_le_pow10 (by omega)
    · simp only [hbig, if_false]
      by_cases hsmall : (L : Int) + q.exp < -330
      · simp only [hsmall, if_true, FloatRes.toExcept]
        rw [eval_of_small q hpos]
        rw [hv]
        exact pow_sat_small 10 _ _ (by norm_num) L (by exact_mod_cast L1) 331 _ tiny_pow10 (by omega)
      · simp only [hsmall, if_false]
        cases hev : q.eval with
        | ok b => rfl
        | error e =>
          have : e = .range := by
            unfold Parsed.eval at hev
            simp only [hhex, Bool.false_eq_true, if_false] at hev
            split at hev
            · injection hev with hev; exact hev.symm
            · cases hev
          subst this; rfl

/-- **the slow path of the model is the specification of the numeral as the code reads it**
(exponent literal clamped, `clampGap`) outside the class of finding N3. -/
theorem slowPath_spec (s : Bytes) (p : Parsed) (hrec : recognise s = some p) (hhex : p.hex = false)
    (hN3 : inClassN3 s = false) : (slowPath s).toExcept = (clampP p (clampGap s)).eval := by
  have hcap : decimalCap s p = (p.mant, p.exp) := by
    unfold inClassN3 at hN3
    rw [hrec] at hN3
    simp only [hhex, Bool.not_false, Bool.true_and, decide_eq_false_iff_not] at hN3
    unfold decimalCap
    simp only []
    rw [if_neg hN3]
  unfold slowPath
  rw [hrec]
  simp only [hhex, Bool.false_eq_true, if_false, hcap]
  have hq : ({ neg := p.neg, hex := false, mant := p.mant, exp := p.exp + clampGap s } : Parsed) = clampP p (clampGap s) := by
    unfold clampP; cases p; simp only at hhex; subst hhex; rfl
  rw [hq]
  exact slowCore_spec (clampP p (clampGap s)) hhex

theorem atofHex_spec (m : Nat) (e : Int) (neg : Bool) (hm : m < 2 ^ 64) :
    (atofHex m e neg false).toExcept = Parsed.eval { neg := neg, hex := true, mant := m, exp := e } ∧
    ((atofHex m e neg false).err = some .range → (atofHex m e neg false).val = F64.inf neg) := by
  rw [atofHex_correct m e neg hm]
  by_cases h0 : m = 0
  · subst h0
    rw [if_pos rfl, eval_zero _ rfl]
    exact ⟨rfl, fun h => by cases h⟩
  · have hp := Nat.pos_of_ne_zero h0
    rw [if_neg h0, eval_of_valueQ ⟨neg, true, m, e⟩ hp]
    exact ⟨packed_evalQ neg (valueOf_pos ⟨neg, true, m, e⟩ hp), packed_range neg _⟩

theorem hex_path_eval (r : RF) (p : Parsed) (ha : Agrees r p 0) (hph : p.hex = true) :
    (atofHex r.mant r.exp r.neg r.trunc).toExcept = p.eval := by
  cases ht : r.trunc
  · rw [(atofHex_spec _ _ _ ha.2.2.2.1).1, ← agrees_eval r p ha ht, ha.2.2.1, hph]
  obtain ⟨_, hneg, _, h64, _, hval⟩ := ha
  obtain ⟨j, b1, b2, b3, hE⟩ := hval ht
  rw [Int.add_zero] at hE
  simp only [hph, if_true] at b1 b2 b3 hE
  have hbase : baseOf true = 16 := rfl
  have hmaxd : maxDOf true - 1 = 15 := rfl
  rw [hbase] at b1 b2 b3
  rw [hmaxd] at b3
  have hp0 : 0 < p.mant := by omega
  have hvp : valueOf p = (p.mant : ℚ) * (2 : ℚ) ^ p.exp := by unfold valueOf; simp [hph]
  -- the kept mantissa's last digit is worth 16^j units of the text's last digit
  have h2 : (2 : ℚ) ^ r.exp = (16 : ℚ) ^ j * (2 : ℚ) ^ p.exp := by
    rw [hE, zpow_add₀ (by norm_num : (2 : ℚ) ≠ 0), zpow_natCast, pow_mul, _root_.mul_comm]
    norm_num
  have hpe := two_zpow_pos p.exp
  have l : (r.mant : ℚ) * (2 : ℚ) ^ r.exp < valueOf p := by
    rw [hvp, h2, ← mul_assoc]; exact mul_lt_mul_of_pos_right (by exact_mod_cast b1) hpe
  have u : valueOf p < ((r.mant : ℚ) + 1) * (2 : ℚ) ^ r.exp := by
    rw [hvp, h2, ← mul_assoc]; exact mul_lt_mul_of_pos_right (by exact_mod_cast b2) hpe
  have h54 : 2 ^ 54 ≤ r.mant := by
    have : (2 : Nat) ^ 54 ≤ 16 ^ 15 := by decide
    omega
  have hV := valueOf_pos p hp0
  rw [atofHex_trunc_correct hV r.mant r.exp r.neg h54 h64 l u, packed_evalQ _ hV, hneg]
  exact (eval_of_valueQ p hp0).symm

theorem specials_no_us : ∀ p ∈ specials, ∀ c ∈ p.1, c ≠ 95 := by decide

theorem special_underscoreOK (s : Bytes) (b : Bits) (h : specialSpec s = some b) : underscoreOK s = true := by
  apply underscoreOK_no_us
  intro c hc h95
  unfold specialSpec at h
  cases hf : specials.find? (fun p => p.1 == s.map lowerc) with
  | none => rw [hf] at h; cases h
  | some p =>
    have hmem := List.mem_of_find?_eq_some hf
    have heq := List.find?_some hf
    simp only [beq_iff_eq] at heq
    have : (95 : UInt8) ∈ p.1 := by
      rw [heq, List.mem_map]
      exact ⟨c, hc, by rw [h95]; rfl⟩
    exact specials_no_us p hmem 95 this rfl

/-- `ParseFloat` with its slow path as a parameter: the specified one (`parseFloat`) or the mirrored one
(`parseFloatMirror`) -/
def parseFloatWith (slow : Bytes → FloatRes) (s : Bytes) : FloatRes :=
  if !underscoreOK s then ⟨0, some .syntax⟩
  else
    match special s with
    | some v => ⟨v, none⟩
    | none =>
      let r := readFloat s
      if r.hex && r.ok then atofHex r.mant r.exp r.neg r.trunc
      else
        let fast : Option F64.Bits :=
          if r.ok && !r.trunc then atof64exact r.mant r.exp r.neg else none
        match fast with
        | some f => ⟨f, none⟩
        | none => slow s

theorem parseFloat_with : parseFloat = parseFloatWith slowPath := rfl

/-- what `ParseFloat` needs of its slow path: the recogniser's verdict, no hex literal, and the value
of the numeral as the code reads it -/
def slowSpec (s : Bytes) : Except NumErr Bits :=
  match recognise s with
  | none => .error .syntax
  | some p => if p.hex then .error .syntax else (clampP p (expGapS s)).eval

theorem parseFloatWith_of_slow (slow : Bytes → FloatRes) (s : Bytes)
    (hslow : underscoreOK s = true → (slow s).toExcept = slowSpec s) :
    (parseFloatWith slow s).toExcept = parseFloatSpecG (expGapS s) s := by
  unfold parseFloatWith parseFloatSpecG
  by_cases hu : underscoreOK s = true
  swap
  · simp only [Bool.not_eq_true] at hu
    have hrec := (readFloat_recognise s).1 hu
    have hsp : specialSpec s = none := by
      cases h : specialSpec s with
      | none => rfl
      | some b => rw [special_underscoreOK s b h] at hu; cases hu
    simp [hu, hsp, hrec, FloatRes.toExcept]
  simp only [hu, Bool.not_true, Bool.false_eq_true, if_false]
  rw [special_eq_spec]
  cases hsp : specialSpec s with
  | some b => simp [FloatRes.toExcept]
  | none =>
    simp only []
    obtain ⟨k1, k2⟩ := (readFloat_recognise s).2 hu
    have hslowM := hslow hu
    unfold slowSpec at hslowM
    cases hrec : recognise s with
    | none =>
      have hok := k1 hrec
      simp only [hok, Bool.and_false, Bool.false_eq_true, if_false, Bool.false_and]
      rw [hrec] at hslowM
      exact hslowM
    | some p =>
      have ha0 := k2 p hrec
      have ha := agrees_clamp _ _ _ ha0
      have hok := ha.1
      have hhx : (readFloat s).hex = p.hex := ha.2.2.1
      rw [hrec] at hslowM
      simp only [] at hslowM
      cases hph : p.hex
      · have hrh : (readFloat s).hex = false := by rw [hhx, hph]
        simp only [hrh, Bool.false_and, Bool.false_eq_true, if_false, hok, Bool.true_and]
        rw [hph] at hslowM
        simp only [Bool.false_eq_true, if_false] at hslowM
        cases htr : (readFloat s).trunc
        · simp only [Bool.not_false, if_true]
          cases hfast : atof64exact (readFloat s).mant (readFloat s).exp (readFloat s).neg with
          | none => exact hslowM
          | some f => exact exact_path_eval _ _ ha hph htr f hfast
        · exact hslowM
      · have hrh : (readFloat s).hex = true := by rw [hhx, hph]
        simp only [hrh, hok, Bool.and_self, if_true]
        exact hex_path_eval _ _ ha hph

theorem slowPath_slowSpec (s : Bytes) (hN3 : inClassN3 s = false) : (slowPath s).toExcept = slowSpec s := by
  unfold slowSpec
  cases hrec : recognise s with
  | none => unfold slowPath; rw [hrec]; rfl
  | some p =>
    cases hph : p.hex
    · rw [slowPath_spec s p hrec hph hN3, clampGap_eq s (by rw [← (recog_facts s p hrec).1]; exact hph)]
      simp only [hph, Bool.false_eq_true, if_false]
    · unfold slowPath; rw [hrec]; simp only [hph, if_true]; rfl

theorem parseFloat_eq_clamped (s : Bytes) (hN3 : inClassN3 s = false) :
    (parseFloat s).toExcept = parseFloatSpecG (expGapS s) s := by
  rw [parseFloat_with]
  exact parseFloatWith_of_slow slowPath s (fun _ => slowPath_slowSpec s hN3)

/-- **ParseFloat = parseFloatSpec.** For every byte string outside the class of finding N3 whose
exponent literal is below 100000 — where the clamp `e < 10000` of the exponent digit loop has not
dropped a digit yet: the same value bit for bit, or the same error. -/
theorem parseFloat_eq_spec (s : Bytes) (hN3 : inClassN3 s = false) (hlit : expLit s < 100000) :
    (parseFloat s).toExcept = parseFloatSpec s := by
  rw [parseFloat_eq_clamped s hN3, parseFloatSpecG_small s hlit]

end C03
