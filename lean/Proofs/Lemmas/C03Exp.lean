/-
The exponent digit loop and its clamp, the exponent part of `readFloat` and `decimal.set` as the specification's
`parseExp` up to the clamp's gap, and the frame both scanners share after sign and prefix (`frame`).
-/
import Proofs.Lemmas.C03Spec

namespace C03
open Num Spec.NumText

/-- the clamped accumulation `if e < 10000 { e = e*10 + d }` over a digit block -/
def clampFrom (e : Nat) (ds : Bytes) : Nat :=
  ds.foldl (fun a c => if a < 10000 then a * 10 + (c.toNat - 48) else a) e

theorem expLoop_us (cs : Bytes) (e : Nat) : expLoop (95 :: cs) e = expLoop cs e := by
  conv => lhs; unfold expLoop
  simp

theorem expLoop_dig (c : UInt8) (cs : Bytes) (e : Nat) (h : isDec c = true) :
    expLoop (c :: cs) e = expLoop cs (if e < 10000 then e * 10 + (c.toNat - 48) else e) := by
  have h95 : (c == 95) = false := by simpa using ne_of_class (k := 95) h rfl
  have hb : (48 ≤ c && c ≤ 57) = isDec c := rfl
  conv => lhs; unfold expLoop
  simp only [h95, Bool.false_eq_true, if_false, hb, h, if_true]

theorem expLoop_stop (c : UInt8) (r : Bytes) (e : Nat) (h95 : c ≠ 95) (hd : isDec c = false) :
    expLoop (c :: r) e = (e, c :: r) := by
  have e95 : (c == 95) = false := by simpa using h95
  have hb : (48 ≤ c && c ≤ 57) = isDec c := rfl
  conv => lhs; unfold expLoop
  simp only [e95, Bool.false_eq_true, if_false, hb, hd]

theorem expLoop_eq (t : Bytes) : ∀ e, (expLoop t e).1 = clampFrom e ((strip t).takeWhile isDec) ∧
    ((expLoop t e).2 = [] ↔ (strip t).all isDec = true) := by
  induction t with
  | nil => intro e; exact ⟨rfl, by simp [expLoop, strip]⟩
  | cons c cs ih =>
    intro e
    by_cases h95 : c = 95
    · subst h95; rw [expLoop_us, strip_us]; exact ih e
    · rw [strip_cons c cs h95, List.takeWhile_cons, List.all_cons]
      by_cases hd : isDec c = true
      · rw [expLoop_dig c cs e hd, if_pos hd, hd, Bool.true_and]
        exact ih _
      · simp only [Bool.not_eq_true] at hd
        rw [expLoop_stop c cs e h95 hd, hd]
        exact ⟨rfl, by simp⟩

theorem expLoop_digits (ds : Bytes) (hds : ds.all isDec = true) (e : Nat) : expLoop ds e = (clampFrom e ds, []) := by
  obtain ⟨h1, h2⟩ := expLoop_eq ds e
  rw [strip_digits ds hds] at h1 h2
  rw [Shared.takeWhile_of_all _ hds] at h1
  exact Prod.ext h1 (h2.mpr hds)

theorem clampFrom_stuck (ds : Bytes) : ∀ e, 10000 ≤ e → clampFrom e ds = e := by
  induction ds with
  | nil => intro e _; rfl
  | cons c cs ih =>
    intro e he
    unfold clampFrom
    rw [List.foldl_cons]
    have : ¬ e < 10000 := by omega
    simp only [this, if_false]
    exact ih e he

/-- the loop `if e < 10000 { e = e*10 + d }` returns the exact value of every literal below 100000; on a larger
literal it stops at five digits, at most a tenth of the literal -/
theorem clampFrom_spec (ds : Bytes) (hd : ds.all isDec = true) : ∀ e, e < 10000 →
    (valFrom e ds < 100000 → clampFrom e ds = valFrom e ds) ∧
    (100000 ≤ valFrom e ds → 10000 ≤ clampFrom e ds ∧ clampFrom e ds ≤ 99999 ∧ 10 * clampFrom e ds ≤ valFrom e ds) := by
  induction ds with
  | nil => intro e he; exact ⟨fun _ => rfl, fun h => by simp [valFrom] at h; omega⟩
  | cons c cs ih =>
    intro e he
    rw [List.all_cons, Bool.and_eq_true] at hd
    have hdv : c.toNat - 48 = digVal c := by simp [digVal, hd.1]
    have h9 : digVal c ≤ 9 := digVal_le9 hd.1
    have hstep : clampFrom e (c :: cs) = clampFrom (e * 10 + digVal c) cs := by
      unfold clampFrom
      rw [List.foldl_cons]
      simp only [he, if_true, hdv]
    rw [hstep, valFrom_cons]
    by_cases hsmall : e * 10 + digVal c < 10000
    · exact ih hd.2 _ hsmall
    · have hge : 10000 ≤ e * 10 + digVal c := by omega
      rw [clampFrom_stuck cs _ hge]
      have hmul := valFrom_ge_mul cs (e * 10 + digVal c)
      cases cs with
      | nil =>
        have hv : valFrom (e * 10 + digVal c) [] = e * 10 + digVal c := rfl
        rw [hv]; exact ⟨fun _ => rfl, fun h => by omega⟩
      | cons c2 cs2 =>
        have hp : 10 ≤ 10 ^ (c2 :: cs2).length := by
          rw [List.length_cons, Nat.pow_succ]
          have := Nat.pow_pos (n := cs2.length) (by decide : 0 < 10)
          omega
        have h10 : (e * 10 + digVal c) * 10 ≤ (e * 10 + digVal c) * 10 ^ (c2 :: cs2).length := Nat.mul_le_mul_left _ hp
        refine ⟨fun hlt => by omega, fun _ => ⟨hge, by omega, by omega⟩⟩

/-- below the clamp the accumulation is the exact value -/
theorem clampFrom_exact (ds : Bytes) (hd : ds.all isDec = true) : ∀ e, valFrom e ds < 10000 →
    clampFrom e ds = valFrom e ds :=
  fun e h => (clampFrom_spec ds hd e (Nat.lt_of_le_of_lt (valFrom_ge ds e) h)).1 (by omega)

/-- what the clamp adds to the exponent the specification reads: 0 below 100000 -/
def gapInt (neg : Bool) (ds : Bytes) : Int :=
  (if neg then -1 else 1) * ((clampFrom 0 ds : Int) - (valOf 10 ds : Int))

theorem gapInt_nil (neg : Bool) : gapInt neg [] = 0 := by
  unfold gapInt clampFrom valOf; simp

/-- the unsigned exponent digits as `readFloat` and `decimal.set` accept them: a digit first, and the digit loop reads to
the end of the text; the clamped value -/
def expDigits (r3 : Bytes) : Option Nat :=
  match r3 with
  | [] => none
  | c2 :: _ => if c2 < 48 || c2 > 57 then none else if (expLoop r3 0).2.isEmpty then some (expLoop r3 0).1 else none

/-- the exponent part after the `e`/`p` as accepted: the signed value, `none` when `readFloat` fails in or after it -/
def okPart (r1 : Bytes) : Option Int :=
  match r1 with
  | [] => none
  | c1 :: r2 => (expDigits (bodyOf c1 r2)).map fun (e : Nat) => (e : Int) * (if c1 == 45 then -1 else 1)

/-- total exponent adjustment contributed by what follows the mantissa; `none` = failure -/
def tailAdj (hex : Bool) (rest : Bytes) : Option Int :=
  match rest with
  | [] => if hex then none else some 0
  | c :: r1 => if lower c == (if hex then 112 else 101) then okPart r1 else none

/-- a number scanner of atof.go (`readFloat`, `decimal.set`) after sign and prefix, given what its mantissa loop returned: the loop
must not have failed and must have seen a digit (`sd`), and what follows the mantissa must be an exponent part or nothing.
Result: the loop's state and the exponent adjustment -/
def frame {σ : Type} (hex : Bool) (sd : σ → Bool) : Option (σ × Bytes) → Option (σ × Int)
  | none => none
  | some (st, rest) => if !sd st then none else (tailAdj hex rest).map fun x => (st, x)

theorem nondigit_test (c : UInt8) : (decide (c < 48) || decide (c > 57)) = !isDec c := by
  unfold isDec
  rw [Bool.not_and, ← decide_not, ← decide_not]
  simp only [UInt8.not_le, gt_iff_lt]

theorem tailAdj_cons (hex : Bool) (c : UInt8) (r1 : Bytes) :
    tailAdj hex (c :: r1) = if lower c == (if hex then 112 else 101) then okPart r1 else none := rfl

theorem tailAdj_no_e (x : UInt8) (r : Bytes) (he : lower x ≠ 101) : tailAdj false (x :: r) = none := by
  rw [tailAdj_cons]; exact if_neg (by simpa using he)

/-- the exponent fragment shared by `readFloat` and `decimal.set`, whatever they do with a failure and
with an accepted exponent -/
theorem expFrag {α : Type} (fail : α) (ok : Int → α) (r1 : Bytes) :
    (match r1 with
      | [] => fail
      | c1 :: r2 =>
        let esign : Int := if c1 == 45 then -1 else 1
        let r3 := if c1 == 43 || c1 == 45 then r2 else r1
        match r3 with
        | [] => fail
        | c2 :: _ =>
          if c2 < 48 || c2 > 57 then fail
          else
            let (e, r4) := expLoop r3 0
            if !r4.isEmpty then fail else ok ((e : Int) * esign)) =
    match okPart r1 with
    | none => fail
    | some x => ok x := by
  unfold okPart expDigits bodyOf
  cases r1 with
  | nil => rfl
  | cons c1 r2 =>
    simp only []
    cases hr3 : (if (c1 == 43 || c1 == 45) = true then r2 else c1 :: r2) with
    | nil => rfl
    | cons c2 rr =>
      simp only []
      by_cases hd : (c2 < 48 || c2 > 57) = true
      · simp [hd]
      · simp only [hd, Bool.false_eq_true, if_false]
        generalize expLoop (c2 :: rr) 0 = q
        obtain ⟨e, r4⟩ := q
        cases r4 <;> rfl

theorem expDigits_eq (r3 : Bytes) (h95 : ∀ r', r3 ≠ 95 :: r') :
    expDigits r3 = if (strip r3).isEmpty || !(strip r3).all isDec then none else some (clampFrom 0 (strip r3)) := by
  unfold expDigits
  cases r3 with
  | nil => rfl
  | cons c2 rr =>
    have hc95 : c2 ≠ 95 := fun h => h95 rr (by rw [h])
    obtain ⟨e1, e2⟩ := expLoop_eq (c2 :: rr) 0
    simp only [nondigit_test]
    rw [strip_cons c2 rr hc95] at e1 e2 ⊢
    by_cases hd : isDec c2 = true
    · by_cases hall : (c2 :: strip rr).all isDec = true
      · rw [Shared.takeWhile_of_all _ hall] at e1
        rw [hd, hall, ← e1, e2.mpr hall]
        rfl
      · simp only [Bool.not_eq_true] at hall
        rw [hd, hall]
        cases hr : (expLoop (c2 :: rr) 0).2 with
        | nil => rw [e2.mp hr] at hall; cases hall
        | cons a b => rfl
    · simp only [Bool.not_eq_true] at hd
      simp [hd]

/-- `parseExp` after its sign has been split off -/
def signedDigits (neg : Bool) (ds : Bytes) : Option Int :=
  if ds.isEmpty || !ds.all isDec then none
  else some (if neg then -(valOf 10 ds : Int) else (valOf 10 ds : Int))

theorem parseExp_eq (s : Bytes) : parseExp s = signedDigits (splitSign s).1 (splitSign s).2 := rfl

/-- **the gap the clamp opens** on an exponent the specification reads as `x`: none below 100000; above, the code reads a
five-digit exponent of the same sign -/
theorem gapInt_spec (neg : Bool) (ds : Bytes) (x : Int) (h : signedDigits neg ds = some x) :
    (valOf 10 ds < 100000 → gapInt neg ds = 0) ∧
    (100000 ≤ valOf 10 ds →
      (x = (valOf 10 ds : Int) ∧ 10000 ≤ x + gapInt neg ds ∧ x + gapInt neg ds ≤ 99999) ∨
      (x = -(valOf 10 ds : Int) ∧ -99999 ≤ x + gapInt neg ds ∧ x + gapInt neg ds ≤ -10000)) := by
  unfold signedDigits at h
  by_cases hbad : (ds.isEmpty || !ds.all isDec) = true
  · rw [if_pos hbad] at h; cases h
  rw [if_neg hbad] at h
  injection h with h
  have hall : ds.all isDec = true := by
    cases h' : ds.all isDec
    · exfalso; apply hbad; simp [h']
    · rfl
  obtain ⟨c1, c2⟩ := clampFrom_spec ds hall 0 (by decide)
  rw [← valOf_eq] at c1 c2
  unfold gapInt
  generalize valOf 10 ds = L at *
  generalize clampFrom 0 ds = C at *
  cases neg
  · simp only [Bool.false_eq_true, if_false] at h ⊢
    refine ⟨fun hl => by rw [c1 hl]; simp, fun hl => Or.inl ?_⟩
    obtain ⟨d1, d2, d3⟩ := c2 hl
    refine ⟨h.symm, ?_, ?_⟩ <;> · rw [← h]; omega
  · simp only [if_true] at h ⊢
    refine ⟨fun hl => by rw [c1 hl]; simp, fun hl => Or.inr ?_⟩
    obtain ⟨d1, d2, d3⟩ := c2 hl
    refine ⟨h.symm, ?_, ?_⟩ <;> · rw [← h]; omega

theorem signedDigits_eq (neg : Bool) (r3 : Bytes) (h3 : ∀ r', r3 ≠ 95 :: r') :
    (expDigits r3).map (fun (e : Nat) => (e : Int) * (if neg then -1 else 1)) =
      (signedDigits neg (strip r3)).map (· + gapInt neg (strip r3)) := by
  rw [expDigits_eq r3 h3]
  unfold signedDigits
  by_cases hbad : ((strip r3).isEmpty || !(strip r3).all isDec) = true
  · rw [if_pos hbad, if_pos hbad]; rfl
  · rw [if_neg hbad, if_neg hbad]
    unfold gapInt
    cases neg
    · simp only [Bool.false_eq_true, if_false, Option.map_some]; congr 1; omega
    · simp only [if_true, Option.map_some]; congr 1; omega

theorem okPart_eq (dig : UInt8 → Bool) (hd43 : dig 43 = false) (hd45 : dig 45 = false)
    (r1 : Bytes) (hu : underscoresOK dig false r1 = true) (h95 : ∀ r', r1 ≠ 95 :: r') :
    okPart r1 =
      (parseExp (strip r1)).map (· + gapInt (splitSign (strip r1)).1 (splitSign (strip r1)).2) := by
  cases r1 with
  | nil => rfl
  | cons c1 r2 =>
    have hc95 : c1 ≠ 95 := fun h => h95 r2 (by rw [h])
    rw [strip_cons c1 r2 hc95, parseExp_eq, okPart]
    by_cases hp : c1 = 43
    · subst hp
      exact signedDigits_eq false r2 (uOK_after_nondigit dig false 43 r2 (by decide) hd43 hu).2
    · by_cases hm : c1 = 45
      · subst hm
        exact signedDigits_eq true r2 (uOK_after_nondigit dig false 45 r2 (by decide) hd45 hu).2
      · have h3 : ∀ r', c1 :: r2 ≠ 95 :: r' := fun r' h => hc95 (by injection h)
        have := signedDigits_eq false (c1 :: r2) h3
        rw [strip_cons c1 r2 hc95] at this
        unfold bodyOf
        rw [splitSign_other c1 _ hp hm, beq_eq_false_iff_ne.mpr hp, beq_eq_false_iff_ne.mpr hm]
        exact this

end C03
