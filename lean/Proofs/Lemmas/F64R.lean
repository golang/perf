/-
The value level: `R q = sval (roundQ q)`, the value of `q` rounded to float64, and `Is x q`, x is a finite float with
value q. Every operation on finite operands has the value `R (exact result)` (F64Arith); clients reason with `R`, and
`isFinite` is the only overflow notion. `R` is monotone and odd, fixes the values of floats and dyadic rationals, stays
inside any interval whose ends are floats; `R_form` and `R_err` describe a finite result.
-/
import Proofs.Lemmas.F64Interval

namespace F64

/-- the value of `q` rounded to float64 (±2^1024 when the rounding overflows) -/
def R (q : ℚ) : ℚ := sval (roundQ q)

theorem R_mono {q1 q2 : ℚ} (h : q1 ≤ q2) : R q1 ≤ R q2 := roundQ_mono q1 q2 h

theorem R_zero : R 0 = 0 := by unfold R; rw [roundQ_zero]; exact sval_posZero

theorem R_neg (q : ℚ) : R (-q) = -R q := by
  unfold R
  rcases eq_or_ne q 0 with rfl | h
  · rw [neg_zero, roundQ_zero, sval_posZero, neg_zero]
  · rw [roundQ_neg q h, sval_neg]

theorem R_nonneg {q : ℚ} (h : 0 ≤ q) : 0 ≤ R q := R_zero.symm.trans_le (R_mono h)

theorem R_abs (q : ℚ) : |R q| = R |q| := by
  rcases le_total 0 q with h | h
  · rw [abs_of_nonneg h, abs_of_nonneg (R_nonneg h)]
  · have := R_nonneg (neg_nonneg.2 h)
    rw [R_neg, neg_nonneg] at this
    rw [abs_of_nonpos h, R_neg, abs_of_nonpos this]

/-- `x` is a finite float with value `q` -/
structure Is (x : Bits) (q : ℚ) : Prop where
  fin : isFinite x = true
  val : sval x = q

theorem Is.neg {x : Bits} {q : ℚ} (h : Is x q) : Is (neg x) (-q) :=
  ⟨by rw [isFinite_neg]; exact h.fin, by rw [sval_neg, h.val]⟩

theorem Is.nz {x : Bits} {q : ℚ} (h : Is x q) (hq : q ≠ 0) : isZero x = false :=
  isZero_false_of_sval h.val hq

theorem Is.signBit_of_pos {p : Bits} {q : ℚ} (hp : Is p q) (hq : 0 < q) : signBit p = false := by
  cases h : signBit p
  · rfl
  · have := hp.val; unfold sval at this; rw [h, if_pos rfl] at this
    linarith only [this, hq, val_nonneg p]

/-- a rational `±M·2^e` with `M < 2^53`, `e ≥ −1074`, magnitude below 2^1024 is
rounded without error, to a finite float. -/
theorem roundQ_dyadic (q : ℚ) (M : Nat) (e : Int) (hM : M < 2 ^ 53) (he : -1074 ≤ e)
    (hq : |q| = (M : ℚ) * (2 : ℚ) ^ e) (hov : |q| < (2 : ℚ) ^ (1024 : Int)) : Is (roundQ q) q := by
  suffices h : sval (roundQ q) = q ∧ isFinite (roundQ q) = true from ⟨h.2, h.1⟩
  rcases eq_or_ne q 0 with h0 | h0
  · subst h0; rw [roundQ_zero]; exact ⟨(sval_eq_zero_iff posZero).mpr (by decide), by decide⟩
  have hn : 0 < q.num.natAbs := Int.natAbs_pos.mpr (Rat.num_ne_zero.mpr h0)
  have hd := natAbs_div_den q
  obtain ⟨h1, h2⟩ := roundMag_dyadic _ _ hn q.den_pos M e hM he (by rw [hd]; exact hq) (by rw [hd]; exact hov)
  rw [hd] at h1
  have hfin : isFinite (magQ q) = true := isFinite_of_toNat_lt _ h2
  constructor
  · rw [sval_roundQ]
    unfold magQ; rw [h1]
    split
    · rename_i h; rw [abs_of_neg h]; ring
    · rename_i h; rw [abs_of_nonneg (not_lt.mp h)]
  · rw [roundQ_eq]; split
    · rw [isFinite_neg]; exact hfin
    · exact hfin

theorem R_dyadic (q : ℚ) (M : Nat) (e : Int) (hM : M < 2 ^ 53) (he : -1074 ≤ e)
    (hq : |q| = (M : ℚ) * (2 : ℚ) ^ e) (hov : |q| < (2 : ℚ) ^ (1024 : Int)) : R q = q :=
  (roundQ_dyadic q M e hM he hq hov).val

theorem R_two_zpow (e : Int) (h1 : -1074 ≤ e) (h2 : e < 1024) : R ((2 : ℚ) ^ e) = (2 : ℚ) ^ e := by
  have hp := two_zpow_pos e
  exact R_dyadic ((2 : ℚ) ^ e) 1 e (by norm_num) h1 (by rw [abs_of_pos hp]; simp)
    (by rw [abs_of_pos hp]; exact zpow_lt_zpow_right₀ (by norm_num) h2)

theorem R_sval (x : Bits) (hf : isFinite x = true) : R (sval x) = sval x := by
  unfold R
  cases hz : isZero x
  · rw [roundQ_exact x hf hz]
  · rw [sval_eq_zero_of_isZero hz, roundQ_zero, sval_posZero]

/-- rounding never leaves an interval whose ends are floats -/
theorem R_le_of_le {q : ℚ} {b : Bits} (hb : isFinite b = true) (h : q ≤ sval b) : R q ≤ sval b :=
  (R_mono h).trans_eq (R_sval b hb)

theorem le_R_of_le {q : ℚ} {a : Bits} (ha : isFinite a = true) (h : sval a ≤ q) : sval a ≤ R q :=
  (R_sval a ha).symm.trans_le (R_mono h)

theorem R_between {q : ℚ} (a b : Bits) (ha : isFinite a = true) (hb : isFinite b = true)
    (h1 : min (sval a) (sval b) ≤ q) (h2 : q ≤ max (sval a) (sval b)) :
    min (sval a) (sval b) ≤ R q ∧ R q ≤ max (sval a) (sval b) := by
  constructor
  · rcases min_choice (sval a) (sval b) with h | h <;> rw [h] at h1 ⊢
    exacts [le_R_of_le ha h1, le_R_of_le hb h1]
  · rcases max_choice (sval a) (sval b) with h | h <;> rw [h] at h2 ⊢
    exacts [R_le_of_le ha h2, R_le_of_le hb h2]

/-- a rounding bounded in magnitude by a finite float is finite -/
theorem isFinite_roundQ_of_abs_le {q : ℚ} {b : Bits} (hb : isFinite b = true) (h : |q| ≤ |sval b|) :
    isFinite (roundQ q) = true := by
  rw [isFinite_iff_sval]
  change |R q| < _
  rw [R_abs]
  refine ((R_mono h).trans_eq ?_).trans_lt ((isFinite_iff_sval b).1 hb)
  rw [← sval_abs, R_sval _ (by rw [isFinite_abs]; exact hb)]

theorem isFinite_of_sval_eq_R {x b : Bits} {q : ℚ} (hx : sval x = R q) (hb : isFinite b = true)
    (h : |q| ≤ |sval b|) : isFinite x = true :=
  isFinite_of_sval_eq hx (isFinite_roundQ_of_abs_le hb h)

/-- the form of a finite rounded positive rational: with the shift `s` of `q` (`q·2^s ∈ [2^52, 2^53)`
unless capped at 1074) the result is `M·2^-s` for a natural `M` within ½ of `q·2^s`. -/
theorem R_form (q : ℚ) (hq : 0 < q) (hfin : isFinite (roundQ q) = true) :
    ∃ (s : Int) (M : Nat), IsShift q s ∧
      |(M : ℚ) - q * (2 : ℚ) ^ s| ≤ 1 / 2 ∧ R q = (M : ℚ) * (2 : ℚ) ^ (-s) := by
  have hn : 0 < q.num.natAbs := Int.natAbs_pos.mpr (Rat.num_ne_zero.mpr hq.ne')
  have hov : magBits q.num.natAbs q.den < 0x7FF0000000000000 := by
    rw [isFinite_iff, magOf_roundQ] at hfin
    have h3 := roundMag_toNat q.num.natAbs q.den hn q.den_pos
    unfold magQ at hfin
    omega
  have hqd : ((q.num.natAbs : ℕ) : ℚ) / (q.den : ℚ) = q := by rw [natAbs_div_den, abs_of_pos hq]
  obtain ⟨s, M, hs, hM⟩ := exists_near _ _ hn q.den_pos
  refine ⟨s, M, hqd ▸ hs, hqd ▸ hM.err, ?_⟩
  unfold R
  rw [sval_roundQ, if_neg (not_lt.mpr hq.le)]
  exact val_of_near _ _ hn q.den_pos s M hs hM hov

/-- rounding error: a finite result is within 2⁻⁵³ relative, or half a subnormal step absolute -/
theorem R_err (q : ℚ) (hf : isFinite (roundQ q) = true) :
    |R q - q| ≤ |q| / 2 ^ 53 + (2 : ℚ) ^ (-1075 : Int) := by
  have htiny : (0 : ℚ) < (2 : ℚ) ^ (-1075 : Int) := two_zpow_pos _
  have pos : ∀ q : ℚ, 0 < q → isFinite (roundQ q) = true →
      |R q - q| ≤ q / 2 ^ 53 + (2 : ℚ) ^ (-1075 : Int) := by
    intro q hq hf
    -- half a unit in the last place `2^-s`, where `2^52 ≤ q·2^s` unless s = 1074
    obtain ⟨s, M, ⟨s1, -, s3⟩, hM, hR⟩ := R_form q hq hf
    have hpn := two_zpow_pos (-s)
    have e : R q - q = ((M : ℚ) - q * (2 : ℚ) ^ s) * (2 : ℚ) ^ (-s) := by
      rw [hR, sub_mul, mul_assoc, zpow_mul_neg, _root_.mul_one]
    rw [e, abs_mul, abs_of_pos hpn]
    have h1 : |(M : ℚ) - q * (2 : ℚ) ^ s| * (2 : ℚ) ^ (-s) ≤ 1 / 2 * (2 : ℚ) ^ (-s) :=
      mul_le_mul_of_nonneg_right hM hpn.le
    rcases lt_or_eq_of_le s1 with hlt | rfl
    · have h2 := mul_le_mul_of_nonneg_right (s3 hlt) hpn.le
      rw [mul_assoc, zpow_mul_neg, _root_.mul_one] at h2
      linarith
    · have e2 : (1 : ℚ) / 2 * (2 : ℚ) ^ (-(1074 : Int)) = (2 : ℚ) ^ (-1075 : Int) := by
        rw [show (-1075 : Int) = -1074 - 1 by norm_num, zpow_sub_one₀ (two_ne_zero' ℚ)]; ring
      have : 0 ≤ q / 2 ^ 53 := by positivity
      linarith
  rcases lt_trichotomy q 0 with h | rfl | h
  · have hf' : isFinite (roundQ (-q)) = true := by
      rw [roundQ_neg q h.ne, isFinite_neg]; exact hf
    have := pos (-q) (neg_pos.2 h) hf'
    rw [R_neg, ← neg_sub', _root_.abs_neg] at this
    rw [abs_of_neg h]; exact this
  · rw [R_zero, sub_zero, abs_zero, zero_div, zero_add]; exact htiny.le
  · rw [abs_of_pos h]; exact pos q h hf

end F64
