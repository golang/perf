/-
Helper lemmas for C08: reads of a row (`getVal`) after writes, trailing-empty trimming, row equality, the
bucket scan.
-/
import Model.Proc.Projection
import Proofs.Lemmas.Shared.List

namespace C08
open Proc.Sort Proc.Projection

theorem getVal_nil (i : Nat) : getVal [] i = [] := by simp [getVal]
theorem getVal_zero (x : Bytes) (xs : List Bytes) : getVal (x :: xs) 0 = x := by simp [getVal]
theorem getVal_succ (x : Bytes) (xs : List Bytes) (i : Nat) : getVal (x :: xs) (i + 1) = getVal xs i := by
  simp [getVal]

theorem getVal_of_le (r : List Bytes) (i : Nat) (h : r.length ≤ i) : getVal r i = [] :=
  Shared.getD_of_length_le r i h

theorem getVal_set (row : List Bytes) (i j : Nat) (v : Bytes) :
    getVal (row.set i v) j = if i = j ∧ i < row.length then v else getVal row j :=
  Shared.getD_set row i j v []

theorem getVal_set_ne (row : List Bytes) (i j : Nat) (v : Bytes) (h : j ≠ i) :
    getVal (row.set j v) i = getVal row i := by
  rw [getVal_set, if_neg fun a => h a.1]

theorem getVal_set_eq (row : List Bytes) (i : Nat) (v : Bytes) (h : i < row.length) :
    getVal (row.set i v) i = v := by
  rw [getVal_set, if_pos ⟨rfl, h⟩]

theorem getVal_append_nil (row : List Bytes) (i : Nat) : getVal (row ++ [[]]) i = getVal row i := by
  unfold getVal
  simp only [List.getD_eq_getElem?_getD]
  rcases Nat.lt_or_ge i row.length with h | h
  · rw [List.getElem?_append_left h]
  · rw [List.getElem?_append_right h, List.getElem?_eq_none h]
    cases hp : i - row.length <;> simp

theorem getVal_cleared (row : List Bytes) (i : Nat) : getVal (row.map fun _ => []) i = [] := by
  unfold getVal
  simp only [List.getD_eq_getElem?_getD, List.getElem?_map]
  cases row[i]? <;> rfl

theorem trim_cons (x : Bytes) (xs : List Bytes) :
    trim (x :: xs) = if trim xs = [] then (if x = [] then [] else [x]) else x :: trim xs := by
  cases h : trim xs with
  | nil => cases x <;> simp [trim, h]
  | cons y ys => simp [trim, h]

theorem trim_nil_iff (r : List Bytes) : trim r = [] ↔ ∀ i, getVal r i = [] := by
  induction r with
  | nil => simp [trim, getVal_nil]
  | cons x xs ih =>
    rw [trim_cons]
    constructor
    · intro h i
      by_cases ht : trim xs = []
      · rw [if_pos ht] at h
        by_cases hx : x = []
        · cases i with
          | zero => rw [getVal_zero]; exact hx
          | succ j => rw [getVal_succ]; exact ih.mp ht j
        · rw [if_neg hx] at h; simp at h
      · rw [if_neg ht] at h; simp at h
    · intro h
      have ht : trim xs = [] := ih.mpr (fun i => by have := h (i + 1); rwa [getVal_succ] at this)
      have hx : x = [] := by have := h 0; rwa [getVal_zero] at this
      simp [ht, hx]

theorem trim_eq_of_getVal_eq : ∀ (r₁ r₂ : List Bytes), (∀ i, getVal r₁ i = getVal r₂ i) → trim r₁ = trim r₂
  | [], r₂, h => by
    have : trim r₂ = [] := (trim_nil_iff r₂).mpr (fun i => by rw [← h i, getVal_nil])
    rw [this]; rfl
  | x :: xs, [], h => by
    have : trim (x :: xs) = [] := (trim_nil_iff _).mpr (fun i => by rw [h i, getVal_nil])
    rw [this]; rfl
  | x :: xs, y :: ys, h => by
    have hxy : x = y := by have := h 0; rwa [getVal_zero, getVal_zero] at this
    have ih := trim_eq_of_getVal_eq xs ys (fun i => by have := h (i + 1); rwa [getVal_succ, getVal_succ] at this)
    rw [trim_cons, trim_cons, ih, hxy]

theorem getVal_trim (r : List Bytes) (i : Nat) : getVal (trim r) i = getVal r i := by
  induction r generalizing i with
  | nil => rfl
  | cons x xs ih =>
    rw [trim_cons]
    by_cases ht : trim xs = []
    · rw [if_pos ht]
      have hz := (trim_nil_iff xs).mp ht
      by_cases hx : x = []
      · rw [if_pos hx]
        cases i with
        | zero => rw [getVal_zero, getVal_nil, hx]
        | succ j => rw [getVal_succ, getVal_nil, hz j]
      · rw [if_neg hx]
        cases i with
        | zero => rw [getVal_zero, getVal_zero]
        | succ j => rw [getVal_succ, getVal_succ, getVal_nil, hz j]
    · rw [if_neg ht]
      cases i with
      | zero => rw [getVal_zero, getVal_zero]
      | succ j => rw [getVal_succ, getVal_succ, ih]

theorem trim_idem (r : List Bytes) : trim (trim r) = trim r :=
  trim_eq_of_getVal_eq _ _ (getVal_trim r)

theorem trim_length_le (r : List Bytes) : (trim r).length ≤ r.length := by
  induction r with
  | nil => simp [trim]
  | cons x xs ih =>
    rw [trim_cons]
    by_cases ht : trim xs = []
    · rw [if_pos ht]; by_cases hx : x = [] <;> simp [hx]
    · rw [if_neg ht]; simp; omega

theorem eq_of_trimmed (a b : List Bytes) (ha : trim a = a) (hb : trim b = b)
    (h : ∀ i, getVal a i = getVal b i) : a = b := by
  rw [← ha, ← hb]; exact trim_eq_of_getVal_eq a b h

theorem equalRow_iff (a b : List Bytes) : equalRow a b = true ↔ a = b := by
  unfold equalRow
  induction a generalizing b with
  | nil => cases b <;> simp
  | cons x xs ih =>
    cases b with
    | nil => simp
    | cons y ys =>
      have := ih ys
      by_cases hl : xs.length = ys.length
      · simp only [hl, bne_self_eq_false, Bool.false_eq_true, if_false] at this
        simp [hl, this]
      · have hne : xs ≠ ys := fun e => hl (by rw [e])
        simp [hl, hne]

theorem findNode_none (nodes : List Node) (hv : UInt64) (row : List Bytes) (i : Nat)
    (h : findNode nodes hv row i = none) : ∀ n ∈ nodes, ¬ (n.hash = hv ∧ n.vals = row) := by
  induction nodes generalizing i with
  | nil => simp
  | cons n ns ih =>
    unfold findNode at h
    split at h
    · simp at h
    · rename_i hc
      intro m hm
      simp only [List.mem_cons] at hm
      rcases hm with rfl | hm
      · intro ⟨h1, h2⟩
        apply hc
        simp [h1, (equalRow_iff _ _).mpr h2]
      · exact ih (i + 1) h m hm

theorem findNode_some (nodes : List Node) (hv : UInt64) (row : List Bytes) (i k : Nat)
    (h : findNode nodes hv row i = some k) :
    i ≤ k ∧ ∃ n, nodes[k - i]? = some n ∧ n.vals = row := by
  induction nodes generalizing i with
  | nil => simp [findNode] at h
  | cons n ns ih =>
    unfold findNode at h
    split at h
    · rename_i hc
      simp at h; subst h
      simp only [Bool.and_eq_true] at hc
      exact ⟨Nat.le_refl _, n, by simp, (equalRow_iff _ _).mp hc.2⟩
    · obtain ⟨h1, m, h2, h3⟩ := ih (i + 1) h
      refine ⟨by omega, m, ?_, h3⟩
      have : k - i = (k - (i + 1)) + 1 := by omega
      rw [this]; simpa using h2

end C08
