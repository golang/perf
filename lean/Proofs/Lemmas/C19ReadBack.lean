/-
C19 helper lemmas: what the Printer writes for a stream of results, the Reader reads back.
Part 3: the Reader's loop over the printed lines.
-/
import Model.Storage.Fmt
import Proofs.Lemmas.C19PrintLines

namespace C19
open Storage.Query Storage.Fmt

/-- no permanent labels in force (a Reader without AddLabels starts with none; each step lemma below returns it for the next state) -/
def PInv (rd : Reader) : Prop := rd.perm.getD [] = []

theorem step_kv (hp : Bool) (rd : Reader) (line k v : Bytes) (rest : List Bytes)
    (hparse : parseKeyValueLine line = some (k, v)) (hperm : PInv rd) :
    Reader.nextGo hp rd (line :: rest) =
      Reader.nextGo hp { rd with lineNum := rd.lineNum + 1,
                                 labels := if v.isEmpty then rd.labels.erase k else rd.labels.set k v } rest := by
  unfold PInv at hperm
  rw [Reader.nextGo]
  simp only [hparse, hperm, Labels.has, List.any_nil, Bool.false_eq_true, if_false]
  split <;> rfl

theorem kv_lines (hp : Bool) (kvs : Labels) (lineOf : Bytes × Bytes → Bytes)
    (upd : Labels → Bytes × Bytes → Labels)
    (hstep : ∀ kv ∈ kvs, ∃ v, parseKeyValueLine (lineOf kv) = some (kv.1, v) ∧
      ∀ l : Labels, (if v.isEmpty then l.erase kv.1 else l.set kv.1 v) = upd l kv)
    (rd : Reader) (rest : List Bytes) (hperm : PInv rd) :
    ∃ rd', Reader.nextGo hp rd (kvs.map lineOf ++ rest) = Reader.nextGo hp rd' rest ∧
      rd'.labels = kvs.foldl upd rd.labels ∧ PInv rd' := by
  induction kvs generalizing rd with
  | nil => exact ⟨rd, rfl, rfl, hperm⟩
  | cons kv kvs ih =>
    obtain ⟨v, hparse, hupd⟩ := hstep kv List.mem_cons_self
    rw [List.map_cons, List.cons_append, step_kv hp rd (lineOf kv) kv.1 v _ hparse hperm, hupd]
    exact ih (fun x hx => hstep x (List.mem_cons_of_mem _ hx)) _ hperm

theorem benchPrefix_eq : benchPrefix = [66, 101, 110, 99, 104, 109, 97, 114, 107] := by decide +kernel

/-- a benchmark line starts with 'B', so it is not a configuration line -/
theorem bench_not_kv (line name : Bytes) (h : parseBenchmarkLine line = some name) :
    parseKeyValueLine line = none ∧ line ≠ [] := by
  unfold parseBenchmarkLine at h
  simp only at h
  split at h
  · cases h
  · split at h
    · rename_i hpre
      rw [benchPrefix_eq] at hpre
      cases line with
      | nil => simp [Bytes.hasPrefix] at hpre
      | cons c t =>
        rw [List.takeWhile_cons] at hpre
        split at hpre
        · simp only [Bytes.hasPrefix, Bool.and_eq_true, beq_iff_eq] at hpre
          have hc : c = 66 := hpre.1
          subst hc
          refine ⟨?_, by simp⟩
          unfold parseKeyValueLine
          have : kvScan 0 (66 :: t) = none := by
            rw [kvScan]; simp [isAsciiLower]
          rw [this]
        · simp [Bytes.hasPrefix] at hpre
    · cases h

theorem content_line (hp : Bool) (rd : Reader) (content name : Bytes) (rest : List Bytes)
    (hb : parseBenchmarkLine content = some name) (hperm : PInv rd) :
    ∃ res rd', Reader.nextGo hp rd (content :: rest) = some (res, rd', rest) ∧
      res.labels = rd.labels ∧ res.content = content ∧ rd'.labels = rd.labels ∧
      PInv rd' := by
  obtain ⟨hkv, hne⟩ := bench_not_kv content name hb
  have hemp : content.isEmpty = false := by
    cases content with
    | nil => exact absurd rfl hne
    | cons _ _ => rfl
  rw [Reader.nextGo]
  simp only [hkv, hb, hemp, Bool.false_eq_true, if_false]
  cases hp
  · simp only [Bool.not_false, if_true, Reader.newResult]
    split <;> exact ⟨_, _, rfl, rfl, rfl, rfl, rfl⟩
  · simp only [Bool.not_true, Bool.false_eq_true, if_false, Reader.newResult]
    split <;> exact ⟨_, _, rfl, rfl, rfl, rfl, hperm⟩

theorem read_block (hp : Bool) (prev : Labels) (r : Result) (rd : Reader) (rest : List Bytes)
    (hprev : GoodLabels prev) (hr : CleanResult r) (hl : rd.labels = prev) (hperm : PInv rd) :
    ∃ res rd', Reader.nextGo hp rd (blockLines prev r ++ rest) = some (res, rd', rest) ∧
      res.labels = r.labels ∧ res.content = r.content ∧ rd'.labels = r.labels ∧ PInv rd' := by
  unfold blockLines
  simp only [List.append_assoc]
  obtain ⟨rd1, e1, l1, hperm1⟩ := kv_lines hp (removed prev r) (fun kv => unsetLine kv.1)
    (fun l kv => l.erase kv.1)
    (fun kv hkv => ⟨[], kv_unset_roundtrip kv.1 (hprev.keys kv ((mem_removed _ _ _).mp hkv).1),
      fun _ => rfl⟩)
    rd ((changed prev r).map (fun kv => setLine kv.1 kv.2) ++ ([r.content] ++ rest)) hperm
  obtain ⟨rd2, e2, l2, hperm2⟩ := kv_lines hp (changed prev r) (fun kv => setLine kv.1 kv.2)
    (fun l kv => l.set kv.1 kv.2)
    (fun kv hkv => by
      have hkv := ((mem_changed _ _ _).mp hkv).1
      have hg := hr.labels.vals kv hkv
      refine ⟨kv.2, kv_line_roundtrip kv.1 kv.2 (hr.labels.keys kv hkv) hg.first, fun l => ?_⟩
      rw [if_neg (by simpa using goodValue_ne _ hg)])
    rd1 ([r.content] ++ rest) hperm1
  obtain ⟨name, hname⟩ := hr.bench
  obtain ⟨res, rd3, e3, a, b, c, d⟩ := content_line hp rd2 r.content name rest hname hperm2
  have hlab : rd2.labels = r.labels := by
    rw [l2, l1, hl]
    exact apply_diff prev r hprev.sorted hr.labels.sorted
      (fun x hx => goodValue_ne _ (hprev.vals x hx)) (fun x hx => goodValue_ne _ (hr.labels.vals x hx))
  refine ⟨res, rd3, ?_, a.trans hlab, b, c.trans hlab, d⟩
  rw [e1, e2]
  exact e3

theorem allLines_length (rs : List Result) (prev : Labels) : rs.length ≤ (allLines prev rs).length := by
  induction rs generalizing prev with
  | nil => simp [allLines]
  | cons r rs ih =>
    simp only [allLines, List.length_append, List.length_cons, blockLines, List.length_map, List.length_nil]
    have := ih r.labels
    omega

theorem read_all_lines (rs : List Result) (prev : Labels) (rd : Reader) (fuel : Nat)
    (hprev : GoodLabels prev) (hr : ∀ r ∈ rs, CleanResult r) (hl : rd.labels = prev)
    (hperm : PInv rd) (hfuel : rs.length < fuel) :
    (Reader.allGo fuel rd (allLines prev rs)).map (fun r => (r.labels, r.content)) =
      rs.map (fun r => (r.labels, r.content)) := by
  induction rs generalizing prev rd fuel with
  | nil =>
    cases fuel with
    | zero => simp at hfuel
    | succ n => simp [allLines, Reader.allGo, Reader.next, Reader.nextGo]
  | cons r rs ih =>
    cases fuel with
    | zero => simp at hfuel
    | succ n =>
      obtain ⟨res, rd', e, a, b, c, d⟩ := read_block rd.perm.isSome prev r rd (allLines r.labels rs)
        hprev (hr r (by simp)) hl hperm
      rw [Reader.allGo]
      simp only [allLines, Reader.next, e, List.map_cons, a, b]
      refine congrArg (List.cons _) ?_
      exact ih r.labels rd' n (hr r (by simp)).labels (fun x hx => hr x (by simp [hx])) c d
        (by simp only [List.length_cons] at hfuel; omega)

theorem readAll_printAll (rs : List Result) (hr : ∀ r ∈ rs, CleanResult r) :
    (readAll (printAll [] rs)).map (fun r => (r.labels, r.content)) =
      rs.map (fun r => (r.labels, r.content)) := by
  unfold readAll Reader.all
  rw [scan_printAll rs hr]
  exact read_all_lines rs [] {} _ goodLabels_nil hr rfl rfl (Nat.lt_succ_of_le (allLines_length rs []))

end C19
