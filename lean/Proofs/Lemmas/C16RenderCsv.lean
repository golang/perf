/-
C16 — where ToCSV puts the strings of the cells view. The renderer walks the optional cells of a row with a
running logical column number and skips the absent ones; the walk is treated once, with the per-cell strings
as a parameter (`csvWrite`), and read back field by field (`slotOf`, `csvWrite_getD`).
-/
import Model.Tab.Render
import Proofs.Lemmas.Shared.List

namespace C16
open Tab.TextTab Tab.Render

/-- the string ToText/ToCSV show as the summary delta of a non-baseline column -/
def ratioStr (s : SumCell) : Bytes := if s.hasRatio then s.ratio else [0x3F]

theorem csvStartCol_succ (exp : Nat) : csvStartCol (exp + 1) = csvStartCol exp + csvGroupWidth exp := by
  unfold csvStartCol csvGroupWidth
  cases exp with
  | zero => rfl
  | succ n => simp; omega

theorem csvStartCol_mono {a b : Nat} (h : a ≤ b) : csvStartCol a ≤ csvStartCol b := by
  induction h with
  | refl => exact Nat.le_refl _
  | step _ ih => rw [csvStartCol_succ]; omega

theorem csvGroupWidth_pos {exp : Nat} (h : exp > 0) : csvGroupWidth exp = 4 := by
  cases exp with
  | zero => omega
  | succ n => rfl

theorem csvGroupWidth_ge (exp : Nat) : 2 ≤ csvGroupWidth exp := by
  unfold csvGroupWidth
  split <;> omega

theorem clearTo_length (row : List Bytes) (col : Nat) (h : row.length ≤ col) : (clearTo row col).length = col := by
  simp [clearTo]; omega

/-- read with `getD · []`, a record padded by `clearTo` shows the same fields: blanks are what is
read beyond the end anyway -/
theorem getD_clearTo (row : List Bytes) (col j : Nat) : (clearTo row col).getD j [] = row.getD j [] := by
  unfold clearTo
  rcases Nat.lt_or_ge j row.length with h | h
  · exact Shared.getD_append_left _ _ _ h
  · rw [Shared.getD_of_length_le row j h, List.getD_eq_getElem?_getD, List.getElem?_append_right h,
      List.getElem?_replicate]
    split <;> rfl

theorem getD_clearTo_append (row strs : List Bytes) (col j : Nat) (h : row.length ≤ col) :
    (clearTo row col ++ strs).getD j [] = if j < col then row.getD j [] else strs.getD (j - col) [] := by
  have hl := clearTo_length row col h
  split
  · rename_i hj
    rw [Shared.getD_append_left _ _ _ (by omega), getD_clearTo]
  · have := Shared.getD_append_right (d := []) (clearTo row col) strs (j - col)
    rw [hl, show col + (j - col) = j by omega] at this
    exact this

section csv
variable {α : Type} (g : Nat → α → List Bytes)

/-- the shape of the record part of `csvDataCols` and `csvSumCols`: every present cell pads the
record to the first field of its group and appends its strings `g e c` -/
def csvWrite : List Bytes → Nat → List (Option α) → List Bytes
  | row, _, [] => row
  | row, e, none :: rest => csvWrite row (e + 1) rest
  | row, e, some c :: rest => csvWrite (clearTo row (csvStartCol e) ++ g e c) (e + 1) rest

/-- what field `k` of the group of logical column `e` shows for the view's (optional) cell -/
def slotOf (oc : Option α) (e k : Nat) : Bytes :=
  match oc with
  | none => []
  | some c => (g e c).getD k []

variable {g}

/-- the record field by field, provided no cell has more strings than its group has fields:
earlier fields are never overwritten, fields skipped by `clearTo` are blank, and EVERY logical
column — cell present, absent, or beyond the end of the row — shows `slotOf` in its group -/
theorem csvWrite_getD (hg : ∀ e c, (g e c).length ≤ csvGroupWidth e) :
    ∀ (cells : List (Option α)) (row : List Bytes) (e : Nat), row.length ≤ csvStartCol e →
    (∀ j, j < row.length → (csvWrite g row e cells).getD j [] = row.getD j []) ∧
    (∀ j, row.length ≤ j → j < csvStartCol e → (csvWrite g row e cells).getD j [] = []) ∧
    ∀ i k, k < csvGroupWidth (e + i) →
      (csvWrite g row e cells).getD (csvStartCol (e + i) + k) [] = slotOf g (cells.getD i none) (e + i) k := by
  intro cells
  induction cells with
  | nil =>
    intro row e hlen
    refine ⟨fun _ _ => rfl, fun j hj _ => Shared.getD_of_length_le row j hj, fun i k _ => ?_⟩
    have := @csvStartCol_mono e (e + i) (Nat.le_add_right ..)
    exact Shared.getD_of_length_le row _ (by omega)
  | cons oc rest ih =>
    intro row e hlen
    have hsucc := csvStartCol_succ e
    cases oc with
    | none =>
      obtain ⟨h1, h2, h3⟩ := ih row (e + 1) (by omega)
      refine ⟨h1, fun j hj hje => h2 j hj (by omega), fun i k hk => ?_⟩
      cases i with
      | zero =>
        rw [Nat.add_zero] at hk ⊢
        exact h2 _ (by omega) (by omega)
      | succ i =>
        rw [show e + (i + 1) = e + 1 + i from Nat.add_right_comm e i 1] at hk ⊢
        exact h3 i k hk
    | some c =>
      have hgc := hg e c
      have hl : (clearTo row (csvStartCol e) ++ g e c).length = csvStartCol e + (g e c).length := by
        rw [List.length_append, clearTo_length row _ hlen]
      obtain ⟨h1, h2, h3⟩ := ih (clearTo row (csvStartCol e) ++ g e c) (e + 1) (by omega)
      have hrd := getD_clearTo_append row (g e c) (csvStartCol e)
      refine ⟨fun j hj => ?_, fun j hj hje => ?_, fun i k hk => ?_⟩
      · rw [csvWrite, h1 j (by omega), hrd j hlen, if_pos (by omega)]
      · rw [csvWrite, h1 j (by omega), hrd j hlen, if_pos hje]
        exact Shared.getD_of_length_le row j hj
      · cases i with
        | zero =>
          rw [Nat.add_zero] at hk ⊢
          rw [csvWrite, List.getD_cons_zero, slotOf]
          by_cases hk' : k < (g e c).length
          · rw [h1 _ (by omega), hrd _ hlen, if_neg (by omega), Nat.add_sub_cancel_left]
          · rw [h2 _ (by omega) (by omega), Shared.getD_of_length_le _ _ (by omega)]
        | succ i =>
          rw [show e + (i + 1) = e + 1 + i from Nat.add_right_comm e i 1] at hk ⊢
          exact h3 i k hk

end csv

/-- what a present cell contributes to the CSV record -/
def csvStrings (exp : Nat) (c : DataCell) : List Bytes :=
  [c.centerCsv, c.range] ++ match (if exp > 0 then c.delta else none) with
    | some d => [d.delta, d.p]
    | none => []

theorem csvStrings_length (exp : Nat) (c : DataCell) : (csvStrings exp c).length ≤ csvGroupWidth exp := by
  unfold csvStrings
  by_cases he : exp > 0
  · rw [if_pos he, csvGroupWidth_pos he]
    cases c.delta <;> simp
  · obtain rfl : exp = 0 := by omega
    exact Nat.le_refl 2

theorem csvStrings_delta {exp : Nat} {c : DataCell} {d : Delta} (he : exp > 0) (hd : c.delta = some d) :
    csvStrings exp c = [c.centerCsv, c.range, d.delta, d.p] := by
  unfold csvStrings
  rw [if_pos he, hd]; rfl

/-- what ToCSV appends for the summary of logical column `exp` once the record has been padded to
the column's first field: the geomean (or a blank that keeps the position), and for a
non-baseline column a blank CI field and the delta / "?" under "vs base" -/
def sumTail (exp : Nat) (s : SumCell) : List Bytes :=
  if exp > 0 then [if s.hasSummary then s.sumCsv else [], [], ratioStr s]
  else if s.hasSummary then [s.sumCsv] else []

theorem sumTail_length (exp : Nat) (s : SumCell) : (sumTail exp s).length ≤ csvGroupWidth exp := by
  unfold sumTail
  by_cases he : exp > 0
  · rw [if_pos he, csvGroupWidth_pos he]
    exact Nat.le_succ 3
  · have h0 : exp = 0 := by omega
    subst h0
    cases s.hasSummary <;> simp [csvGroupWidth]

theorem sumTail_getD (exp : Nat) (s : SumCell) :
    (sumTail exp s).getD 0 [] = (if s.hasSummary then s.sumCsv else []) ∧ (sumTail exp s).getD 1 [] = [] ∧
    (exp > 0 → (sumTail exp s).getD 2 [] = ratioStr s ∧ (sumTail exp s).getD 3 [] = []) := by
  unfold sumTail
  by_cases he : exp > 0
  · rw [if_pos he]; exact ⟨rfl, rfl, fun _ => ⟨rfl, rfl⟩⟩
  · rw [if_neg he]
    cases s.hasSummary <;> exact ⟨rfl, rfl, fun h => absurd h he⟩

end C16
