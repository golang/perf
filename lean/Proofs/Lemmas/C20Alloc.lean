/-
C20 helper lemmas: the invariant of concurrent id allocation (`Model/Storage/IdAlloc.lean`). It only
speaks of the committed rows, the pending keys and the returned ids as collections, so a step, which
replaces one transaction of the list, is followed up to permutation.
-/
import Model.Storage.IdAlloc
import Proofs.Lemmas.Shared.List
namespace C20
open Storage.Upload Storage.IdAlloc

/-- invariant of concurrent allocation, as a fact about the committed rows, the keys inserted by open
transactions and the ids returned (in any order) -/
structure Inv (rows0 rows pend ret : List UKey) : Prop where
  nodup : (rows ++ pend).Nodup
  ret_nodup : ret.Nodup
  ret_rows : ∀ k ∈ ret, k ∈ rows ∧ k ∉ rows0
  grow : ∀ k ∈ rows0, k ∈ rows

theorem Inv.perm {rows0 rows pend ret pend' ret' : List UKey} (h : Inv rows0 rows pend ret)
    (hp : pend.Perm pend') (hr : ret.Perm ret') : Inv rows0 rows pend' ret' :=
  ⟨((hp.append_left _).nodup_iff).mp h.nodup, hr.nodup_iff.mp h.ret_nodup, fun k hk => h.ret_rows k (hr.mem_iff.mpr hk),
    h.grow⟩

theorem Inv.insert {rows0 rows pend ret : List UKey} {k : UKey} (h : Inv rows0 rows pend ret)
    (h1 : k ∉ rows) (h2 : k ∉ pend) : Inv rows0 rows (k :: pend) ret :=
  ⟨(List.perm_middle.nodup_iff).mpr (List.nodup_cons.mpr ⟨fun hm => (List.mem_append.mp hm).elim h1 h2, h.nodup⟩),
    h.ret_nodup, h.ret_rows, h.grow⟩

theorem Inv.rollback {rows0 rows pend ret : List UKey} {k : UKey} (h : Inv rows0 rows (k :: pend) ret) :
    Inv rows0 rows pend ret :=
  ⟨(List.nodup_cons.mp ((List.perm_middle.nodup_iff).mp h.nodup)).2, h.ret_nodup, h.ret_rows, h.grow⟩

/-- commit: the pending key is no row yet, hence was none at the start and has not been returned -/
theorem Inv.commit {rows0 rows pend ret : List UKey} {k : UKey} (h : Inv rows0 rows (k :: pend) ret) :
    Inv rows0 (rows ++ [k]) pend (k :: ret) := by
  have hk : k ∉ rows := fun hr =>
    (List.nodup_cons.mp ((List.perm_middle.nodup_iff).mp h.nodup)).1 (List.mem_append_left _ hr)
  refine ⟨?_, List.nodup_cons.mpr ⟨fun hr => hk (h.ret_rows k hr).1, h.ret_nodup⟩,
    fun k' hk' => ?_, fun k' hk' => List.mem_append_left _ (h.grow k' hk')⟩
  · rw [List.append_assoc]
    exact h.nodup
  · rcases List.mem_cons.mp hk' with rfl | hk'
    · exact ⟨by simp, fun h0 => hk (h.grow _ h0)⟩
    · exact ⟨List.mem_append_left _ (h.ret_rows k' hk').1, (h.ret_rows k' hk').2⟩

abbrev AllocInv (rows0 : List UKey) (s : St) : Prop := Inv rows0 s.rows (pending s.txns) (returned s.txns)

theorem step_inv (rows0 : List UKey) (s : St) (i : Nat) (ok : Bool) (inv : AllocInv rows0 s) :
    AllocInv rows0 (step s i ok) := by
  unfold step
  cases hi : s.txns[i]? with
  | none => exact inv
  | some t =>
    -- how replacing transaction `i` by `t'` changes the pending and the returned keys
    have set : ∀ t', ∃ P R, Inv rows0 s.rows ((pendingOf t).toList ++ P) ((returnedOf t).toList ++ R) ∧
        (∀ k ∈ P, k ∈ pending s.txns) ∧ ∀ {rows}, Inv rows0 rows ((pendingOf t').toList ++ P) ((returnedOf t').toList ++ R) →
          Inv rows0 rows (pending (s.txns.set i t')) (returned (s.txns.set i t')) := by
      intro t'
      obtain ⟨P, hp, hp'⟩ := Shared.filterMap_set_perm pendingOf hi t'
      obtain ⟨R, hr, hr'⟩ := Shared.filterMap_set_perm returnedOf hi t'
      exact ⟨P, R, inv.perm hp hr, fun k hk => hp.mem_iff.mpr (List.mem_append_right _ hk),
        fun h => h.perm hp'.symm hr'.symm⟩
    obtain ⟨d, pc⟩ := t
    cases pc with
    | start =>
      obtain ⟨P, R, h, hP, back⟩ := set ⟨d, if ok then Pc.read (lastUpload s.rows) else Pc.failed⟩
      cases ok <;> exact back h
    | read last =>
      dsimp only
      split
      · obtain ⟨P, R, h, hP, back⟩ := set ⟨d, Pc.failed⟩
        exact back h
      · rename_i hc
        split
        · exact inv
        · rename_i hpend
          obtain ⟨P, R, h, hP, back⟩ := set ⟨d, Pc.inserted (nextKey d last)⟩
          simp only [Bool.or_eq_true, Bool.not_eq_true', decide_eq_true_eq, not_or] at hc
          exact back (h.insert hc.2 fun hk => hpend (hP _ hk))
    | inserted k =>
      dsimp only
      split
      · obtain ⟨P, R, h, hP, back⟩ := set ⟨d, Pc.committed k⟩
        exact back h.commit
      · obtain ⟨P, R, h, hP, back⟩ := set ⟨d, Pc.failed⟩
        exact back h.rollback
    | committed k => exact inv
    | failed => exact inv

theorem run_inv (rows0 : List UKey) (sched : List (Nat × Bool)) (s : St) (inv : AllocInv rows0 s) :
    AllocInv rows0 (run sched s) := by
  induction sched generalizing s with
  | nil => exact inv
  | cons a rest ih => exact ih _ (step_inv rows0 s a.1 a.2 inv)

theorem init_inv (rows0 : List UKey) (days : List Nat) (h : rows0.Nodup) : AllocInv rows0 (init rows0 days) := by
  have hp : pending (days.map fun d => (⟨d, Pc.start⟩ : Txn)) = [] :=
    List.filterMap_eq_nil_iff.mpr fun t ht => by obtain ⟨d, _, rfl⟩ := List.mem_map.mp ht; rfl
  have hr : returned (days.map fun d => (⟨d, Pc.start⟩ : Txn)) = [] :=
    List.filterMap_eq_nil_iff.mpr fun t ht => by obtain ⟨d, _, rfl⟩ := List.mem_map.mp ht; rfl
  unfold AllocInv init
  rw [hp, hr]
  exact ⟨by simpa using h, List.nodup_nil, nofun, fun k hk => hk⟩

end C20
