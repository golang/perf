/-
C18 helper: what `Builder.Add` accumulates (each test cell holds exactly the values of the numerator
measurements with its trial and hash, each baseline cell those of its trial's denominator
measurements, in insertion order), and the invariants of the reached state.
-/
import Proofs.Lemmas.C18AL
import Proofs.Lemmas.C18WF
import Proofs.Lemmas.Shared.FirstOcc
import Proofs.Lemmas.Shared.Sort
import Mathlib.Data.List.Induction

namespace C18
open Series

theorem build_snoc (o : Opts) (evs : List Ev) (e : Ev) : build o (evs ++ [e]) = add o (build o evs) e := by
  simp [build, List.foldl_append]

theorem isNum_not_isDen {o : Opts} {e : Ev} (h : e.isNum o = true) : e.isDen o = false := by
  simp only [Ev.isNum, Bool.and_eq_true, decide_eq_true_eq] at h
  simpa [Ev.isDen] using h.1

theorem add_eq (o : Opts) (b : Builder) (e : Ev) :
    add o b e =
      { trials := if e.trial ∈ b.trials then b.trials else b.trials ++ [e.trial],
        base := if e.isDen o then
            aset e.trial (match alookup e.trial b.base with
              | none => (e.dh, [e.val])
              | some (h, vs) => (h, vs ++ [e.val])) b.base
          else b.base,
        tests := if e.isNum o then
            aset (e.trial, e.nh) ((alookup (e.trial, e.nh) b.tests).getD [] ++ [e.val]) b.tests
          else b.tests,
        hto := if e.isNum o ∧ alookup (e.trial, e.nh) b.tests = none then aset e.nh e.ser b.hto else b.hto } := by
  unfold add
  by_cases hn : e.isNum o = true
  · cases hl : alookup (e.trial, e.nh) b.tests <;> simp [isNum_not_isDen hn, hn, hl]
  · by_cases hd : e.isDen o = true
    · cases hl : alookup e.trial b.base <;> simp [hd, hn, hl]
    · simp [hd, hn]

/-- is `e` a numerator measurement of the test cell `key`? -/
def hitsTest (o : Opts) (key : TrialKey × Bytes) (e : Ev) : Bool :=
  !e.isDen o && e.isNum o && decide (key = (e.trial, e.nh))

theorem hitsTest_iff (o : Opts) (key : TrialKey × Bytes) (e : Ev) :
    hitsTest o key e = true ↔ e.isNum o = true ∧ key = (e.trial, e.nh) := by
  unfold hitsTest
  constructor
  · intro h
    simp only [Bool.and_eq_true, decide_eq_true_eq] at h
    exact ⟨h.1.2, h.2⟩
  · rintro ⟨h1, h2⟩
    simp [isNum_not_isDen h1, h1, h2]

theorem add_tests (o : Opts) (b : Builder) (e : Ev) (key : TrialKey × Bytes) :
    alookup key (add o b e).tests =
      if hitsTest o key e then some ((alookup key b.tests).getD [] ++ [e.val]) else alookup key b.tests := by
  rw [add_eq]
  by_cases hn : e.isNum o = true
  · by_cases hk : key = (e.trial, e.nh) <;> simp [hitsTest, hn, isNum_not_isDen hn, hk, alookup_aset]
  · simp [hitsTest, hn]

theorem tests_exact (o : Opts) (evs : List Ev) (key : TrialKey × Bytes) :
    alookup key (build o evs).tests =
      (match evs.filter (hitsTest o key) with
       | [] => none
       | l => some (l.map (·.val))) := by
  induction evs using List.reverseRecOn with
  | nil => simp [build, alookup]
  | append_singleton evs e ih =>
    rw [build_snoc, add_tests, ih, List.filter_append]
    by_cases hh : hitsTest o key e = true
    · cases evs.filter (hitsTest o key) <;> simp [hh]
    · simp [hh]

theorem add_base (o : Opts) (b : Builder) (e : Ev) (k : TrialKey) :
    alookup k (add o b e).base =
      if e.isDen o && decide (e.trial = k) then
        (match alookup k b.base with
         | none => some (e.dh, [e.val])
         | some (h, vs) => some (h, vs ++ [e.val]))
      else alookup k b.base := by
  rw [add_eq]
  by_cases hd : e.isDen o = true
  · by_cases hk : k = e.trial
    · subst hk; cases alookup e.trial b.base <;> simp [hd, alookup_aset]
    · have hk' : ¬ e.trial = k := fun h => hk h.symm
      simp [hd, hk, hk', alookup_aset]
  · simp [hd]

theorem base_exact (o : Opts) (evs : List Ev) (k : TrialKey) :
    alookup k (build o evs).base = Spec.Series.trialBase o evs k := by
  induction evs using List.reverseRecOn with
  | nil => simp [build, alookup, Spec.Series.trialBase]
  | append_singleton evs e ih =>
    rw [build_snoc, add_base, ih, Spec.Series.trialBase, Spec.Series.trialBase, List.filter_append]
    by_cases hh : (e.isDen o && decide (e.trial = k)) = true
    · cases evs.filter (fun e => e.isDen o && decide (e.trial = k)) <;> simp [hh]
    · simp [hh]

theorem sortBits_perm {l1 l2 : List Bits} (h : l1.Perm l2) : sortBits l1 = sortBits l2 :=
  List.mergeSort_eq_of_perm (le := fun a b : Bits => decide (a.toNat ≤ b.toNat))
    (fun a b c h1 h2 => decide_eq_true (Nat.le_trans (of_decide_eq_true h1) (of_decide_eq_true h2)))
    (fun a b => by rw [Bool.or_eq_true, decide_eq_true_eq, decide_eq_true_eq]; exact Nat.le_total _ _) h
    fun a _ b _ h1 h2 => UInt64.toNat_inj.mp (Nat.le_antisymm (of_decide_eq_true h1) (of_decide_eq_true h2))

theorem tests_perm (o : Opts) {evs1 evs2 : List Ev} (hp : evs1.Perm evs2) (key : TrialKey × Bytes) :
    (alookup key (build o evs1).tests).map sortBits = (alookup key (build o evs2).tests).map sortBits := by
  rw [tests_exact, tests_exact]
  have p := hp.filter (hitsTest o key)
  rcases perm_nil_or_cons p with ⟨e1, e2⟩ | ⟨x, xs, y, ys, e1, e2⟩
  · rw [e1, e2]
  · rw [e1, e2] at p ⊢
    exact congrArg some (sortBits_perm (p.map _))

theorem trialBase_perm (o : Opts) {evs1 evs2 : List Ev} (hp : evs1.Perm evs2) (k : TrialKey) :
    (Spec.Series.trialBase o evs1 k).map (fun b => sortBits b.2) =
      (Spec.Series.trialBase o evs2 k).map (fun b => sortBits b.2) ∧
    ((∀ x ∈ evs1, ∀ y ∈ evs1, x.isDen o = true → y.isDen o = true → x.trial = y.trial → x.dh = y.dh) →
      Spec.Series.bhash o evs1 k = Spec.Series.bhash o evs2 k) := by
  unfold Spec.Series.bhash Spec.Series.trialBase
  have p := hp.filter (fun e => e.isDen o && decide (e.trial = k))
  rcases perm_nil_or_cons p with ⟨e1, e2⟩ | ⟨x, xs, y, ys, e1, e2⟩
  · rw [e1, e2]; exact ⟨rfl, fun _ => rfl⟩
  · refine ⟨by rw [e1, e2] at p ⊢; exact congrArg some (sortBits_perm (p.map _)), fun w2 => ?_⟩
    -- the two first baseline results are both baseline results of `k` in `evs1`
    have mem : ∀ z, z ∈ evs1.filter (fun e => e.isDen o && decide (e.trial = k)) →
        z ∈ evs1 ∧ z.isDen o = true ∧ z.trial = k := fun z hz => by
      simpa [List.mem_filter, and_assoc] using hz
    obtain ⟨hx, dx, tx⟩ := mem x (e1 ▸ List.mem_cons_self ..)
    obtain ⟨hy, dy, ty⟩ := mem y (p.mem_iff.mpr (e2 ▸ List.mem_cons_self ..))
    simp [e1, e2, w2 x hx y hy dx dy (tx.trans ty.symm)]

theorem build_trials (o : Opts) (evs : List Ev) :
    (build o evs).trials = (evs.map (·.trial)).foldl FirstOcc.add [] := by
  have : ∀ b : Builder, (evs.foldl (add o) b).trials = (evs.map (·.trial)).foldl FirstOcc.add b.trials := by
    induction evs with
    | nil => exact fun _ => rfl
    | cons e evs ih => intro b; rw [List.foldl_cons, ih, add_eq]; rfl
  exact this {}

theorem trials_mem (o : Opts) (evs : List Ev) (k : TrialKey) :
    k ∈ (build o evs).trials ↔ ∃ e ∈ evs, e.trial = k := by
  rw [build_trials, FirstOcc.mem_foldl_add, List.mem_map]
  exact or_iff_right List.not_mem_nil

theorem trials_nodup (o : Opts) (evs : List Ev) : (build o evs).trials.Nodup := by
  rw [build_trials]
  exact FirstOcc.nodup_foldl_add _ List.nodup_nil

theorem add_tests_keys_nodup (o : Opts) (b : Builder) (e : Ev) (h : (b.tests.map Prod.fst).Nodup) :
    ((add o b e).tests.map Prod.fst).Nodup := by
  rw [add_eq]
  dsimp only
  split
  · exact aset_keys_nodup _ _ h
  · exact h

theorem tests_keys_nodup (o : Opts) (evs : List Ev) : ((build o evs).tests.map Prod.fst).Nodup := by
  induction evs using List.reverseRecOn with
  | nil => simp [build]
  | append_singleton evs e ih => rw [build_snoc]; exact add_tests_keys_nodup o _ e ih

theorem mem_tests_iff (o : Opts) (evs : List Ev) (x : (TrialKey × Bytes) × List Bits) :
    x ∈ (build o evs).tests ↔ alookup x.1 (build o evs).tests = some x.2 :=
  ⟨fun h => alookup_of_mem (k := x.1) (v := x.2) h (tests_keys_nodup o evs), fun h => mem_of_alookup h⟩

theorem test_present_iff (o : Opts) (evs : List Ev) (key : TrialKey × Bytes) :
    (alookup key (build o evs).tests).isSome = true ↔ ∃ e ∈ evs, e.isNum o = true ∧ key = (e.trial, e.nh) := by
  have : (alookup key (build o evs).tests).isSome = true ↔ evs.filter (hitsTest o key) ≠ [] := by
    rw [tests_exact]
    cases evs.filter (hitsTest o key) <;> simp
  simp only [this, ne_eq, List.filter_eq_nil_iff, hitsTest_iff, not_forall, not_not, exists_prop]

theorem add_hto (o : Opts) (b : Builder) (e : Ev) (h : Bytes) :
    alookup h (add o b e).hto =
      if e.isNum o = true ∧ alookup (e.trial, e.nh) b.tests = none ∧ h = e.nh then some e.ser else alookup h b.hto := by
  rw [add_eq]
  dsimp only
  split
  · rename_i hc; simp [hc, alookup_aset]
  · rename_i hc; simp only [← and_assoc, hc, false_and, if_false]

theorem hto_of_present (o : Opts) (evs : List Ev) (key : TrialKey × Bytes)
    (hp : (alookup key (build o evs).tests).isSome = true) :
    ∃ e ∈ evs, e.isNum o = true ∧ e.nh = key.2 ∧ alookup key.2 (build o evs).hto = some e.ser := by
  induction evs using List.reverseRecOn with
  | nil => simp [build, alookup] at hp
  | append_singleton evs e ih =>
    rw [build_snoc, add_tests] at hp
    rw [build_snoc, add_hto]
    split
    · rename_i hc
      exact ⟨e, by simp, hc.1, hc.2.2.symm, rfl⟩
    · rename_i hc
      -- `e` writes no stamp for this hash, so the cell is older than `e`
      have hold : (alookup key (build o evs).tests).isSome = true := by
        by_cases hh : hitsTest o key e = true
        · obtain ⟨hn, rfl⟩ := (hitsTest_iff o key e).mp hh
          cases hl : alookup (e.trial, e.nh) (build o evs).tests with
          | none => exact absurd ⟨hn, hl, rfl⟩ hc
          | some _ => rfl
        · simpa [hh] using hp
      obtain ⟨x, hx, h'⟩ := ih hold
      exact ⟨x, by simp [hx], h'⟩

theorem hto_norm (env : Env) (o : Opts) (evs : List Ev) (w1 : W1p env o evs) (e : Ev) (he : e ∈ evs) (hn : e.isNum o = true) :
    env.norm ((alookup e.nh (build o evs).hto).getD []) = env.norm e.ser := by
  obtain ⟨e', he', hn', hh, hs⟩ := hto_of_present o evs (e.trial, e.nh) ((test_present_iff o evs _).mpr ⟨e, he, hn, rfl⟩)
  rw [hs]
  exact w1 e' he' e he hn' hn hh

end C18
