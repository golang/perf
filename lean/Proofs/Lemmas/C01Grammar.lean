/-
C01 on the declarative line grammar of `Spec.Format`: what `tokenOK` and `keyOK` say about the runes of
a field or key, and what the grammar makes of fields printed with single blanks and of a key followed
by a colon. Rests on C02Grammar (the scanning loops compute the grammar) and on one fact about runes:
they never reach across a byte that is not a continuation byte (`runes_append`).
-/
import Model.Fmt.Writer
import Model.Spec.RoundTrip
import Proofs.Lemmas.C02Grammar

namespace Fmt

theorem asciiSpace_high (b : UInt8) (h : 33 ≤ b.toNat) : asciiSpace b = false := by
  unfold asciiSpace asciiSpaceMask
  have : 0x100003E00 >>> b.toNat = 0 := by
    rw [Nat.shiftRight_eq_div_pow]
    apply Nat.div_eq_of_lt
    calc 0x100003E00 < 2 ^ 33 := by decide
      _ ≤ 2 ^ b.toNat := Nat.pow_le_pow_right (by decide) h
  simp [this]

theorem asciiSpace_of_not_ascii {b : UInt8} (h : ¬ b < 0x80) : asciiSpace b = false := by
  apply asciiSpace_high
  rw [UInt8.lt_iff_toNat_lt] at h
  have : (0x80 : UInt8).toNat = 128 := rfl
  omega

theorem asciiSpace_of_cont {b : UInt8} (h : isCont b = true) : asciiSpace b = false :=
  asciiSpace_of_not_ascii fun hb => by rw [isCont_ascii hb] at h; cases h

end Fmt

namespace Spec.Format
open Fmt Spec.RoundTrip

theorem runes_append (d : UInt8) (hd : isCont d = false) (xs rest : Bytes) :
    runes (xs ++ d :: rest) = runes xs ++ runes (d :: rest) := by
  rw [runes_eq, runes_eq, runes_eq]
  exact Shared.R_append_ok xs (d :: rest) (Shared.okTail_cons rest fun hc => by
    rw [(Shared.fmt_isCont d).2 hc] at hd; cases hd)

theorem runes_ascii (d : UInt8) (hd : d < 0x80) (rest : Bytes) :
    runes (d :: rest) = (d.toNat, [d]) :: runes rest := by
  unfold runes
  rw [runesFrom_zero_cons, decodeRune_ascii d rest hd]
  rfl

theorem runes_append_ascii (d : UInt8) (hd : d < 0x80) (xs rest : Bytes) :
    runes (xs ++ d :: rest) = runes xs ++ (d.toNat, [d]) :: runes rest := by
  rw [runes_append d (isCont_ascii hd), runes_ascii d hd]

theorem runes_nil : runes [] = [] := rfl

theorem runes_ne_nil {t : Bytes} (h : t ≠ []) : runes t ≠ [] := fun e => h (by rw [← enc_runes t, e]; rfl)

theorem rune_noAsciiSpace (uc : UC) : ∀ (x : Bytes) (k : Nat), ∀ r ∈ runesFrom k x, isSp uc r = false →
    ∀ b ∈ r.2, asciiSpace b = false := by
  intro x
  induction x with
  | nil => intro k r hr; simp [runesFrom] at hr
  | cons c x ih =>
    intro k r hr hs b hb
    cases k with
    | succ k => exact ih k r hr hs b hb
    | zero =>
      rw [runesFrom_zero_cons] at hr
      rcases List.mem_cons.1 hr with rfl | hr
      · by_cases hc : c < 0x80
        · rw [decodeRune_ascii c x hc] at hs hb
          rw [List.mem_singleton.1 hb, asciiSpace_eq uc c hc]
          exact hs
        · have hcont := decodeRune_tail c x
          have hpos := decodeRune_width_pos c x
          generalize (decodeRune (c :: x)).2 = w at hb hcont hpos
          obtain ⟨m, rfl⟩ : ∃ m, w = m + 1 := ⟨w - 1, by omega⟩
          rw [List.take_succ_cons] at hb
          rcases List.mem_cons.1 hb with rfl | hb
          · exact asciiSpace_of_not_ascii hc
          · exact asciiSpace_of_cont (hcont b hb)
      · exact ih _ r hr hs b hb

theorem noAsciiSpace_of_runes {uc : UC} {t : Bytes} (h : ∀ r ∈ runes t, isSp uc r = false) :
    noAsciiSpace t = true := by
  simp only [noAsciiSpace, List.all_eq_true, Bool.not_eq_true']
  intro b hb
  rw [← enc_runes t] at hb
  obtain ⟨r, hr, hbr⟩ := List.mem_flatMap.1 hb
  exact rune_noAsciiSpace uc t 0 r hr (h r hr) b hbr

/-- If nothing (in bytes) follows the first element of `l ++ [s]` that fails `p`, the scan stopped at
the sentinel `s` or ran off the end: all of `l` passes `p`. -/
theorem all_of_sentinel (p : RuneB → Bool) (s : RuneB) (hs : s.2 ≠ []) :
    ∀ l : List RuneB, enc ((l ++ [s]).dropWhile p).tail = [] → ∀ r ∈ l, p r = true := by
  intro l
  induction l with
  | nil => intro _ r hr; cases hr
  | cons a l ih =>
    intro h r hr
    by_cases ha : p a = true
    · rw [List.cons_append, List.dropWhile_cons_of_pos ha] at h
      rcases List.mem_cons.1 hr with rfl | hr
      · exact ha
      · exact ih h r hr
    · rw [List.cons_append, List.dropWhile_cons_of_neg ha] at h
      simp only [List.tail_cons, enc, List.flatMap_append, List.flatMap_cons, List.flatMap_nil, List.append_nil,
        List.append_eq_nil_iff] at h
      exact absurd h.2 hs

theorem scan_sentinel {α : Type} (p : α → Bool) (s : α) (m : List α) (hs : p s = false) :
    ∀ l : List α, (∀ r ∈ l, p r = true) →
      (l ++ s :: m).takeWhile p = l ∧ (l ++ s :: m).dropWhile p = s :: m := fun l hl =>
  have hn : ¬ p s = true := by rw [hs]; nofun
  ⟨by rw [List.takeWhile_append_of_pos hl, List.takeWhile_cons_of_neg hn, List.append_nil],
   by rw [List.dropWhile_append_of_pos hl, List.dropWhile_cons_of_neg hn]⟩

theorem isSp_sp32 (uc : UC) : isSp uc ((32 : UInt8).toNat, [32]) = true := by simp [isSp, UC.space]

theorem tokenOK_iff {uc : UC} {t : Bytes} : tokenOK uc t = true ↔ ∀ r ∈ runes t, isSp uc r = false := by
  have hrs : runes (t ++ [32]) = runes t ++ [((32 : UInt8).toNat, [32])] := runes_append_ascii 32 (by decide) t []
  have htf := takeField_spec uc (t ++ [32]) 0
  rw [List.take_zero, List.nil_append] at htf
  change takeField uc 0 (t ++ [32]) = (enc ((runes (t ++ [32])).takeWhile _), enc (afterSp uc (runes (t ++ [32])))) at htf
  rw [hrs] at htf
  constructor
  · intro h r hr
    simp only [tokenOK, Bool.and_eq_true, beq_iff_eq] at h
    have h2 : enc (afterSp uc (runes t ++ [((32 : UInt8).toNat, [32])])) = [] :=
      (congrArg Prod.snd htf).symm.trans (congrArg Prod.snd h.2)
    rw [afterSp_eq_tail] at h2
    simpa using all_of_sentinel (fun r => !isSp uc r) _ (by simp) _ h2 r hr
  · intro h
    obtain ⟨h1, h2⟩ := scan_sentinel (fun r => !isSp uc r) ((32 : UInt8).toNat, [32]) []
      (by rw [isSp_sp32]; rfl) (runes t) (by simpa using h)
    simp only [tokenOK, Bool.and_eq_true, beq_iff_eq]
    refine ⟨noAsciiSpace_of_runes h, ?_⟩
    rw [htf, afterSp, h1, h2, enc_runes]
    rfl

theorem splitField_tokenOK (uc : UC) (x : Bytes) : tokenOK uc (splitField uc x).1 = true := by
  rw [splitField_spec, tokenOK_iff,
    (runes_split (List.takeWhile_append_dropWhile (p := fun r => !isSp uc r) (l := runes x)).symm).1]
  intro r hr
  simpa using List.all_eq_true.1 List.all_takeWhile r hr

/-- the runes of a key the key/value rule accepts: the first a lower-case letter, none white space,
upper case or the colon -/
def KeyRunes (uc : UC) (l : List RuneB) : Prop :=
  (∃ r rs, l = r :: rs ∧ uc.lower r.1 = true) ∧
    ∀ q ∈ l, (!uc.space q.1 && !uc.upper q.1) = true ∧ isColon q = false

theorem kvD_key {uc : UC} {l : List RuneB} (h : KeyRunes uc l) (v : List RuneB) :
    kvD uc (l ++ ((58 : UInt8).toNat, [58]) :: v) = .found (enc l) (enc v) := by
  obtain ⟨h1, h2⟩ := scan_sentinel (fun r => !isColon r) ((58 : UInt8).toNat, [58]) v rfl l
    (fun q hq => by simp [(h.2 q hq).2])
  unfold kvD
  rw [h1, h2, if_pos (List.all_eq_true.2 fun q hq => (h.2 q hq).1)]

theorem keyOK_iff {uc : UC} {k : Bytes} : keyOK uc k = true ↔ KeyRunes uc (runes k) := by
  have hscan := kvScan_runes uc (k ++ [58])
  rw [runes_append_ascii 58 (by decide) k [], runes_nil] at hscan
  simp only [keyOK, Bool.and_eq_true, beq_iff_eq]
  constructor
  · rintro ⟨_, h⟩
    rw [hscan] at h
    cases hr : runes k with
    | nil => rw [hr] at h; simp [lower58] at h
    | cons r rs =>
      rw [hr, List.cons_append] at h
      simp only at h
      by_cases hl : uc.lower r.1 = true
      · rw [if_pos hl] at h
        unfold kvD at h
        split at h
        · rename_i hall
          split at h
          · cases h
          · rename_i c v hd
            obtain ⟨hk, hv⟩ := KVScan.found.inj h
            -- nothing follows the colon found: it is the one appended, the key holds none
            have hcol := all_of_sentinel (fun q => !isColon q) ((58 : UInt8).toNat, [58]) (by simp) (r :: rs)
              (by rw [List.cons_append, hd]; exact hv)
            obtain ⟨h1, _⟩ := scan_sentinel (fun q => !isColon q) ((58 : UInt8).toNat, [58]) [] rfl (r :: rs) hcol
            rw [← List.cons_append, h1] at hall
            exact ⟨⟨r, rs, rfl, hl⟩, fun q hq => ⟨List.all_eq_true.1 hall q hq, by simpa using hcol q hq⟩⟩
        · cases h
      · rw [if_neg hl] at h; cases h
  · intro h
    refine ⟨noAsciiSpace_of_runes (uc := uc) fun q hq => ?_, ?_⟩
    · have := (h.2 q hq).1
      simp only [Bool.and_eq_true, Bool.not_eq_true'] at this
      exact this.1
    · obtain ⟨r, rs, hr, hl⟩ := h.1
      rw [hscan, hr]
      simp only [List.cons_append, hl, if_true]
      rw [← List.cons_append, ← hr, kvD_key h [], enc_runes]
      rfl

theorem kvLine_key {uc : UC} {k : Bytes} (hk : keyOK uc k = true) (more : Bytes) :
    kvLine uc (k ++ 58 :: more) =
      match more with
      | [] => some (k, [])
      | c :: v => if isBlankByte c then some (k, (c :: v).dropWhile isBlankByte) else none := by
  have h := keyOK_iff.1 hk
  obtain ⟨h1, h2⟩ := scan_sentinel (fun r => !isColon r) ((58 : UInt8).toNat, [58]) (runes more) rfl (runes k)
    (fun q hq => by simp [(h.2 q hq).2])
  obtain ⟨⟨r, rs, hr, hl⟩, hall⟩ := h
  unfold kvLine
  simp only [runes_append_ascii 58 (by decide) k more, h1, h2, enc_runes]
  rw [hr] at hall ⊢
  simp only [hl, Bool.true_and, List.all_eq_true.2 fun q hq => (hall q hq).1, if_true]
  cases more <;> rfl

theorem kvLine_conv {uc : UC} {line k v : Bytes} (h : kvLine uc line = some (k, v)) :
    keyOK uc k = true ∧ (∀ b ∈ v, b ∈ line) ∧ (v.head?.map isBlankByte).getD false = false := by
  have hcat := List.takeWhile_append_dropWhile (p := fun r => !isColon r) (l := runes line)
  have hnc := List.all_eq_true.1 (List.all_takeWhile (l := runes line) (p := fun r => !isColon r))
  unfold kvLine at h
  simp only at h
  generalize (runes line).takeWhile (fun r => !isColon r) = key at h hcat hnc
  split at h
  · cases h
  · rename_i c after hd
    rw [hd] at hcat
    have hkey : ∀ k0 ks, key = k0 :: ks → (uc.lower k0.1 && key.all fun r => !uc.space r.1 && !uc.upper r.1) = true →
        keyOK uc (enc key) = true := by
      intro k0 ks hk0 hc
      rw [keyOK_iff, (runes_split hcat.symm).1]
      simp only [Bool.and_eq_true] at hc
      exact ⟨⟨k0, ks, hk0, hc.1⟩, fun q hq => ⟨List.all_eq_true.1 hc.2 q hq, by simpa using hnc q hq⟩⟩
    have hsub : ∀ b ∈ enc after, b ∈ line := by
      intro b hb
      rw [← enc_runes line, ← hcat]
      simp only [enc, List.flatMap_append, List.flatMap_cons, List.mem_append]
      exact Or.inr (Or.inr hb)
    split at h
    · cases h
    · rename_i k0 ks
      split at h
      · rename_i hc
        split at h
        · obtain ⟨rfl, rfl⟩ := Prod.mk.inj (Option.some.inj h)
          exact ⟨hkey k0 ks rfl hc, nofun, rfl⟩
        · rename_i b bs hv
          split at h
          · obtain ⟨rfl, rfl⟩ := Prod.mk.inj (Option.some.inj h)
            refine ⟨hkey k0 ks rfl hc, fun x hx => hsub x (hv ▸ (List.dropWhile_sublist _).subset hx), ?_⟩
            have := List.head?_dropWhile_not isBlankByte (b :: bs)
            cases hh : ((b :: bs).dropWhile isBlankByte).head? with
            | none => rfl
            | some y => rw [hh] at this; simpa using this
          · cases h
      · cases h

theorem splitAtSep_append (sp : RuneB → Bool) (s : RuneB) (b : List RuneB) (hs : sp s = true) :
    ∀ a : List RuneB, (∀ r ∈ a, sp r = false) → splitAtSep sp (a ++ s :: b) = a :: splitAtSep sp b := by
  intro a
  induction a with
  | nil => intro _; simp [splitAtSep, hs]
  | cons r a ih =>
    intro ha
    simp [splitAtSep, ha r List.mem_cons_self, ih (fun x hx => ha x (List.mem_cons_of_mem _ hx))]

theorem splitAtSep_nosep (sp : RuneB → Bool) :
    ∀ a : List RuneB, (∀ r ∈ a, sp r = false) → splitAtSep sp a = [a] := by
  intro a
  induction a with
  | nil => intro _; rfl
  | cons r a ih =>
    intro ha
    simp [splitAtSep, ha r List.mem_cons_self, ih (fun x hx => ha x (List.mem_cons_of_mem _ hx))]

/-- fields separated by one blank each -/
def joinSp : List Bytes → Bytes
  | [] => []
  | [t] => t
  | t :: t2 :: ts => t ++ 32 :: joinSp (t2 :: ts)

theorem pieces_joinSp (uc : UC) : ∀ (ts : List Bytes), ts ≠ [] → (∀ t ∈ ts, tokenOK uc t = true) →
    splitAtSep (isSp uc) (runes (joinSp ts)) = ts.map runes := by
  intro ts
  induction ts with
  | nil => intro h; exact absurd rfl h
  | cons t ts ih =>
    intro _ hok
    have ht := tokenOK_iff.1 (hok t List.mem_cons_self)
    cases ts with
    | nil => exact splitAtSep_nosep _ _ ht
    | cons t2 ts =>
      rw [joinSp, runes_append_ascii 32 (by decide), splitAtSep_append _ _ _ (isSp_sp32 uc) _ ht,
        ih (List.cons_ne_nil _ _) (fun t' h' => hok t' (List.mem_cons_of_mem _ h'))]
      rfl

theorem firstAndFields_join (uc : UC) (name : Bytes) (ts : List Bytes) (hname : tokenOK uc name = true)
    (hts : ∀ t ∈ ts, t ≠ [] ∧ tokenOK uc t = true) :
    firstAndFields uc (name ++ 32 :: joinSp ts) = (name, true, ts) := by
  have hn := tokenOK_iff.1 hname
  have hmap : ∀ l : List Bytes, (∀ t ∈ l, t ≠ []) →
      ((l.map runes).filter (fun p => !p.isEmpty)).map enc = l := by
    intro l
    induction l with
    | nil => intro _; rfl
    | cons t l ih =>
      intro h
      have hne : (runes t).isEmpty = false := by
        cases hr : runes t with
        | nil => exact absurd hr (runes_ne_nil (h t List.mem_cons_self))
        | cons _ _ => rfl
      simp only [List.map_cons, List.filter_cons, hne, Bool.not_false, ↓reduceIte, enc_runes,
        ih (fun t' h' => h t' (List.mem_cons_of_mem _ h'))]
  unfold firstAndFields
  rw [runes_append_ascii 32 (by decide), splitAtSep_append _ _ _ (isSp_sp32 uc) _ hn]
  cases ts with
  | nil => simp [joinSp, runes_nil, splitAtSep, enc_runes]
  | cons t ts =>
    rw [pieces_joinSp uc _ (List.cons_ne_nil _ _) (fun t' h' => (hts t' h').2)]
    simp only [enc_runes, List.map_cons, List.isEmpty_cons, Bool.not_false]
    rw [← List.map_cons, hmap _ (fun t' h' => (hts t' h').1)]

end Spec.Format
