/-
C20 helper lemmas: the file-store side of a successful upload (files part of success_complete): in whatever
state the request started, every file part is in the store under its name, once, and the stored header is
the sorted one.
-/
import Proofs.Lemmas.C20Base
namespace C20
open Storage.Upload

/-- what a successful upload of these parts must leave in the store -/
def expectedFiles (env : Env) (k : UKey) : List Part → Nat → List (Path × Bytes)
  | [], _ => []
  | Part.field _ :: ps, i => expectedFiles env k ps (i + 1)
  | Part.file fname content _ _ :: ps, i => (⟨k, i⟩, fileBytes env k i fname content) :: expectedFiles env k ps (i + 1)

theorem expectedFiles_part (env : Env) (k : UKey) (ps : List Part) (i : Nat) :
    ∀ x ∈ expectedFiles env k ps i, x.1.up = k ∧ i ≤ x.1.part := by
  induction ps generalizing i with
  | nil => nofun
  | cons p ps ih =>
    have later : ∀ x ∈ expectedFiles env k ps (i + 1), x.1.up = k ∧ i ≤ x.1.part :=
      fun x hx => ⟨(ih _ x hx).1, Nat.le_of_succ_le (ih _ x hx).2⟩
    cases p with
    | field name => exact later
    | file fname content cut chunks => exact List.forall_mem_cons.mpr ⟨⟨rfl, Nat.le_refl i⟩, later⟩

theorem Parts.files {env : Env} {f : Option Fault} {ps : List Part} {i : Nat} {r r' : Run} {e : Option Err}
    (h : Parts env f ps i r r' e) (he : e = none) {t' : Tx} (ht' : r'.tx = some t') :
    (∀ p : Path, ¬ (p.up = t'.id ∧ i ≤ p.part) →
      r'.fs.filter (fun e => e.1 == p) = r.fs.filter (fun e => e.1 == p)) ∧
    (∀ x ∈ expectedFiles env t'.id ps i, r'.fs.filter (fun e => e.1 == x.1) = [x]) ∧
    r'.fileids = r.fileids ++ (expectedFiles env t'.id ps i).map Prod.fst := by
  induction h with
  | nil => exact ⟨fun _ _ => rfl, nofun, by simp [expectedFiles]⟩
  | field | noId | fileErr => cases he
  | commit _ _ ih =>
    obtain ⟨h1, h2⟩ := ih he ht'
    exact ⟨fun p hp => h1 p fun h => hp ⟨h.1, by omega⟩, h2⟩
  | @fileOk fname content _ _ ps i r r1 _ r' t t2 _ hs hf hrest ih =>
    obtain ⟨h1, h2, h3⟩ := ih he ht'
    have hfs := hs.run
    cases hf with
    | stored _ ext _ _ =>
      -- the loop keeps the id of the transaction it runs in
      have hid : t'.id = t.id := by
        obtain ⟨t'', e1, e2, _⟩ := hrest.step.cont t2 rfl
        rw [ht'] at e1
        exact Option.some.inj e1 ▸ e2.trans ext.id
      rw [hid] at h1 h2 h3
      rw [← hfs.1, ← hfs.2.2, expectedFiles, hid]
      -- the later parts leave the name of this one alone, and Close has left it there once
      refine ⟨fun p hp => ?_, List.forall_mem_cons.mpr ⟨?_, h2⟩, by simpa using h3⟩
      · exact (h1 p fun h => hp ⟨h.1, by omega⟩).trans (filter_put_ne _ _ fun hpe => hp (hpe ▸ ⟨rfl, Nat.le_refl i⟩))
      · exact (h1 ⟨t.id, i⟩ fun h => Nat.not_succ_le_self i h.2).trans (filter_put_self ..)

theorem success_files (env : Env) (req : Req) (s : Sys) (k : UKey) (fids : List Path)
    (h : (processUpload env req s).resp = .ok (k, fids)) :
    (∀ x ∈ expectedFiles env k req.parts 0,
      (processUpload env req s).sys.fs.filter (fun e => e.1 == x.1) = [x]) ∧
    fids = (expectedFiles env k req.parts 0).map Prod.fst := by
  have hend := processUpload_end env req s
  generalize processUpload env req s = o at h hend ⊢
  cases hend with
  | rejected | aborted => cases h
  | committed hp _ htx =>
    cases h
    obtain ⟨_, h3, h4⟩ := hp.files rfl htx
    exact ⟨h3, by simpa using h4⟩

def kBy : Bytes := Bytes.ofString "by"
def kUp : Bytes := Bytes.ofString "upload"
def kFile : Bytes := Bytes.ofString "upload-file"
def kPart : Bytes := Bytes.ofString "upload-part"
def kTime : Bytes := Bytes.ofString "upload-time"

/-- `sort.Strings` on the keys of the metadata map (the values play no part): `by`, `upload`,
`upload-file`, `upload-part`, `upload-time` -/
theorem sort_meta (vu vp vt vf vb : Bytes) (nofile nouser : Bool) :
    sortLabels ([(kUp, vu), (kPart, vp), (kTime, vt)] ++ (if nofile then [] else [(kFile, vf)]) ++
      (if nouser then [] else [(kBy, vb)])) =
    (if nouser then [] else [(kBy, vb)]) ++ [(kUp, vu)] ++ (if nofile then [] else [(kFile, vf)]) ++
      [(kPart, vp), (kTime, vt)] := by
  -- with the keys as literals the insertion sort reduces by itself
  have e1 : kBy = [98, 121] := by decide +kernel
  have e2 : kUp = [117, 112, 108, 111, 97, 100] := by decide +kernel
  have e3 : kFile = [117, 112, 108, 111, 97, 100, 45, 102, 105, 108, 101] := by decide +kernel
  have e4 : kPart = [117, 112, 108, 111, 97, 100, 45, 112, 97, 114, 116] := by decide +kernel
  have e5 : kTime = [117, 112, 108, 111, 97, 100, 45, 116, 105, 109, 101] := by decide +kernel
  rw [e1, e2, e3, e4, e5]
  cases nofile <;> cases nouser <;> rfl

theorem header_sorted (env : Env) (k : UKey) (i : Nat) (fname : Bytes) :
    sortLabels (mkMeta env k i fname) =
      (if env.user.isEmpty then [] else [(kBy, env.user)]) ++ [(kUp, renderId k)] ++
      (if fname.isEmpty then [] else [(kFile, fname)]) ++ [(kPart, partId k i), (kTime, env.time)] :=
  sort_meta ..
end C20
