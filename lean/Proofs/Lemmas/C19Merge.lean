/-
C19 helper lemmas: `part.merge` computes the conjunction of two parts on the same key.
Proved for an arbitrary linear order with a least element (the empty string), then used with the
bytewise order.
-/
import Model.Storage.Query
import Mathlib.Tactic.Order

namespace C19
open Storage.Query

theorem ite_part {V : Type} (c : Prop) [Decidable c] (k : Bytes) (o : Op) (x y x' y' : V) :
    (if c then (⟨k, o, x, y⟩ : PartG V) else ⟨k, o, x', y'⟩) =
      ⟨k, o, if c then x else x', if c then y else y'⟩ := by
  split <;> rfl

section key
variable {V : Type} [DecidableEq V] (lt : V → V → Bool) (e : V)

theorem finish_key' (p m : PartG V) (h : finishLtgt lt e p = some m) : m.key = p.key := by
  unfold finishLtgt at h
  split at h
  · cases h
  · split at h <;> (cases h; rfl)

theorem mergeG_swap (p p2 : PartG V) (h : p2.op.toNat < p.op.toNat) :
    mergeG lt e p p2 = mergeG lt e p2 p := by
  simp only [mergeG, h, Nat.lt_asymm h, if_true, if_false]

theorem merge_key_sorted (p p2 m : PartG V) (hs : p.op.toNat ≤ p2.op.toNat)
    (h : mergeG lt e p p2 = some m) : m.key = p.key ∨ m.key = p2.key := by
  obtain ⟨k, op, a, a2⟩ := p
  obtain ⟨k2, op2, b, b2⟩ := p2
  cases op <;> cases op2 <;>
    simp only [mergeG, Op.toNat, Nat.lt_irrefl, if_false, Nat.reduceLT, ite_part, ite_self,
      Nat.reduceLeDiff, Option.ite_none_right_eq_some, Option.some.injEq] at hs h
  · exact Or.inl (h.2 ▸ rfl)
  · exact Or.inl (h.2 ▸ rfl)
  · exact Or.inl (h.2 ▸ rfl)
  · exact Or.inl (h.2 ▸ rfl)
  · exact Or.inl (finish_key' lt e _ m h :)
  · exact Or.inl (finish_key' lt e _ m h :)
  · exact Or.inl (finish_key' lt e _ m h :)
  · split at h <;> cases h
    · exact Or.inr rfl
    · exact Or.inl rfl
  · exact Or.inl (finish_key' lt e _ m h :)
  · split at h <;> cases h
    · exact Or.inr rfl
    · exact Or.inl rfl

theorem merge_key (p p2 m : PartG V) (h : mergeG lt e p p2 = some m) :
    m.key = p.key ∨ m.key = p2.key := by
  by_cases hs : p2.op.toNat < p.op.toNat
  · rw [mergeG_swap lt e p p2 hs] at h
    exact (merge_key_sorted lt e p2 p m (Nat.le_of_lt hs) h).symm
  · exact merge_key_sorted lt e p p2 m (Nat.le_of_not_lt hs) h
end key

/-- merging never changes the key -/
theorem merge_keeps_key (p q m : Part) (h : merge p q = some m) (hk : p.key = q.key) :
    m.key = p.key := by
  rcases merge_key blt [] p q m h with h | h
  · exact h
  · rw [h, hk]


section generic
variable {V : Type} [LinearOrder V]

/-- meaning of one part for a label value `v`: the comparisons of the property statement -/
def satG (lt : V → V → Bool) (p : PartG V) (v : V) : Prop :=
  match p.op with
  | .equals => v = p.value
  | .lt => lt v p.value = true
  | .gt => lt p.value v = true
  | .ltgt => lt v p.value = true ∧ lt p.value2 v = true

/-- io.EOF (`none`) is the part nothing satisfies -/
def satOpt (lt : V → V → Bool) : Option (PartG V) → V → Prop
  | none, _ => False
  | some p, v => satG lt p v

variable (lt : V → V → Bool) (e : V)

theorem finish_sat (hlt : ∀ a b, lt a b = true ↔ a < b) (he : ∀ v, e ≤ v)
    (k : Bytes) (a a2 v : V) (hv : v ≠ e) :
    satOpt lt (finishLtgt lt e ⟨k, .ltgt, a, a2⟩) v ↔ (v < a ∧ a2 < v) := by
  have hev : e < v := lt_of_le_of_ne (he v) (Ne.symm hv)
  unfold finishLtgt
  simp only [Bool.or_eq_true, hlt, beq_iff_eq]
  by_cases h1 : (a < a2 ∨ a = a2) ∨ a = e
  · rw [if_pos h1]
    simp only [satOpt, false_iff]
    rintro ⟨h2, h3⟩
    rcases h1 with (h1 | h1) | h1
    · exact lt_asymm (lt_trans h2 h1) h3
    · exact lt_asymm h2 (h1 ▸ h3)
    · exact not_lt.mpr (he v) (h1 ▸ h2)
  · rw [if_neg h1]
    by_cases h2 : a2 = e
    · rw [if_pos h2]
      simp only [satOpt, satG, hlt]
      constructor
      · intro h; exact ⟨h, h2 ▸ hev⟩
      · intro h; exact h.1
    · rw [if_neg h2]
      simp only [satOpt, satG, hlt]

theorem finish_key (k : Bytes) (a a2 : V) (m : PartG V)
    (h : finishLtgt lt e ⟨k, .ltgt, a, a2⟩ = some m) : m.key = k :=
  finish_key' lt e _ m h

theorem lt_ite_iff (a b v : V) : v < (if b < a then b else a) ↔ v < a ∧ v < b := by
  split
  · rename_i h; exact ⟨fun hv => ⟨lt_trans hv h, hv⟩, And.right⟩
  · rename_i h; exact ⟨fun hv => ⟨hv, lt_of_lt_of_le hv (not_lt.mp h)⟩, And.left⟩

theorem ite_lt_iff (a b v : V) : (if a < b then b else a) < v ↔ a < v ∧ b < v := by
  split
  · rename_i h; exact ⟨fun hv => ⟨lt_trans h hv, hv⟩, And.right⟩
  · rename_i h; exact ⟨fun hv => ⟨hv, lt_of_le_of_lt (not_lt.mp h) hv⟩, And.left⟩

omit [LinearOrder V] in
/-- an `equals` part survives a merge iff its value satisfies the other part -/
theorem sat_ite_equals (c Q : Prop) [Decidable c] (k : Bytes) (a a2 v : V) (h : v = a → (Q ↔ c)) :
    satOpt lt (if c then some ⟨k, .equals, a, a2⟩ else none) v ↔ (v = a ∧ Q) := by
  split
  · rename_i hc; exact ⟨fun hv => ⟨hv, (h hv).mpr hc⟩, And.left⟩
  · rename_i hc; exact ⟨False.elim, fun hv => hc ((h hv.1).mp hv.2)⟩

theorem merge_sat_sorted (hlt : ∀ a b, lt a b = true ↔ a < b) (he : ∀ v, e ≤ v)
    (p p2 : PartG V) (hs : p.op.toNat ≤ p2.op.toNat) (v : V) (hv : v ≠ e) :
    satOpt lt (mergeG lt e p p2) v ↔ (satG lt p v ∧ satG lt p2 v) := by
  obtain ⟨k, op, a, a2⟩ := p
  obtain ⟨k2, op2, b, b2⟩ := p2
  have fin := fun k a a2 => finish_sat lt e hlt he k a a2 v hv
  cases op <;> cases op2 <;>
    simp only [mergeG, Op.toNat, satG, Nat.lt_irrefl, if_false, Nat.reduceLT, hlt,
      Bool.and_eq_true, beq_iff_eq, ite_part, ite_self, Nat.reduceLeDiff] at hs ⊢
  -- equals / any: `p` survives iff `a` satisfies `p2`
  · exact sat_ite_equals lt _ _ k a a2 v (fun h => h ▸ Iff.rfl)
  · exact sat_ite_equals lt _ _ k a a2 v (fun h => h ▸ Iff.rfl)
  · exact sat_ite_equals lt _ _ k a a2 v (fun h => h ▸ Iff.rfl)
  · exact sat_ite_equals lt _ _ k a a2 v (fun h => h ▸ Iff.rfl)
  -- ltgt / ltgt, lt, gt: the tighter bounds, then `finishLtgt`
  · rw [fin, lt_ite_iff, ite_lt_iff]; exact and_and_and_comm
  · rw [fin, lt_ite_iff]; exact and_right_comm
  · rw [fin, ite_lt_iff]; exact and_assoc.symm
  · rw [← lt_ite_iff]; split <;> simp only [satOpt, satG, hlt]
  · rw [fin]
  · rw [← ite_lt_iff]; split <;> simp only [satOpt, satG, hlt]

theorem merge_sat (hlt : ∀ a b, lt a b = true ↔ a < b) (he : ∀ v, e ≤ v)
    (p p2 : PartG V) (v : V) (hv : v ≠ e) :
    satOpt lt (mergeG lt e p p2) v ↔ (satG lt p v ∧ satG lt p2 v) := by
  -- the conjunction is symmetric: take the operands in the order `mergeG` puts them in
  by_cases hs : p2.op.toNat < p.op.toNat
  · rw [mergeG_swap lt e p p2 hs, and_comm]
    exact merge_sat_sorted lt e hlt he p2 p (Nat.le_of_lt hs) v hv
  · exact merge_sat_sorted lt e hlt he p p2 (Nat.le_of_not_lt hs) v hv

end generic

section list
variable {V : Type} [LinearOrder V] (lt : V → V → Bool) (e : V)

/-- the per-key accumulation of `parseQuery`: the first part of a key, then every later part of the
same key merged into it from left to right -/
def mergeAll : PartG V → List (PartG V) → Option (PartG V)
  | p, [] => some p
  | p, q :: qs => (mergeG lt e p q).bind fun m => mergeAll m qs

theorem mergeAll_sat (hlt : ∀ a b, lt a b = true ↔ a < b) (he : ∀ v, e ≤ v)
    (ps : List (PartG V)) (p : PartG V) (v : V) (hv : v ≠ e) :
    satOpt lt (mergeAll lt e p ps) v ↔ ∀ q ∈ p :: ps, satG lt q v := by
  induction ps generalizing p with
  | nil => simp [mergeAll, satOpt]
  | cons q qs ih =>
    have hm := merge_sat lt e hlt he p q v hv
    unfold mergeAll
    cases hmq : mergeG lt e p q with
    | none =>
      rw [hmq] at hm
      simp only [Option.bind_none, satOpt, false_iff]
      intro hall
      exact (hm.mpr ⟨hall p (by simp), hall q (by simp)⟩)
    | some m =>
      rw [hmq] at hm
      simp only [Option.bind_some]
      rw [ih m]
      simp only [satOpt] at hm
      simp only [List.mem_cons, forall_eq_or_imp]
      rw [hm]; exact and_assoc
end list
end C19
