/-
Signs: `neg`, `abs`, the signed rational value `sval`, and the comparison functions `lt`/`le`/`eq`
as the order of `sval` on non-NaN patterns (±0 equal, ±Inf continued as ±2^1024); finite = magnitude
below 2^1024 (`isFinite_iff_sval`); the values of the constants 1, 2, ½.
-/
import Proofs.Lemmas.F64Val

namespace F64

theorem signBit_true_iff (b : Bits) : signBit b = true ↔ 2 ^ 63 ≤ b.toNat := by
  rw [← Bool.not_eq_false, signBit_false_iff]; exact Nat.not_lt

theorem abs_toNat (b : Bits) : (abs b).toNat = b.toNat % 2 ^ 63 := by
  unfold abs
  rw [UInt64.toNat_and]
  have : (0x7FFFFFFFFFFFFFFF : UInt64).toNat = 2 ^ 63 - 1 := by decide
  rw [this, Nat.and_two_pow_sub_one_eq_mod]

theorem abs_toNat_eq_magOf (b : Bits) : (abs b).toNat = magOf b := by
  rw [abs_toNat, magOf_eq_mod]

theorem expField_of_magOf (b : Bits) : expField b = magOf b / 2 ^ 52 := by
  have := fracField_lt b; unfold magOf; omega
theorem fracField_of_magOf (b : Bits) : fracField b = magOf b % 2 ^ 52 := by
  have := fracField_lt b; unfold magOf; omega

theorem magOf_neg (b : Bits) : magOf (neg b) = magOf b := by
  have hc : (0x8000000000000000 : UInt64).toNat = 2 ^ 63 := by decide
  rw [magOf_eq_mod, magOf_eq_mod, neg, UInt64.toNat_xor, hc, Nat.xor_mod_two_pow, Nat.mod_self,
    Nat.xor_zero]
theorem magOf_abs (b : Bits) : magOf (abs b) = magOf b := by
  rw [magOf_eq_mod, abs_toNat, Nat.mod_mod, magOf_eq_mod]

theorem expField_neg (b : Bits) : expField (neg b) = expField b := by
  rw [expField_of_magOf, magOf_neg, expField_of_magOf]
theorem fracField_neg (b : Bits) : fracField (neg b) = fracField b := by
  rw [fracField_of_magOf, magOf_neg, fracField_of_magOf]
theorem expField_abs (b : Bits) : expField (abs b) = expField b := by
  rw [expField_of_magOf, magOf_abs, expField_of_magOf]
theorem fracField_abs (b : Bits) : fracField (abs b) = fracField b := by
  rw [fracField_of_magOf, magOf_abs, fracField_of_magOf]

theorem signBit_abs (b : Bits) : signBit (abs b) = false := by
  rw [signBit_false_iff, abs_toNat]; exact Nat.mod_lt _ (by decide)

/-- negation keeps the magnitude but changes the pattern, so it changes the sign -/
theorem signBit_neg (b : Bits) : signBit (neg b) = !signBit b := by
  have hne : signBit (neg b) ≠ signBit b := fun h => by
    have e : b ^^^ 0x8000000000000000 = b := eq_of_sign_mag _ _ h (magOf_neg b)
    have := congrArg (b ^^^ ·) e
    simp only [← UInt64.xor_assoc, UInt64.xor_self, UInt64.zero_xor] at this
    exact absurd this (by decide)
  cases h1 : signBit (neg b) <;> cases h2 : signBit b <;> simp_all

theorem mant_neg (b : Bits) : mant (neg b) = mant b := by rw [mant_eq, mant_eq, expField_neg, fracField_neg]
theorem expo_neg (b : Bits) : expo (neg b) = expo b := by rw [expo_eq, expo_eq, expField_neg]
theorem mant_abs (b : Bits) : mant (abs b) = mant b := by rw [mant_eq, mant_eq, expField_abs, fracField_abs]
theorem expo_abs (b : Bits) : expo (abs b) = expo b := by rw [expo_eq, expo_eq, expField_abs]
theorem val_neg (b : Bits) : val (neg b) = val b := by unfold val; rw [mant_neg, expo_neg]
theorem val_abs (b : Bits) : val (abs b) = val b := by unfold val; rw [mant_abs, expo_abs]

theorem neg_neg (b : Bits) : neg (neg b) = b :=
  eq_of_sign_mag _ _ (by rw [signBit_neg, signBit_neg]; simp) (by rw [magOf_neg, magOf_neg])
theorem abs_neg (b : Bits) : abs (neg b) = abs b :=
  eq_of_sign_mag _ _ (by rw [signBit_abs, signBit_abs]) (by rw [magOf_abs, magOf_abs, magOf_neg])
theorem abs_abs (b : Bits) : abs (abs b) = abs b :=
  eq_of_sign_mag _ _ (by rw [signBit_abs, signBit_abs]) (by rw [magOf_abs])
theorem abs_of_signBit_false (b : Bits) (h : signBit b = false) : abs b = b :=
  eq_of_sign_mag _ _ (by rw [signBit_abs, h]) (magOf_abs b)
theorem neg_abs_of_signBit_true (b : Bits) (h : signBit b = true) : neg (abs b) = b :=
  eq_of_sign_mag _ _ (by rw [signBit_neg, signBit_abs, h]; rfl) (by rw [magOf_neg, magOf_abs])

theorem isNaN_iff (b : Bits) : isNaN b = true ↔ 0x7FF0000000000000 < magOf b := by
  rw [← Bool.not_eq_false, isNaN_false_iff]; omega

theorem isNaN_neg (b : Bits) : isNaN (neg b) = isNaN b := by unfold isNaN; rw [expField_neg, fracField_neg]
theorem isInf_neg (b : Bits) : isInf (neg b) = isInf b := by unfold isInf; rw [expField_neg, fracField_neg]
theorem isZero_neg (b : Bits) : isZero (neg b) = isZero b := by unfold isZero; rw [expField_neg, fracField_neg]
theorem isFinite_neg (b : Bits) : isFinite (neg b) = isFinite b := by unfold isFinite; rw [expField_neg]
theorem isNaN_abs (b : Bits) : isNaN (abs b) = isNaN b := by unfold isNaN; rw [expField_abs, fracField_abs]
theorem isInf_abs (b : Bits) : isInf (abs b) = isInf b := by unfold isInf; rw [expField_abs, fracField_abs]
theorem isZero_abs (b : Bits) : isZero (abs b) = isZero b := by unfold isZero; rw [expField_abs, fracField_abs]
theorem isFinite_abs (b : Bits) : isFinite (abs b) = isFinite b := by unfold isFinite; rw [expField_abs]

theorem posFin_abs (b : Bits) (hf : isFinite b = true) (hz : isZero b = false) : PosFin (abs b) := by
  unfold PosFin
  rw [abs_toNat_eq_magOf]
  exact ⟨(isZero_false_iff b).mp hz, (isFinite_iff b).mp hf⟩

/-- signed value: `(-1)^sign · mant · 2^expo` (±0 ↦ 0; ±Inf is continued as ±2^1024) -/
def sval (b : Bits) : ℚ := if signBit b then -val b else val b

theorem sval_neg (b : Bits) : sval (neg b) = -sval b := by
  unfold sval; rw [signBit_neg, val_neg]; cases signBit b <;> simp

theorem sval_abs (b : Bits) : sval (abs b) = |sval b| := by
  unfold sval; rw [signBit_abs, val_abs]
  have := val_nonneg b
  cases signBit b
  · simp only [Bool.false_eq_true, if_false]; rw [abs_of_nonneg this]
  · simp only [Bool.false_eq_true, if_false, if_true]; rw [_root_.abs_neg, abs_of_nonneg this]

theorem sval_of_posFin {b : Bits} (h : PosFin b) : sval b = val b := by
  unfold sval; rw [h.signBit]; simp

/-- on sign-free patterns the pattern order is the value order -/
theorem toNat_le_iff_sval {x y : Bits} (hx : x.toNat < 2 ^ 63) (hy : y.toNat < 2 ^ 63) :
    x.toNat ≤ y.toNat ↔ sval x ≤ sval y := by
  unfold sval
  rw [(signBit_false_iff x).mpr hx, (signBit_false_iff y).mpr hy, if_neg Bool.false_ne_true,
    if_neg Bool.false_ne_true, val_le_iff, magOf_eq_mod, magOf_eq_mod, Nat.mod_eq_of_lt hx, Nat.mod_eq_of_lt hy]

theorem sval_eq_zero_iff (b : Bits) : sval b = 0 ↔ isZero b = true := by
  rw [isZero_iff, ← val_eq_zero_iff]
  unfold sval; split <;> simp

theorem sval_lt_of_okey_lt (a b : Bits) (h : okey a < okey b) : sval a < sval b := by
  have va := val_nonneg a
  have vb := val_nonneg b
  have pos : ∀ x : Bits, 0 < magOf x → 0 < val x := fun x hx =>
    val_pos_of_nonzero ((isZero_false_iff x).mpr hx)
  unfold okey at h
  unfold sval
  cases sa : signBit a <;> cases sb : signBit b <;>
    simp only [sa, sb, Bool.false_eq_true, if_false, if_true] at h ⊢
  · exact val_lt_of_magOf_lt a b (by omega)
  · omega
  · rcases Nat.eq_zero_or_pos (magOf a) with h0 | h0
    · have := pos b (by omega); linarith only [this, va]
    · have := pos a h0; linarith only [this, vb]
  · exact neg_lt_neg (val_lt_of_magOf_lt b a (by omega))

theorem sval_eq_of_okey_eq (a b : Bits) (h : okey a = okey b) : sval a = sval b := by
  unfold okey at h
  unfold sval
  cases sa : signBit a <;> cases sb : signBit b <;>
    simp only [sa, sb, Bool.false_eq_true, if_false, if_true] at h ⊢
  · exact val_eq_of_magOf_eq a b (by omega)
  · rw [(val_eq_zero_iff a).mpr (by omega), (val_eq_zero_iff b).mpr (by omega), neg_zero]
  · rw [(val_eq_zero_iff a).mpr (by omega), (val_eq_zero_iff b).mpr (by omega), neg_zero]
  · rw [val_eq_of_magOf_eq a b (by omega)]

theorem sval_le_iff_okey (a b : Bits) : sval a ≤ sval b ↔ okey a ≤ okey b :=
  le_iff_le_of_lt_of_eq sval_lt_of_okey_lt sval_eq_of_okey_eq a b

theorem sval_lt_iff_okey (a b : Bits) : sval a < sval b ↔ okey a < okey b :=
  lt_iff_lt_of_le_iff_le (sval_le_iff_okey b a)

theorem sval_eq_iff_okey (a b : Bits) : sval a = sval b ↔ okey a = okey b := by
  rw [le_antisymm_iff, sval_le_iff_okey, sval_le_iff_okey]; omega

/-- on non-NaN patterns `F64.lt` is the strict order of the signed values. -/
theorem lt_iff_sval (a b : Bits) (ha : isNaN a = false) (hb : isNaN b = false) :
    lt a b = true ↔ sval a < sval b :=
  (lt_iff_okey a b ha hb).trans (sval_lt_iff_okey a b).symm

/-- `F64.eq` is equality of the signed values (so +0 = −0). -/
theorem eq_iff_sval (a b : Bits) (ha : isNaN a = false) (hb : isNaN b = false) :
    eq a b = true ↔ sval a = sval b :=
  (eq_iff_okey a b ha hb).trans (sval_eq_iff_okey a b).symm

theorem le_iff_sval (a b : Bits) (ha : isNaN a = false) (hb : isNaN b = false) :
    le a b = true ↔ sval a ≤ sval b := by
  unfold le
  rw [Bool.or_eq_true, lt_iff_sval a b ha hb, eq_iff_sval a b ha hb, le_iff_lt_or_eq]

theorem le_of_sval {a b : Bits} (ha : isFinite a = true) (hb : isFinite b = true) (h : sval a ≤ sval b) :
    le a b = true :=
  (le_iff_sval a b (isNaN_of_finite ha) (isNaN_of_finite hb)).mpr h

theorem okey_neg (b : Bits) : okey (neg b) = -okey b := by
  unfold okey; rw [signBit_neg, magOf_neg]
  cases signBit b <;> simp

/-- `lt` against negation: a < b ↔ −b < −a -/
theorem lt_neg_neg (a b : Bits) : lt (neg b) (neg a) = lt a b := by
  cases ha : isNaN a
  · cases hb : isNaN b
    · rw [Bool.eq_iff_iff, lt_iff_okey _ _ (by rw [isNaN_neg]; exact hb) (by rw [isNaN_neg]; exact ha),
        lt_iff_okey _ _ ha hb, okey_neg, okey_neg]
      omega
    · rw [lt_eq_false_of_isNaN (Or.inr hb), lt_eq_false_of_isNaN (Or.inl (by rw [isNaN_neg]; exact hb))]
  · rw [lt_eq_false_of_isNaN (Or.inl ha), lt_eq_false_of_isNaN (Or.inr (by rw [isNaN_neg]; exact ha))]

theorem sval_eq_zero_of_isZero {b : Bits} (hz : isZero b = true) : sval b = 0 :=
  (sval_eq_zero_iff b).mpr hz

theorem isZero_false_of_sval {x : Bits} {q : ℚ} (h : sval x = q) (hq : q ≠ 0) : isZero x = false := by
  cases hz : isZero x
  · rfl
  · exact absurd (h ▸ sval_eq_zero_of_isZero hz) hq

theorem sval_zero (s : Bool) : sval (zero s) = 0 := by
  exact sval_eq_zero_of_isZero (isZero_zero s)

theorem sval_posZero : sval posZero = 0 := sval_zero false
theorem sval_negZero : sval negZero = 0 := sval_zero true

theorem abs_sval (x : Bits) : |sval x| = val x := by
  rw [← sval_abs]; unfold sval; rw [signBit_abs, val_abs]; simp

theorem val_posInf : val posInf = (2 : ℚ) ^ (1024 : Int) := by
  unfold val
  rw [show mant posInf = 2 ^ 52 by decide, show expo posInf = 972 by decide,
    show ((2 ^ 52 : ℕ) : ℚ) = (2 : ℚ) ^ (52 : Int) by norm_num, ← zpow_add₀ (two_ne_zero' ℚ)]
  norm_num

/-- finite = magnitude below 2^1024 -/
theorem isFinite_iff_sval (b : Bits) : isFinite b = true ↔ |sval b| < (2 : ℚ) ^ (1024 : Int) := by
  rw [abs_sval, ← val_posInf, val_lt_iff, isFinite_iff, show magOf posInf = 0x7FF0000000000000 by decide]

theorem isFinite_of_abs_sval_le {a b : Bits} (hb : isFinite b = true) (h : |sval a| ≤ |sval b|) :
    isFinite a = true :=
  (isFinite_iff_sval a).2 (h.trans_lt ((isFinite_iff_sval b).1 hb))

theorem isFinite_of_sval_between {a b x : Bits} (ha : isFinite a = true) (hb : isFinite b = true)
    (h1 : sval a ≤ sval x) (h2 : sval x ≤ sval b) : isFinite x = true := by
  rw [isFinite_iff_sval, abs_lt] at *
  exact ⟨ha.1.trans_le h1, h2.trans_lt hb.2⟩

theorem isFinite_of_sval_eq {a b : Bits} (h : sval a = sval b) (hb : isFinite b = true) :
    isFinite a = true := isFinite_of_abs_sval_le hb (by rw [h])

theorem sval_one : sval one = 1 := by
  unfold sval val
  rw [show signBit one = false by decide, show mant one = 2 ^ 52 by decide, show expo one = -52 by decide]
  norm_num

def two : Bits := 0x4000000000000000

theorem sval_two : sval two = 2 := by
  have h1 : signBit two = false := by decide
  have h2 : mant two = 2 ^ 52 := by decide
  have h3 : expo two = -51 := by decide
  unfold sval val; rw [h1, h2, h3]; norm_num

theorem sval_half : sval 0x3FE0000000000000 = 1 / 2 := by
  unfold sval val
  rw [show signBit 0x3FE0000000000000 = false by decide, show mant 0x3FE0000000000000 = 2 ^ 52 by decide,
    show expo 0x3FE0000000000000 = -53 by decide]
  norm_num

example : lt negZero posZero = false := by decide
example : eq negZero posZero = true := (eq_iff_sval _ _ (by decide) (by decide)).mpr (by
  rw [(sval_eq_zero_iff negZero).mpr (by decide), (sval_eq_zero_iff posZero).mpr (by decide)])

end F64
