/-
C03 — the mirrored decimal slow path: the decimal as a number. Its value, well-formed and non-zero decimals
("no leading zero" on the digits and on the number), the value against the position of the point and on the grid
of the 800th digit, and a value cut to the 800-digit buffer.
-/
import Proofs.Lemmas.C03RoundInt
import Proofs.Lemmas.F64Mono
import Model.Num.DecSlow

namespace C03
open Num Spec.NumText

/-- the magnitude a decimal stands for: 0.d₁d₂…dₙ · 10^dp -/
def dval (a : Dc) : ℚ := (valOf 10 a.d : ℚ) * (10 : ℚ) ^ (a.dp - a.d.length)

theorem trimZeros_snoc_zero (ds : Bytes) : trimZeros (ds ++ [48]) = trimZeros ds := by
  unfold trimZeros; simp

theorem trimZeros_snoc_nz (ds : Bytes) (c : UInt8) (h : c ≠ 48) : trimZeros (ds ++ [c]) = ds ++ [c] := by
  unfold trimZeros
  have : (c == 48) = false := by simpa using h
  simp [this]

theorem trimZeros_spec (ds : Bytes) :
    ∃ z : Nat, ds = trimZeros ds ++ List.replicate z 48 ∧ (trimZeros ds).getLast? ≠ some 48 := by
  induction ds using List.reverseRecOn with
  | nil => exact ⟨0, by simp [trimZeros], by simp [trimZeros]⟩
  | append_singleton ds c ih =>
    by_cases hc : c = 48
    · subst hc
      obtain ⟨z, h1, h2⟩ := ih
      rw [trimZeros_snoc_zero]
      refine ⟨z + 1, ?_, h2⟩
      conv => lhs; rw [h1]
      rw [List.append_assoc, List.replicate_succ']
    · rw [trimZeros_snoc_nz ds c hc]
      exact ⟨0, by simp, by simp [hc]⟩

theorem valOf_replicate_zero (ds : Bytes) (z : Nat) :
    valOf 10 (ds ++ List.replicate z 48) = valOf 10 ds * 10 ^ z := by
  rw [valOf_append, List.length_replicate]
  rw [(valOf_eq_zero_iff (List.replicate z 48) (by simp [isDec])).mpr (by simp), Nat.add_zero]

theorem dval_trim (a : Dc) (hne : trimZeros a.d ≠ []) : dval a.trim = dval a := by
  obtain ⟨z, h1, _⟩ := trimZeros_spec a.d
  have hval : valOf 10 a.d = valOf 10 (trimZeros a.d) * 10 ^ z := by
    conv => lhs; rw [h1]
    exact valOf_replicate_zero _ _
  have hlen : a.d.length = (trimZeros a.d).length + z := by
    conv => lhs; rw [h1]
    simp
  unfold Dc.trim dval
  have he : (trimZeros a.d).isEmpty = false := List.isEmpty_eq_false_iff.mpr hne
  simp only [he, Bool.false_eq_true, if_false]
  rw [hval, hlen]
  generalize trimZeros a.d = t
  push_cast
  have : a.dp - (t.length : Int) = (z : Int) + (a.dp - ((t.length : Int) + (z : Int))) := by omega
  rw [this, zpow_add₀ (by norm_num : (10 : ℚ) ≠ 0), zpow_natCast]
  ring

/-- digits only, at most 800 of them, no leading zero -/
structure WF (a : Dc) : Prop where
  dig : a.d.all isDec = true
  len : a.d.length ≤ bufLen
  lead : ∀ c cs, a.d = c :: cs → c ≠ 48

def Trimmed (a : Dc) : Prop := a.d.getLast? ≠ some 48

/-- a well-formed decimal that is not zero: what the shifts and the run of `floatBits` work on -/
structure NZ (a : Dc) : Prop extends WF a where
  ne : a.d ≠ []

theorem trim_dp (b : Dc) (h : b.trim.d ≠ []) : b.trim.dp = b.dp := by
  unfold Dc.trim at h ⊢
  cases ht : trimZeros b.d with
  | nil => rw [ht] at h; exact absurd rfl h
  | cons c cs => rfl

theorem lead_iff (ds : Bytes) (hd : ds.all isDec = true) (hne : ds ≠ []) :
    (∀ c cs, ds = c :: cs → c ≠ 48) ↔ 10 ^ (ds.length - 1) ≤ valOf 10 ds := by
  cases ds with
  | nil => exact absurd rfl hne
  | cons c cs =>
    rw [List.all_cons, Bool.and_eq_true] at hd
    have hv := valOf_lt cs hd.2
    rw [valOf_cons]
    simp only [List.length_cons, Nat.add_sub_cancel]
    constructor
    · intro h
      calc 10 ^ cs.length = 1 * 10 ^ cs.length := (Nat.one_mul _).symm
        _ ≤ digVal c * 10 ^ cs.length := Nat.mul_le_mul_right _
          (Nat.pos_of_ne_zero fun hz => h c cs rfl (by simpa using (digVal_eq_zero hd.1).mpr hz))
        _ ≤ _ := Nat.le_add_right _ _
    · intro h c' cs' e h48
      injection e with e1 _
      subst e1; subst h48
      have d0 : digVal 48 = 0 := by decide
      rw [d0] at h; omega

theorem NZ.lo {a : Dc} (h : NZ a) : 10 ^ (a.d.length - 1) ≤ valOf 10 a.d :=
  (lead_iff a.d h.dig h.ne).mp h.lead

theorem NZ.of_lo {a : Dc} (hd : a.d.all isDec = true) (hl : a.d.length ≤ bufLen)
    (hlo : 10 ^ (a.d.length - 1) ≤ valOf 10 a.d) : NZ a :=
  have hne : a.d ≠ [] := fun h => by rw [h] at hlo; exact absurd hlo (by decide)
  ⟨⟨hd, hl, (lead_iff a.d hd hne).mpr hlo⟩, hne⟩

theorem trim_wf (a : Dc) (h : NZ a) : NZ a.trim ∧ Trimmed a.trim ∧ dval a.trim = dval a := by
  obtain ⟨z, h1, h3⟩ := trimZeros_spec a.d
  have hlo := h.lo
  have hdig := h.dig
  have hlen := h.len
  rw [h1, valOf_replicate_zero, List.length_append, List.length_replicate] at hlo
  rw [h1, List.all_append, Bool.and_eq_true] at hdig
  rw [h1, List.length_append] at hlen
  -- the trailing zeros are a factor 10^z of the digits' number: what is left is not zero and has no leading zero
  have hne : trimZeros a.d ≠ [] := fun h0 => by
    rw [h0, show valOf 10 ([] : Bytes) = 0 from rfl, Nat.zero_mul] at hlo
    exact Nat.not_lt.mpr hlo (Nat.pow_pos (by decide))
  have ht : 1 ≤ (trimZeros a.d).length := List.length_pos_iff.mpr hne
  rw [show (trimZeros a.d).length + z - 1 = (trimZeros a.d).length - 1 + z by omega, Nat.pow_add] at hlo
  exact ⟨NZ.of_lo (a := a.trim) hdig.1 (Nat.le_trans (Nat.le_add_right _ _) hlen)
    (Nat.le_of_mul_le_mul_right hlo (Nat.pow_pos (by decide))), h3, dval_trim a hne⟩

theorem dval_bounds (a : Dc) (hnz : NZ a) :
    (10 : ℚ) ^ (a.dp - 1) ≤ dval a ∧ dval a < (10 : ℚ) ^ a.dp ∧ 0 < dval a := by
  have hlo := hnz.lo
  have hhi := valOf_lt a.d hnz.dig
  have hnd : 1 ≤ a.d.length := List.length_pos_iff.mpr hnz.ne
  have hloq : (10 : ℚ) ^ ((a.d.length : Int) - 1) ≤ (valOf 10 a.d : ℚ) := by
    have : ((10 ^ (a.d.length - 1) : Nat) : ℚ) ≤ (valOf 10 a.d : ℚ) := by exact_mod_cast hlo
    have e : ((a.d.length : Int) - 1) = ((a.d.length - 1 : Nat) : Int) := by omega
    rw [e, zpow_natCast]; exact_mod_cast this
  have hhiq : (valOf 10 a.d : ℚ) < (10 : ℚ) ^ (a.d.length : Int) := by
    rw [zpow_natCast]; exact_mod_cast hhi
  have hp : (0 : ℚ) < (10 : ℚ) ^ (a.dp - a.d.length) := zpow_pos (by norm_num) _
  unfold dval
  refine ⟨?_, ?_, ?_⟩
  · have : (10 : ℚ) ^ (a.dp - 1) = (10 : ℚ) ^ ((a.d.length : Int) - 1) * (10 : ℚ) ^ (a.dp - a.d.length) := by
      rw [← zpow_add₀ (by norm_num : (10 : ℚ) ≠ 0)]; congr 1; omega
    rw [this]; exact mul_le_mul_of_nonneg_right hloq hp.le
  · have : (10 : ℚ) ^ a.dp = (10 : ℚ) ^ (a.d.length : Int) * (10 : ℚ) ^ (a.dp - a.d.length) := by
      rw [← zpow_add₀ (by norm_num : (10 : ℚ) ≠ 0)]; congr 1; omega
    rw [this]; exact mul_lt_mul_of_pos_right hhiq hp
  · apply mul_pos _ hp
    have : (0 : ℚ) < (10 : ℚ) ^ ((a.d.length : Int) - 1) := zpow_pos (by norm_num) _
    linarith

theorem dp_le_iff (d : Dc) (hnz : NZ d) (n : Int) : d.dp ≤ n ↔ dval d < (10 : ℚ) ^ n := by
  obtain ⟨lo, hi, _⟩ := dval_bounds d hnz
  refine ⟨fun h => lt_of_lt_of_le hi (zpow_le_zpow_right₀ (by norm_num) h), fun h => ?_⟩
  have := (zpow_lt_zpow_iff_right₀ (by norm_num : (1 : ℚ) < 10)).mp (lt_of_le_of_lt lo h)
  omega

theorem dp_nonpos_iff (d : Dc) (hnz : NZ d) : d.dp ≤ 0 ↔ dval d < 1 := by
  simpa using dp_le_iff d hnz 0

theorem dval_grid (a : Dc) (hwf : WF a) : ∃ i : ℤ, dval a = (i : ℚ) * (10 : ℚ) ^ (a.dp - 800) := by
  refine ⟨(valOf 10 a.d : ℤ) * 10 ^ (800 - a.d.length), ?_⟩
  unfold dval
  have hl := hwf.len
  have hb : bufLen = 800 := rfl
  have : a.dp - (a.d.length : Int) = ((800 - a.d.length : Nat) : Int) + (a.dp - 800) := by omega
  rw [this, zpow_add₀ (by norm_num : (10 : ℚ) ≠ 0), zpow_natCast]
  push_cast
  ring

theorem grid_above (d : Dc) (hwf : WF d) (z : ℚ) (j : ℤ) (hj : z = (j : ℚ) * (10 : ℚ) ^ (d.dp - 800)) (h : dval d < z) :
    dval d + (10 : ℚ) ^ (d.dp - 800) ≤ z := by
  obtain ⟨i, hi⟩ := dval_grid d hwf
  have hu : (0 : ℚ) < (10 : ℚ) ^ (d.dp - 800) := zpow_pos (by norm_num) _
  rw [hi, hj] at h ⊢
  have hij : i + 1 ≤ j := by exact_mod_cast lt_of_mul_lt_mul_right h hu.le
  have : ((i + 1 : ℤ) : ℚ) ≤ (j : ℚ) := by exact_mod_cast hij
  calc (i : ℚ) * _ + _ = ((i + 1 : ℤ) : ℚ) * (10 : ℚ) ^ (d.dp - 800) := by push_cast; ring
    _ ≤ _ := mul_le_mul_of_nonneg_right this hu.le

theorem floor_hi (d : Dc) (hnz : NZ d) (V : ℚ) (hlt : V < dval d + (10 : ℚ) ^ (d.dp - 800)) :
    V < (10 : ℚ) ^ d.dp := by
  have e : (10 : ℚ) ^ d.dp = (((10 ^ 800 : ℕ) : ℤ) : ℚ) * (10 : ℚ) ^ (d.dp - 800) := by
    push_cast
    rw [← zpow_natCast, ← zpow_add₀ (by norm_num : (10 : ℚ) ≠ 0)]; congr 1; push_cast; ring
  exact lt_of_lt_of_le hlt (grid_above d hnz.toWF _ _ e (dval_bounds d hnz).2.1)

/-- `b` is `X` cut to `b`'s 800-digit buffer; `t` is the truncation flag before the cut -/
structure Cut (b : Dc) (X : ℚ) (t : Bool) : Prop where
  le : dval b ≤ X
  lt : X < dval b + (10 : ℚ) ^ (b.dp - 800)
  exact : dval b = X → b.trunc = t
  inexact : dval b ≠ X → b.trunc = true

/-- a long division `N = Q · (digits of b) + R`, read at the scale of `b`'s last digit -/
theorem cut_of_rem (b : Dc) (t : Bool) (N R Q : Nat) (hRQ : R < Q) (hdiv : Q * valOf 10 b.d + R = N)
    (hex : R = 0 → b.trunc = t) (hin : R ≠ 0 → b.trunc = true ∧ b.d.length = 800) :
    Cut b ((N : ℚ) / Q * (10 : ℚ) ^ (b.dp - b.d.length)) t := by
  have hQ : (0 : ℚ) < Q := by exact_mod_cast Nat.lt_of_le_of_lt (Nat.zero_le R) hRQ
  have hρ0 : (0 : ℚ) ≤ (R : ℚ) / Q := div_nonneg (Nat.cast_nonneg R) hQ.le
  have hρ1 : (R : ℚ) / Q < 1 := (div_lt_one hQ).mpr (by exact_mod_cast hRQ)
  have hU : (0 : ℚ) < (10 : ℚ) ^ (b.dp - b.d.length) := zpow_pos (by norm_num) _
  have hval : (N : ℚ) / Q * (10 : ℚ) ^ (b.dp - b.d.length) = dval b + (R : ℚ) / Q * (10 : ℚ) ^ (b.dp - b.d.length) := by
    rw [← hdiv, dval, Nat.cast_add, Nat.cast_mul, add_div, mul_div_cancel_left₀ _ hQ.ne', add_mul]
  have hzero : R = 0 ↔ dval b = (N : ℚ) / Q * (10 : ℚ) ^ (b.dp - b.d.length) := by
    rw [hval, left_eq_add, mul_eq_zero, div_eq_zero_iff, Nat.cast_eq_zero]
    exact ⟨fun h => Or.inl (Or.inl h), fun h => h.elim (fun h => h.elim id fun h => absurd h hQ.ne') fun h => absurd h hU.ne'⟩
  refine ⟨by rw [hval]; exact le_add_of_nonneg_right (mul_nonneg hρ0 hU.le), ?_,
    fun h => hex (hzero.mpr h), fun h => (hin fun h0 => h (hzero.mp h0)).1⟩
  rw [hval, add_lt_add_iff_left]
  by_cases hR : R = 0
  · rw [hR, Nat.cast_zero, zero_div, zero_mul]; exact zpow_pos (by norm_num) _
  · rw [(hin hR).2] at hU ⊢
    exact mul_lt_of_lt_one_left hU hρ1

theorem Cut.eq_of_trunc {b : Dc} {X : ℚ} {t : Bool} (c : Cut b X t) (h : b.trunc = false) : dval b = X :=
  Classical.byContradiction fun hne => by rw [c.inexact hne] at h; cases h

theorem Cut.lt_of_trunc {b : Dc} {X : ℚ} (c : Cut b X false) (h : b.trunc = true) : dval b < X :=
  lt_of_le_of_ne c.le fun he => by rw [c.exact he] at h; cases h

theorem Cut.flag_of_trunc {b : Dc} {X : ℚ} {t : Bool} (c : Cut b X t) (h : b.trunc = false) : t = false := by
  rw [← c.exact (c.eq_of_trunc h)]; exact h

theorem Cut.trunc_of_flag {b : Dc} {X : ℚ} {t : Bool} (c : Cut b X t) (ht : t = true) : b.trunc = true := by
  by_cases e : dval b = X
  · rw [c.exact e]; exact ht
  · exact c.inexact e

theorem Cut.self (d : Dc) (ht : d.trunc = false) : Cut d (dval d) false :=
  ⟨le_refl _, lt_add_of_pos_right _ (zpow_pos (by norm_num) _), fun _ => ht, fun h => absurd rfl h⟩

theorem cut_digits (all : Bytes) (hd : all.all isDec = true) (b : Dc) (t : Bool) (hbd : b.d = all.take bufLen)
    (hbt : b.trunc = (t || (all.drop bufLen).any (· != 48))) :
    Cut b ((valOf 10 all : ℚ) * (10 : ℚ) ^ (b.dp - (all.length : Int))) t := by
  have hsplit : all = all.take bufLen ++ all.drop bufLen := (List.take_append_drop _ _).symm
  have hdig : (all.drop bufLen).all isDec = true := by
    rw [hsplit, List.all_append, Bool.and_eq_true] at hd; exact hd.2
  have hlens : (all.length : Int) = (b.d.length : Int) + ((all.drop bufLen).length : Nat) := by
    have := congrArg List.length hsplit
    rw [List.length_append] at this
    rw [hbd]; exact_mod_cast this
  have hVk : valOf 10 all = valOf 10 b.d * 10 ^ (all.drop bufLen).length + valOf 10 (all.drop bufLen) := by
    rw [hbd]
    conv => lhs; rw [hsplit]
    exact valOf_append 10 _ _
  have hX : (valOf 10 all : ℚ) * (10 : ℚ) ^ (b.dp - (all.length : Int)) =
      (valOf 10 all : ℚ) / ((10 ^ (all.drop bufLen).length : ℕ) : ℚ) * (10 : ℚ) ^ (b.dp - b.d.length) := by
    rw [hlens, ← sub_sub, zpow_sub₀ (by norm_num : (10 : ℚ) ≠ 0), zpow_natCast, Nat.cast_pow, Nat.cast_ofNat]; ring
  rw [hX]
  refine cut_of_rem b t _ (valOf 10 (all.drop bufLen)) _ (valOf_lt _ hdig) (by rw [hVk, Nat.mul_comm]) ?_ ?_
  · intro hD0
    rw [hbt, (valOf_eq_zero_iff _ hdig).mp hD0, Bool.or_false]
  · intro hD1
    constructor
    · rw [hbt, (Bool.not_eq_false _).mp (mt (valOf_eq_zero_iff _ hdig).mpr hD1), Bool.or_true]
    · have hr : (all.drop bufLen).length ≠ 0 := fun hr0 => hD1 (by rw [List.length_eq_zero_iff.mp hr0]; rfl)
      rw [hbd, List.length_take, Nat.min_eq_left (by rw [List.length_drop] at hr; omega)]; rfl

theorem WF.of_take {b : Dc} (all : Bytes) (hd : all.all isDec = true)
    (hlo : all ≠ [] → 10 ^ (all.length - 1) ≤ valOf 10 all) (hbd : b.d = all.take bufLen) : WF b := by
  have hsplit := List.take_append_drop bufLen all
  refine ⟨?_, by rw [hbd, List.length_take]; exact Nat.min_le_left _ _, fun c cs h => ?_⟩
  · rw [← hsplit, List.all_append, Bool.and_eq_true] at hd
    rw [hbd]; exact hd.1
  · have e : all = c :: (cs ++ all.drop bufLen) := by rw [← List.cons_append, ← h, hbd]; exact hsplit.symm
    have hne : all ≠ [] := e ▸ List.cons_ne_nil _ _
    exact (lead_iff all hd hne).mpr (hlo hne) c _ e

end C03
