/-
The grammar of filter expressions as the parser (Model/Proc/ParseFilter.lean) reads it: derivations over
tokenizer positions (`Parses`, `PList`), each premise `Tk` one error-free token.  The parser computes every
derivation (`Parses.sound`; the converse is `parser_post` in C07Parse.lean); every derivation has a balanced token
stream and well-formed trees with offsets inside the text.
-/
import Proofs.Lemmas.C07Lex
import Model.Proc.ParseFilter

namespace C07
open Proc.Tok Proc.ParseFilter

/-- token kinds that begin a term / that end a juxtaposition -/
def startK (k : UInt8) : Bool := k == cLP || k == cDash || k == cStar || k == kW || k == kQ
def stopK (k : UInt8) : Bool := k == cRP || k == kO || k == 0

/-- `v₁ OR … OR vₙ )` after `key:(` : the leaves, in order -/
inductive PList (cx : Ctx) (off : Int) (key : Bytes) : Bytes → List Filter → Bytes → Prop
  | last {q v cur q1 t2 c2 q2 : Bytes} {k : UInt8} {o : Int} : isValue k = true → Tk cx true q k v cur q1 →
      Tk cx true q1 cRP t2 c2 q2 → PList cx off key q [mkMatch off key ⟨k, o, v⟩] q2
  | more {q v cur q1 t2 c2 q2 q3 : Bytes} {k : UInt8} {o : Int} {ts : List Filter} : isValue k = true →
      Tk cx true q k v cur q1 → Tk cx true q1 kO t2 c2 q2 → PList cx off key q2 ts q3 →
      PList cx off key q (mkMatch off key ⟨k, o, v⟩ :: ts) q3

/-- nonterminals: a term (`match`), the rest of a juxtaposition (`andExpr`'s loop), a juxtaposition (`andExpr`),
alternatives (`expr`'s loop) -/
inductive NT | M | T | A | O

/-- `Parses cx nt q ts q'`: from position `q` the nonterminal `nt` derives the operands `ts` (one tree for `M`)
and ends at `q'` -/
inductive Parses (cx : Ctx) : NT → Bytes → List Filter → Bytes → Prop
  | paren {q t0 c0 q1 q2 t2 c2 q3 : Bytes} {alts : List Filter} : Tk cx false q cLP t0 c0 q1 → Parses cx .O q1 alts q2 →
      Tk cx false q2 cRP t2 c2 q3 → Parses cx .M q [finish .or alts] q3
  | neg {q t0 c0 q1 q2 : Bytes} {m : Filter} : Tk cx false q cDash t0 c0 q1 → Parses cx .M q1 [m] q2 →
      Parses cx .M q [.op .not [m]] q2
  | star {q t0 c0 q1 : Bytes} : Tk cx false q cStar t0 c0 q1 → Parses cx .M q [.op .and []] q1
  | term {q key c0 q1 t1 c1 q2 v c2 q3 : Bytes} {k kv : UInt8} {o : Int} : isWord k = true → Tk cx false q k key c0 q1 →
      Tk cx false q1 cColon t1 c1 q2 → isValue kv = true → Tk cx true q2 kv v c2 q3 →
      Parses cx .M q [mkMatch (offOf cx c0) key ⟨kv, o, v⟩] q3
  | list {q key c0 q1 t1 c1 q2 t2 c2 q3 q4 : Bytes} {k : UInt8} {ts : List Filter} : isWord k = true →
      Tk cx false q k key c0 q1 → Tk cx false q1 cColon t1 c1 q2 → Tk cx true q2 cLP t2 c2 q3 →
      PList cx (offOf cx c0) key q3 ts q4 → Parses cx .M q [.op .or ts] q4
  | stop {q t0 c0 q1 : Bytes} {k : UInt8} : Tk cx false q k t0 c0 q1 → stopK k = true → Parses cx .T q [] c0
  | and {q t0 c0 q1 q2 : Bytes} {ts : List Filter} : Tk cx false q kA t0 c0 q1 → Parses cx .T q1 ts q2 →
      Parses cx .T q ts q2
  | item {q t0 c0 q1 q2 q3 : Bytes} {k : UInt8} {m : Filter} {ts : List Filter} : Tk cx false q k t0 c0 q1 →
      startK k = true → Parses cx .M c0 [m] q2 → Parses cx .T q2 ts q3 → Parses cx .T q (m :: ts) q3
  | andExpr {q q1 q2 : Bytes} {m : Filter} {ts : List Filter} : Parses cx .M q [m] q1 → Parses cx .T q1 ts q2 →
      Parses cx .A q [finish .and (m :: ts)] q2
  | last {q q2 t0 c0 q3 : Bytes} {k : UInt8} {a : Filter} : Parses cx .A q [a] q2 → Tk cx false q2 k t0 c0 q3 →
      (k == kO) = false → Parses cx .O q [a] c0
  | more {q q2 t0 c0 q3 q4 : Bytes} {a : Filter} {alts : List Filter} : Parses cx .A q [a] q2 →
      Tk cx false q2 kO t0 c0 q3 → Parses cx .O q3 alts q4 → Parses cx .O q (a :: alts) q4

theorem isValue_facts {k : UInt8} (h : isValue k = true) : k ≠ 0 ∧ k ≠ cLP ∧ k ≠ cRP ∧ k ≠ cColon := by
  simp only [isValue, Bool.or_eq_true, beq_iff_eq] at h
  rcases h with (h | h) | h <;> rw [h] <;> decide

theorem isWord_facts {k : UInt8} (h : isWord k = true) : k ≠ 0 ∧ k ≠ cLP ∧ k ≠ cRP ∧ k ≠ cColon := by
  simp only [isWord, Bool.or_eq_true, beq_iff_eq] at h
  rcases h with h | h <;> rw [h] <;> decide

theorem isWord_kinds {k : UInt8} (h : isWord k = true) : (k == cLP) = false ∧ (k == cDash) = false ∧ (k == cStar) = false := by
  simp only [isWord, Bool.or_eq_true, beq_iff_eq] at h
  rcases h with rfl | rfl <;> decide

theorem PList.len {cx : Ctx} {off : Int} {key q q' : Bytes} {ts : List Filter} (h : PList cx off key q ts q') :
    q'.length < q.length := by
  induction h with
  | last hv a b => have := a.adv (isValue_facts hv).1; have := b.adv (by decide); omega
  | more hv a b _ ih => have := a.adv (isValue_facts hv).1; have := b.adv (by decide); omega

theorem PList.sound {cx : Ctx} {off : Int} {key q q' : Bytes} {ts : List Filter} (h : PList cx off key q ts q') :
    ∀ f acc e, q.length < f → listLoop cx off key f acc q e = ⟨.op .or (acc ++ ts), q', e⟩ := by
  induction h with
  | last hv a b =>
    intro f acc e hf
    obtain ⟨f, rfl⟩ : ∃ g, f = g + 1 := ⟨f - 1, by omega⟩
    simp [listLoop, a.eq, b.eq, mkTok, hv, mkMatch]
  | more hv a b r ih =>
    intro f acc e hf
    obtain ⟨f, rfl⟩ : ∃ g, f = g + 1 := ⟨f - 1, by omega⟩
    have := a.adv (isValue_facts hv).1; have := b.adv (by decide)
    have e1 : (kO == cRP) = false := by decide
    simp [listLoop, a.eq, b.eq, mkTok, hv, e1, ih f _ e (by omega), mkMatch]

/-- positions only move forward; a term consumes input -/
theorem Parses.len {cx : Ctx} {nt : NT} {q q' : Bytes} {ts : List Filter} (h : Parses cx nt q ts q') :
    q'.length ≤ q.length ∧ (nt = .M → q'.length < q.length) := by
  induction h with
  | paren a _ c ih => have := a.adv (by decide); have := c.adv (by decide); omega
  | neg a _ ih => have := a.adv (by decide); omega
  | star a => have := a.adv (by decide); omega
  | term hk a b hv c =>
    have := a.adv (isWord_facts hk).1; have := b.adv (by decide); have := c.adv (isValue_facts hv).1
    omega
  | list hk a b c l =>
    have := a.adv (isWord_facts hk).1; have := b.adv (by decide); have := c.adv (by decide)
    have := l.len; omega
  | stop a _ => exact ⟨a.le, nofun⟩
  | and a _ ih => have := a.adv (by decide); exact ⟨by omega, nofun⟩
  | item a _ _ _ ih1 ih2 => have := a.le; exact ⟨by omega, nofun⟩
  | andExpr _ _ ih1 ih2 => exact ⟨by omega, nofun⟩
  | last _ c _ ih => have := c.le; exact ⟨by omega, nofun⟩
  | more _ c _ ih1 ih2 => have := c.adv (by decide); exact ⟨by omega, nofun⟩

/-- what the parser function of each nonterminal returns on a derivation: the loops append the derived operands to
those collected so far -/
def Computes (cx : Ctx) : NT → Bytes → List Filter → Bytes → Prop
  | .M, q, ts, q' => ∀ f e, 5 * q.length < f → matchF cx f q e = ⟨ts.headD .nil, q', e⟩
  | .T, q, ts, q' => ∀ f acc e, 5 * q.length + 1 < f → andLoop cx f acc q e = ⟨finish .and (acc ++ ts), q', e⟩
  | .A, q, ts, q' => ∀ f e, 5 * q.length + 2 < f → andExprF cx f q e = ⟨ts.headD .nil, q', e⟩
  | .O, q, ts, q' => ∀ f acc e, 5 * q.length + 3 < f → exprLoop cx f acc q e = ⟨finish .or (acc ++ ts), q', e⟩

theorem Parses.sound {cx : Ctx} {nt : NT} {q q' : Bytes} {ts : List Filter} (h : Parses cx nt q ts q') :
    Computes cx nt q ts q' := by
  induction h with
  | paren a x c ih =>
    intro f e hf
    have := a.adv (by decide)
    obtain ⟨f, rfl⟩ : ∃ g, f = g + 2 := ⟨f - 2, by omega⟩
    simp [matchF, exprF, a.eq, mkTok, ih f [] _ (by omega), c.eq]
  | neg a _ ih =>
    intro f e hf
    obtain ⟨f, rfl⟩ : ∃ g, f = g + 1 := ⟨f - 1, by omega⟩
    have := a.adv (by decide)
    have e1 : (cDash == cLP) = false := by decide
    simp [matchF, a.eq, mkTok, e1, ih f _ (by omega)]
  | star a =>
    intro f e hf
    obtain ⟨f, rfl⟩ : ∃ g, f = g + 1 := ⟨f - 1, by omega⟩
    have e1 : (cStar == cLP) = false := by decide
    have e2 : (cStar == cDash) = false := by decide
    simp [matchF, a.eq, mkTok, e1, e2]
  | term hk a b hv c =>
    intro f e hf
    obtain ⟨f, rfl⟩ : ∃ g, f = g + 1 := ⟨f - 1, by omega⟩
    obtain ⟨e1, e2, e3⟩ := isWord_kinds hk
    simp [matchF, a.eq, b.eq, c.eq, mkTok, e1, e2, e3, hk, hv, mkMatch]
  | list hk a b c l =>
    intro f e hf
    obtain ⟨f, rfl⟩ : ∃ g, f = g + 1 := ⟨f - 1, by omega⟩
    obtain ⟨e1, e2, e3⟩ := isWord_kinds hk
    have e4 : isValue cLP = false := by decide
    simp [matchF, a.eq, b.eq, c.eq, mkTok, e1, e2, e3, hk, e4, l.sound _ [] e (Nat.lt_succ_self _)]
  | stop a hs =>
    intro f acc e hf
    obtain ⟨f, rfl⟩ : ∃ g, f = g + 1 := ⟨f - 1, by omega⟩
    obtain ⟨e1, e2⟩ := stopK_kinds hs
    simp only [stopK] at hs
    simp [andLoop, a.eq, mkTok, e1, e2, hs]
  | and a _ ih =>
    intro f acc e hf
    obtain ⟨f, rfl⟩ : ∃ g, f = g + 1 := ⟨f - 1, by omega⟩
    have := a.adv (by decide)
    simp [andLoop, a.eq, mkTok, ih f acc e (by omega)]
  | item a hs m _ ih1 ih2 =>
    intro f acc e hf
    obtain ⟨f, rfl⟩ : ∃ g, f = g + 1 := ⟨f - 1, by omega⟩
    have := a.le; have := (m.len).2 rfl
    have e1 := startK_notA hs
    simp only [startK] at hs
    simp [andLoop, a.eq, mkTok, e1, hs, ih1 f e (by omega), ih2 f _ e (by omega)]
  | andExpr m _ ih1 ih2 =>
    intro f e hf
    obtain ⟨f, rfl⟩ : ∃ g, f = g + 1 := ⟨f - 1, by omega⟩
    have := (m.len).2 rfl
    rw [andExprF, ih1 f e (by omega)]
    exact ih2 f [_] e (by omega)
  | last _ c hk ih =>
    intro f acc e hf
    obtain ⟨f, rfl⟩ : ∃ g, f = g + 1 := ⟨f - 1, by omega⟩
    rw [exprLoop, ih f e (by omega), c.eq]
    simp [mkTok, hk]
  | more a c _ ih1 ih2 =>
    intro f acc e hf
    obtain ⟨f, rfl⟩ : ∃ g, f = g + 1 := ⟨f - 1, by omega⟩
    have := (a.len).1; have := c.adv (by decide)
    rw [exprLoop, ih1 f e (by omega), c.eq]
    simp [mkTok, ih2 f _ e (by omega)]
where
  stopK_kinds {k : UInt8} (h : stopK k = true) :
      (k == kA) = false ∧ (k == cLP || k == cDash || k == cStar || k == kW || k == kQ) = false := by
    simp only [stopK, Bool.or_eq_true, beq_iff_eq] at h
    rcases h with (rfl | rfl) | rfl <;> decide
  startK_notA {k : UInt8} (h : startK k = true) : (k == kA) = false := by
    simp only [startK, Bool.or_eq_true, beq_iff_eq] at h
    rcases h with (((rfl | rfl) | rfl) | rfl) | rfl <;> decide

theorem startK_of_isWord {k : UInt8} (h : isWord k = true) : startK k = true := by
  simp only [isWord, Bool.or_eq_true, beq_iff_eq] at h
  rcases h with rfl | rfl <;> decide

/-- the rule T → M T of the grammar: a term, then the rest of the juxtaposition.  (`item` is the parser's way of
applying it: look at the term's first token, then read the term from where that token stands.) -/
theorem Parses.juxt {cx : Ctx} {q q2 q3 : Bytes} {m : Filter} {ts : List Filter} (hm : Parses cx .M q [m] q2)
    (ht : Parses cx .T q2 ts q3) : Parses cx .T q (m :: ts) q3 := by
  cases hm with
  | paren a x c => exact .item a (by decide) (.paren a.atCur x c) ht
  | neg a x => exact .item a (by decide) (.neg a.atCur x) ht
  | star a => exact .item a (by decide) (.star a.atCur) ht
  | term hk a b hv c => exact .item a (startK_of_isWord hk) (.term hk a.atCur b hv c) ht
  | list hk a b c l => exact .item a (startK_of_isWord hk) (.list hk a.atCur b c l) ht

theorem PList.space {cx : Ctx} {off : Int} {key q q' : Bytes} {ts : List Filter} (h : PList cx off key q ts q') :
    PList cx off key (0x20 :: q) ts q' := by
  cases h with
  | last hv a b => exact .last hv a.space b
  | more hv a b r => exact .more hv a.space b r

/-- a blank in front changes no derivation -/
theorem Parses.space {cx : Ctx} {nt : NT} {q q' : Bytes} {ts : List Filter} (h : Parses cx nt q ts q') :
    Parses cx nt (0x20 :: q) ts q' := by
  induction h with
  | paren a x c => exact .paren a.space x c
  | neg a m => exact .neg a.space m
  | star a => exact .star a.space
  | term hk a b hv c => exact .term hk a.space b hv c
  | list hk a b c l => exact .list hk a.space b c l
  | stop a hs => exact .stop a.space hs
  | and a t => exact .and a.space t
  | item a hs m t => exact .item a.space hs m t
  | andExpr m t ih => exact .andExpr ih t
  | last a c hk ih => exact .last ih c hk
  | more a c o ih => exact .more ih c o

/-- an offset inside a text of `cx.n` bytes -/
def InR (cx : Ctx) (o : Int) : Prop := 0 ≤ o ∧ o ≤ (cx.n : Int)

theorem inR_offOf (cx : Ctx) {q : Bytes} (h : q.length ≤ cx.n) : InR cx (offOf cx q) := by
  simp only [InR, offOf]; omega

/-- a parse tree without `nil` in which every NOT has one operand and every leaf offset satisfies `P` -/
inductive Tree (P : Int → Prop) : Filter → Prop
  | lit (k v : Bytes) (off : Int) : P off → Tree P (.lit k v off)
  | re (k v : Bytes) (off : Int) : P off → Tree P (.re k v off)
  | op (o : Op) (es : List Filter) : (∀ x, x ∈ es → Tree P x) → (o = .not → es.length = 1) → Tree P (.op o es)

/-- no `nil` anywhere; `not` has exactly one operand (what `NewFilter` relies on) -/
abbrev WF : Filter → Prop := Tree fun _ => True

/-- moreover every leaf offset is inside the text -/
abbrev OffsIn (cx : Ctx) : Filter → Prop := Tree (InR cx)

theorem tree_finish {P : Int → Prop} (o : Op) (ho : o ≠ .not) (terms : List Filter) (h : ∀ x, x ∈ terms → Tree P x)
    (hne : terms ≠ []) : Tree P (finish o terms) := by
  unfold finish
  split
  · exact h _ (by simp)
  · exact Tree.op o terms h (fun h' => absurd h' ho)

theorem tree_mkMatch {P : Int → Prop} {off : Int} (key : Bytes) (val : Tok) (h : P off) : Tree P (mkMatch off key val) := by
  unfold mkMatch
  split
  · exact Tree.re _ _ _ h
  · exact Tree.lit _ _ _ h

theorem Tk.lex {cx : Ctx} {δ : St → UInt8 → St} (st : St) {q tok cur q' : Bytes} {k : UInt8} (h : Tk cx st.mode q k tok cur q')
    (hk : k ≠ 0) {st' : St} (hst : δ st k = st') : Lex cx δ st q [k] st' q' := by
  have e := h.eq none
  have := Lex.single (δ := δ) st q (by rw [e]; rfl) (by rw [e]; exact hk)
  rw [e] at this
  exact hst ▸ this

theorem stepF_K {k : UInt8} (h : k ≠ cColon) : stepF .K k = .K := if_neg (by simpa using h)

theorem PList.lex {cx : Ctx} {off : Int} {key q q' : Bytes} {ts : List Filter} (h : PList cx off key q ts q') :
    ∃ ks, Lex cx stepF .L q ks .K q' ∧ Closes ks := by
  induction h with
  | @last _ _ _ _ _ _ _ k _ hv a b =>
    have hf := isValue_facts hv
    exact ⟨[k, cRP], (a.lex .L hf.1 (if_neg (by simpa using hf.2.2.1))).append (b.lex .L (by decide) rfl),
      Closes.cons hf.2.1 hf.2.2.1 Closes.rp⟩
  | @more _ _ _ _ _ _ _ _ k _ _ hv a b _ ih =>
    have hf := isValue_facts hv
    obtain ⟨ks, l, c⟩ := ih
    exact ⟨k :: kO :: ks, ((a.lex .L hf.1 (if_neg (by simpa using hf.2.2.1))).append (b.lex .L (by decide) rfl)).append l,
      Closes.cons hf.2.1 hf.2.2.1 (Closes.cons (by decide) (by decide) c)⟩

theorem Parses.lex {cx : Ctx} {nt : NT} {q q' : Bytes} {ts : List Filter} (h : Parses cx nt q ts q') :
    ∃ ks, Lex cx stepF .K q ks .K q' ∧ Seg ks := by
  induction h with
  | paren a _ c ih =>
    obtain ⟨ks, l, s⟩ := ih
    exact ⟨cLP :: (ks ++ [cRP]), ((a.lex .K (by decide) rfl).append l).append (c.lex .K (by decide) rfl), Seg.paren s⟩
  | neg a _ ih =>
    obtain ⟨ks, l, s⟩ := ih
    exact ⟨cDash :: ks, (a.lex .K (by decide) rfl).append l, Seg.cons (by decide) (by decide) s⟩
  | star a => exact ⟨[cStar], a.lex .K (by decide) rfl, Seg.single (by decide) (by decide)⟩
  | @term _ _ _ _ _ _ _ _ _ _ k kv _ hk a b hv c =>
    have hw := isWord_facts hk
    have hf := isValue_facts hv
    exact ⟨[k, cColon, kv], ((a.lex .K hw.1 (stepF_K hw.2.2.2)).append (b.lex .K (by decide) rfl)).append
        (c.lex .V hf.1 (if_neg (by simpa using hf.2.1))),
      Seg.cons hw.2.1 hw.2.2.1 (Seg.cons (by decide) (by decide) (Seg.single hf.2.1 hf.2.2.1))⟩
  | @list _ _ _ _ _ _ _ _ _ _ _ k _ hk a b c l =>
    have hw := isWord_facts hk
    obtain ⟨ks, ll, cl⟩ := l.lex
    exact ⟨k :: cColon :: cLP :: ks, (((a.lex .K hw.1 (stepF_K hw.2.2.2)).append (b.lex .K (by decide) rfl)).append
        (c.lex .V (by decide) rfl)).append ll,
      Seg.cons hw.2.1 hw.2.2.1 (Seg.cons (k := cColon) (by decide) (by decide) (Seg.open_ cl))⟩
  | stop a _ => exact ⟨[], Lex.nil a.same, Seg.nil⟩
  | and a _ ih =>
    obtain ⟨ks, l, s⟩ := ih
    exact ⟨kA :: ks, (a.lex .K (by decide) rfl).append l, Seg.cons (by decide) (by decide) s⟩
  | item a _ _ _ ih1 ih2 =>
    obtain ⟨k1, l1, s1⟩ := ih1
    obtain ⟨k2, l2, s2⟩ := ih2
    exact ⟨k1 ++ k2, ((Lex.nil a.same).append l1).append l2, s1.append s2⟩
  | andExpr _ _ ih1 ih2 =>
    obtain ⟨k1, l1, s1⟩ := ih1
    obtain ⟨k2, l2, s2⟩ := ih2
    exact ⟨k1 ++ k2, l1.append l2, s1.append s2⟩
  | last _ c _ ih =>
    obtain ⟨k1, l1, s1⟩ := ih
    exact ⟨k1, l1.same_right c.same, s1⟩
  | more _ c _ ih1 ih2 =>
    obtain ⟨k1, l1, s1⟩ := ih1
    obtain ⟨k2, l2, s2⟩ := ih2
    exact ⟨k1 ++ (kO :: k2), l1.append ((c.lex .K (by decide) rfl).append l2), s1.append (Seg.cons (by decide) (by decide) s2)⟩

theorem PList.tree {cx : Ctx} {P : Int → Prop} {off : Int} {key q q' : Bytes} {ts : List Filter}
    (h : PList cx off key q ts q') (ho : P off) : ∀ x, x ∈ ts → Tree P x := by
  induction h with
  | last => exact List.forall_mem_singleton.mpr (tree_mkMatch _ _ ho)
  | more _ _ _ _ ih => exact List.forall_mem_cons.mpr ⟨tree_mkMatch _ _ ho, ih⟩

theorem Parses.tree {cx : Ctx} {P : Int → Prop} {nt : NT} {q q' : Bytes} {ts : List Filter} (h : Parses cx nt q ts q') :
    (∀ c : Bytes, c.length ≤ q.length → P (offOf cx c)) → ∀ x, x ∈ ts → Tree P x := by
  induction h with
  | @paren _ _ _ _ _ _ _ _ alts a o _ ih =>
    intro hp
    have := a.fwd
    have hne : alts ≠ [] := by cases o <;> simp
    exact List.forall_mem_singleton.mpr (tree_finish .or (by decide) _ (ih fun c hc => hp c (by omega)) hne)
  | neg a _ ih =>
    intro hp
    have := a.fwd
    exact List.forall_mem_singleton.mpr (Tree.op _ _ (ih fun c hc => hp c (by omega)) fun _ => rfl)
  | star => intro _; exact List.forall_mem_singleton.mpr (Tree.op _ _ (List.forall_mem_nil _) (fun h => by cases h))
  | term _ a => intro hp; exact List.forall_mem_singleton.mpr (tree_mkMatch _ _ (hp _ a.le))
  | list _ a _ _ l =>
    intro hp
    exact List.forall_mem_singleton.mpr (Tree.op _ _ (l.tree (hp _ a.le)) (fun h => by cases h))
  | stop => intro _; exact (List.forall_mem_nil _)
  | and a _ ih => intro hp; have := a.fwd; exact ih fun c hc => hp c (by omega)
  | item a _ m _ ih1 ih2 =>
    intro hp
    have := a.le; have := m.len.1
    exact List.forall_mem_cons.mpr ⟨ih1 (fun c hc => hp c (by omega)) _ (by simp), ih2 fun c hc => hp c (by omega)⟩
  | andExpr m _ ih1 ih2 =>
    intro hp
    have := m.len.1
    exact List.forall_mem_singleton.mpr (tree_finish .and (by decide) _
      (List.forall_mem_cons.mpr ⟨ih1 hp _ (by simp), ih2 fun c hc => hp c (by omega)⟩) (by simp))
  | last _ _ _ ih => exact ih
  | more a c _ ih1 ih2 =>
    intro hp
    have := a.len.1; have := c.fwd
    exact List.forall_mem_cons.mpr ⟨ih1 hp _ (by simp), ih2 fun c hc => hp c (by omega)⟩

end C07
