/-
utf8.AppendRune (model `encodeRune`) writes the rune of a valid encoding (`Shared.Enc`) as the bytes it was read
from.
-/
import Proofs.Lemmas.C07Rune

namespace C07
open Proc.Tok

theorem ofNat_toNat' (b : UInt8) : UInt8.ofNat b.toNat = b := by simp

theorem horner64 (a x : Nat) (hx : x < 64) : (a * 64 + x) / 64 = a ∧ (a * 64 + x) % 64 = x := by
  constructor
  · rw [Nat.mul_comm, Nat.mul_add_div (by decide), Nat.div_eq_of_lt hx, Nat.add_zero]
  · rw [Nat.mul_comm, Nat.mul_add_mod, Nat.mod_eq_of_lt hx]

theorem digits64 {r x0 x1 x2 x3 : Nat} (hr : r = x0 * 262144 + x1 * 4096 + x2 * 64 + x3)
    (h1 : x1 < 64) (h2 : x2 < 64) (h3 : x3 < 64) :
    r / 262144 = x0 ∧ r / 4096 = x0 * 64 + x1 ∧ r / 64 = (x0 * 64 + x1) * 64 + x2 ∧
      r / 4096 % 64 = x1 ∧ r / 64 % 64 = x2 ∧ r % 64 = x3 := by
  have e : r = ((x0 * 64 + x1) * 64 + x2) * 64 + x3 := by omega
  have a := horner64 ((x0 * 64 + x1) * 64 + x2) x3 h3
  have b := horner64 (x0 * 64 + x1) x2 h2
  have c := horner64 x0 x1 h1
  rw [← e] at a
  have e2 : r / 4096 = x0 * 64 + x1 := by
    rw [show 4096 = 64 * 64 from rfl, ← Nat.div_div_eq_div_mul, a.1, b.1]
  have e3 : r / 262144 = x0 := by
    rw [show 262144 = 64 * 64 * 64 from rfl, ← Nat.div_div_eq_div_mul, ← Nat.div_div_eq_div_mul, a.1, b.1, c.1]
  exact ⟨e3, e2, a.1, by rw [e2, c.2], by rw [a.1, b.2], a.2⟩

theorem cont_payload {n : Nat} (h : 0x80 ≤ n ∧ n ≤ 0xBF) : 0x80 + n % 64 = n ∧ n % 64 < 64 := by omega

theorem validRune_iff {r : Nat} : validRune r = true ↔ r < 0xD800 ∨ (0xDFFF < r ∧ r ≤ 0x10FFFF) := by
  simp [validRune]

/-- the decoder's window for the second byte of a three- or four-byte sequence (narrower for the lead bytes `x`
and `y`), as plain inequalities -/
theorem second_byte {c b x y lo hi : Nat} (hlo : 0x80 ≤ lo) (hhi : hi ≤ 0xBF)
    (h : (if (c == x) = true then lo else 0x80) ≤ b ∧ b ≤ (if (c == y) = true then hi else 0xBF)) :
    (0x80 ≤ b ∧ b ≤ 0xBF) ∧ (c ≠ x ∨ lo ≤ b) ∧ (c ≠ y ∨ b ≤ hi) := by
  simp only [beq_iff_eq] at h
  split at h <;> split at h <;> omega

/-- In each case the rune is written by `%` and `*` and the payloads of the bytes are named first (so that `omega`
sees no `%`), then the range of the rune is settled, and only then its digits are brought in. -/
theorem encodeRune_enc {c : UInt8} {l : Bytes} {r : Nat} (h : Shared.Enc c l r) :
    encodeRune r = c :: l ∧ validRune r = true := by
  cases h with
  | one h0 => exact ⟨by simp [encodeRune, h0], validRune_iff.mpr (Or.inl (by omega))⟩
  | @two b1 h0 h0' h1 =>
    rw [Shared.pack2]
    have ⟨p0, l0⟩ : 0xC0 + c.toNat % 32 = c.toNat ∧ 2 ≤ c.toNat % 32 ∧ c.toNat % 32 < 32 := by omega
    have ⟨p1, l1⟩ := cont_payload h1
    generalize c.toNat % 32 = x2 at p0 l0 ⊢
    generalize b1.toNat % 64 = x3 at p1 l1 ⊢
    generalize hr : x2 * 64 + x3 = r
    have ⟨n1, n2⟩ : ¬ r < 0x80 ∧ r < 0x800 := by omega
    have ⟨_, _, d2, _, _, d3⟩ := digits64 (r := r) (x0 := 0) (x1 := 0) (x2 := x2) (x3 := x3)
      (by rw [← hr, Nat.zero_mul, Nat.zero_add]) (by decide) (Nat.lt_trans l0.2 (by decide)) l1
    simp only [Nat.zero_mul, Nat.zero_add] at d2
    refine ⟨?_, validRune_iff.mpr (Or.inl (Nat.lt_trans n2 (by decide)))⟩
    rw [encodeRune, if_neg n1, if_pos n2, d2, d3, p0, p1, ofNat_toNat', ofNat_toNat']
  | @three b1 b2 h0 h0' h =>
    rw [Shared.pack3]
    have ⟨h1, hE0, hED⟩ := second_byte (by decide) (by decide) ⟨h.1, h.2.1⟩
    have ⟨p0, l0, q0, q1⟩ : 0xE0 + c.toNat % 16 = c.toNat ∧ c.toNat % 16 < 16 ∧
        (c.toNat % 16 = 0 → 32 ≤ b1.toNat % 64) ∧ (c.toNat % 16 = 13 → b1.toNat % 64 < 32) := by omega
    have ⟨p1, l1⟩ := cont_payload h1
    have ⟨p2, l2⟩ := cont_payload h.2.2
    clear h0 h0' h h1 hE0 hED
    generalize c.toNat % 16 = x1 at p0 l0 q0 q1 ⊢
    generalize b1.toNat % 64 = x2 at p1 l1 q0 q1 ⊢
    generalize b2.toNat % 64 = x3 at p2 l2 ⊢
    generalize hr : x1 * 4096 + x2 * 64 + x3 = r
    have ⟨n2, n3, hv⟩ : ¬ r < 0x800 ∧ r < 0x10000 ∧ (r < 0xD800 ∨ (0xDFFF < r ∧ r ≤ 0x10FFFF)) := by omega
    replace hv := validRune_iff.mpr hv
    have ⟨_, d1, _, _, d2, d3⟩ := digits64 (r := r) (x0 := 0) (x1 := x1) (x2 := x2) (x3 := x3)
      (by rw [← hr, Nat.zero_mul, Nat.zero_add]) (Nat.lt_trans l0 (by decide)) l1 l2
    simp only [Nat.zero_mul, Nat.zero_add] at d1
    refine ⟨?_, hv⟩
    rw [encodeRune, if_neg (fun h => n2 (Nat.lt_trans h (by decide))), if_neg n2, hv, if_neg (by decide), if_pos n3,
      d1, d2, d3, p0, p1, p2, ofNat_toNat', ofNat_toNat', ofNat_toNat']
  | @four b1 b2 b3 h0 h0' h =>
    rw [Shared.pack4]
    have ⟨h1, hF0, hF4⟩ := second_byte (by decide) (by decide) ⟨h.1, h.2.1⟩
    have ⟨p0, q0, q1⟩ : 0xF0 + c.toNat % 8 = c.toNat ∧
        (c.toNat % 8 = 0 → 16 ≤ b1.toNat % 64) ∧ (c.toNat % 8 ≥ 4 → c.toNat % 8 = 4 ∧ b1.toNat % 64 < 16) := by omega
    have ⟨p1, l1⟩ := cont_payload h1
    have ⟨p2, l2⟩ := cont_payload ⟨h.2.2.1, h.2.2.2.1⟩
    have ⟨p3, l3⟩ := cont_payload h.2.2.2.2
    clear h0 h0' h h1 hF0 hF4
    generalize c.toNat % 8 = x0 at p0 q0 q1 ⊢
    generalize b1.toNat % 64 = x1 at p1 l1 q0 q1 ⊢
    generalize b2.toNat % 64 = x2 at p2 l2 ⊢
    generalize b3.toNat % 64 = x3 at p3 l3 ⊢
    generalize hr : x0 * 262144 + x1 * 4096 + x2 * 64 + x3 = r
    have ⟨n3, hv⟩ : ¬ r < 0x10000 ∧ (r < 0xD800 ∨ (0xDFFF < r ∧ r ≤ 0x10FFFF)) := by omega
    replace hv := validRune_iff.mpr hv
    have ⟨d0, _, _, d1, d2, d3⟩ := digits64 hr.symm l1 l2 l3
    refine ⟨?_, hv⟩
    rw [encodeRune, if_neg (fun h => n3 (Nat.lt_trans h (by decide))), if_neg (fun h => n3 (Nat.lt_trans h (by decide))),
      hv, if_neg (by decide), if_neg n3, d0, d1, d2, d3, p0, p1, p2, p3,
      ofNat_toNat', ofNat_toNat', ofNat_toNat', ofNat_toNat']

end C07
