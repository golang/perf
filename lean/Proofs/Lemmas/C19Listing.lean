/-
C19 helper lemmas: the listing order (`ORDER BY Day DESC, Seq DESC, UploadID DESC`), and the listing of an
accepted query in terms of the records the query selects (`listing_spec_partial`).
-/
import Model.Storage.Query
import Proofs.Lemmas.C19Order
import Proofs.Lemmas.C19Rel
import Proofs.Lemmas.Shared.Sort

namespace C19
open Storage.Query

theorem newer_iff (a b : UploadRow) :
    newer a b = true ↔
      (blt b.day a.day = true ∨ (a.day = b.day ∧ (b.seq < a.seq ∨ (a.seq = b.seq ∧ blt b.id a.id = true)))) := by
  simp [newer]

theorem newer_trans (a b c : UploadRow) (h1 : newer a b = true) (h2 : newer b c = true) :
    newer a c = true := by
  rw [newer_iff] at *
  have t : ∀ x y z : Bytes, blt x y = true → blt y z = true → blt x z = true := blt_trans
  rcases h1 with h1 | ⟨e1, h1⟩
  · rcases h2 with h2 | ⟨e2, h2⟩
    · exact Or.inl (t _ _ _ h2 h1)
    · exact Or.inl (e2 ▸ h1)
  · rcases h2 with h2 | ⟨e2, h2⟩
    · exact Or.inl (e1 ▸ h2)
    · refine Or.inr ⟨e1.trans e2, ?_⟩
      rcases h1 with h1 | ⟨s1, h1⟩
      · rcases h2 with h2 | ⟨s2, h2⟩
        · exact Or.inl (by omega)
        · exact Or.inl (by omega)
      · rcases h2 with h2 | ⟨s2, h2⟩
        · exact Or.inl (by omega)
        · exact Or.inr ⟨s1.trans s2, t _ _ _ h2 h1⟩

theorem newer_irrefl (a : UploadRow) : newer a a = false := by
  cases h : newer a a with
  | false => rfl
  | true =>
    rw [newer_iff] at h
    rcases h with h | ⟨_, h | ⟨_, h⟩⟩
    · rw [blt_irrefl] at h; cases h
    · omega
    · rw [blt_irrefl] at h; cases h

theorem newer_asymm (a b : UploadRow) (h : newer a b = true) : newer b a = false := by
  cases h2 : newer b a with
  | false => rfl
  | true => have := newer_trans a b a h h2; rw [newer_irrefl] at this; cases this

theorem newer_total (a b : UploadRow) (hid : a.id ≠ b.id) : newer a b = true ∨ newer b a = true := by
  rw [newer_iff, newer_iff]
  rcases blt_total a.day b.day with h | h | h
  · exact Or.inr (Or.inl h)
  · rcases Nat.lt_trichotomy a.seq b.seq with s | s | s
    · exact Or.inr (Or.inr ⟨h.symm, Or.inl s⟩)
    · rcases blt_total a.id b.id with i | i | i
      · exact Or.inr (Or.inr ⟨h.symm, Or.inr ⟨s.symm, i⟩⟩)
      · exact absurd i hid
      · exact Or.inl (Or.inr ⟨h, Or.inr ⟨s, i⟩⟩)
    · exact Or.inl (Or.inr ⟨h, Or.inl s⟩)
  · exact Or.inl (Or.inl h)

theorem insertNewer_is : Shared.IsInsert (fun u t : UploadRow × Nat => newer u.1 t.1 = true) insertNewer :=
  ⟨fun _ => rfl, fun _ _ _ => rfl⟩

/-- sorted: no later row is newer than an earlier one -/
def SortedNewer (l : List (UploadRow × Nat)) : Prop :=
  l.Pairwise fun a b => newer b.1 a.1 = false

theorem sortNewer_perm (l : List (UploadRow × Nat)) : (sortNewer l).Perm l := insertNewer_is.sort_perm l

theorem sortNewer_sorted (l : List (UploadRow × Nat)) : SortedNewer (sortNewer l) :=
  insertNewer_is.sort_pairwise ⟨fun _ _ => newer_asymm _ _, fun _ _ => Bool.eq_false_iff.2,
    fun _ _ _ hxy hyz => Bool.eq_false_iff.2 fun hzx => Bool.eq_false_iff.1 hyz (newer_trans _ _ _ hzx hxy)⟩ l

theorem countFor_rkey (l : List RecordRow) (id : Bytes) :
    countFor (l.map RecordRow.rkey) id = (l.filter (·.upload == id)).length := by
  unfold countFor
  rw [List.filter_map, List.length_map]
  rfl

/-- for an accepted query the listing reports, for every upload, the number of records the same query
selects (`selectRecords`) that belong to the upload; uploads without such a record are left out; the rows
are those of `sortNewer` cut at a positive limit -/
theorem listing_spec_partial (db : DB) (q : Bytes) (limit : Int) (rows : List (Bytes × Nat))
    (h : listUploads db q limit = .ok rows) :
    ∃ sqls, parseQuery q = .ok sqls ∧
      rows = (applyLimit limit (sortNewer ((db.uploads.map fun u =>
        (u, ((selectRecords db sqls).filter (·.upload == u.id)).length)).filter (·.2 > 0)))).map
          fun p => (p.1.id, p.2) := by
  unfold listUploads at h
  obtain ⟨sqls, hp, h⟩ := (bind_eq_ok _ _ _).mp h
  refine ⟨sqls, hp, ?_⟩
  cases h
  cases sqls with
  | nil => rfl
  | cons s rest =>
    have hm : (db.uploads.map fun u => (u, countFor ((joinAll db (s :: rest)).flatMap fun k =>
          (db.records.filter (·.rkey == k)).map (·.rkey)) u.id)) =
        (db.uploads.map fun u => (u, (((joinAll db (s :: rest)).flatMap fun k =>
          db.records.filter (·.rkey == k)).filter (·.upload == u.id)).length)) :=
      List.map_congr_left fun u _ => by rw [← List.map_flatMap, countFor_rkey]
    simp only [selectRecords]
    rw [hm]

end C19
