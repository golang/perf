/-
C04 helper lemmas for idempotence: a well-formed piece list re-parses to itself; the pieces of
any string are well formed; replacing components by ASCII words keeps well-formedness.
-/
import Proofs.Lemmas.C04Sub

namespace C04
open Shared Unit.Parse Unit.Tidy
open Spec.Tidy (runes group Piece rewrite pieces)

/-- a separator piece carries a valid encoding of its rune -/
def SepOK (r : Nat) (enc : Bytes) : Prop :=
  Spec.Tidy.isSep r = true ∧ ∃ c l, enc = c :: l ∧ Enc c l r

/-- the piece lists that `group (R bs)` produces (`WF_R`) and that re-parse to themselves
(`reparse`): valid separator encodings, non-empty words of whole non-separator runes (`Word`),
no two words in a row -/
inductive WF : List Piece → Prop
  | nil : WF []
  | sep {r : Nat} {enc : Bytes} {ps : List Piece} : SepOK r enc → WF ps → WF (.sep r enc :: ps)
  | word {w : Bytes} {ps : List Piece} : w ≠ [] → Word w → noWordHead ps → WF ps → WF (.word w :: ps)

theorem okTail_concat {ps : List Piece} (h : WF ps) (hn : noWordHead ps) : okTail (concatP ps) := by
  cases h with
  | nil => exact .inl rfl
  | @sep r enc ps' hs _ =>
    obtain ⟨_, c, l, rfl, hc⟩ := hs
    exact .inr ⟨c, l ++ concatP ps', rfl, hc.head⟩
  | word _ _ _ _ => exact hn.elim

theorem R_sep_cons (r : Nat) (enc tail : Bytes) (h : SepOK r enc) : R (enc ++ tail) = (r, enc) :: R tail := by
  obtain ⟨_, c, l, rfl, hc⟩ := h
  exact R_append _ tail r (List.cons_ne_nil _ _) (decodeRune_enc hc tail)

theorem reparse : ∀ {ps : List Piece}, WF ps → group (R (concatP ps)) = ps := by
  intro ps h
  induction h with
  | nil => simp [concatP, R_nil, group]
  | sep hs _ ih =>
    rw [concatP_cons]
    simp only [Piece.bytes]
    rw [R_sep_cons _ _ _ hs, group_cons_sep _ _ _ hs.1, ih]
  | word hne hw hn hwf ih =>
    rw [concatP_cons]
    simp only [Piece.bytes]
    rw [group_word _ _ hne hw (okTail_concat hwf hn) (by rw [ih]; exact hn), ih]

theorem WF_R (bs : Bytes) : WF (group (R bs)) := by
  induction bs using length_induction with
  | _ bs ih =>
    cases bs with
    | nil => rw [R_nil]; exact WF.nil
    | cons b bs =>
      by_cases hs : Spec.Tidy.isSep (Utf8.decodeRune (b :: bs)).1 = true
      · obtain ⟨l, t, r, rfl, hl⟩ := valid_of_ne_error b bs (isSep_ne_error _ hs)
        rw [decodeRune_enc hl t] at hs
        rw [← List.cons_append, R_sep_cons r (b :: l) t ⟨hs, b, l, rfl, hl⟩, group_cons_sep _ _ _ hs]
        exact WF.sep ⟨hs, b, l, rfl, hl⟩ (ih _ (by simp only [List.length_cons, List.length_append]; omega))
      · obtain ⟨e1, hw, hk, hn, hne⟩ := takeTok_spec ((b :: bs).length + 1) (b :: bs) (Nat.lt_succ_self _)
        replace hne := hne (List.cons_ne_nil _ _) (by simpa using hs)
        generalize takeTok ((b :: bs).length + 1) (b :: bs) = tt at *
        obtain ⟨t, rest⟩ := tt
        simp only at e1 hw hk hn hne
        rw [e1, group_word t rest hne hw hk hn]
        refine WF.word hne hw hn (ih _ ?_)
        have h3 : 0 < t.length := List.length_pos_iff.mpr hne
        rw [e1, List.length_append]
        omega

open Spec.Tidy (ns mb sec b numerator)

/-- the output of `Spec.Tidy.rewrite` as a piece list (`rewrite_fst`): each word replaced by
`wordOut` under the denominator flag in force -/
def mapP : Bool → List Piece → List Piece
  | _, [] => []
  | d, .sep r enc :: ps => .sep r enc :: mapP (sepDenom r d) ps
  | d, .word w :: ps => .word (wordOut d w) :: mapP d ps

theorem rewrite_fst : ∀ (ps : List Piece) (d : Bool) (f : F64.Bits), (rewrite d f ps).1 = concatP (mapP d ps)
  | [], _, _ => rfl
  | .sep r enc :: ps, d, f => by rw [rewrite_sep, mapP, concatP_cons, ← rewrite_fst ps]; rfl
  | .word w :: ps, d, f => by rw [rewrite_word, mapP, concatP_cons, ← rewrite_fst ps]; rfl

theorem noWordHead_mapP (d : Bool) (ps : List Piece) (h : noWordHead ps) : noWordHead (mapP d ps) := by
  cases ps with
  | nil => trivial
  | cons p ps => cases p with
    | sep r enc => trivial
    | word w => exact h.elim

theorem word_ascii (c : UInt8) (t : Bytes) (hc : c.toNat < 0x80) (hs : Spec.Tidy.isSep c.toNat = false)
    (ht : Word t) : Word (c :: t) := fun x hx => by
  rw [show c :: t = [c] ++ t from rfl, R_append [c] t c.toNat (List.cons_ne_nil _ _) (dec1 c t hc)] at hx
  rcases List.mem_cons.mp hx with rfl | hx
  · exact hs
  · exact ht x hx

theorem word_wordOut (d : Bool) (w : Bytes) (hne : w ≠ []) (hw : Word w) :
    wordOut d w ≠ [] ∧ Word (wordOut d w) := by
  unfold wordOut
  split
  · exact ⟨by decide, word_ascii 115 _ (by decide) (by decide) <| word_ascii 101 _ (by decide) (by decide) <|
      word_ascii 99 _ (by decide) (by decide) word_nil⟩
  · split
    · exact ⟨by decide, word_ascii 66 _ (by decide) (by decide) word_nil⟩
    · exact ⟨hne, hw⟩

theorem WF_mapP : ∀ {ps : List Piece}, WF ps → ∀ d, WF (mapP d ps) := by
  intro ps h
  induction h with
  | nil => intro d; exact WF.nil
  | sep hs _ ih => intro d; exact WF.sep hs (ih _)
  | word hne hw hn _ ih =>
    intro d
    exact WF.word (word_wordOut d _ hne hw).1 (word_wordOut d _ hne hw).2 (noWordHead_mapP _ _ hn) (ih d)

theorem wordOut_ne (w : Bytes) : wordOut false w ≠ ns ∧ wordOut false w ≠ mb := by
  simp only [wordOut, Bool.not_false, Bool.true_and]
  split
  · decide
  · split
    · decide
    · exact ⟨by simpa using ‹¬ (w == ns) = true›, by simpa using ‹¬ (w == mb) = true›⟩

theorem numerator_mapP : ∀ (ps : List Piece) (d : Bool), ∀ w ∈ numerator d (mapP d ps), w ≠ ns ∧ w ≠ mb
  | [], _, w, h => by cases h
  | .sep _ _ :: ps, _, w, h => numerator_mapP ps _ w h
  | .word x :: ps, d, w, h => by
    cases d with
    | true => exact numerator_mapP ps _ w h
    | false =>
      rcases List.mem_cons.mp h with rfl | h
      · exact wordOut_ne x
      · exact numerator_mapP ps _ w h

theorem pieces_tidy (u : Bytes) : pieces (Spec.Tidy.tidyUnit u).1 = mapP false (pieces u) := by
  unfold Spec.Tidy.tidyUnit
  rw [rewrite_fst]
  exact reparse (WF_mapP (WF_R u) false)

theorem spec_tidyUnit_isBase (u : Bytes) : Spec.Tidy.isBase (Spec.Tidy.tidyUnit u).1 = true := by
  unfold Spec.Tidy.isBase
  rw [pieces_tidy, List.all_eq_true]
  intro w hw
  have := numerator_mapP _ _ w hw
  simp [this.1, this.2]

theorem spec_tidyUnit_idem (u : Bytes) :
    Spec.Tidy.tidyUnit (Spec.Tidy.tidyUnit u).1 = ((Spec.Tidy.tidyUnit u).1, F64.one) :=
  spec_tidyUnit_of_isBase _ (spec_tidyUnit_isBase u)

end C04
