/-
C20 helper lemmas: the loop over the parts of a request. `Parts` is `runParts` as a derivation with one rule
per way a part can be handled; what the loop may have done to the run (`PartsStep`), what the transaction
has received and what a run without error implies are inductions over it.
-/
import Proofs.Lemmas.C20Index

namespace C20
open Storage.Upload

/-- the transaction a file part is indexed in: the open one, or a new one under a newly allocated id -/
inductive Start (env : Env) (r : Run) : Run → Tx → Prop
  | cont {t : Tx} : r.tx = some t → Start env r r t
  | fresh {k : UKey} : r.tx = none → allocId env.day r.uploads = some k →
      Start env r { r with uploads := r.uploads ++ [k] } { id := k }

theorem Start.run {env : Env} {r r1 : Run} {t : Tx} (h : Start env r r1 t) :
    r1.fs = r.fs ∧ r1.opc = r.opc ∧ r1.fileids = r.fileids := by
  cases h <;> exact ⟨rfl, rfl, rfl⟩

/-- `Parts env f ps i r r' e`: `runParts env f ps i r = (r', e)`, as a derivation with one rule per way
a part can be handled. -/
inductive Parts (env : Env) (f : Option Fault) : List Part → Nat → Run → Run → Option Err → Prop
  | nil (i : Nat) (r : Run) : Parts env f [] i r r none
  | commit {name : Bytes} {ps : List Part} {i : Nat} {r r' : Run} {e : Option Err} : name = commitWord →
      Parts env f ps (i + 1) r r' e → Parts env f (Part.field name :: ps) i r r' e
  | field {name : Bytes} (ps : List Part) (i : Nat) (r : Run) : name ≠ commitWord →
      Parts env f (Part.field name :: ps) i r r (some Err.field)
  | noId (fname content : Bytes) (cut : Bool) (chunks : List Nat) (ps : List Part) (i : Nat) {r : Run} :
      r.tx = none → allocId env.day r.uploads = none →
      Parts env f (Part.file fname content cut chunks :: ps) i r r (some Err.db)
  | fileErr {fname content : Bytes} {cut : Bool} {chunks : List Nat} (ps : List Part) {i : Nat}
      {r r1 r2 : Run} {t t2 : Tx} {e : Err} : Start env r r1 t →
      FileEnd f env r1 t ⟨i, fname, content, cut, chunks⟩ (r2, t2, some e) →
      Parts env f (Part.file fname content cut chunks :: ps) i r { r2 with tx := some t2 } (some e)
  | fileOk {fname content : Bytes} {cut : Bool} {chunks : List Nat} {ps : List Part} {i : Nat}
      {r r1 r2 r' : Run} {t t2 : Tx} {e : Option Err} : Start env r r1 t →
      FileEnd f env r1 t ⟨i, fname, content, cut, chunks⟩ (r2, t2, none) →
      Parts env f ps (i + 1) { r2 with tx := some t2, fileids := r2.fileids ++ [⟨t.id, i⟩] } r' e →
      Parts env f (Part.file fname content cut chunks :: ps) i r r' e

theorem runParts_parts (env : Env) (f : Option Fault) (ps : List Part) (i : Nat) (r : Run) :
    Parts env f ps i r (runParts env f ps i r).1 (runParts env f ps i r).2 := by
  induction ps generalizing i r with
  | nil => exact .nil i r
  | cons p ps ih =>
    cases p with
    | field name =>
      rw [runParts]
      split
      · exact .commit (beq_iff_eq.mp ‹_›) (ih _ _)
      · exact .field ps i r (mt beq_iff_eq.mpr ‹_›)
    | file fname content cut chunks =>
      have key : ∀ {r1 t} (res : Run × Tx × Option Err), Start env r r1 t →
          FileEnd f env r1 t ⟨i, fname, content, cut, chunks⟩ res → ∀ out,
          out = (match res.2.2 with
            | some e => ({ res.1 with tx := some res.2.1 }, some e)
            | none => runParts env f ps (i + 1)
                { res.1 with tx := some res.2.1, fileids := res.1.fileids ++ [(⟨t.id, i⟩ : Path)] }) →
          Parts env f (Part.file fname content cut chunks :: ps) i r out.1 out.2 := by
        intro r1 t res hs hf out hout
        obtain ⟨r2, t2, e⟩ := res
        subst hout
        cases e with
        | some e => exact .fileErr ps hs hf
        | none => exact .fileOk hs hf (ih _ _)
      rw [runParts]
      cases htx : r.tx with
      | some t => exact key _ (.cont htx) (indexFile_cases ..) _ rfl
      | none =>
        cases hal : allocId env.day r.uploads with
        | none => exact .noId _ _ _ _ _ _ htx hal
        | some k =>
          have hs := Start.fresh htx hal
          rw [htx] at hs
          exact key _ hs (indexFile_cases ..) _ rfl

/-- what the loop over the parts may have done to the run, whether it stopped with an error `e` or
not: an open transaction keeps its upload id and the Uploads rows, and the store changes by files
of that id only (`cont`); without one, either nothing happened or one was started under the next
id of the day (`fresh`); a file left in progress means an error, and that file is not in the
store (`inprog`) -/
structure PartsStep (day : Nat) (r r' : Run) (e : Option Err) : Prop where
  cont : ∀ t, r.tx = some t → ∃ t', r'.tx = some t' ∧ t'.id = t.id ∧ r'.uploads = r.uploads ∧ FsStep t.id r.fs r'.fs
  fresh : r.tx = none → (r'.tx = none ∧ r'.uploads = r.uploads ∧ r'.fs = r.fs) ∨
      (∃ t', r'.tx = some t' ∧ allocId day r.uploads = some t'.id ∧ r'.uploads = r.uploads ++ [t'.id] ∧
        FsStep t'.id r.fs r'.fs)
  inprog : r.inprog = none → ∀ p, r'.inprog = some p → e ≠ none ∧ p ∉ r'.fs.map Prod.fst

theorem PartsStep.stop (day : Nat) (r : Run) (e : Option Err) : PartsStep day r r e :=
  ⟨fun t h => ⟨t, h, rfl, rfl, .refl _ _⟩, fun h => Or.inl ⟨h, rfl, rfl⟩,
   fun h p hp => by simp [h] at hp⟩

theorem PartsStep.file {env : Env} {r r1 r2 : Run} {t t2 : Tx} {e : Option Err} (hs : Start env r r1 t)
    (st : FileStep t r1 r2 t2 e) (fi : List Path) :
    PartsStep env.day r { r2 with tx := some t2, fileids := fi } e := by
  cases hs with
  | cont htx =>
    refine ⟨fun t0 h0 => ?_, fun h => by simp [htx] at h, fun h p => st.inprog_err p h⟩
    obtain rfl : t = t0 := Option.some.inj (htx.symm.trans h0)
    exact ⟨t2, rfl, st.id, st.uploads, st.fs⟩
  | fresh htx hal =>
    refine ⟨fun t0 h0 => by simp [htx] at h0, fun _ => Or.inr ⟨t2, rfl, ?_, ?_, ?_⟩, fun h p => st.inprog_err p h⟩
    · rw [st.id]; exact hal
    · rw [st.id]; exact st.uploads
    · rw [st.id]; exact st.fs

theorem PartsStep.trans {day : Nat} {r a r' : Run} {e : Option Err} (h1 : PartsStep day r a none)
    (h2 : PartsStep day a r' e) : PartsStep day r r' e := by
  have hcont : ∀ {t1 : Tx} {k : UKey}, a.tx = some t1 → t1.id = k → FsStep k r.fs a.fs →
      ∃ t', r'.tx = some t' ∧ t'.id = k ∧ r'.uploads = a.uploads ∧ FsStep k r.fs r'.fs := by
    intro t1 k ha hk hfs
    obtain ⟨t', h1', h2', h3', h4'⟩ := h2.cont t1 ha
    exact ⟨t', h1', h2'.trans hk, h3', hfs.trans (hk ▸ h4')⟩
  refine ⟨fun t ht => ?_, fun ht => ?_, fun h0 => h2.inprog ?_⟩
  · obtain ⟨t1, ha, hid, hup, hfs⟩ := h1.cont t ht
    obtain ⟨t', h⟩ := hcont ha hid hfs
    exact ⟨t', h.1, h.2.1, h.2.2.1.trans hup, h.2.2.2⟩
  · rcases h1.fresh ht with ⟨ha, hup, hfs⟩ | ⟨t1, ha, hal, hup, hfs⟩
    · rw [← hup, ← hfs]
      exact h2.fresh ha
    · obtain ⟨t', h⟩ := hcont ha rfl hfs
      exact Or.inr ⟨t', h.1, h.2.1 ▸ hal, h.2.1 ▸ h.2.2.1.trans hup, h.2.1 ▸ h.2.2.2⟩
  · cases hp : a.inprog with
    | none => rfl
    | some p => exact absurd rfl (h1.inprog h0 p hp).1

theorem Parts.step {env : Env} {f : Option Fault} {ps : List Part} {i : Nat} {r r' : Run} {e : Option Err} (h : Parts env f ps i r r' e) :
    PartsStep env.day r r' e := by
  induction h with
  | nil | field | noId => exact .stop _ _ _
  | commit _ _ ih => exact ih
  | fileErr _ hs hf => exact .file hs hf.step _
  | fileOk hs hf _ ih => exact (PartsStep.file hs hf.step _).trans ih

/-- file-store calls a fault-free run makes for the parts of a request (`fileOps` per file part) -/
def opsOf (env : Env) : List Part → Nat
  | [] => 0
  | Part.field _ :: ps => opsOf env ps
  | Part.file fname content _ chunks :: ps => fileOps env fname content chunks + opsOf env ps

/-- the benchmark lines of the file parts, in request order -/
def partsLines : List Part → List Bytes
  | [] => []
  | Part.field _ :: ps => partsLines ps
  | Part.file _ content _ _ :: ps => fileLines content ++ partsLines ps

theorem Parts.ext {env : Env} {f : Option Fault} {ps : List Part} {i : Nat} {r r' : Run} {e : Option Err} (h : Parts env f ps i r r' e)
    (he : e = none) {t' : Tx} (ht' : r'.tx = some t') :
    ∃ r1 t0, Start env r r1 t0 ∧ TxExt t0 t' (partsLines ps) := by
  induction h with
  | nil => exact ⟨_, t', .cont ht', .refl t'⟩
  | field | noId | fileErr => cases he
  | commit _ _ ih => exact ih he ht'
  | fileOk hs hf _ ih =>
    obtain ⟨_, t0, hs', ext⟩ := ih he ht'
    cases hs' with
    | fresh h0 => cases h0
    | cont h0 =>
      cases h0
      cases hf with
      | stored _ ext0 _ _ => exact ⟨_, _, hs, ext0.trans ext⟩

theorem Parts.ok {env : Env} {f : Option Fault} {ps : List Part} {i : Nat} {r r' : Run} {e : Option Err}
    (h : Parts env f ps i r r' e) (he : e = none) :
    (∀ p ∈ ps, partOk p) ∧ FaultFree f r.opc (r.opc + opsOf env ps) := by
  induction h with
  | nil => exact ⟨List.forall_mem_nil _, fun j h1 h2 => absurd h2 (Nat.not_lt.mpr h1)⟩
  | field | noId | fileErr => cases he
  | commit hn _ ih => exact ⟨List.forall_mem_cons.mpr ⟨hn, (ih he).1⟩, (ih he).2⟩
  | fileOk hs hf _ ih =>
    cases hf with
    | stored _ _ hok hfree =>
      exact ⟨List.forall_mem_cons.mpr ⟨hok, (ih he).1⟩, Nat.add_assoc .. ▸ hs.run.2.1 ▸ hfree.trans (ih he).2⟩

theorem Parts.only_fields {env : Env} {f : Option Fault} {ps : List Part} {i : Nat} {r r' : Run} {e : Option Err}
    (h : Parts env f ps i r r' e) (hall : ∀ p ∈ ps, ∃ name, p = Part.field name) : r' = r := by
  induction h with
  | nil | field => rfl
  | commit _ _ ih => exact ih fun p hp => hall p (List.mem_cons_of_mem _ hp)
  | noId | fileErr | fileOk =>
    obtain ⟨_, h⟩ := hall _ List.mem_cons_self
    cases h

end C20
