/-
C11: the combinatorics of assignments, free of the model. Everything here speaks only of
`Spec.UExact` (the pair-counting statistic `twoUPairs`, the enumeration `splits`, the null
distribution `nullDistOf`) and of two relations between lists of statistic values: `CountEq` (the
same values up to order) and `MirrorOf` (the values reflected about the middle of their range).
-/
import Model.Spec.UExact
import Mathlib.Data.Nat.Choose.Basic
import Mathlib.Algebra.BigOperators.Group.Finset.Basic
import Mathlib.Algebra.BigOperators.Intervals
import Mathlib.Algebra.BigOperators.Ring.List
import Mathlib.Order.Defs.LinearOrder
import Mathlib.Order.Basic
import Mathlib.Algebra.Order.Field.Rat
import Mathlib.Data.List.Perm.Basic
import Mathlib.Tactic.Ring
import Mathlib.Tactic.Linarith

namespace C11

section TwoUPairs
open Spec.UExact
variable {α : Type} [LT α] [DecidableLT α] [DecidableEq α]

theorem twoUPairs_nil_left_u (x2 : List α) : twoUPairs ([] : List α) x2 = 0 := rfl

theorem twoUPairs_cons_left (a : α) (xs ys : List α) :
    twoUPairs (a :: xs) ys = (ys.map fun b => pairW a b).sum + twoUPairs xs ys := by
  simp [twoUPairs]

theorem twoUPairs_nil_right_u (x1 : List α) : twoUPairs x1 ([] : List α) = 0 := by
  induction x1 with
  | nil => rfl
  | cons a l ih => rw [twoUPairs_cons_left, ih]; rfl

theorem twoUPairs_append_left (xs xs' ys : List α) :
    twoUPairs (xs ++ xs') ys = twoUPairs xs ys + twoUPairs xs' ys := by
  simp [twoUPairs, List.map_append, List.sum_append]

theorem twoUPairs_append_right (xs ys ys' : List α) :
    twoUPairs xs (ys ++ ys') = twoUPairs xs ys + twoUPairs xs ys' := by
  induction xs with
  | nil => rfl
  | cons a xs ih =>
    rw [twoUPairs_cons_left, twoUPairs_cons_left, twoUPairs_cons_left, ih]
    simp only [List.map_append, List.sum_append]
    omega

theorem twoUPairs_const (k : Nat) (xs ys : List α)
    (h : ∀ a ∈ xs, ∀ b ∈ ys, pairW a b = k) :
    twoUPairs xs ys = k * xs.length * ys.length := by
  induction xs with
  | nil => rw [twoUPairs_nil_left_u, List.length_nil, Nat.mul_zero, Nat.zero_mul]
  | cons a xs ih =>
    have hrow : (ys.map fun b => pairW a b).sum = k * ys.length := by
      rw [List.map_congr_left (h a List.mem_cons_self), List.map_const', List.sum_replicate_nat,
        Nat.mul_comm]
    rw [twoUPairs_cons_left, hrow, ih fun a' ha' => h a' (List.mem_cons_of_mem _ ha'),
      List.length_cons, Nat.mul_succ, Nat.add_mul, Nat.add_comm]

end TwoUPairs

section Splits
open Spec.UExact
variable {α : Type}

theorem splits_mem {n : Nat} {l : List α} {p : List α × List α} (hp : p ∈ splits n l) :
    p.1.length = n ∧ (p.1 ++ p.2).Perm l := by
  induction l generalizing n p with
  | nil => cases n <;> simp_all [splits]
  | cons a l ih =>
    cases n with
    | zero => simp_all [splits]
    | succ n =>
      simp only [splits, List.mem_append, List.mem_map] at hp
      obtain ⟨q, hq, rfl⟩ | ⟨q, hq, rfl⟩ := hp
      · exact ⟨congrArg (· + 1) (ih hq).1, (ih hq).2.cons a⟩
      · exact ⟨(ih hq).1, List.perm_middle.trans ((ih hq).2.cons a)⟩

theorem splits_mem_length {n : Nat} {l : List α} {p : List α × List α} (hp : p ∈ splits n l) :
    p.1.length = n ∧ p.2.length + n = l.length := by
  obtain ⟨h1, h2⟩ := splits_mem hp
  have := h2.length_eq
  rw [List.length_append] at this
  omega

theorem splits_mem_forall {Q : α → Prop} {n : Nat} {l : List α} {p : List α × List α}
    (hQ : ∀ x ∈ l, Q x) (hp : p ∈ splits n l) : (∀ x ∈ p.1, Q x) ∧ ∀ x ∈ p.2, Q x :=
  ⟨fun x hx => hQ x ((splits_mem hp).2.subset (List.mem_append_left _ hx)),
    fun x hx => hQ x ((splits_mem hp).2.subset (List.mem_append_right _ hx))⟩

theorem splits_length (n : Nat) (pool : List α) :
    (splits n pool).length = Nat.choose pool.length n := by
  induction pool generalizing n with
  | nil => cases n <;> simp [splits]
  | cons a l ih =>
    cases n with
    | zero => simp [splits]
    | succ n =>
      simp only [splits, List.length_append, List.length_map, List.length_cons, ih,
        Nat.choose_succ_succ']

theorem splits_zero (l : List α) : splits 0 l = [([], l)] := by
  cases l <;> rfl

theorem countP_splits_zero (l : List α) (Q : List α × List α → Bool) :
    (splits 0 l).countP Q = if Q ([], l) = true then 1 else 0 := by
  rw [splits_zero, List.countP_singleton]

theorem countP_splits_cons (n : Nat) (a : α) (l : List α) (Q : List α × List α → Bool) :
    (splits (n + 1) (a :: l)).countP Q
      = (splits n l).countP (fun p => Q (a :: p.1, p.2))
        + (splits (n + 1) l).countP (fun p => Q (p.1, a :: p.2)) := by
  rw [splits, List.countP_append, List.countP_map, List.countP_map]
  rfl

theorem splits_gt (l : List α) (n : Nat) (h : l.length < n) : splits n l = [] :=
  List.eq_nil_of_length_eq_zero (by rw [splits_length, Nat.choose_eq_zero_of_lt h])

theorem splits_length_self (l : List α) : splits l.length l = [(l, [])] := by
  induction l with
  | nil => rfl
  | cons a l ih =>
    rw [List.length_cons, splits, ih, splits_gt l (l.length + 1) (by omega)]
    rfl

theorem countP_splits_compl (l : List α) :
    ∀ (n k : Nat) (Q : List α × List α → Bool), n + k = l.length →
      (splits k l).countP Q = (splits n l).countP (fun p => Q (p.2, p.1)) := by
  induction l with
  | nil =>
    intro n k Q h
    obtain ⟨rfl, rfl⟩ := Nat.add_eq_zero_iff.mp h
    rfl
  | cons a l ih =>
    intro n k Q h
    rw [List.length_cons] at h
    match n, k, h with
    | 0, k, h =>
      obtain rfl : k = (a :: l).length := by rw [List.length_cons]; omega
      rw [splits_length_self, splits_zero, List.countP_singleton, List.countP_singleton]
    | n + 1, 0, h =>
      rw [show n + 1 = (a :: l).length by rw [List.length_cons]; omega, splits_length_self, splits_zero,
        List.countP_singleton, List.countP_singleton]
    | n + 1, k + 1, h =>
      rw [countP_splits_cons, countP_splits_cons, ih (n + 1) k _ (by omega), ih n (k + 1) _ (by omega)]
      exact Nat.add_comm _ _

theorem splits_map {β : Type} (f : α → β) (l : List α) :
    ∀ n, splits n (l.map f) = (splits n l).map (fun p => (p.1.map f, p.2.map f)) := by
  induction l with
  | nil => intro n; cases n <;> rfl
  | cons a l ih =>
    intro n
    cases n with
    | zero => rfl
    | succ n =>
      simp only [List.map_cons, splits, ih, List.map_append, List.map_map]
      rfl

/-- choosing n positions of `replicate t v ++ rest`: choose r of the t equal values (C(t,r) ways,
    all giving the same lists) and n − r positions of `rest` -/
theorem countP_splits_replicate (v : α) (rest : List α) (t : Nat) :
    ∀ (n : Nat) (Q : List α × List α → Bool),
      (splits n (List.replicate t v ++ rest)).countP Q
        = ∑ r ∈ Finset.range (n + 1), Nat.choose t r *
            ((splits (n - r) rest).countP fun p =>
              Q (List.replicate r v ++ p.1, List.replicate (t - r) v ++ p.2)) := by
  induction t with
  | zero =>
    intro n Q
    rw [Finset.sum_range_succ']
    simp
  | succ t iht =>
    intro n Q
    cases n with
    | zero =>
      simp [splits_zero]
    | succ n =>
      rw [List.replicate_succ, List.cons_append, countP_splits_cons, iht n, iht (n + 1)]
      conv_rhs => rw [Finset.sum_range_succ']
      conv_lhs => rw [Finset.sum_range_succ' _ (n + 1)]
      simp only [Nat.choose_succ_succ', Nat.choose_zero_right, add_mul, Finset.sum_add_distrib,
        Nat.sub_zero, List.replicate_zero, List.nil_append,
        Nat.add_sub_add_right, List.replicate_succ, List.cons_append]
      have key : ∀ x, Nat.choose t (x + 1) *
            ((splits (n - x) rest).countP fun p =>
              Q (v :: (List.replicate x v ++ p.1), v :: (List.replicate (t - (x + 1)) v ++ p.2)))
          = Nat.choose t (x + 1) *
            ((splits (n - x) rest).countP fun p =>
              Q (v :: (List.replicate x v ++ p.1), List.replicate (t - x) v ++ p.2)) := by
        intro x
        by_cases hr : x + 1 ≤ t
        · have : t - x = (t - (x + 1)) + 1 := by omega
          rw [this, List.replicate_succ]
          rfl
        · rw [Nat.choose_eq_zero_of_lt (by omega)]
          simp
      rw [Finset.sum_congr rfl (fun x _ => key x)]
      ring

/-- `C(t, r)` vanishes for `r > t`, so the range of `r` may be cut at `t` or not -/
theorem sum_range_min_choose (t n : Nat) (f : Nat → Nat) :
    ∑ r ∈ Finset.range (min t n + 1), Nat.choose t r * f r
      = ∑ r ∈ Finset.range (n + 1), Nat.choose t r * f r := by
  apply Finset.sum_subset
  · intro r hr
    rw [Finset.mem_range] at hr ⊢
    omega
  · intro r hr hnr
    rw [Finset.mem_range] at hr hnr
    rw [Nat.choose_eq_zero_of_lt (by omega), Nat.zero_mul]

/-- a predicate on (chosen, rest) that only looks at the two multisets -/
def PermInv (Q : List α × List α → Bool) : Prop :=
  ∀ p q : List α × List α, p.1.Perm q.1 → p.2.Perm q.2 → Q p = Q q

theorem permInv_cons1 (a : α) {Q : List α × List α → Bool} (hQ : PermInv Q) :
    PermInv (fun p => Q (a :: p.1, p.2)) :=
  fun _ _ h1 h2 => hQ _ _ (h1.cons a) h2

theorem permInv_cons2 (a : α) {Q : List α × List α → Bool} (hQ : PermInv Q) :
    PermInv (fun p => Q (p.1, a :: p.2)) :=
  fun _ _ h1 h2 => hQ _ _ h1 (h2.cons a)

theorem countP_splits_perm {l l' : List α} (h : l.Perm l') :
    ∀ (n : Nat) (Q : List α × List α → Bool), PermInv Q →
      (splits n l).countP Q = (splits n l').countP Q := by
  induction h with
  | nil => intro n Q _; rfl
  | cons a h ih =>
    intro n Q hQ
    cases n with
    | zero =>
      rename_i l₁ l₂
      have e : Q ([], a :: l₁) = Q ([], a :: l₂) :=
        hQ ([], a :: l₁) ([], a :: l₂) (List.Perm.refl _) (h.cons a)
      rw [countP_splits_zero, countP_splits_zero, e]
    | succ n =>
      rw [countP_splits_cons, countP_splits_cons, ih n _ (permInv_cons1 a hQ),
        ih (n + 1) _ (permInv_cons2 a hQ)]
  | swap a b l =>
    intro n Q hQ
    have e11 : (fun p : List α × List α => Q (b :: a :: p.1, p.2))
        = (fun p => Q (a :: b :: p.1, p.2)) :=
      funext fun p => hQ (_, p.2) (_, p.2) (List.Perm.swap a b p.1) (List.Perm.refl _)
    have e22 : (fun p : List α × List α => Q (p.1, b :: a :: p.2))
        = (fun p => Q (p.1, a :: b :: p.2)) :=
      funext fun p => hQ (p.1, _) (p.1, _) (List.Perm.refl _) (List.Perm.swap a b p.2)
    match n with
    | 0 =>
      have e : Q ([], b :: a :: l) = Q ([], a :: b :: l) :=
        hQ ([], b :: a :: l) ([], a :: b :: l) (List.Perm.refl _) (List.Perm.swap a b l)
      rw [countP_splits_zero, countP_splits_zero, e]
    | 1 =>
      rw [countP_splits_cons, countP_splits_cons, countP_splits_cons, countP_splits_cons,
        countP_splits_zero, countP_splits_zero, countP_splits_zero, countP_splits_zero]
      simp only [e22]
      omega
    | n + 2 =>
      rw [countP_splits_cons, countP_splits_cons, countP_splits_cons, countP_splits_cons,
        countP_splits_cons, countP_splits_cons]
      simp only [e11, e22]
      omega
  | trans _ _ ih1 ih2 =>
    intro n Q hQ
    rw [ih1 n Q hQ, ih2 n Q hQ]

end Splits

section
open Spec.UExact
variable {α : Type} [LinearOrder α]

theorem twoUPairs_nil_left (ys : List α) : twoUPairs ([] : List α) ys = 0 := rfl

theorem twoUPairs_nil_right (xs : List α) : twoUPairs xs ([] : List α) = 0 := twoUPairs_nil_right_u xs

theorem twoUPairs_perm_left {xs xs' : List α} (h : xs.Perm xs') (ys : List α) :
    twoUPairs xs ys = twoUPairs xs' ys := by
  unfold twoUPairs
  exact (h.map _).sum_nat

theorem twoUPairs_perm_right (xs : List α) {ys ys' : List α} (h : ys.Perm ys') :
    twoUPairs xs ys = twoUPairs xs ys' := by
  induction xs with
  | nil => rfl
  | cons a xs ih =>
    rw [twoUPairs_cons_left, twoUPairs_cons_left, ih, (h.map _).sum_nat]

theorem pairW_self (a : α) : pairW a a = 1 := by simp [pairW]
theorem pairW_lt {a b : α} (h : a < b) : pairW a b = 0 := by
  simp [pairW, not_lt_of_gt h, ne_of_lt h]
theorem pairW_gt {a b : α} (h : b < a) : pairW a b = 2 := by
  simp [pairW, h]

/-- a run of the value `v` (`A` in the first sample, `B` in the second) below larger values `C`, `D`:
    the run ties with itself, loses nothing, and every larger first-sample value beats `B` -/
theorem twoUPairs_run (v : α) (A B C D : List α) (hA : ∀ a ∈ A, a = v) (hB : ∀ b ∈ B, b = v)
    (hC : ∀ c ∈ C, v < c) (hD : ∀ d ∈ D, v < d) :
    twoUPairs (A ++ C) (B ++ D) = twoUPairs C D + A.length * B.length + 2 * C.length * B.length := by
  rw [twoUPairs_append_left, twoUPairs_append_right, twoUPairs_append_right,
    twoUPairs_const 1 A B fun a ha b hb => by rw [hA a ha, hB b hb]; exact pairW_self v,
    twoUPairs_const 0 A D fun a ha d hd => by rw [hA a ha]; exact pairW_lt (hD d hd),
    twoUPairs_const 2 C B fun c hc b hb => by rw [hB b hb]; exact pairW_gt (hC c hc)]
  ring

end

namespace GroupsEnum
open Spec.UExact

theorem tup_nil_left (ys : List Nat) : twoUPairs ([] : List Nat) ys = 0 := rfl

end GroupsEnum

section Blocks
open Spec.UExact
variable {α : Type} [LinearOrder α]

theorem tup_block (v : α) (r a : Nat) (c d : List α) (hc : ∀ x ∈ c, v < x) (hd : ∀ x ∈ d, v < x) :
    twoUPairs (List.replicate r v ++ c) (List.replicate a v ++ d)
      = r * a + 2 * c.length * a + twoUPairs c d := by
  rw [twoUPairs_run v _ _ c d (fun _ h => List.eq_of_mem_replicate h)
    (fun _ h => List.eq_of_mem_replicate h) hc hd, List.length_replicate, List.length_replicate]
  ring

theorem tup_block_top (v : α) (r a : Nat) (c d : List α)
    (hc : ∀ x ∈ c, x < v) (hd : ∀ x ∈ d, x < v) :
    twoUPairs (List.replicate r v ++ c) (List.replicate a v ++ d)
      = twoUPairs c d + 2 * r * d.length + r * a := by
  rw [twoUPairs_append_left, twoUPairs_append_right, twoUPairs_append_right,
    twoUPairs_const 1 _ (List.replicate a v) fun x hx y hy => by
      rw [List.eq_of_mem_replicate hx, List.eq_of_mem_replicate hy]; exact pairW_self v,
    twoUPairs_const 2 (List.replicate r v) d fun x hx y hy => by
      rw [List.eq_of_mem_replicate hx]; exact pairW_gt (hd y hy),
    twoUPairs_const 0 c (List.replicate a v) fun x hx y hy => by
      rw [List.eq_of_mem_replicate hy]; exact pairW_lt (hc x hx),
    List.length_replicate, List.length_replicate]
  ring

theorem permInv_twoU (P : Nat → Bool) :
    PermInv (fun p : List α × List α => P (twoUPairs p.1 p.2)) := by
  intro p q h1 h2
  show P (twoUPairs p.1 p.2) = P (twoUPairs q.1 q.2)
  rw [twoUPairs_perm_left h1, twoUPairs_perm_right _ h2]

/-- peeling the largest tie group off the assignments: choose `r` of its `t` members for the first
    sample; they beat the `|rest| − (n − r)` smaller second-sample members and tie with the other
    `t − r`. The untied recurrence is the case `t = 1`, Klotz's step the general one. -/
theorem countP_splits_top (v : α) (rest : List α)
    (hv : ∀ x ∈ rest, x < v) (t n : Nat) (P : Nat → Bool) :
    (splits n (rest ++ List.replicate t v)).countP (fun p => P (twoUPairs p.1 p.2))
      = ∑ r ∈ Finset.range (n + 1), Nat.choose t r *
          (splits (n - r) rest).countP fun p =>
            P (twoUPairs p.1 p.2 + 2 * r * (rest.length - (n - r)) + r * (t - r)) := by
  rw [countP_splits_perm List.perm_append_comm n _ (permInv_twoU P), countP_splits_replicate]
  refine Finset.sum_congr rfl fun r _ => ?_
  congr 1
  apply List.countP_congr
  intro p hp
  obtain ⟨hc, hd⟩ := splits_mem_forall hv hp
  rw [tup_block_top v r (t - r) p.1 p.2 hc hd, Nat.eq_sub_of_add_eq (splits_mem_length hp).2]

end Blocks

section Pair
open Spec.UExact
variable {α β : Type} [LinearOrder α] [LinearOrder β]

theorem pairW_map_mono (f : α → β) (a b : α) (h1 : a < b ↔ f a < f b) (h2 : b < a ↔ f b < f a) :
    pairW (f a) (f b) = pairW a b := by
  rcases lt_trichotomy a b with h | h | h
  · rw [pairW_lt h, pairW_lt (h1.1 h)]
  · subst h; rw [pairW_self, pairW_self]
  · rw [pairW_gt h, pairW_gt (h2.1 h)]

theorem pairW_map_anti (g : α → β) (a b : α) (h1 : a < b ↔ g b < g a) (h2 : b < a ↔ g a < g b) :
    pairW (g a) (g b) = pairW b a := by
  rcases lt_trichotomy a b with h | h | h
  · rw [pairW_gt h, pairW_gt (h1.1 h)]
  · subst h; rw [pairW_self, pairW_self]
  · rw [pairW_lt h, pairW_lt (h2.1 h)]

theorem twoUPairs_map_eq (f : α → β) (xs ys : List α)
    (h : ∀ a ∈ xs, ∀ b ∈ ys, pairW (f a) (f b) = pairW a b) :
    twoUPairs (xs.map f) (ys.map f) = twoUPairs xs ys := by
  unfold twoUPairs
  rw [List.map_map]
  congr 1
  apply List.map_congr_left
  intro a ha
  simp only [Function.comp, List.map_map]
  congr 1
  apply List.map_congr_left
  intro b hb
  exact h a ha b hb

end Pair

open Spec.UExact

section Swap
variable {α : Type} [LinearOrder α]

theorem pairW_add_swap (a b : α) : pairW a b + pairW b a = 2 := by
  rcases lt_trichotomy a b with h | h | h
  · rw [pairW_lt h, pairW_gt h]
  · subst h; rw [pairW_self]
  · rw [pairW_gt h, pairW_lt h]

theorem twoUPairs_cons_right (a : α) (xs ys : List α) :
    twoUPairs xs (a :: ys) = (xs.map fun x => pairW x a).sum + twoUPairs xs ys := by
  induction xs with
  | nil => rfl
  | cons x xs ih =>
    rw [twoUPairs_cons_left, twoUPairs_cons_left, ih]
    simp only [List.map_cons, List.sum_cons]
    omega

theorem pairW_row_swap (a : α) (ys : List α) :
    (ys.map fun b => pairW a b).sum + (ys.map fun b => pairW b a).sum = 2 * ys.length := by
  induction ys with
  | nil => rfl
  | cons b ys ih =>
    simp only [List.map_cons, List.sum_cons, List.length_cons]
    have := pairW_add_swap a b
    omega

theorem twoUPairs_swap (x1 x2 : List α) :
    twoUPairs x1 x2 + twoUPairs x2 x1 = 2 * (x1.length * x2.length) := by
  induction x1 with
  | nil =>
    rw [twoUPairs_nil_right_u]
    show twoUPairs ([] : List α) x2 + 0 = 2 * (0 * x2.length)
    rw [Nat.zero_mul]
    rfl
  | cons a x1 ih =>
    rw [twoUPairs_cons_left, twoUPairs_cons_right, List.length_cons]
    have := pairW_row_swap a x2
    have e : 2 * ((x1.length + 1) * x2.length) = 2 * (x1.length * x2.length) + 2 * x2.length := by ring
    omega

theorem twoUPairs_le (x1 x2 : List α) : twoUPairs x1 x2 ≤ 2 * (x1.length * x2.length) := by
  have := twoUPairs_swap x1 x2
  omega

theorem twoUPairs_swap_eq (x1 x2 : List α) :
    twoUPairs x2 x1 = 2 * (x1.length * x2.length) - twoUPairs x1 x2 := by
  have := twoUPairs_swap x1 x2
  omega

theorem twoUPairs_swap_of_mem {n : Nat} {pool : List α} {p : List α × List α} (hp : p ∈ splits n pool) :
    twoUPairs p.1 p.2 + twoUPairs p.2 p.1 = 2 * (n * (pool.length - n)) := by
  rw [twoUPairs_swap, (splits_mem_length hp).1, Nat.eq_sub_of_add_eq (splits_mem_length hp).2]

theorem twoUPairs_map_flip {β : Type} [LinearOrder β] (g : α → β) (xs ys : List α)
    (h : ∀ a ∈ xs, ∀ b ∈ ys, pairW (g a) (g b) = pairW b a) :
    twoUPairs (xs.map g) (ys.map g) = twoUPairs ys xs := by
  induction xs with
  | nil => exact (twoUPairs_nil_right_u ys).symm
  | cons a xs ih =>
    rw [List.map_cons, twoUPairs_cons_left, twoUPairs_cons_right,
      ih fun a' ha' => h a' (List.mem_cons_of_mem _ ha'), List.map_map]
    congr 2
    exact List.map_congr_left fun b hb => h a List.mem_cons_self b hb

end Swap

theorem ratMin_eq_min (x y : Rat) : ratMin x y = min x y := (min_def x y).symm

theorem ratMin_comm (x y : Rat) : ratMin x y = ratMin y x := by
  rw [ratMin_eq_min, ratMin_eq_min, min_comm]

namespace E2E

/-- two lists of values in which every predicate holds equally often (same multiset) -/
def CountEq (d d' : List Nat) : Prop := ∀ P : Nat → Bool, d.countP P = d'.countP P

theorem CountEq.symm {d d' : List Nat} (h : CountEq d d') : CountEq d' d := fun P => (h P).symm

theorem CountEq.length_eq {d d' : List Nat} (h : CountEq d d') : d.length = d'.length := by
  have := h (fun _ => true)
  simpa using this

theorem CountEq.filter_length {d d' : List Nat} (h : CountEq d d') (P : Nat → Bool) :
    (d.filter P).length = (d'.filter P).length := by
  rw [← List.countP_eq_length_filter, ← List.countP_eq_length_filter]
  exact h P

theorem CountEq.ne_nil {d d' : List Nat} (h : CountEq d d') (hne : d ≠ []) : d' ≠ [] := by
  intro h'
  have := h.length_eq
  rw [h'] at this
  exact hne (List.length_eq_zero_iff.mp this)

end E2E

open E2E

theorem pLess_of_countEq {d d' : List Nat} (h : CountEq d d') (u : Nat) : pLess d u = pLess d' u := by
  unfold pLess
  rw [h.filter_length, h.length_eq]

theorem pGreater_of_countEq {d d' : List Nat} (h : CountEq d d') (u : Nat) :
    pGreater d u = pGreater d' u := by
  unfold pGreater
  rw [h.filter_length, h.length_eq]

theorem pTwoSided_of_countEq {d d' : List Nat} (h : CountEq d d') (u : Nat) :
    pTwoSided d u = pTwoSided d' u := by
  unfold pTwoSided
  rw [pLess_of_countEq h, pGreater_of_countEq h]

/-- `d'` lists the values of `d`, all of them in `0 … c`, reflected about `c/2` (in any order) -/
def MirrorOf (c : Nat) (d d' : List Nat) : Prop :=
  (∀ v ∈ d, v ≤ c) ∧ ∀ P : Nat → Bool, d'.countP P = d.countP fun v => P (c - v)

namespace MirrorOf
variable {c : Nat} {d d' : List Nat}

theorem length_eq (h : MirrorOf c d d') : d'.length = d.length := by
  simpa using h.2 fun _ => true

/-- the lower tail of the reflected values at `c − u` is the upper tail of the values at `u` -/
theorem pLess (h : MirrorOf c d d') {u : Nat} (hu : u ≤ c) :
    Spec.UExact.pLess d' (c - u) = Spec.UExact.pGreater d u := by
  unfold Spec.UExact.pLess Spec.UExact.pGreater
  rw [h.length_eq, ← List.countP_eq_length_filter, ← List.countP_eq_length_filter, h.2]
  congr 2
  exact List.countP_congr fun v hv => by
    have := h.1 v hv
    simp only [decide_eq_true_eq, ge_iff_le]
    omega

/-- values that are their own reflection: as many `≤ v` as `≥ c − v` (the form in which
    `two_sided_spec_partial` asks for symmetry) -/
theorem filter_le (h : MirrorOf c d d) (v : Nat) :
    (d.filter (· ≤ v)).length = (d.filter fun x => decide (x + v ≥ c)).length := by
  rw [← List.countP_eq_length_filter, ← List.countP_eq_length_filter, h.2]
  exact List.countP_congr fun x hx => by
    have := h.1 x hx
    simp only [decide_eq_true_eq, ge_iff_le]
    omega

theorem of_countEq {e : List Nat} (h : MirrorOf c d d) (hde : CountEq d e) : MirrorOf c e e :=
  ⟨fun v hv => by
    have hc : e.countP (fun x => decide (x ≤ c)) = e.length := by
      rw [← hde, ← hde.length_eq, List.countP_eq_length]
      exact fun x hx => decide_eq_true (h.1 x hx)
    exact of_decide_eq_true (List.countP_eq_length.mp hc v hv),
   fun P => by rw [← hde, ← hde, h.2]⟩

end MirrorOf

theorem countP_nullDistOf {α : Type} [LT α] [DecidableLT α] [DecidableEq α] (n : Nat) (pool : List α)
    (P : Nat → Bool) :
    (nullDistOf n pool).countP P = (splits n pool).countP fun p => P (twoUPairs p.1 p.2) := by
  rw [nullDistOf, List.countP_map]
  rfl

section NullDist
variable {α : Type} [LinearOrder α]

theorem nullDistOf_le (n : Nat) (pool : List α) :
    ∀ d ∈ nullDistOf n pool, d ≤ 2 * (n * (pool.length - n)) := by
  intro d hd
  obtain ⟨p, hp, rfl⟩ := List.mem_map.1 hd
  have := twoUPairs_swap_of_mem hp
  omega

theorem nullDistOf_countP_perm (n : Nat) {pool pool' : List α} (h : pool.Perm pool') :
    CountEq (nullDistOf n pool) (nullDistOf n pool') := by
  intro P
  rw [countP_nullDistOf, countP_nullDistOf]
  exact countP_splits_perm h n _ (permInv_twoU P)

theorem nullDistOf_map_of_strictMonoOn {β : Type} [LinearOrder β] (f : α → β)
    (n : Nat) (pool : List α) (hf : ∀ a ∈ pool, ∀ b ∈ pool, (a < b ↔ f a < f b)) :
    nullDistOf n (pool.map f) = nullDistOf n pool := by
  unfold nullDistOf
  rw [splits_map, List.map_map]
  apply List.map_congr_left
  intro p hp
  obtain ⟨h1, h2⟩ := splits_mem_forall (Q := (· ∈ pool)) (fun _ h => h) hp
  exact twoUPairs_map_eq f p.1 p.2 (fun a ha b hb =>
    pairW_map_mono f a b (hf a (h1 a ha) b (h2 b hb)) (hf b (h2 b hb) a (h1 a ha)))

theorem nullDistOf_map_of_strictAntiOn {β : Type} [LinearOrder β] (g : α → β)
    (n : Nat) (pool : List α) (hg : ∀ a ∈ pool, ∀ b ∈ pool, (a < b ↔ g b < g a)) :
    nullDistOf n (pool.map g)
      = (nullDistOf n pool).map (fun d => 2 * (n * (pool.length - n)) - d) := by
  unfold nullDistOf
  rw [splits_map, List.map_map, List.map_map]
  apply List.map_congr_left
  intro p hp
  obtain ⟨h1, h2⟩ := splits_mem_forall (Q := (· ∈ pool)) (fun _ h => h) hp
  have key := twoUPairs_swap_of_mem hp
  simp only [Function.comp]
  rw [twoUPairs_map_flip g p.1 p.2 fun a ha b hb =>
    pairW_map_anti g a b (hg a (h1 a ha) b (h2 b hb)) (hg b (h2 b hb) a (h1 a ha))]
  omega

theorem nullDistOf_mirror {β : Type} [LinearOrder β] (g : α → β) (n : Nat)
    {pool : List α} {pool' : List β} (hg : ∀ a ∈ pool, ∀ b ∈ pool, (a < b ↔ g b < g a))
    (hperm : (pool.map g).Perm pool') :
    MirrorOf (2 * (n * (pool.length - n))) (nullDistOf n pool) (nullDistOf n pool') :=
  ⟨nullDistOf_le n pool, fun P => by
    rw [← nullDistOf_countP_perm n hperm P, nullDistOf_map_of_strictAntiOn g n pool hg,
      List.countP_map]
    rfl⟩

theorem nullDistOf_compl (n : Nat) (pool : List α) (hn : n ≤ pool.length) :
    MirrorOf (2 * (n * (pool.length - n))) (nullDistOf n pool) (nullDistOf (pool.length - n) pool) :=
  ⟨nullDistOf_le n pool, fun P => by
    rw [countP_nullDistOf, countP_nullDistOf, countP_splits_compl pool n _ _ (Nat.add_sub_cancel' hn)]
    exact List.countP_congr fun p hp => by
      have := twoUPairs_swap_of_mem hp
      rw [show twoUPairs p.2 p.1 = 2 * (n * (pool.length - n)) - twoUPairs p.1 p.2 by omega]⟩

theorem nullDist_swap (x1 x2 : List α) :
    MirrorOf (2 * (x1.length * x2.length)) (nullDist x1 x2) (nullDist x2 x1) := by
  have h := nullDistOf_compl x1.length (x1 ++ x2) (by simp)
  rw [List.length_append, Nat.add_sub_cancel_left] at h
  exact ⟨h.1, fun P => (nullDistOf_countP_perm x2.length List.perm_append_comm P).trans (h.2 P)⟩

end NullDist

theorem nullDistOf_length {α : Type} [LT α] [DecidableLT α] [DecidableEq α] (n : Nat) (pool : List α) :
    (nullDistOf n pool).length = Nat.choose pool.length n := by
  unfold nullDistOf
  rw [List.length_map, splits_length]

theorem nullDistOf_ne_nil {α : Type} [LT α] [DecidableLT α] [DecidableEq α] (n m : Nat) (pool : List α) (hlen : pool.length = n + m) :
    nullDistOf n pool ≠ [] := by
  rw [← List.length_pos_iff, nullDistOf_length, hlen]
  exact Nat.choose_pos (Nat.le_add_right n m)

section PValues
variable {α : Type} [LinearOrder α]

theorem pLess_swap (x1 x2 : List α) (u : Nat) (hu : u ≤ 2 * (x1.length * x2.length)) :
    Spec.UExact.pLess (Spec.UExact.nullDist x2 x1) (2 * (x1.length * x2.length) - u)
      = Spec.UExact.pGreater (Spec.UExact.nullDist x1 x2) u :=
  (nullDist_swap x1 x2).pLess hu

theorem pGreater_swap (x1 x2 : List α) (u : Nat) (hu : u ≤ 2 * (x1.length * x2.length)) :
    Spec.UExact.pGreater (Spec.UExact.nullDist x2 x1) (2 * (x1.length * x2.length) - u)
      = Spec.UExact.pLess (Spec.UExact.nullDist x1 x2) u := by
  have h := pLess_swap x2 x1 (2 * (x1.length * x2.length) - u)
    (by rw [Nat.mul_comm x2.length]; exact Nat.sub_le _ _)
  rw [Nat.mul_comm x2.length, Nat.sub_sub_self hu] at h
  exact h.symm

theorem pTwoSided_swap (x1 x2 : List α) :
    Spec.UExact.pTwoSided (Spec.UExact.nullDist x2 x1) (Spec.UExact.twoUPairs x2 x1)
      = Spec.UExact.pTwoSided (Spec.UExact.nullDist x1 x2) (Spec.UExact.twoUPairs x1 x2) := by
  unfold pTwoSided
  rw [twoUPairs_swap_eq x1 x2, pLess_swap x1 x2 _ (twoUPairs_le x1 x2),
    pGreater_swap x1 x2 _ (twoUPairs_le x1 x2),
    ratMin_comm (pGreater (nullDist x1 x2) (twoUPairs x1 x2))]

theorem pTwoSided_nullDistOf_perm (n : Nat) {pool pool' : List α} (h : pool.Perm pool') (u : Nat) :
    pTwoSided (nullDistOf n pool) u = pTwoSided (nullDistOf n pool') u :=
  pTwoSided_of_countEq (nullDistOf_countP_perm n h) u

end PValues

end C11
