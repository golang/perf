/-
C19 helper lemmas: what the Printer writes for a stream of results, the Reader reads back.
Part 2: lines. The printed text scans into the lines the Printer wrote, for results whose labels
and content line the Printer/Reader pair preserves.
-/
import Model.Storage.Fmt
import Proofs.Lemmas.C19Diff
import Proofs.Lemmas.C19KvLine
import Proofs.Lemmas.Shared.ScanLines

namespace C19
open Storage.Query Storage.Fmt

def unsetLine (k : Bytes) : Bytes := k ++ [cColon]
def setLine (k v : Bytes) : Bytes := k ++ [cColon, cSpace] ++ v

def blockLines (prev : Labels) (r : Result) : List Bytes :=
  (removed prev r).map (fun kv => unsetLine kv.1) ++
  (changed prev r).map (fun kv => setLine kv.1 kv.2) ++ [r.content]

def terminated (lines : List Bytes) : Bytes := lines.flatMap (· ++ [nl])

theorem terminated_append (a b : List Bytes) : terminated (a ++ b) = terminated a ++ terminated b := by
  simp [terminated]

def allLines : Labels → List Result → List Bytes
  | _, [] => []
  | prev, r :: rs => blockLines prev r ++ allLines r.labels rs

theorem printAll_cons (prev : Labels) (r : Result) (rs : List Result) :
    printAll prev (r :: rs) = terminated (blockLines prev r) ++ printAll r.labels rs := by
  simp only [printAll, printResult, blockLines, terminated, removed, changed, List.flatMap_append,
    List.flatMap_map, unsetLine, setLine, List.flatMap_cons, List.flatMap_nil, List.append_nil,
    List.append_assoc, List.cons_append, List.nil_append]

theorem printAll_lines (prev : Labels) (rs : List Result) :
    printAll prev rs = terminated (allLines prev rs) := by
  induction rs generalizing prev with
  | nil => rfl
  | cons r rs ih => rw [printAll_cons, ih, allLines, terminated_append]

/-! the storage Reader scans lines with the function of benchfmt's (`bufio.ScanLines`) -/

theorem storage_dropCR (l : Bytes) : dropCR l = _root_.Fmt.dropCR l := by
  unfold dropCR _root_.Fmt.dropCR
  rw [List.getLast?_eq_head?_reverse]
  cases h : l.reverse with
  | nil => simp
  | cons c r =>
    have : l.dropLast = r.reverse := by
      rw [← List.reverse_reverse l, h]; simp
    by_cases hc : c = 13 <;> simp [hc, this, cr]

theorem storage_scanLines (data : Bytes) : scanLines data = _root_.Fmt.splitLines data := by
  unfold scanLines _root_.Fmt.splitLines
  generalize ([] : Bytes) = cur
  induction data generalizing cur with
  | nil => simp [scanLinesGo, _root_.Fmt.splitLinesAux, storage_dropCR]
  | cons c rest ih => simp [scanLinesGo, _root_.Fmt.splitLinesAux, storage_dropCR, ih, nl]

/-- a line `bufio.ScanLines` gives back as it was written (`Fmt.Clean`), in the terms of `GoodValue` and `CleanResult`:
no line feed inside, no CR at the end -/
def Plain (l : Bytes) : Prop := _root_.Fmt.Clean l

theorem plain_iff {l : Bytes} : Plain l ↔ (∀ c ∈ l, c ≠ nl) ∧ l.getLast? ≠ some cr := by
  simp [Plain, _root_.Fmt.Clean, Bytes.hasByte, nl, cr]

theorem scanLines_plain (lines : List Bytes) (h : ∀ l ∈ lines, Plain l) :
    scanLines (terminated lines) = lines :=
  storage_scanLines _ ▸ _root_.Fmt.splitLines_flatMap lines h

/-- a value the Printer/Reader pair preserves: non-empty, does not start with a blank or tab, holds
no line feed and does not end in CR (the complement of the class of finding N7) -/
structure GoodValue (v : Bytes) : Prop where
  first : ∃ c t, v = c :: t ∧ isBlank c = false
  noNl : ∀ c ∈ v, c ≠ nl
  noCr : v.getLast? ≠ some cr

/-- a label set the Printer/Reader pair preserves: sorted by key without duplicates, valid keys,
`GoodValue` values -/
structure GoodLabels (l : Labels) : Prop where
  sorted : StrictSorted l
  keys : ∀ kv ∈ l, validKey kv.1
  vals : ∀ kv ∈ l, GoodValue kv.2

/-- a result the Printer/Reader pair preserves: `GoodLabels`, and a content line that parses as a
benchmark line, holds no line feed and does not end in CR -/
structure CleanResult (r : Result) : Prop where
  labels : GoodLabels r.labels
  bench : ∃ name, parseBenchmarkLine r.content = some name
  noNl : ∀ c ∈ r.content, c ≠ nl
  noCr : r.content.getLast? ≠ some cr

theorem goodLabels_nil : GoodLabels [] := ⟨List.Pairwise.nil, nofun, nofun⟩

theorem goodValue_ne (v : Bytes) (h : GoodValue v) : v ≠ [] := by
  obtain ⟨c, t, rfl, _⟩ := h.first; simp

theorem validKey_noNl (k : Bytes) (h : validKey k) : ∀ c ∈ k, c ≠ nl := by
  intro c hc e
  have := (h.2 c hc).1
  rw [e] at this
  revert this; decide

theorem Plain.append {a b : Bytes} (ha : ∀ c ∈ a, c ≠ nl) (hb : Plain b) (hne : b ≠ []) : Plain (a ++ b) :=
  have hb := plain_iff.mp hb
  plain_iff.mpr ⟨fun c hc => (List.mem_append.mp hc).elim (ha c) (hb.1 c), by
    have hx := List.getLast?_eq_some_getLast hne
    rw [List.getLast?_append, hx, Option.some_or, ← hx]; exact hb.2⟩

theorem unsetLine_plain (k : Bytes) (h : validKey k) : Plain (unsetLine k) :=
  Plain.append (validKey_noNl k h) (plain_iff.mpr ⟨by decide, by decide⟩) (by simp)

theorem setLine_plain (k v : Bytes) (h : validKey k) (hv : GoodValue v) : Plain (setLine k v) :=
  Plain.append (fun c hc => (List.mem_append.mp hc).elim (validKey_noNl k h c)
      ((by decide : ∀ c ∈ [cColon, cSpace], c ≠ nl) c))
    (plain_iff.mpr ⟨hv.noNl, hv.noCr⟩) (goodValue_ne v hv)

theorem blockLines_plain (prev : Labels) (r : Result) (hp : GoodLabels prev) (hr : CleanResult r) :
    ∀ l ∈ blockLines prev r, Plain l := by
  intro l hl
  unfold blockLines at hl
  rcases List.mem_append.mp hl with hl | hl
  · rcases List.mem_append.mp hl with hl | hl
    · obtain ⟨kv, hkv, rfl⟩ := List.mem_map.mp hl
      exact unsetLine_plain _ (hp.keys kv ((mem_removed _ _ _).mp hkv).1)
    · obtain ⟨kv, hkv, rfl⟩ := List.mem_map.mp hl
      have := ((mem_changed _ _ _).mp hkv).1
      exact setLine_plain _ _ (hr.labels.keys kv this) (hr.labels.vals kv this)
  · rw [List.mem_singleton.mp hl]
    exact plain_iff.mpr ⟨hr.noNl, hr.noCr⟩

theorem blockLines_same (l : Labels) (h : GoodLabels l) (r : Result) (hr : r.labels = l) :
    blockLines l r = [r.content] := by
  have hget : ∀ kv ∈ l, Labels.get l kv.1 = kv.2 := fun kv hkv => get_of_mem l h.sorted kv.1 kv.2 hkv
  have h1 : removed l r = [] := List.filter_eq_nil_iff.mpr fun kv hkv => by
    rw [hr, hget kv hkv]; simpa using goodValue_ne _ (h.vals kv hkv)
  have h2 : changed l r = [] := List.filter_eq_nil_iff.mpr fun kv hkv => by
    rw [hr] at hkv; simp [hget kv hkv]
  simp [blockLines, h1, h2]

theorem allLines_plain (rs : List Result) (prev : Labels) (hp : GoodLabels prev)
    (hr : ∀ r ∈ rs, CleanResult r) : ∀ l ∈ allLines prev rs, Plain l := by
  induction rs generalizing prev with
  | nil => simp [allLines]
  | cons r rs ih =>
    intro l hl
    rcases List.mem_append.mp hl with hl | hl
    · exact blockLines_plain prev r hp (hr r (by simp)) l hl
    · exact ih r.labels (hr r (by simp)).labels (fun x hx => hr x (by simp [hx])) l hl

theorem scan_printAll (rs : List Result) (hr : ∀ r ∈ rs, CleanResult r) :
    scanLines (printAll [] rs) = allLines [] rs := by
  rw [printAll_lines, scanLines_plain _ (allLines_plain rs [] goodLabels_nil hr)]

end C19
