/-
C18 helper: contributions in canonical form (samples as sorted multisets).  The canonical
contribution of a test key is the same for two builders fed the same measurements in different
orders (under W1, W2), so the canonical contribution lists of a table are permutations of each
other; and the order-independence conditions `CDet` on a contribution list follow from the
well-formedness of the measurements.
-/
import Proofs.Lemmas.C18Keys

namespace C18
open Series

def canonC (c : Contrib) : Contrib := { c with num := sortBits c.num, den := c.den.map sortBits }

theorem canonC_key (c : Contrib) : (canonC c).key = c.key := rfl

theorem filter_map_canon (p : Contrib → Bool) (hp : ∀ c, p (canonC c) = p c) (cs : List Contrib) :
    (cs.map canonC).filter p = (cs.filter p).map canonC := by
  rw [List.filter_map, show p ∘ canonC = p from funext hp]

theorem option_map_getD {α β} (f : α → β) (d : α) {o1 o2 : Option α} (h : o1.map f = o2.map f) :
    f (o1.getD d) = f (o2.getD d) := by
  cases o1 <;> cases o2 <;> simp_all

theorem canon_mkC_eq (env : Env) (o : Opts) (pol : Policy) {evs1 evs2 : List Ev} (hp : evs1.Perm evs2)
    (hw : WFp env o pol evs1) (e : Ev) (he : e ∈ evs1) (hn : e.isNum o = true) :
    canonC (mkC env (build o evs1) (e.trial, e.nh)) = canonC (mkC env (build o evs2) (e.trial, e.nh)) := by
  have hser : (mkC env (build o evs1) (e.trial, e.nh)).ser = (mkC env (build o evs2) (e.trial, e.nh)).ser := by
    rw [mkC_ser env o evs1 hw.w1 e he hn, mkC_ser env o evs2 (hw.w1.perm hp) e (hp.mem_iff.mp he) hn]
  have hbh : (mkC env (build o evs1) (e.trial, e.nh)).bhash = (mkC env (build o evs2) (e.trial, e.nh)).bhash := by
    rw [mkC_bhash, mkC_bhash]; exact (trialBase_perm o hp _).2 hw.w2
  have hnum : sortBits (mkC env (build o evs1) (e.trial, e.nh)).num =
      sortBits (mkC env (build o evs2) (e.trial, e.nh)).num := by
    rw [mkC_num, mkC_num]
    exact option_map_getD sortBits [] (tests_perm o hp (e.trial, e.nh))
  have hden : (mkC env (build o evs1) (e.trial, e.nh)).den.map sortBits =
      (mkC env (build o evs2) (e.trial, e.nh)).den.map sortBits := by
    rw [mkC_den, mkC_den, Option.map_map, Option.map_map]
    exact (trialBase_perm o hp e.trial).1
  show Contrib.mk _ _ _ _ _ _ _ = Contrib.mk _ _ _ _ _ _ _
  simp only [Contrib.mk.injEq]
  exact ⟨rfl, hser, rfl, hnum, hden, rfl, hbh⟩

theorem contribs_canon_perm (env : Env) (o : Opts) (pol : Policy) {evs1 evs2 : List Ev} (hp : evs1.Perm evs2)
    (hw : WFp env o pol evs1) (it1 it2 : Iter) (hv1 : it1.Valid) (hv2 : it2.Valid) (t : TKey) :
    ((contribs env it1 (build o evs1) t).map canonC).Perm ((contribs env it2 (build o evs2) t).map canonC) := by
  refine ((contribs_perm env it1 hv1 _ t).map _).trans (List.Perm.trans ?_ ((contribs_perm env it2 hv2 _ t).map _).symm)
  rw [contribs_eq_map, contribs_eq_map, List.map_map, List.map_map]
  have hc : (keyList (build o evs1) t).map (canonC ∘ mkC env (build o evs1)) =
      (keyList (build o evs1) t).map (canonC ∘ mkC env (build o evs2)) := by
    apply List.map_congr_left
    intro key hkey
    obtain ⟨e, he, hn, _, rfl⟩ := (mem_keyList o evs1 t key).mp hkey
    exact canon_mkC_eq env o pol hp hw e he hn
  rw [hc]
  exact (keyList_perm o evs1 evs2 hp t).map _

/-- the conditions on a contribution list under which the rearrangement loop's result does not depend
on the visiting order: contributions to one series agree on the numerator hash and, where both
have one, on the baseline hash (`hp1`); under DUPE_REPLACE duplicates of a point have distinct
dates (`dates`); under DUPE_COMBINE a series with some baseline has a point all of whose
contributions have one (`heard`). They follow from `WFp` (`cdet_of_wf`). -/
structure CDet (pol : Policy) (cs : List Contrib) : Prop where
  hp1 : ∀ x ∈ cs, ∀ y ∈ cs, x.ser = y.ser →
    x.hash = y.hash ∧ (x.bhash = y.bhash ∨ x.bhash = [] ∨ y.bhash = [])
  dates : pol = .replace → ∀ x ∈ cs, ∀ y ∈ cs, x.key = y.key → x.date = y.date → x = y
  heard : pol = .combine → ∀ x ∈ cs, x.bhash ≠ [] →
    ∃ c ∈ cs, c.ser = x.ser ∧ ∀ d ∈ cs, d.key = c.key → d.bhash ≠ []

theorem CDet.perm {pol : Policy} {cs cs' : List Contrib} (h : CDet pol cs) (p : cs.Perm cs') : CDet pol cs' := by
  refine ⟨?_, ?_, ?_⟩
  · intro x hx y hy; exact h.hp1 x (p.mem_iff.mpr hx) y (p.mem_iff.mpr hy)
  · intro hpol x hx y hy; exact h.dates hpol x (p.mem_iff.mpr hx) y (p.mem_iff.mpr hy)
  · intro hpol x hx hb
    obtain ⟨c, hc, h1, h2⟩ := h.heard hpol x (p.mem_iff.mpr hx) hb
    exact ⟨c, p.mem_iff.mp hc, h1, fun d hd => h2 d (p.mem_iff.mpr hd)⟩

theorem CDet.canon {pol : Policy} {cs : List Contrib} (h : CDet pol cs) : CDet pol (cs.map canonC) := by
  refine ⟨?_, ?_, ?_⟩
  · intro x hx y hy
    obtain ⟨x', hx', rfl⟩ := List.mem_map.mp hx
    obtain ⟨y', hy', rfl⟩ := List.mem_map.mp hy
    exact h.hp1 x' hx' y' hy'
  · intro hpol x hx y hy hk hd
    obtain ⟨x', hx', rfl⟩ := List.mem_map.mp hx
    obtain ⟨y', hy', rfl⟩ := List.mem_map.mp hy
    rw [h.dates hpol x' hx' y' hy' hk hd]
  · intro hpol x hx hb
    obtain ⟨x', hx', rfl⟩ := List.mem_map.mp hx
    obtain ⟨c, hc, h1, h2⟩ := h.heard hpol x' hx' hb
    refine ⟨canonC c, List.mem_map.mpr ⟨c, hc, rfl⟩, h1, ?_⟩
    intro d hd hk
    obtain ⟨d', hd', rfl⟩ := List.mem_map.mp hd
    exact h2 d' hd' hk

theorem cdet_of_wf (env : Env) (o : Opts) (pol : Policy) (evs : List Ev) (hw : WFp env o pol evs)
    (it : Iter) (hv : it.Valid) (t : TKey) : CDet pol (contribs env it (build o evs) t) := by
  refine CDet.perm ?_ (contribs_perm env it hv _ t).symm
  have hmem := fun c => (mem_contribs env o evs t c).mp
  have ser := mkC_ser env o evs hw.w1
  have key : ∀ {ex ey : Ev} (hex : ex ∈ evs) (nx : ex.isNum o = true) (hey : ey ∈ evs) (ny : ey.isNum o = true),
      (mkC env (build o evs) (ex.trial, ex.nh)).key = (mkC env (build o evs) (ey.trial, ey.nh)).key →
      ex.bench = ey.bench ∧ normD env ex.ser = normD env ey.ser := by
    intro ex ey hex nx hey ny hk
    refine ⟨congrArg Prod.fst hk, ?_⟩
    rw [← ser ex hex nx, ← ser ey hey ny]
    exact congrArg Prod.snd hk
  refine ⟨?_, ?_, ?_⟩
  · intro x hx y hy hs
    obtain ⟨ex, hex, nx, tx, rfl⟩ := hmem x hx
    obtain ⟨ey, hey, ny, ty, rfl⟩ := hmem y hy
    rw [ser ex hex nx, ser ey hey ny] at hs
    rw [mkC_bhash, mkC_bhash]
    exact hw.w3 ex hex ey hey nx ny (tx.trans ty.symm) hs
  · intro hpol x hx y hy hk hd
    obtain ⟨ex, hex, nx, tx, rfl⟩ := hmem x hx
    obtain ⟨ey, hey, ny, ty, rfl⟩ := hmem y hy
    obtain ⟨hb, hs⟩ := key hex nx hey ny hk
    have hexp := hw.w4 hpol ex hex ey hey nx ny (tx.trans ty.symm) hb hs hd
    have htr : ex.trial = ey.trial := by
      unfold Ev.trial; rw [tx, ty, hb, hexp]
    rw [htr, (hw.w3 ex hex ey hey nx ny (tx.trans ty.symm) hs).1]
  · intro hpol x hx hb
    obtain ⟨ex, hex, nx, tx, rfl⟩ := hmem x hx
    rw [mkC_bhash] at hb
    obtain ⟨c, hc, nc, tc, sc, hall⟩ := hw.w3c hpol ex hex nx hb
    refine ⟨_, (mem_contribs env o evs t _).mpr ⟨c, hc, nc, tc.trans tx, rfl⟩, ?_, ?_⟩
    · rw [ser c hc nc, ser ex hex nx]; exact sc
    · intro d hd hk
      obtain ⟨ed, hed, nd, td, rfl⟩ := hmem d hd
      obtain ⟨hb, hs⟩ := key hed nd hc nc hk
      rw [mkC_bhash]
      exact hall ed hed nd (td.trans (tc.trans tx).symm) hs hb

end C18
