/-
Helper lemmas for C09: bytewise order on byte strings is a strict total order; comparators that
are sign functions of a strict weak order; the per-field order with string fallback; the
lexicographic `lessBy`; sorted permutations.
-/
import Model.Proc.Sort
import Proofs.Lemmas.Shared.Sort
import Proofs.Lemmas.Shared.BytesOrder

namespace C09
open Proc.Sort

/-- Go's `<` on strings is the lexicographic order of the bytes. -/
theorem ltBytes_iff_lt : ∀ a b : Bytes, ltBytes a b = true ↔ a < b :=
  Shared.bytesLt_iff (fun a => by cases a <;> rfl) (fun _ _ => rfl) fun a as b bs => Shared.step_if a b (ltBytes as bs)

theorem ltBytes_lt : Shared.DecidesLt ltBytes := ⟨ltBytes_iff_lt⟩

theorem ltBytes_irrefl (a : Bytes) : ltBytes a a = false := ltBytes_lt.irrefl a

theorem ltBytes_trans (a b c : Bytes) (h1 : ltBytes a b = true) (h2 : ltBytes b c = true) :
    ltBytes a c = true := ltBytes_lt.trans a b c h1 h2

theorem ltBytes_total (a b : Bytes) (h : a ≠ b) : ltBytes a b = true ∨ ltBytes b a = true :=
  (ltBytes_lt.total a b).imp_right fun h' => h'.resolve_left h

theorem asymm_of_irrefl_trans {α : Type} {lt : α → α → Bool} (irrefl : ∀ a, lt a a = false)
    (trans : ∀ a b c, lt a b = true → lt b c = true → lt a c = true) (a b : α) (h : lt a b = true) :
    lt b a = false :=
  Bool.eq_false_iff.2 fun h' => Bool.false_ne_true ((irrefl a).symm.trans (trans a b a h h'))

/-- `cmp` is the sign function of a strict weak order on values (equivalently: of the order of a
rank into a linear preorder; see `SignOfWeakOrder.ofRank`). -/
structure SignOfWeakOrder (cmp : Bytes → Bytes → Int) : Prop where
  refl : ∀ a, cmp a a = 0
  antisymm : ∀ a b, cmp a b < 0 ↔ 0 < cmp b a
  trans : ∀ a b c, cmp a b < 0 → cmp b c < 0 → cmp a c < 0
  eq_trans : ∀ a b c, cmp a b = 0 → cmp b c = 0 → cmp a c = 0

/-- All comparators of sort.go are of this kind: `< 0` exactly when the keys are in a strict
total order `lt`, `0` exactly when they are equal. -/
theorem SignOfWeakOrder.ofKey {β : Type} {cmp : Bytes → Bytes → Int} (lt : β → β → Prop) (rk : Bytes → β)
    (irrefl : ∀ x, ¬ lt x x) (trans : ∀ x y z, lt x y → lt y z → lt x z)
    (total : ∀ x y, x ≠ y → lt x y ∨ lt y x)
    (hlt : ∀ a b, cmp a b < 0 ↔ lt (rk a) (rk b)) (heq : ∀ a b, cmp a b = 0 ↔ rk a = rk b) :
    SignOfWeakOrder cmp where
  refl a := (heq a a).2 rfl
  antisymm a b := by
    constructor
    · intro h
      have h1 := (hlt a b).1 h
      have h2 : ¬ cmp b a < 0 := fun h' => irrefl _ (trans _ _ _ h1 ((hlt b a).1 h'))
      have h3 : ¬ cmp b a = 0 := fun h' => irrefl _ ((heq b a).1 h' ▸ h1)
      omega
    · intro h
      have hne : rk a ≠ rk b := fun e => by have := (heq b a).2 e.symm; omega
      rcases total _ _ hne with h1 | h1
      · exact (hlt a b).2 h1
      · have := (hlt b a).2 h1; omega
  trans a b c h1 h2 := (hlt a c).2 (trans _ _ _ ((hlt a b).1 h1) ((hlt b c).1 h2))
  eq_trans a b c h1 h2 := (heq a c).2 (((heq a b).1 h1).trans ((heq b c).1 h2))

namespace SignOfWeakOrder
variable {cmp : Bytes → Bytes → Int} (W : SignOfWeakOrder cmp)
include W

theorem eq_symm (a b : Bytes) (h : cmp a b = 0) : cmp b a = 0 := by
  have h1 := W.antisymm a b
  have h2 := W.antisymm b a
  omega

theorem lt_of_lt_of_eq (a b c : Bytes) (h1 : cmp a b < 0) (h2 : cmp b c = 0) : cmp a c < 0 := by
  rcases Int.lt_trichotomy (cmp a c) 0 with h | h | h
  · exact h
  · have := W.eq_trans a c b h (W.eq_symm b c h2); omega
  · have hca : cmp c a < 0 := (W.antisymm c a).mpr h
    have := W.trans c a b hca h1
    have := (W.antisymm c b).mp this
    omega

theorem lt_of_eq_of_lt (a b c : Bytes) (h1 : cmp a b = 0) (h2 : cmp b c < 0) : cmp a c < 0 := by
  rcases Int.lt_trichotomy (cmp a c) 0 with h | h | h
  · exact h
  · have := W.eq_trans b a c (W.eq_symm a b h1) h; omega
  · have hca : cmp c a < 0 := (W.antisymm c a).mpr h
    have := W.trans b c a h2 hca
    have := (W.antisymm b a).mp this
    omega

end SignOfWeakOrder

/-- The order of one field as `less` uses it: the comparator, then the string fallback. -/
def fieldLess (cmp : Bytes → Bytes → Int) (a b : Bytes) : Bool :=
  if cmp a b != 0 then decide (cmp a b < 0) else ltBytes a b

theorem fieldLess_iff (cmp : Bytes → Bytes → Int) (a b : Bytes) :
    fieldLess cmp a b = true ↔ cmp a b < 0 ∨ (cmp a b = 0 ∧ ltBytes a b = true) := by
  unfold fieldLess
  by_cases h : cmp a b = 0
  · simp [h]
  · simp [h]

theorem fieldLess_irrefl {cmp} (W : SignOfWeakOrder cmp) (a : Bytes) : fieldLess cmp a a = false := by
  rw [Bool.eq_false_iff, Ne, fieldLess_iff, W.refl, ltBytes_irrefl]
  simp

theorem fieldLess_trans {cmp} (W : SignOfWeakOrder cmp) (a b c : Bytes)
    (h1 : fieldLess cmp a b = true) (h2 : fieldLess cmp b c = true) : fieldLess cmp a c = true := by
  rw [fieldLess_iff] at h1 h2 ⊢
  rcases h1 with h1 | ⟨e1, l1⟩ <;> rcases h2 with h2 | ⟨e2, l2⟩
  · exact .inl (W.trans a b c h1 h2)
  · exact .inl (W.lt_of_lt_of_eq a b c h1 e2)
  · exact .inl (W.lt_of_eq_of_lt a b c e1 h2)
  · exact .inr ⟨W.eq_trans a b c e1 e2, ltBytes_trans a b c l1 l2⟩

theorem fieldLess_total {cmp} (W : SignOfWeakOrder cmp) (a b : Bytes) (h : a ≠ b) :
    fieldLess cmp a b = true ∨ fieldLess cmp b a = true := by
  rw [fieldLess_iff, fieldLess_iff]
  rcases Int.lt_trichotomy (cmp a b) 0 with hc | hc | hc
  · exact .inl (.inl hc)
  · exact (ltBytes_total a b h).imp (fun l => .inr ⟨hc, l⟩) fun l => .inr ⟨W.eq_symm a b hc, l⟩
  · exact .inr (.inl ((W.antisymm b a).2 hc))

theorem fieldLess_asymm {cmp} (W : SignOfWeakOrder cmp) (a b : Bytes)
    (h : fieldLess cmp a b = true) : fieldLess cmp b a = false :=
  asymm_of_irrefl_trans (fieldLess_irrefl W) (fieldLess_trans W) a b h

theorem lessBy_cons_iff (cmpOf : Field → Bytes → Bytes → Int) (node : Field) (rest : List Field)
    (a b : List Bytes) :
    lessBy cmpOf (node :: rest) a b = true ↔
      (getVal a node.idx ≠ getVal b node.idx ∧
        fieldLess (cmpOf node) (getVal a node.idx) (getVal b node.idx) = true) ∨
      (getVal a node.idx = getVal b node.idx ∧ lessBy cmpOf rest a b = true) := by
  by_cases h : getVal a node.idx = getVal b node.idx
  · simp [lessBy, h]
  · simp [lessBy, h, fieldLess]

theorem lessBy_irrefl (cmpOf : Field → Bytes → Bytes → Int) (flat : List Field) (a : List Bytes) :
    lessBy cmpOf flat a a = false := by
  induction flat with
  | nil => rfl
  | cons node rest ih =>
    rw [Bool.eq_false_iff, Ne, lessBy_cons_iff, ih]
    simp

theorem lessBy_trans (cmpOf : Field → Bytes → Bytes → Int) (flat : List Field)
    (hW : ∀ f ∈ flat, SignOfWeakOrder (cmpOf f)) (a b c : List Bytes)
    (h1 : lessBy cmpOf flat a b = true) (h2 : lessBy cmpOf flat b c = true) :
    lessBy cmpOf flat a c = true := by
  induction flat with
  | nil => cases h1
  | cons node rest ih =>
    have W := hW node List.mem_cons_self
    rw [lessBy_cons_iff] at h1 h2 ⊢
    rcases h1 with ⟨n1, f1⟩ | ⟨e1, r1⟩ <;> rcases h2 with ⟨n2, f2⟩ | ⟨e2, r2⟩
    · refine .inl ⟨fun e => ?_, fieldLess_trans W _ _ _ f1 f2⟩
      rw [← e, fieldLess_asymm W _ _ f1] at f2
      cases f2
    · exact .inl ⟨e2 ▸ n1, e2 ▸ f1⟩
    · exact .inl ⟨e1 ▸ n2, e1 ▸ f2⟩
    · exact .inr ⟨e1.trans e2, ih (fun f hf => hW f (List.mem_cons_of_mem _ hf)) r1 r2⟩

theorem lessBy_total (cmpOf : Field → Bytes → Bytes → Int) (flat : List Field)
    (hW : ∀ f ∈ flat, SignOfWeakOrder (cmpOf f)) (a b : List Bytes)
    (hne : ∃ f ∈ flat, getVal a f.idx ≠ getVal b f.idx) :
    lessBy cmpOf flat a b = true ∨ lessBy cmpOf flat b a = true := by
  induction flat with
  | nil => obtain ⟨f, hf, _⟩ := hne; cases hf
  | cons node rest ih =>
    rw [lessBy_cons_iff, lessBy_cons_iff]
    by_cases hab : getVal a node.idx = getVal b node.idx
    · obtain ⟨f, hf, hd⟩ := hne
      have hf' : f ∈ rest := (List.mem_cons.1 hf).resolve_left fun e => hd (e ▸ hab)
      exact (ih (fun f hf => hW f (List.mem_cons_of_mem _ hf)) ⟨f, hf', hd⟩).imp
        (fun h => .inr ⟨hab, h⟩) fun h => .inr ⟨hab.symm, h⟩
    · exact (fieldLess_total (hW node List.mem_cons_self) _ _ hab).imp
        (fun h => .inl ⟨hab, h⟩) fun h => .inl ⟨Ne.symm hab, h⟩

theorem lessBy_asymm (cmpOf : Field → Bytes → Bytes → Int) (flat : List Field)
    (hW : ∀ f ∈ flat, SignOfWeakOrder (cmpOf f)) (a b : List Bytes)
    (h : lessBy cmpOf flat a b = true) : lessBy cmpOf flat b a = false :=
  asymm_of_irrefl_trans (lessBy_irrefl cmpOf flat) (lessBy_trans cmpOf flat hW) a b h

theorem lessBy_differs (cmpOf : Field → Bytes → Bytes → Int) (flat : List Field) (a b : List Bytes)
    (h : lessBy cmpOf flat a b = true) : ∃ f ∈ flat, getVal a f.idx ≠ getVal b f.idx := by
  induction flat with
  | nil => cases h
  | cons node rest ih =>
    rcases (lessBy_cons_iff cmpOf node rest a b).1 h with ⟨hab, _⟩ | ⟨_, hr⟩
    · exact ⟨node, List.mem_cons_self, hab⟩
    · obtain ⟨f, hf, hd⟩ := ih hr
      exact ⟨f, List.mem_cons_of_mem _ hf, hd⟩

theorem cmpRank_weak (m : RankMap) : SignOfWeakOrder (cmpRank m) where
  refl := by intro a; simp [cmpRank]
  antisymm := by intro a b; simp only [cmpRank]; omega
  trans := by intro a b c; simp only [cmpRank]; omega
  eq_trans := by intro a b c; simp only [cmpRank]; omega

theorem cmpBytes_spec (a b : Bytes) :
    (cmpBytes a b < 0 ↔ ltBytes a b = true) ∧ (cmpBytes a b = 0 ↔ a = b) := by
  unfold cmpBytes
  by_cases h : a = b
  · subst h; simp [ltBytes_irrefl]
  · rw [beq_false_of_ne h]
    cases ltBytes a b <;> simp [h]

theorem cmpBytes_weak : SignOfWeakOrder cmpBytes :=
  .ofKey (fun a b => ltBytes a b = true) id (fun a => by simp [ltBytes_irrefl]) ltBytes_trans
    ltBytes_total (fun a b => (cmpBytes_spec a b).1) fun a b => (cmpBytes_spec a b).2

/-- The documented rank of a value under `num`: numbers (by value) before NaN before non-numbers. -/
def numRank : NumC → Nat × Int
  | .val k => (0, k)
  | .nan => (1, 0)
  | .err => (2, 0)

/-- `builtinOrders["num"]` compares by `numRank ∘ parseNum` lexicographically. -/
theorem cmpNum_spec (pn : Bytes → NumC) (a b : Bytes) :
    (cmpNum pn a b < 0 ↔
      (numRank (pn a)).1 < (numRank (pn b)).1 ∨
      ((numRank (pn a)).1 = (numRank (pn b)).1 ∧ (numRank (pn a)).2 < (numRank (pn b)).2)) ∧
    (cmpNum pn a b = 0 ↔ numRank (pn a) = numRank (pn b)) := by
  unfold cmpNum
  cases pn a <;> cases pn b
  case val.val x y =>
    simp only [numRank, Prod.mk.injEq, true_and, Nat.lt_irrefl, false_or]
    split
    · omega
    · split <;> omega
  all_goals simp [numRank]

theorem cmpNum_weak (pn : Bytes → NumC) : SignOfWeakOrder (cmpNum pn) :=
  .ofKey (fun x y : Nat × Int => x.1 < y.1 ∨ (x.1 = y.1 ∧ x.2 < y.2)) (fun a => numRank (pn a))
    (fun x => by omega) (fun x y z => by omega)
    (fun x y h => by have := mt Prod.ext_iff.2 h; omega)
    (fun a b => (cmpNum_spec pn a b).1) (fun a b => (cmpNum_spec pn a b).2)

theorem field_cmp_weak (pn : Bytes → NumC) (f : Field) : SignOfWeakOrder (f.cmp pn) := by
  unfold Field.cmp
  cases f.order with
  | first => exact cmpRank_weak _
  | alpha => exact cmpBytes_weak
  | num => exact cmpNum_weak pn
  | fixed l => exact cmpRank_weak _

theorem insertBy_is {α : Type} (lt : α → α → Bool) : Shared.IsInsert (fun x y => lt x y = true) (insertBy lt) :=
  ⟨fun _ => rfl, fun _ _ _ => rfl⟩

theorem sortBy_eq {α : Type} (lt : α → α → Bool) (l : List α) : sortBy lt l = l.foldr (insertBy lt) [] :=
  Shared.sort_eq_foldr rfl (fun _ _ => rfl) l

theorem sortBy_perm {α : Type} (lt : α → α → Bool) (l : List α) : (sortBy lt l).Perm l := by
  rw [sortBy_eq]; exact (insertBy_is lt).sort_perm l

/-- "sorted": no later element is less than an earlier one (what a comparison sort guarantees). -/
def Sorted {α : Type} (lt : α → α → Bool) (l : List α) : Prop :=
  l.Pairwise fun x y => lt y x = false

theorem sortBy_sorted {α : Type} (lt : α → α → Bool)
    (asymm : ∀ a b, lt a b = true → lt b a = false)
    (trans : ∀ a b c, lt a b = true → lt b c = true → lt a c = true)
    (l : List α) : Sorted lt (sortBy lt l) := by
  rw [sortBy_eq]
  exact (insertBy_is lt).sort_pairwise ⟨asymm, fun _ _ => Bool.eq_false_iff.2,
    fun _ _ _ hxy hyz => Bool.eq_false_iff.2 fun hzx => Bool.eq_false_iff.1 hyz (trans _ _ _ hzx hxy)⟩ l

end C09
