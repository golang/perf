/-
C14 helper lemmas: sorting by rank, ToTables, summarizeCol, non-singular residue fields.
-/
import Proofs.Lemmas.C14Build
import Proofs.Lemmas.Shared.Sort
import Proofs.Lemmas.Shared.List

namespace C14L
open Tab

section SortK
variable {α : Type} (rank : α → Nat)

theorem insertBy_is : Shared.IsInsert (fun x y => rank x ≤ rank y) (insertBy rank) := ⟨fun _ => rfl, fun _ _ _ => rfl⟩

theorem sortKeys_eq (l : List α) : sortKeys rank l = l.foldr (insertBy rank) [] :=
  Shared.sort_eq_foldr rfl (fun _ _ => rfl) l

theorem rank_decides : Shared.Decides (fun x y : α => rank x ≤ rank y) fun x y => rank x ≤ rank y :=
  ⟨fun _ _ h => h, fun _ _ h => Nat.le_of_not_le h, fun _ _ _ => Nat.le_trans⟩

theorem sortKeys_perm (l : List α) : (sortKeys rank l).Perm l := by
  rw [sortKeys_eq]; exact (insertBy_is rank).sort_perm l

theorem mem_sortKeys (x : α) (l : List α) : x ∈ sortKeys rank l ↔ x ∈ l :=
  (sortKeys_perm rank l).mem_iff

theorem sortKeys_sorted (l : List α) : (sortKeys rank l).Pairwise fun a b => rank a ≤ rank b := by
  rw [sortKeys_eq]
  exact (insertBy_is rank).sort_pairwise (rank_decides rank) l

theorem sortKeys_eq_of_perm {l l' : List α} (hp : l.Perm l')
    (hinj : ∀ a b, a ∈ l → b ∈ l → rank a = rank b → a = b) : sortKeys rank l = sortKeys rank l' := by
  rw [sortKeys_eq, sortKeys_eq]
  exact (insertBy_is rank).sort_eq_of_perm (rank_decides rank) hp
    fun a b ha hb h1 h2 => hinj a b ha hb (Nat.le_antisymm h1 h2)

theorem sortKeys_head_min {l : List α} {c0 : α} (h : (sortKeys rank l).head? = some c0) :
    c0 ∈ l ∧ ∀ c ∈ l, rank c0 ≤ rank c := by
  have hs := sortKeys_sorted rank l
  cases hl : sortKeys rank l with
  | nil => simp [hl] at h
  | cons x xs =>
    simp [hl] at h; subst h
    rw [hl] at hs
    refine ⟨(mem_sortKeys rank x l).mp (by simp [hl]), ?_⟩
    intro c hc
    have : c ∈ x :: xs := by rw [← hl]; exact (mem_sortKeys rank c l).mpr hc
    rcases List.mem_cons.mp this with rfl | hm
    · exact Nat.le_refl _
    · exact List.rel_of_pairwise_cons hs hm

theorem sortKeys_nodup {l : List α} (h : l.Nodup) : (sortKeys rank l).Nodup :=
  (sortKeys_perm rank l).nodup_iff.mpr h

end SortK

theorem insertF_is : Shared.IsInsert (fun x y => ¬ f64Less y x = true) insertF := .of_flip (fun _ => rfl) fun _ _ _ => rfl

theorem sortFloats_eq (l : List F64.Bits) : sortFloats l = l.foldr insertF [] :=
  Shared.sort_eq_foldr rfl (fun _ _ => rfl) l

theorem sortFloats_perm (l : List F64.Bits) : (sortFloats l).Perm l := by
  rw [sortFloats_eq]; exact insertF_is.sort_perm l

open Spec.Cells in
theorem nonSingular_eq_varying (n : Nat) (keys : List (List Bytes)) : nonSingular n keys = varying n keys := by
  unfold nonSingular varying
  match keys with
  | [] => simp
  | [k] => simp
  | k0 :: k1 :: rest =>
    simp only
    apply List.filter_congr
    intro i _
    rw [Bool.eq_iff_iff]
    simp only [List.any_eq_true, bne_iff_ne, ne_eq]
    exact Varying.exists_ne_head_iff (getField · i) k0 (k1 :: rest)

open Spec.Cells in
theorem varying_congr (n : Nat) {g g' : List (List Bytes)} (h : ∀ z, z ∈ g ↔ z ∈ g') :
    varying n g = varying n g' := by
  unfold varying
  apply List.filter_congr
  intro i _
  rw [Bool.eq_iff_iff]
  simp only [List.any_eq_true]
  constructor
  · rintro ⟨a, ha, b, hb, hne⟩; exact ⟨a, (h a).mp ha, b, (h b).mp hb, hne⟩
  · rintro ⟨a, ha, b, hb, hne⟩; exact ⟨a, (h a).mpr ha, b, (h b).mpr hb, hne⟩

theorem residueWarning_congr (names : List Bytes) {g g' : List (List Bytes)} (h : ∀ z, z ∈ g ↔ z ∈ g') :
    residueWarning names g = residueWarning names g' := by
  unfold residueWarning
  rw [nonSingular_eq_varying, nonSingular_eq_varying, varying_congr _ h]

section Col
variable {κ : Type} [DecidableEq κ]

/-- centres of the cells of a column, in row order -/
def colCentres (rows : List κ) (cells : List ((κ × κ) × OCell κ)) (col : κ) : List F64.Bits :=
  rows.filterMap fun r => (AL.lookup (r, col) cells).map (·.summary.center)

/-- (centre, baseline centre) of the cells of a column that have a baseline, in row order -/
def colPairs (rows : List κ) (cells : List ((κ × κ) × OCell κ)) (col : κ) : List (F64.Bits × F64.Bits) :=
  rows.filterMap fun r =>
    (AL.lookup (r, col) cells).bind fun cell =>
      cell.baseline.bind fun bk => (AL.lookup bk cells).map fun bc => (cell.summary.center, bc.summary.center)

theorem colStep_foldl (cells : List ((κ × κ) × OCell κ)) (col : κ) (rows : List κ) (acc : ColAcc) :
    rows.foldl (colStep cells col) acc =
      { summaries := acc.summaries ++ colCentres rows cells col,
        ratios := acc.ratios ++ (colPairs rows cells col).map fun p => (ratioOf p.1 p.2).getD F64.posZero,
        badRatio := acc.badRatio || (colPairs rows cells col).any fun p => (ratioOf p.1 p.2).isNone } := by
  induction rows generalizing acc with
  | nil => simp [colCentres, colPairs]
  | cons r rest ih =>
    rw [List.foldl_cons, ih]
    unfold colStep colCentres colPairs
    simp only [List.filterMap_cons]
    cases hl : AL.lookup (r, col) cells with
    | none => simp
    | some cell =>
      cases hb : cell.baseline with
      | none => simp [hb]
      | some bk =>
        cases hbc : AL.lookup bk cells with
        | none => simp [hb, hbc]
        | some bc =>
          cases hr : ratioOf cell.summary.center bc.summary.center with
          | none => simp [hb, hbc, hr]
          | some x => simp [hb, hbc, hr]

theorem toTable_cell (cfg : Cfg κ) (t : κ) (bt : BTable κ (List Bytes) F64.Bits) (k : κ × κ) :
    AL.lookup k (toTable cfg t bt).cells =
      (AL.lookup k bt.cells).map (mkCell cfg (cfg.assume (cfg.unitOf t)) (sortKeys cfg.rankC bt.cols).head? bt.cells k) := by
  unfold toTable
  exact lookup_map_values _ k bt.cells

end Col

end C14L
