/-
Rounding as a function of the rational value: `roundQ q` (= `roundRat` of any fraction equal to q); `NearQ M r`, M is r
rounded half-even; the result in the coordinates of the rounding, the shift s and the rounded scaled value M: magnitude
bits `(1074 − s)·2^52 + M`, value `M·2^-s`; monotonicity, exactness on dyadic fractions.
-/
import Proofs.Lemmas.F64Sign

namespace F64


theorem roundMag_zero_num (d : Nat) : roundMag 0 d = 0 := by simp [roundMag]

/-- `M` is `r` rounded half-even: within half a unit of `r`, at a tie only if it is even -/
def NearQ (M : Nat) (r : ℚ) : Prop :=
  ((M : ℚ) - 1 / 2 < r ∨ ((M : ℚ) - 1 / 2 = r ∧ M % 2 = 0)) ∧
  (r < (M : ℚ) + 1 / 2 ∨ (r = (M : ℚ) + 1 / 2 ∧ M % 2 = 0))

theorem nearQ_self (M : Nat) : NearQ M M :=
  ⟨Or.inl (sub_lt_self _ one_half_pos), Or.inl (lt_add_of_pos_right _ one_half_pos)⟩

/-- `NearQ` is the round-half-even case of `NearInt`, with the denominators cleared -/
theorem nearInt_iff_nearQ (n d M : Nat) (hd : 0 < d) : NearInt false M n d ↔ NearQ M ((n : ℚ) / d) := by
  have hdq : (0 : ℚ) < d := Nat.cast_pos.mpr hd
  have h2d : (0 : ℚ) < 2 * d := mul_pos two_pos hdq
  have hq : (n : ℚ) = n / d * d := (div_mul_cancel₀ _ hdq.ne').symm
  unfold NearQ
  generalize (n : ℚ) / d = q at hq ⊢
  have klo : ((2 * n + d : ℕ) : ℚ) - ((2 * (M * d) : ℕ) : ℚ) = (q - ((M : ℚ) - 1 / 2)) * (2 * d) := by
    push_cast; rw [hq]; ring
  have khi : ((2 * (M * d) + d : ℕ) : ℚ) - ((2 * n : ℕ) : ℚ) = ((M : ℚ) + 1 / 2 - q) * (2 * d) := by
    push_cast; rw [hq]; ring
  simp only [NearInt, Bool.false_eq_true, or_false, and_true]
  refine and_congr (or_congr ?_ (and_congr_left' ?_)) (or_congr ?_ (and_congr_left' ?_))
  · rw [← Nat.cast_lt (α := ℚ), ← sub_pos, klo, mul_pos_iff_of_pos_right h2d, sub_pos]
  · rw [← Nat.cast_inj (R := ℚ), eq_comm, ← sub_eq_zero, klo, mul_eq_zero, or_iff_left h2d.ne', sub_eq_zero, eq_comm]
  · rw [← Nat.cast_lt (α := ℚ), ← sub_pos, khi, mul_pos_iff_of_pos_right h2d, sub_pos]
  · rw [← Nat.cast_inj (R := ℚ), eq_comm, ← sub_eq_zero, khi, mul_eq_zero, or_iff_left h2d.ne', sub_eq_zero, eq_comm]

theorem rne_eq_of_nearQ (n d M : Nat) (hd : 0 < d) (h : NearQ M ((n : ℚ) / d)) : rne n d = M :=
  rne_eq_of_near n d M hd ((nearInt_iff_nearQ n d M hd).mpr h)

theorem rne_nearQ (n d : Nat) (hd : 0 < d) : NearQ (rne n d) ((n : ℚ) / d) :=
  (nearInt_iff_nearQ n d _ hd).mp (rne_spec n d hd)

theorem NearQ.err {M : Nat} {r : ℚ} (h : NearQ M r) : |(M : ℚ) - r| ≤ 1 / 2 :=
  _root_.abs_le.mpr ⟨by linarith only [h.2.elim le_of_lt fun h => h.1.le], by linarith only [h.1.elim le_of_lt fun h => h.1.le]⟩

/-- rounding does not cross an integer -/
theorem NearQ.le_of_le {M c : Nat} {r : ℚ} (h : NearQ M r) (hc : r ≤ c) : M ≤ c := by
  have : (M : ℚ) < ((c + 1 : Nat) : ℚ) := by push_cast; linarith only [(_root_.abs_le.mp h.err).2, hc]
  exact Nat.lt_succ_iff.mp (Nat.cast_lt.mp this)

theorem NearQ.le_of_ge {M c : Nat} {r : ℚ} (h : NearQ M r) (hc : (c : ℚ) ≤ r) : c ≤ M := by
  have : (c : ℚ) < ((M + 1 : Nat) : ℚ) := by push_cast; linarith only [(_root_.abs_le.mp h.err).1, hc]
  exact Nat.lt_succ_iff.mp (Nat.cast_lt.mp this)

/-- under `up` a tie counts as below: `M − ½ ≤ n/d < M + ½` -/
theorem NearInt.bounds_q {M n d : Nat} (hd : 0 < d) (h : NearInt true M n d) :
    (M : ℚ) - 1 / 2 ≤ (n : ℚ) / d ∧ (n : ℚ) / d < ((2 * M + 1 : Nat) : ℚ) / 2 := by
  have hdq : (0 : ℚ) < d := by exact_mod_cast hd
  have h1 : 2 * (M * d) ≤ 2 * n + d := h.1.elim Nat.le_of_lt fun h => h.1.le
  have h2 : 2 * n < 2 * (M * d) + d := h.2.elim id fun h => absurd h.2.2 (by simp)
  have q1 : ((2 * (M * d) : Nat) : ℚ) ≤ ((2 * n + d : Nat) : ℚ) := by exact_mod_cast h1
  have q2 : ((2 * n : Nat) : ℚ) < ((2 * (M * d) + d : Nat) : ℚ) := by exact_mod_cast h2
  push_cast at q1 q2
  exact ⟨by rw [le_div_iff₀ hdq]; linarith, by rw [div_lt_iff₀ hdq]; push_cast; linarith⟩

/-- the magnitude bits once the shift `s` and the rounded scaled value `M` are known -/
theorem magBits_of_near (n d : Nat) (hn : 0 < n) (hd : 0 < d) (s : Int) (M : Nat)
    (hs : IsShift ((n : ℚ) / d) s) (hM : NearQ M ((n : ℚ) / d * (2 : ℚ) ^ s)) :
    magBits n d = (1074 - s).toNat * 2 ^ 52 + M := by
  unfold magBits
  rw [shiftOf_eq n d hn hd s hs, rne_eq_of_nearQ _ _ M (scaled_snd_pos n s hd) (by rw [scaled_ratio]; exact hM)]

theorem pos_of_ratio_pos {n d : Nat} {s : Int} (h : (0 : ℚ) < (n : ℚ) / d * (2 : ℚ) ^ s) : 0 < n := by
  rcases Nat.eq_zero_or_pos n with h0 | h0
  · rw [h0, Nat.cast_zero, zero_div, zero_mul] at h; exact absurd h (lt_irrefl _)
  · exact h0

theorem frac_eq_iff (n1 d1 n2 d2 : Nat) (hd1 : 0 < d1) (hd2 : 0 < d2) :
    n1 * d2 = n2 * d1 ↔ (n1 : ℚ) / d1 = (n2 : ℚ) / d2 := by
  rw [le_antisymm_iff, le_antisymm_iff (a := (n1 : ℚ) / d1), ← frac_le_iff _ _ _ _ hd1 hd2,
    ← frac_le_iff _ _ _ _ hd2 hd1]

/-- `roundMag` depends on the value of its fraction only -/
theorem roundMag_congr (n1 d1 n2 d2 : Nat) (hd1 : 0 < d1) (hd2 : 0 < d2) (h : (n1 : ℚ) / d1 = (n2 : ℚ) / d2) :
    roundMag n1 d1 = roundMag n2 d2 := by
  replace h := (frac_eq_iff n1 d1 n2 d2 hd1 hd2).mpr h
  rcases Nat.eq_zero_or_pos n1 with h0 | hn1
  · subst h0
    have : n2 = 0 := by
      rcases Nat.eq_zero_or_pos n2 with h' | h'
      · exact h'
      · have := Nat.mul_pos h' hd1; omega
    subst this; rw [roundMag_zero_num, roundMag_zero_num]
  · have hn2 : 0 < n2 := pos_of_cross_le hn1 hd2 (Nat.le_of_eq h)
    rw [← UInt64.toNat_inj]
    apply Nat.le_antisymm
    · exact roundMag_mono _ _ _ _ hn1 hd1 hd2 (Nat.le_of_eq h)
    · exact roundMag_mono _ _ _ _ hn2 hd2 hd1 (Nat.le_of_eq h.symm)

/-- `roundMag` of |q|, the fraction taken from `q` in lowest terms -/
def magQ (q : ℚ) : Bits := roundMag q.num.natAbs q.den

theorem natAbs_div_den (q : ℚ) : ((q.num.natAbs : ℕ) : ℚ) / (q.den : ℚ) = |q| := by
  have h := Rat.num_div_den q
  have hd : (0 : ℚ) < q.den := by exact_mod_cast q.den_pos
  have e : |q| = |(q.num : ℚ)| / q.den := by
    conv_lhs => rw [← h]
    rw [abs_div, abs_of_pos hd]
  rw [e, Nat.cast_natAbs, Int.cast_abs]

theorem roundMag_eq_magQ (n d : Nat) (hd : 0 < d) (q : ℚ) (h : (n : ℚ) / d = |q|) :
    roundMag n d = magQ q := by
  unfold magQ
  exact roundMag_congr _ _ _ _ hd q.den_pos (by rw [natAbs_div_den, h])

theorem magQ_abs (q : ℚ) : magQ |q| = magQ q := by
  have hd := (|q|).den_pos
  unfold magQ
  exact roundMag_congr _ _ _ _ hd q.den_pos (by rw [natAbs_div_den, natAbs_div_den, _root_.abs_abs])

theorem magQ_neg (q : ℚ) : magQ (-q) = magQ q := by
  rw [← magQ_abs, _root_.abs_neg, magQ_abs]

theorem magQ_zero : magQ 0 = 0 := by
  unfold magQ; simp [roundMag_zero_num]

theorem magQ_toNat_le (q : ℚ) : (magQ q).toNat ≤ 0x7FF0000000000000 := roundMag_le_inf _ _

theorem magQ_signBit (q : ℚ) : signBit (magQ q) = false := by
  rw [signBit_false_iff]; have := magQ_toNat_le q; omega

theorem magQ_mono (q1 q2 : ℚ) (h : |q1| ≤ |q2|) : (magQ q1).toNat ≤ (magQ q2).toNat := by
  rcases eq_or_lt_of_le (abs_nonneg q1) with h0 | hpos
  · have : q1 = 0 := abs_eq_zero.mp h0.symm
    subst this; rw [magQ_zero]; exact Nat.zero_le _
  · have hn : 0 < q1.num.natAbs := by
      have : q1 ≠ 0 := abs_pos.mp hpos
      exact Int.natAbs_pos.mpr (Rat.num_ne_zero.mpr this)
    unfold magQ
    apply roundMag_mono _ _ _ _ hn q1.den_pos q2.den_pos
    rw [frac_le_iff _ _ _ _ q1.den_pos q2.den_pos, natAbs_div_den, natAbs_div_den]
    exact h

/-- `roundRat` as a function of the signed rational value -/
def roundQ (q : ℚ) : Bits := roundRat (decide (q < 0)) q.num.natAbs q.den

theorem or_negZero_eq_neg (m : Bits) (hm : signBit m = false) : m ||| negZero = neg m := by
  have h := (signBit_false_iff m).mp hm
  have h1 := toNat_decomp_full (neg m)
  rw [signBit_neg, hm, magOf_neg, magOf_eq_mod, Nat.mod_eq_of_lt h] at h1
  rw [← UInt64.toNat_inj, or_negZero_toNat m h]; exact h1.symm

theorem roundQ_eq (q : ℚ) : roundQ q = if q < 0 then neg (magQ q) else magQ q := by
  unfold roundQ roundRat
  by_cases h : q < 0
  · simp only [h, decide_true, if_true]
    exact or_negZero_eq_neg _ (magQ_signBit q)
  · simp only [h, decide_false, Bool.false_eq_true, if_false]; rfl

theorem roundQ_of_nonneg (q : ℚ) (h : 0 ≤ q) : roundQ q = magQ q := by
  rw [roundQ_eq, if_neg (not_lt.mpr h)]

theorem roundQ_zero : roundQ 0 = posZero := by
  rw [roundQ_of_nonneg 0 le_rfl, magQ_zero]; rfl

theorem roundQ_neg (q : ℚ) (hq : q ≠ 0) : roundQ (-q) = neg (roundQ q) := by
  rw [roundQ_eq, roundQ_eq, magQ_neg]
  rcases lt_or_gt_of_ne hq with h | h
  · have : ¬ (-q < 0) := by linarith
    rw [if_neg this, if_pos h, neg_neg]
  · have h1 : -q < 0 := by linarith
    have h2 : ¬ q < 0 := by linarith
    rw [if_pos h1, if_neg h2]

theorem roundRat_false_eq (n d : Nat) (hd : 0 < d) : roundRat false n d = roundQ ((n : ℚ) / d) := by
  have hq : (0 : ℚ) ≤ (n : ℚ) / d := div_nonneg (Nat.cast_nonneg _) (Nat.cast_nonneg _)
  rw [roundRat_false, roundQ_of_nonneg _ hq]
  exact roundMag_eq_magQ n d hd _ (abs_of_nonneg hq).symm

theorem roundRat_true_eq (n d : Nat) (hn : 0 < n) (hd : 0 < d) :
    roundRat true n d = roundQ (-((n : ℚ) / d)) := by
  have hq : (0 : ℚ) < (n : ℚ) / d := div_pos (by exact_mod_cast hn) (by exact_mod_cast hd)
  rw [roundQ_neg _ hq.ne', ← roundRat_false_eq n d hd, roundRat_false, roundRat_true]
  apply or_negZero_eq_neg
  rw [signBit_false_iff]; have := roundMag_le_inf n d; omega

theorem roundRat_eq_roundQ (s : Bool) (n d : Nat) (hn : 0 < n) (hd : 0 < d) :
    roundRat s n d = roundQ (if s then -((n : ℚ) / d) else (n : ℚ) / d) := by
  cases s
  · simp only [Bool.false_eq_true, if_false]; exact roundRat_false_eq n d hd
  · simp only [if_true]; exact roundRat_true_eq n d hn hd

theorem roundQ_isNaN (q : ℚ) : isNaN (roundQ q) = false := roundRat_isNaN _ _ _

theorem magOf_roundQ (q : ℚ) : magOf (roundQ q) = (magQ q).toNat := magOf_roundRat _ _ _

theorem magOf_magQ (q : ℚ) : magOf (magQ q) = (magQ q).toNat := by
  have := magOf_roundRat false q.num.natAbs q.den
  rwa [roundRat_false] at this

theorem sval_roundQ (q : ℚ) : sval (roundQ q) = if q < 0 then -val (magQ q) else val (magQ q) := by
  rw [roundQ_eq]
  split
  · rw [sval_neg]; unfold sval; rw [magQ_signBit]; simp
  · unfold sval; rw [magQ_signBit]; simp

/-- rounding is monotone (in the order of signed values; ±Inf = ±2^1024). -/
theorem roundQ_mono (q1 q2 : ℚ) (h : q1 ≤ q2) : sval (roundQ q1) ≤ sval (roundQ q2) := by
  rw [sval_roundQ, sval_roundQ]
  have v1 := val_nonneg (magQ q1)
  have v2 := val_nonneg (magQ q2)
  have mono : ∀ a b : ℚ, |a| ≤ |b| → val (magQ a) ≤ val (magQ b) := by
    intro a b hab
    rw [val_le_iff, magOf_magQ, magOf_magQ]
    exact magQ_mono a b hab
  by_cases h1 : q1 < 0 <;> by_cases h2 : q2 < 0
  · rw [if_pos h1, if_pos h2]
    have : |q2| ≤ |q1| := by rw [abs_of_neg h1, abs_of_neg h2]; linarith
    have := mono _ _ this; linarith
  · rw [if_pos h1, if_neg h2]; linarith
  · exfalso; linarith
  · rw [if_neg h1, if_neg h2]
    have : |q1| ≤ |q2| := by rw [abs_of_nonneg (not_lt.mp h1), abs_of_nonneg (not_lt.mp h2)]; exact h
    exact mono _ _ this

theorem roundQ_mono_le (q1 q2 : ℚ) (h : q1 ≤ q2) : le (roundQ q1) (roundQ q2) = true := by
  rw [le_iff_sval _ _ (roundQ_isNaN _) (roundQ_isNaN _)]; exact roundQ_mono q1 q2 h

theorem magOf_roundMag (n d : Nat) (hn : 0 < n) (hd : 0 < d) (hov : magBits n d < 0x7FF0000000000000) :
    magOf (roundMag n d) = magBits n d := by
  rw [magOf_eq_mod, roundMag_toNat n d hn hd, Nat.min_eq_left hov.le, Nat.mod_eq_of_lt (by omega)]

/-- the value of a finite result in the coordinates of the rounding: `M·2^-s` -/
theorem val_of_near (n d : Nat) (hn : 0 < n) (hd : 0 < d) (s : Int) (M : Nat)
    (hs : IsShift ((n : ℚ) / d) s) (hM : NearQ M ((n : ℚ) / d * (2 : ℚ) ^ s))
    (hov : magBits n d < 0x7FF0000000000000) : val (roundMag n d) = (M : ℚ) * (2 : ℚ) ^ (-s) := by
  have hk : (((1074 - s).toNat : ℕ) : Int) - 1074 = -s := by have := hs.1; omega
  rw [val_of_magOf _ _ _ ((magOf_roundMag n d hn hd hov).trans (magBits_of_near n d hn hd s M hs hM))
    (hM.le_of_le (by exact_mod_cast hs.2.1.le)) (fun h => hM.le_of_ge (by exact_mod_cast hs.2.2 (by omega))), hk]

/-- every positive fraction has such coordinates -/
theorem exists_near (n d : Nat) (hn : 0 < n) (hd : 0 < d) :
    ∃ (s : Int) (M : Nat), IsShift ((n : ℚ) / d) s ∧ NearQ M ((n : ℚ) / d * (2 : ℚ) ^ s) :=
  ⟨_, _, shiftOf_isShift n d hn hd, scaled_ratio n d _ ▸ rne_nearQ _ _ (scaled_snd_pos n _ hd)⟩

theorem rne_errQ (n d : Nat) (hd : 0 < d) : |(rne n d : ℚ) - (n : ℚ) / d| ≤ 1 / 2 := (rne_nearQ n d hd).err

theorem roundMag_dyadic (n d : Nat) (hn : 0 < n) (hd : 0 < d) (M : Nat) (e : Int) (hM : M < 2 ^ 53)
    (he : -1074 ≤ e) (hq : (n : ℚ) / d = (M : ℚ) * (2 : ℚ) ^ e) (hov : (n : ℚ) / d < (2 : ℚ) ^ (1024 : Int)) :
    val (roundMag n d) = (n : ℚ) / d ∧ (roundMag n d).toNat < 0x7FF0000000000000 := by
  obtain ⟨a1, a2, a3⟩ := shiftOf_isShift n d hn hd
  generalize shiftOf n d = s at a1 a2 a3
  have hr : (n : ℚ) / d * (2 : ℚ) ^ s = (M : ℚ) * (2 : ℚ) ^ (e + s) := by
    rw [hq, mul_assoc, ← zpow_add₀ two_ne_zero]
  -- the scaled ratio is an integer: with `e + s < 0` it would be below `2^52` although `s < 1074`
  have hes : 0 ≤ e + s := by
    by_contra hneg
    have h1 := a3 (by omega)
    have h2 : (M : ℚ) * (2 : ℚ) ^ (e + s) < 2 ^ 52 :=
      calc (M : ℚ) * (2 : ℚ) ^ (e + s) ≤ M * (2 : ℚ) ^ (-1 : Int) :=
            mul_le_mul_of_nonneg_left (zpow_le_zpow_right₀ one_le_two (by omega)) (Nat.cast_nonneg _)
        _ < 2 ^ 53 * (2 : ℚ) ^ (-1 : Int) :=
            mul_lt_mul_of_pos_right (by exact_mod_cast hM) (two_zpow_pos _)
        _ = 2 ^ 52 := by norm_num
    rw [hr] at h1
    exact absurd h1 (not_le.mpr h2)
  obtain ⟨t, ht⟩ := Int.eq_ofNat_of_zero_le hes
  have hR : ((M * 2 ^ t : ℕ) : ℚ) = (n : ℚ) / d * (2 : ℚ) ^ s := by
    rw [hr, ht, zpow_natCast, Nat.cast_mul, Nat.cast_pow, Nat.cast_ofNat]
  have hnear : NearQ (M * 2 ^ t) ((n : ℚ) / d * (2 : ℚ) ^ s) := hR ▸ nearQ_self _
  have hRlt : M * 2 ^ t < 2 ^ 53 := by
    rw [← hR] at a2; exact_mod_cast a2
  have hnov : magBits n d < 0x7FF0000000000000 := by
    rw [magBits_of_near n d hn hd s _ ⟨a1, a2, a3⟩ hnear]
    by_cases hs1 : s < 1074
    · -- `2^52 ≤ (n/d)·2^s < 2^(1024+s)` bounds the exponent field
      have h1024 : (n : ℚ) / d * (2 : ℚ) ^ s < (2 : ℚ) ^ (1024 + s) := by
        rw [zpow_add₀ two_ne_zero]; exact mul_lt_mul_of_pos_right hov (two_zpow_pos _)
      have hlt : (2 : ℚ) ^ (52 : Int) < (2 : ℚ) ^ (1024 + s) :=
        lt_of_le_of_lt (by rw [zpow_ofNat]; exact a3 hs1) h1024
      have : (52 : Int) < 1024 + s := (zpow_lt_zpow_iff_right₀ one_lt_two).mp hlt
      have hk : (1074 - s).toNat ≤ 2045 := by omega
      have := Nat.mul_le_mul_right (2 ^ 52) hk
      omega
    · have : (1074 - s).toNat = 0 := by omega
      rw [this]; omega
  constructor
  · rw [val_of_near n d hn hd s _ ⟨a1, a2, a3⟩ hnear hnov, hR, mul_assoc, zpow_mul_neg, _root_.mul_one]
  · rw [roundMag_toNat n d hn hd]; exact lt_of_le_of_lt (Nat.min_le_left _ _) hnov

end F64
