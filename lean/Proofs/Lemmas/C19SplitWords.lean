/-
C19 helper lemmas: SplitWords undoes the quoting of the analysis front end's addToQuery.
-/
import Model.Storage.Query
import Model.Analysis.Quote

namespace C19
open Storage.Query Analysis.Quote

theorem swGo_nil (b : Bool) (w : Bytes) (ws : List Bytes) : swGo b w ws [] = flush w ws :=
  swGo.eq_1 b w ws
theorem swGo_true_cons (w : Bytes) (ws : List Bytes) (c : UInt8) (rest : Bytes) :
    swGo true w ws (c :: rest) =
      if c == cQuote then swGo false w ws rest
      else if c == cBackslash then
        (match rest with
        | [] => flush w ws
        | d :: rest' => swGo true (w ++ [d]) ws rest')
      else swGo true (w ++ [c]) ws rest := by
  rw [swGo.eq_def]; rfl
theorem swGo_false_cons (w : Bytes) (ws : List Bytes) (c : UInt8) (rest : Bytes) :
    swGo false w ws (c :: rest) =
      if c == cQuote then swGo true w ws rest
      else if c == cSpace || c == cTab then swGo false [] (flush w ws) rest
      else if c == cBackslash then
        (match rest with
        | [] => flush w ws
        | d :: rest' => swGo false (w ++ [d]) ws rest')
      else swGo false (w ++ [c]) ws rest := by
  rw [swGo.eq_def]; rfl

theorem swGo_open (w : Bytes) (ws : List Bytes) (rest : Bytes) :
    swGo false w ws (cQuote :: rest) = swGo true w ws rest := by
  rw [swGo_false_cons]; rfl
theorem swGo_close (w : Bytes) (ws : List Bytes) (rest : Bytes) :
    swGo true w ws (cQuote :: rest) = swGo false w ws rest := by
  rw [swGo_true_cons]; rfl

theorem swGo_blank (w : Bytes) (ws : List Bytes) (rest : Bytes) :
    swGo false w ws (cSpace :: rest) = swGo false [] (flush w ws) rest := by
  rw [swGo_false_cons]; rfl

/-- per-byte view of the two `strings.Replace` passes -/
def enc (c : UInt8) : Bytes :=
  if c == cBackslash then [cBackslash, cBackslash] else if c == cQuote then [cBackslash, cQuote] else [c]

theorem escape_eq (s : Bytes) :
    replaceByte cQuote [cBackslash, cQuote] (replaceByte cBackslash [cBackslash, cBackslash] s)
      = s.flatMap enc := by
  unfold replaceByte
  rw [List.flatMap_assoc]
  congr 1; funext c
  unfold enc
  split
  · rfl
  · simp only [List.flatMap_cons, List.flatMap_nil, List.append_nil]

theorem swGo_true_enc (c : UInt8) (w : Bytes) (ws : List Bytes) (rest : Bytes) :
    swGo true w ws (enc c ++ rest) = swGo true (w ++ [c]) ws rest := by
  unfold enc
  split
  · rename_i hb
    rw [beq_iff_eq.mp hb]; rfl
  · split
    · rename_i hq
      rw [beq_iff_eq.mp hq]; rfl
    · rename_i hb hq
      rw [List.singleton_append, swGo_true_cons, if_neg hq, if_neg hb]

theorem swGo_quoted (s w : Bytes) (ws : List Bytes) (rest : Bytes) :
    swGo true w ws (s.flatMap enc ++ rest) = swGo true (w ++ s) ws rest := by
  induction s generalizing w with
  | nil => simp
  | cons c s ih => rw [List.flatMap_cons, List.append_assoc, swGo_true_enc, ih, List.append_assoc, List.singleton_append]

theorem swGo_plain (s w : Bytes) (ws : List Bytes) (rest : Bytes) (h : needsQuote s = false) :
    swGo false w ws (s ++ rest) = swGo false (w ++ s) ws rest := by
  induction s generalizing w with
  | nil => simp
  | cons c s ih =>
    simp only [needsQuote, List.any_cons, Bool.or_eq_false_iff] at h
    obtain ⟨⟨⟨⟨h1, h2⟩, h3⟩, h4⟩, hs⟩ := h
    rw [List.cons_append, swGo_false_cons]
    simp only [h1, h2, h3, h4, Bool.false_eq_true, if_false, Bool.or_self]
    rw [ih _ hs, List.append_assoc, List.singleton_append]

theorem swGo_quote (s w : Bytes) (ws : List Bytes) (rest : Bytes) :
    swGo false w ws (quote s ++ rest) = swGo false (w ++ s) ws rest := by
  unfold quote
  split
  · simp only [escape_eq, List.cons_append, List.nil_append, List.append_assoc]
    rw [swGo_open, swGo_quoted, swGo_close]
  · rename_i h
    exact swGo_plain s w ws rest (Bool.not_eq_true _ ▸ h)

theorem flush_append (w : Bytes) (ws0 ws : List Bytes) : flush w (ws0 ++ ws) = ws0 ++ flush w ws := by
  unfold flush; split <;> simp

theorem swGo_append (b : Bool) (w : Bytes) (ws : List Bytes) (r : Bytes) (ws0 : List Bytes) :
    swGo b w (ws0 ++ ws) r = ws0 ++ swGo b w ws r := by
  fun_induction swGo b w ws r generalizing ws0 <;>
    simp only [swGo_nil, swGo_true_cons, swGo_false_cons, flush_append, *, if_true,
      Bool.false_eq_true, if_false]

theorem swGo_acc (b : Bool) (w : Bytes) (ws : List Bytes) (r : Bytes) :
    swGo b w ws r = ws ++ swGo b w [] r := by
  simpa using swGo_append b w [] r ws

theorem flush_nonempty (w : Bytes) (ws : List Bytes) (hws : ∀ x ∈ ws, x ≠ []) :
    ∀ x ∈ flush w ws, x ≠ [] := by
  unfold flush; split
  · exact hws
  · rename_i hw
    intro x hx
    rcases List.mem_append.mp hx with h | h
    · exact hws x h
    · simp only [List.mem_singleton] at h; subst h; simpa using hw

theorem swGo_nonempty (b : Bool) (w : Bytes) (ws : List Bytes) (r : Bytes)
    (hws : ∀ x ∈ ws, x ≠ []) : ∀ x ∈ swGo b w ws r, x ≠ [] := by
  fun_induction swGo b w ws r
  -- words only enter the list through `flush`: at the end of the input and at a blank
  -- case1, case3, case8: end of the input (plain, or after a lone backslash inside / outside quotes);
  -- case7: a blank outside quotes; the other cases pass `ws` on unchanged
  case case1 | case3 | case8 => exact flush_nonempty _ _ hws
  case case7 ih => exact ih (flush_nonempty _ _ hws)
  all_goals (rename_i ih; exact ih hws)

theorem splitWords_nonempty (q : Bytes) : ∀ w ∈ splitWords q, w ≠ [] :=
  swGo_nonempty false [] [] q (by simp)

theorem splitWords_quote_cons (s rest : Bytes) (hs : s ≠ []) :
    splitWords (quote s ++ cSpace :: rest) = s :: splitWords rest := by
  unfold splitWords
  rw [swGo_quote, swGo_blank, swGo_acc]
  simp [flush, hs]

theorem splitWords_quote_end (s : Bytes) (hs : s ≠ []) : splitWords (quote s) = [s] := by
  have := swGo_quote s [] [] []
  rw [List.append_nil, swGo_nil] at this
  unfold splitWords
  rw [this]
  simp [flush, hs]

end C19
