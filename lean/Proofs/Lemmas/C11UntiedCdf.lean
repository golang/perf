/-
C11, untied Mann–Whitney distribution, continued: the untied branch of the model's CDF wrapper is the
distribution function of the enumeration for any pool of distinct values, and that enumeration is its
own reflection about `n·m` (the tie vector 1, …, 1 is palindromic).
-/
import Model.Stats.UDist
import Model.Stats.UStat
import Model.Spec.UExact
import Proofs.Lemmas.C11Untied
import Proofs.Lemmas.C11Relabel
import Proofs.Lemmas.C11PFormulas

namespace C11
open Stats Stats.UStat Stats.UDist Spec.UExact

variable {α : Type} [LinearOrder α]

theorem pRec_prefix_count (n m : Nat) (pool : List α) (hlen : pool.length = n + m)
    (hdesc : pool.Pairwise (· > ·)) (K : Nat) :
    (∑ w ∈ Finset.range K, pRec n m (w : Int)) * (Nat.choose (n + m) n : Rat)
      = (((nullDistOf n pool).countP (fun d => decide (d % 2 = 0 ∧ d < 2 * K)) : Nat) : Rat) := by
  rw [← sum_countP_even, Finset.sum_mul, Nat.cast_sum]
  apply Finset.sum_congr rfl
  intro w _
  rw [pRec_mul_choose_eq_cntSpec pool n m hlen hdesc]
  rfl

theorem nullDistOf_count_le (n m : Nat) (pool : List α) (hlen : pool.length = n + m)
    (hdesc : pool.Pairwise (· > ·)) (v : Nat) :
    ((((nullDistOf n pool).filter (· ≤ v)).length : Nat) : Rat)
      = (∑ w ∈ Finset.range (v / 2 + 1), pRec n m (w : Int)) * (Nat.choose (n + m) n : Rat) := by
  rw [pRec_prefix_count n m pool hlen hdesc, ← List.countP_eq_length_filter]
  congr 1
  apply List.countP_congr
  intro d hd
  have := nullDistOf_even pool (hdesc.imp ne_of_gt) n d hd
  simp only [decide_eq_true_eq]
  omega

theorem untied_cdf_is_cdf (n m : Nat) (T : List Nat) (hT : Stats.UDist.hasTies T = false)
    (pool : List α) (hlen : pool.length = n + m) (hdesc : pool.Pairwise (· > ·)) :
    IsCDFOf (Stats.UDist.cdfPure n m T) (Spec.UExact.nullDistOf n pool) := by
  refine isCDFOf_cdfPure n m T _ (nullDistOf_ne_nil n m pool hlen) ?_ fun v h0 h1 => ?_
  · have := nullDistOf_le n pool
    rwa [hlen, Nat.add_sub_cancel_left] at this
  · obtain ⟨w, rfl⟩ := Int.eq_ofNat_of_zero_le h0
    rw [cdfPure_untied_pRec n m T hT w h0 h1, nullDistOf_length, hlen,
      eq_div_iff (choose_cast_ne_zero n m), show ((w : Int) / 2).toNat = w / 2 by omega,
      ← nullDistOf_count_le n m pool hlen hdesc]
    congr 2
    exact List.filter_congr fun d _ => by simp

theorem exists_desc_perm (pool : List α) (hnd : pool.Nodup) :
    ∃ pool' : List α, pool'.Perm pool ∧ pool'.Pairwise (· > ·) :=
  ⟨(sortF pool).reverse, (List.reverse_perm _).trans (sortF_perm pool),
    List.pairwise_reverse.mpr (((sortF_sorted pool).and ((sortF_perm pool).nodup_iff.mpr hnd)).imp
      fun h => lt_of_le_of_ne h.1 h.2)⟩

theorem untied_cdf_is_cdf_of_nodup (n m : Nat) (T : List Nat) (hT : Stats.UDist.hasTies T = false)
    (pool : List α) (hlen : pool.length = n + m) (hnd : pool.Nodup) :
    IsCDFOf (Stats.UDist.cdfPure n m T) (Spec.UExact.nullDistOf n pool) := by
  obtain ⟨pool', hp, hd⟩ := exists_desc_perm pool hnd
  exact (untied_cdf_is_cdf n m T hT pool' (hp.length_eq.trans hlen) hd).of_countEq
    (nullDistOf_countP_perm n hp)

/-- the null distribution of distinct values is its own reflection about `n·m`: the tie vector
    1, …, 1 is palindromic -/
theorem nullDistOf_mirror_of_nodup (n m : Nat) (pool : List α) (hlen : pool.length = n + m)
    (hnd : pool.Nodup) : MirrorOf (2 * (n * m)) (nullDistOf n pool) (nullDistOf n pool) := by
  have h := nullDistOf_poolOf_reverse (List.replicate (n + m) 1) n
  rw [List.reverse_replicate, List.sum_replicate, smul_eq_mul, Nat.mul_one,
    Nat.add_sub_cancel_left] at h
  have hc := nullDistOf_canonical n pool
  rw [tieVectorOf_nodup pool hnd, hlen] at hc
  exact h.of_countEq hc.symm

end C11
