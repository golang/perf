/-
C03: `Parsed.eval` on values. The specification's verdict on a parse is `evalQ` of its exact value, so it
depends on sign and value only and saturates with the value.
-/
import Proofs.Lemmas.C03Frac

namespace C03
open Num F64 Spec.NumText

theorem valueOf_pos (p : Parsed) (hm : 0 < p.mant) : 0 < valueOf p := by
  unfold valueOf
  exact mul_pos (by exact_mod_cast hm) (zpow_pos (by split <;> norm_num) _)

theorem eval_of_valueQ (p : Parsed) (hm : 0 < p.mant) : p.eval = evalQ p.neg (valueOf p) := by
  have hmz : (p.mant == 0) = false := by simp; omega
  have key : p.eval = evalFrac p.neg (powFrac (if p.hex then 2 else 10) p.mant p.exp).1
      (powFrac (if p.hex then 2 else 10) p.mant p.exp).2 := by
    unfold Parsed.eval evalFrac
    cases p.hex
    · simp only [Bool.false_eq_true, if_false]
      rw [overflows_powFrac, ofDecimal_eq_roundRat _ _ _ hm, roundRat_eq_signed]
      simp only [decide_eq_true_eq]
    · simp only [if_true]
      rw [overflows_powFrac]
      unfold ofBinary
      simp only [hmz, Bool.false_eq_true, if_false, decide_eq_true_eq, roundRat_eq_signed, toFrac_eq_powFrac]
  have hb : 0 < (if p.hex then 2 else 10 : Nat) := by split <;> decide
  rw [key, evalFrac_eq_evalQ _ _ _ (powFrac_snd_pos _ _ hb), powFrac_ratio _ _ _ hb]
  unfold valueOf
  cases p.hex <;> simp

theorem overflows_zero (b : Nat) (hb : 0 < b) (e : Int) : overflows b 0 e = false := by
  rw [← Bool.not_eq_true, overflows_iff b 0 e hb, Nat.cast_zero, zero_mul, ← threshold_cast]
  exact_mod_cast Nat.not_le.mpr hT_pos

theorem eval_zero (p : Parsed) (hm : p.mant = 0) : p.eval = .ok (F64.zero p.neg) := by
  unfold Parsed.eval
  rw [hm, overflows_zero 2 (by decide), overflows_zero 10 (by decide)]
  cases p.hex <;> simp [ofBinary, ofDecimal]

theorem eval_congr (p q : Parsed) (hn : p.neg = q.neg)
    (hz : p.mant = 0 ↔ q.mant = 0) (hv : p.mant ≠ 0 → valueOf p = valueOf q) : p.eval = q.eval := by
  by_cases h0 : p.mant = 0
  · rw [eval_zero p h0, eval_zero q (hz.mp h0), hn]
  · rw [eval_of_valueQ p (Nat.pos_of_ne_zero h0),
      eval_of_valueQ q (Nat.pos_of_ne_zero fun h => h0 (hz.mpr h)), hn, hv h0]

theorem eval_of_big (p : Parsed) (hm : 0 < p.mant) (h : (overflowThreshold : ℚ) ≤ valueOf p) :
    p.eval = .error .range :=
  (eval_of_valueQ p hm).trans (evalQ_big p.neg h)

theorem eval_of_small (p : Parsed) (hm : 0 < p.mant) (h : valueOf p ≤ 1 / (2 : ℚ) ^ 1076) :
    p.eval = .ok (F64.zero p.neg) :=
  (eval_of_valueQ p hm).trans (evalQ_small p.neg (valueOf_pos p hm) h)

theorem pow_sat_big (b M T : ℚ) (hb : 1 ≤ b) (k : Nat) (hM : b ^ k ≤ M) (H e : Int) (hT : T ≤ b ^ H)
    (he : H ≤ k + e) : T ≤ M * b ^ e := by
  have hb0 : (0 : ℚ) < b := by linarith only [hb]
  calc T ≤ b ^ H := hT
    _ ≤ b ^ ((k : Int) + e) := zpow_le_zpow_right₀ hb he
    _ = b ^ k * b ^ e := by rw [zpow_add₀ hb0.ne', zpow_natCast]
    _ ≤ M * b ^ e := mul_le_mul_of_nonneg_right hM (zpow_nonneg hb0.le e)

theorem pow_sat_small (b M t : ℚ) (hb : 1 ≤ b) (W : Nat) (hM : M < b ^ W) (S e : Int) (ht : b ^ (-S) ≤ t)
    (he : e + (W : Int) ≤ -S) : M * b ^ e ≤ t := by
  have hb0 : (0 : ℚ) < b := by linarith only [hb]
  have h1 : M * b ^ e ≤ b ^ ((W : Int)) * b ^ e := by
    rw [zpow_natCast]; exact mul_le_mul_of_nonneg_right hM.le (zpow_nonneg hb0.le e)
  rw [← zpow_add₀ hb0.ne'] at h1
  exact le_trans h1 (le_trans (zpow_le_zpow_right₀ hb (by omega)) ht)

end C03
