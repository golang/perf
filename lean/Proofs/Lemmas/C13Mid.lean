/-
C13: the float64 interpolation `a + frac·(b − a)` of moremath's `Sample.Quantile(0.5)`, provided b − a
is finite (its failure is the recorded finding X1): bit-exactly `a` for frac = 0; for frac = 0.5 and
finite a ≤ b it lies in [a, b] (`F64.interp_term`, `F64.add_between`) and within two units in the last place of the
exact midpoint (three rounding errors, each within 2⁻⁵³ relative plus 2⁻¹⁰⁷⁵ absolute: `roundQ_err`).
-/
import Proofs.Lemmas.F64Interp
import Model.Math.Sample

namespace C13
open F64 Math

/-- half of the smallest subnormal step: 2⁻¹⁰⁷⁵ -/
def tinyQ : ℚ := (2 : ℚ) ^ (-1075 : Int)

theorem tinyQ_pos : 0 < tinyQ := two_zpow_pos _

/-- **roundQ_err** — a finite rounding result is within 2⁻⁵³ relative, or half a subnormal step
absolute, of the rounded rational -/
theorem roundQ_err (q : ℚ) (hf : isFinite (roundQ q) = true) :
    |sval (roundQ q) - q| ≤ |q| / 2 ^ 53 + tinyQ := R_err q hf

theorem err_of_sval_eq (x : Bits) (q : ℚ) (hx : isFinite x = true) (h : sval x = R q) :
    |sval x - q| ≤ |q| / 2 ^ 53 + tinyQ :=
  h ▸ roundQ_err q (isFinite_of_sval_eq h.symm hx)

/-- **interp_zero** — `a + 0·(b − a) = a` bit-exactly whenever b − a is finite (X1 is exactly the
failure of this hypothesis) -/
theorem interp_zero (a b : Bits) (ha : isFinite a = true) (hane : a ≠ negZero)
    (hd : isFinite (F64.sub b a) = true) : Val.interp a b posZero = a :=
  add_zero_right a _ ha hane ((sval_eq_zero_iff _).1 (by
    rw [sval_mul posZero _ (by decide) hd, sval_posZero, zero_mul, R_zero]))

/-- the three rounding errors of `c = R(a + h)`, `h = R(d/2)`, `d = R(b − a)` add up to at most
`4·(m·2⁻⁵³ + t)` -/
theorem mid_err {a b d h c m t : ℚ} (hab : a ≤ b) (hma : |a| ≤ m) (hmb : |b| ≤ m) (ht : 0 ≤ t)
    (hd0 : 0 ≤ d) (hh0 : 0 ≤ h) (hhx : h ≤ b - a)
    (e1 : |d - (b - a)| ≤ |b - a| / 2 ^ 53 + t) (e2 : |h - d / 2| ≤ |d / 2| / 2 ^ 53 + t)
    (e3 : |c - (a + h)| ≤ |a + h| / 2 ^ 53 + t) :
    |c - (a + b) / 2| ≤ m / 2 ^ 51 + 4 * t := by
  rw [abs_of_nonneg (sub_nonneg.2 hab)] at e1
  rw [abs_of_nonneg (div_nonneg hd0 zero_le_two)] at e2
  have hb' := (le_abs_self b).trans hmb
  have ha' := neg_le.1 ((neg_le_abs a).trans hma)
  have hs : |a + h| ≤ m := abs_le.2 ⟨by linarith only [ha', hh0], by linarith only [hb', hhx]⟩
  obtain ⟨e1l, e1u⟩ := abs_le.1 e1
  obtain ⟨e2l, e2u⟩ := abs_le.1 e2
  obtain ⟨e3l, e3u⟩ := abs_le.1 e3
  exact abs_le.2 ⟨by linarith only [e1l, e2l, e3l, e1u, hs, ha', hb', ht],
    by linarith only [e1u, e2u, e3u, hs, hab, ha', hb', ht]⟩

/-- **midpoint_f64** — for finite float64 a ≤ b (by value) with b − a finite (no overflow: not in
class X1), the value c = a + 0.5·(b − a) computed in float64 (three roundings) is finite, lies in
[a, b], and is within max(|a|,|b|)·2⁻⁵¹ + 2⁻¹⁰⁷³ of the exact midpoint (a + b)/2. -/
theorem midpoint_f64 (a b : Bits) (ha : isFinite a = true) (hb : isFinite b = true)
    (hab : sval a ≤ sval b) (hd : isFinite (F64.sub b a) = true) :
    isFinite (F64.add a (F64.mul half (F64.sub b a))) = true ∧
    sval a ≤ sval (F64.add a (F64.mul half (F64.sub b a))) ∧
    sval (F64.add a (F64.mul half (F64.sub b a))) ≤ sval b ∧
    |sval (F64.add a (F64.mul half (F64.sub b a))) - (sval a + sval b) / 2|
      ≤ max |sval a| |sval b| / 2 ^ 51 + 4 * tinyQ := by
  -- d = R(b − a) ≥ 0, h = R(d/2) with 0 ≤ h ≤ b − a, c = R(a + h) ∈ [a, b]
  have hx0 : 0 ≤ sval b - sval a := sub_nonneg.2 hab
  have hD : sval (F64.sub b a) = R (sval b - sval a) := sval_sub b a hb ha
  have hH : sval (F64.mul half (F64.sub b a)) = R (1 / 2 * sval (F64.sub b a)) := by
    rw [sval_mul half _ (by decide) hd, show sval half = 1 / 2 from sval_half]
  obtain ⟨hhfin, hH0, hHx⟩ := interp_term a b _ _ ha hb hd hH (by norm_num) (by norm_num)
  obtain ⟨hlo, hhi, hcfin⟩ := add_between a b _ ha hb hhfin hH0 hHx
  rw [min_eq_left hx0] at hH0; rw [max_eq_right hx0] at hHx
  rw [min_eq_left hab] at hlo; rw [max_eq_right hab] at hhi
  exact ⟨hcfin, hlo, hhi, mid_err hab (le_max_left _ _) (le_max_right _ _) tinyQ_pos.le
    ((R_nonneg hx0).trans_eq hD.symm) hH0 hHx (err_of_sval_eq _ _ hd hD)
    (err_of_sval_eq _ _ hhfin (by rw [hH, one_div, inv_mul_eq_div]))
    (err_of_sval_eq _ _ hcfin (sval_add a _ ha hhfin))⟩

end C13
