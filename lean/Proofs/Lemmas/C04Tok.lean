/-
C04 helper lemmas: the tokenizer model (Unit.Parse) against the piece-level specification
(Spec.Tidy), the edit list applied right-to-left, scan as a fold.
-/
import Model.Unit.Tidy
import Model.Spec.Tidy
import Proofs.Lemmas.Shared.Runes
namespace C04
open Shared Unit.Parse Unit.Tidy
open Spec.Tidy (runes group Piece rewrite pieces)

theorem isSep_eq (r : Nat) : Unit.Parse.isSep r = Spec.Tidy.isSep r := rfl

def noWordHead : List Piece → Prop
  | .word _ :: _ => False
  | _ => True

theorem group_cons_sep (r : Nat) (enc : Bytes) (rest : List (Nat × Bytes)) (h : Spec.Tidy.isSep r = true) :
    group ((r, enc) :: rest) = .sep r enc :: group rest := by
  simp [group, h]

theorem group_cons_word_nohead (r : Nat) (enc : Bytes) (rest : List (Nat × Bytes))
    (h : Spec.Tidy.isSep r = false) (hn : noWordHead (group rest)) :
    group ((r, enc) :: rest) = .word enc :: group rest := by
  simp only [group, h]
  generalize group rest = g at *
  cases g with
  | nil => simp
  | cons p ps => cases p with
    | sep r' e' => simp
    | word w => exact absurd hn (by simp [noWordHead])

theorem group_cons_word_head (r : Nat) (enc w : Bytes) (rest : List (Nat × Bytes)) (ps : List Piece)
    (h : Spec.Tidy.isSep r = false) (hg : group rest = .word w :: ps) :
    group ((r, enc) :: rest) = .word (enc ++ w) :: ps := by
  simp [group, h, hg]

theorem group_word_append (L M : List (Nat × Bytes)) (hs : ∀ x ∈ L, Spec.Tidy.isSep x.1 = false)
    (hne : L ≠ []) (hM : noWordHead (group M)) :
    group (L ++ M) = .word (L.flatMap (·.2)) :: group M := by
  induction L with
  | nil => exact absurd rfl hne
  | cons x L ih =>
    have hr := hs x List.mem_cons_self
    cases L with
    | nil => exact (group_cons_word_nohead x.1 x.2 M hr hM).trans (by simp)
    | cons y L =>
      have := ih (fun x hx => hs x (List.mem_cons_of_mem _ hx)) (List.cons_ne_nil _ _)
      exact (group_cons_word_head x.1 x.2 _ _ _ hr this).trans (by simp)

/-- `t` consists of non-separator runes -/
def Word (t : Bytes) : Prop := ∀ x ∈ R t, Spec.Tidy.isSep x.1 = false

theorem word_nil : Word [] := fun x hx => (by rw [R_nil] at hx; cases hx)

theorem group_word (t T : Bytes) (hne : t ≠ []) (ht : Word t) (hT : okTail T)
    (hn : noWordHead (group (R T))) : group (R (t ++ T)) = .word t :: group (R T) := by
  have hR : R t ≠ [] := fun e => hne (by rw [← R_flat t, e]; rfl)
  rw [R_append_ok t T hT, group_word_append _ _ ht hR hn, R_flat t]

theorem isSep_ne_error (r : Nat) (h : Spec.Tidy.isSep r = true) : r ≠ 0xFFFD := by
  intro e; subst e; revert h; decide

theorem okTail_of_sep_head (b : UInt8) (bs : Bytes)
    (h : Spec.Tidy.isSep (Utf8.decodeRune (b :: bs)).1 = true) : okTail (b :: bs) :=
  Or.inr ⟨b, bs, rfl, decodeRune_valid_head b bs (isSep_ne_error _ h)⟩

theorem takeTok_spec : ∀ (fuel : Nat) (bs : Bytes), bs.length < fuel →
    bs = (takeTok fuel bs).1 ++ (takeTok fuel bs).2 ∧ Word (takeTok fuel bs).1 ∧
    okTail (takeTok fuel bs).2 ∧ noWordHead (group (R (takeTok fuel bs).2)) ∧
    (bs ≠ [] → Spec.Tidy.isSep (Utf8.decodeRune bs).1 = false → (takeTok fuel bs).1 ≠ []) := by
  intro fuel
  induction fuel with
  | zero => intro bs h; omega
  | succ fuel ih =>
    intro bs h
    cases bs with
    | nil => exact ⟨rfl, word_nil, .inl rfl, by rw [show (takeTok (fuel + 1) []).2 = [] from rfl, R_nil]; trivial,
        fun h => absurd rfl h⟩
    | cons b bs =>
      have hw := decodeRune_width b bs
      have hR := R_cons b bs
      simp only [takeTok]
      generalize hd : Utf8.decodeRune (b :: bs) = d at *
      obtain ⟨r, w⟩ := d
      simp only at hw hR ⊢
      by_cases hs : Unit.Parse.isSep r = true
      · rw [if_pos hs]
        refine ⟨rfl, word_nil, okTail_of_sep_head b bs (by rw [hd]; exact hs), ?_, fun _ hn => absurd hs (by simp [isSep_eq, hn])⟩
        rw [hR, group_cons_sep _ _ _ hs]; trivial
      · rw [if_neg hs]
        have hlen : ((b :: bs).drop w).length < fuel := by
          simp only [List.length_drop, List.length_cons] at *; omega
        obtain ⟨h1, h2, h3, h4, -⟩ := ih ((b :: bs).drop w) hlen
        generalize takeTok fuel ((b :: bs).drop w) = tt at *
        obtain ⟨t', rest'⟩ := tt
        simp only at h1 h2 h3 h4 ⊢
        have htl : ((b :: bs).take w).length = w := by
          simp only [List.length_take, List.length_cons] at *; omega
        have htake : (b :: bs).take w ≠ [] := fun hc => by rw [hc] at htl; simp at htl; omega
        have hcat : (b :: bs).take w ++ t' ++ rest' = b :: bs := by
          rw [List.append_assoc, ← h1, List.take_append_drop]
        have hq : (b :: bs).take w ++ t' ≠ [] := by simp [htake]
        have hdq : Utf8.decodeRune ((b :: bs).take w ++ t') = (r, ((b :: bs).take w).length) := by
          rw [← decodeRune_local' _ rest' hq h3, hcat, hd, htl]
        refine ⟨hcat.symm, fun x hx => ?_, h3, h4, fun _ _ => hq⟩
        rw [R_append _ t' r htake hdq] at hx
        rcases List.mem_cons.mp hx with rfl | hx
        · exact Bool.eq_false_iff.mpr hs
        · exact h2 x hx

/-- the denominator flag after a separator rune -/
def sepDenom (r : Nat) (d : Bool) : Bool := if r == 42 then false else if r == 47 then true else d

theorem rewrite_sep (d : Bool) (f : F64.Bits) (r : Nat) (enc : Bytes) (ps : List Piece) :
    rewrite d f (.sep r enc :: ps) =
      (enc ++ (rewrite (sepDenom r d) f ps).1, (rewrite (sepDenom r d) f ps).2) := by
  simp [rewrite, sepDenom]

theorem skipSeps_cons (fuel : Nat) (b : UInt8) (bs : Bytes) (off : Nat) (d : Bool) :
    skipSeps (fuel + 1) (b :: bs) off d =
      if Spec.Tidy.isSep (Utf8.decodeRune (b :: bs)).1 then
        skipSeps fuel ((b :: bs).drop (Utf8.decodeRune (b :: bs)).2) (off + (Utf8.decodeRune (b :: bs)).2)
          (sepDenom (Utf8.decodeRune (b :: bs)).1 d)
      else some (b :: bs, off, d) := by
  simp only [skipSeps, Spec.Tidy.isSep, sepDenom]
  by_cases h1 : ((Utf8.decodeRune (b :: bs)).1 == 42) = true <;>
    by_cases h2 : ((Utf8.decodeRune (b :: bs)).1 == 47) = true <;> simp [h1, h2]

theorem skipSeps_spec : ∀ (fuel : Nat) (bs : Bytes) (off : Nat) (d : Bool), bs.length < fuel →
    match skipSeps fuel bs off d with
    | none => ∀ f, rewrite d f (group (R bs)) = (bs, f)
    | some (rest, off', d') =>
      ∃ seps, bs = seps ++ rest ∧ off' = off + seps.length ∧
        (∃ b bs', rest = b :: bs' ∧ Spec.Tidy.isSep (Utf8.decodeRune (b :: bs')).1 = false) ∧
        ∀ f, rewrite d f (group (R bs)) =
          (seps ++ (rewrite d' f (group (R rest))).1, (rewrite d' f (group (R rest))).2) := by
  intro fuel
  induction fuel with
  | zero => intro bs off d h; omega
  | succ fuel ih =>
    intro bs off d h
    cases bs with
    | nil => exact fun f => rfl
    | cons b bs =>
      have hw := decodeRune_width b bs
      rw [skipSeps_cons]
      by_cases hs : Spec.Tidy.isSep (Utf8.decodeRune (b :: bs)).1 = true
      · rw [if_pos hs, R_cons, group_cons_sep _ _ _ hs]
        simp only [rewrite_sep]
        generalize Utf8.decodeRune (b :: bs) = dd at *
        obtain ⟨r, w⟩ := dd
        simp only at hw hs ⊢
        have hlen : ((b :: bs).drop w).length < fuel := by
          simp only [List.length_drop, List.length_cons] at *; omega
        have htl : ((b :: bs).take w).length = w := by
          simp only [List.length_take, List.length_cons] at *; omega
        have := ih ((b :: bs).drop w) (off + w) (sepDenom r d) hlen
        generalize skipSeps fuel ((b :: bs).drop w) (off + w) (sepDenom r d) = res at *
        cases res with
        | none =>
          intro f
          rw [this f]
          simp [List.take_append_drop]
        | some v =>
          obtain ⟨rest, off', d'⟩ := v
          obtain ⟨seps, e1, e2, e3, e4⟩ := this
          refine ⟨(b :: bs).take w ++ seps, ?_, ?_, e3, fun f => ?_⟩
          · rw [List.append_assoc, ← e1, List.take_append_drop]
          · rw [e2, List.length_append, htl]; omega
          · rw [e4 f, List.append_assoc]
      · rw [if_neg hs]
        exact ⟨[], rfl, rfl, ⟨b, bs, rfl, by simpa using hs⟩, fun f => rfl⟩

/-- what the specification writes for a component, and what it does to the factor -/
def wordOut (d : Bool) (w : Bytes) : Bytes :=
  if !d && w == Spec.Tidy.ns then Spec.Tidy.sec else if !d && w == Spec.Tidy.mb then Spec.Tidy.b else w

def wordFactor (d : Bool) (f : F64.Bits) (w : Bytes) : F64.Bits :=
  if !d && w == Spec.Tidy.ns then F64.div f Spec.Tidy.e9
  else if !d && w == Spec.Tidy.mb then F64.mul f Spec.Tidy.e6 else f

/-- the edit that the `switch p.tok` of tidy.go appends for one token (`scan_eq`) -/
def editOf (t : Tok) : Option Edit :=
  if t.denom then none
  else if t.tok == sNs then some ⟨t.pos, sNs.length, sSec⟩
  else if t.tok == sMB then some ⟨t.pos, sMB.length, sB⟩
  else none

theorem scan_eq : ∀ (ts : List Tok) (es : List Edit) (f : F64.Bits),
    scan ts es f = (es ++ ts.filterMap editOf, ts.foldl (fun f t => wordFactor t.denom f t.tok) f) := by
  intro ts
  induction ts with
  | nil => intro es f; simp [scan]
  | cons t ts ih =>
    intro es f
    obtain ⟨tok, pos, d⟩ := t
    have hf : wordFactor d f tok = if d then f else if tok == sNs then F64.div f f1e9
        else if tok == sMB then F64.mul f f1e6 else f := by cases d <;> rfl
    simp only [scan, List.filterMap_cons, List.foldl_cons, editOf, hf]
    cases d
    · cases h1 : tok == sNs
      · cases h2 : tok == sMB <;> simp [ih]
      · simp [ih]
    · simp [ih]

theorem applyEdit_mid (a m z rep : Bytes) :
    applyEdit? (a ++ m ++ z) ⟨a.length, m.length, rep⟩ = some (a ++ rep ++ z) := by
  unfold applyEdit?
  have h : a.length + m.length ≤ (a ++ m ++ z).length := by simp
  simp only [h, if_true]
  congr 1
  have h1 : (a ++ m ++ z).take a.length = a := by
    rw [List.append_assoc, List.take_left']; rfl
  have h2 : (a ++ m ++ z).drop (a.length + m.length) = z := by
    have : a.length + m.length = (a ++ m).length := by simp
    rw [this, List.drop_left']; rfl
  rw [h1, h2]

theorem rewrite_word (d : Bool) (f : F64.Bits) (w : Bytes) (ps : List Piece) :
    rewrite d f (.word w :: ps) =
      (wordOut d w ++ (rewrite d (wordFactor d f w) ps).1, (rewrite d (wordFactor d f w) ps).2) := by
  simp only [rewrite, wordOut, wordFactor]
  split
  · rfl
  · split <;> rfl

/-- the edits of the later tokens, applied first, change only what follows `t`, so its own edit finds it at `pre.length` -/
theorem applyEdits_tok (pre t rest : Bytes) {out : Bytes} (d : Bool) {ts : List Tok}
    (h : applyEdits? (ts.filterMap editOf) (pre ++ t ++ rest) = some (pre ++ t ++ out)) :
    applyEdits? ((⟨t, pre.length, d⟩ :: ts).filterMap editOf) (pre ++ t ++ rest) = some (pre ++ wordOut d t ++ out) := by
  rw [List.filterMap_cons]
  cases d with
  | true => exact h
  | false =>
    simp only [editOf, wordOut, Bool.false_eq_true, if_false, Bool.not_false, Bool.true_and]
    cases h1 : t == sNs with
    | true =>
      have h1' : (t == Spec.Tidy.ns) = true := h1
      simp only [h1', if_true, applyEdits?, h, Option.bind_some]
      rw [eq_of_beq h1]; exact applyEdit_mid pre sNs out _
    | false =>
      have h1' : (t == Spec.Tidy.ns) = false := h1
      simp only [h1', Bool.false_eq_true, if_false]
      cases h2 : t == sMB with
      | true =>
        have h2' : (t == Spec.Tidy.mb) = true := h2
        simp only [h2', if_true, applyEdits?, h, Option.bind_some]
        rw [eq_of_beq h2]; exact applyEdit_mid pre sMB out _
      | false =>
        have h2' : (t == Spec.Tidy.mb) = false := h2
        simp only [h2', Bool.false_eq_true, if_false, h]

theorem tokens_main : ∀ (fuel : Nat) (bs : Bytes) (off : Nat) (d : Bool) (pre : Bytes) (f : F64.Bits),
    bs.length < fuel → pre.length = off →
    applyEdits? ((tokensAux fuel bs off d).filterMap editOf) (pre ++ bs)
        = some (pre ++ (rewrite d f (group (R bs))).1) ∧
    (tokensAux fuel bs off d).foldl (fun f t => wordFactor t.denom f t.tok) f = (rewrite d f (group (R bs))).2 := by
  intro fuel
  induction fuel with
  | zero => intro bs off d pre f h; omega
  | succ fuel ih =>
    intro bs off d pre f h hpre
    simp only [tokensAux]
    have hs := skipSeps_spec (bs.length + 1) bs off d (Nat.lt_succ_self _)
    generalize skipSeps (bs.length + 1) bs off d = res at *
    cases res with
    | none =>
      simp only at hs ⊢
      simp [applyEdits?, hs f]
    | some v =>
      obtain ⟨rest, off', d'⟩ := v
      simp only at hs ⊢
      obtain ⟨seps, e1, e2, ⟨b, bs', e3, hns⟩, e4⟩ := hs
      have ht := takeTok_spec (rest.length + 1) rest (Nat.lt_succ_self _)
      generalize takeTok (rest.length + 1) rest = tt at *
      obtain ⟨t, rest'⟩ := tt
      simp only at ht ⊢
      obtain ⟨t1, tw, tk, tn, hne⟩ := ht
      replace hne := hne (e3 ▸ List.cons_ne_nil _ _) (e3 ▸ hns)
      subst t1; subst e1
      have hrest' : rest'.length < fuel := by
        have h3 : 0 < t.length := List.length_pos_iff.mpr hne
        simp only [List.length_append] at h
        omega
      have hoff : off' = (pre ++ seps).length := by rw [List.length_append, hpre, e2]
      have hI := ih rest' (off' + t.length) d' (pre ++ seps ++ t) (wordFactor d' f t) hrest'
        (by rw [List.length_append, hoff])
      rw [e4 f, group_word t rest' hne tw tk tn, rewrite_word]
      simp only [List.foldl_cons]
      refine ⟨?_, hI.2⟩
      have hwhole : pre ++ (seps ++ (t ++ rest')) = pre ++ seps ++ t ++ rest' := by
        simp only [List.append_assoc]
      subst hoff
      rw [hwhole]
      simpa only [List.append_assoc] using applyEdits_tok (pre ++ seps) t rest' d' hI.1

end C04
