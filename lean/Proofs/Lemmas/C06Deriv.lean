/-
The text of a well-formed expression of the surface syntax `S` has a derivation in the parser's grammar
(`C07.Parses`, `C07.PList`) whose trees mean what the expression means, by mutual induction over the surface syntax
(term / items of a juxtaposition / alternatives).  With `parseFilter_ok_iff` this is what the C07 parser model returns
on the text.
-/
import Proofs.Lemmas.C06Surface
import Proofs.Lemmas.C07Parse
namespace C06
open Proc.Tok Proc.ParseFilter C07 Proc.FilterText

theorem derivL (cx : Ctx) (off : Int) (key tail : Bytes) : ∀ (vs : List SV), vs ≠ [] → (∀ p, p ∈ vs → okV cx p) →
    PList cx off key (renderVs vs ++ cRP :: tail) (vs.map fun p => leafSV key p off) tail
  | [], h, _ => absurd rfl h
  | [p], _, hw => by
    obtain ⟨k, hp, hflag⟩ := hw p (by simp)
    have := PList.last (off := off) (key := key) (o := 0) hp.isValue (hp.tk (delim_rp cx tail)) (Tk.op cx true cRP tail (by decide))
    rwa [leaf_of_kind key p off _ k hflag] at this
  | p :: q :: r, _, hw => by
    obtain ⟨k, hp, hflag⟩ := hw p (by simp)
    have ih := derivL cx off key tail (q :: r) (by simp) (fun x hx => hw x (by simp [hx]))
    have := PList.more (off := off) (key := key) (o := 0) hp.isValue (hp.tk (delim_space cx _)) (tk_OR cx true _).space ih.space
    rw [leaf_of_kind key p off _ k hflag] at this
    simpa [renderVs] using this

/-- `tail` is what follows a juxtaposition and `cur` the tokenizer position at which `andExpr`
stops: the end of the text, a closing parenthesis, or ` OR …` -/
inductive ETail : Bytes → Bytes → Prop
  | nil : ETail [] []
  | rp (r : Bytes) : ETail (cRP :: r) (cRP :: r)
  | or (r : Bytes) : ETail (0x20 :: (wOR ++ 0x20 :: r)) (wOR ++ 0x20 :: r)

theorem ETail.delim (cx : Ctx) {tail cur : Bytes} (h : ETail tail cur) : Delim cx tail := by
  cases h with
  | nil => exact delim_nil cx
  | rp r => exact delim_rp cx r
  | or r => exact delim_space cx _

theorem ETail.tk (cx : Ctx) {tail cur : Bytes} (h : ETail tail cur) :
    ∃ k tok q1, Tk cx false tail k tok cur q1 ∧ stopK k = true := by
  cases h with
  | nil => exact ⟨_, _, _, Tk.nil cx false, rfl⟩
  | rp r => exact ⟨_, _, _, Tk.op cx false cRP r (by decide), rfl⟩
  | or r => exact ⟨_, _, _, (tk_OR cx false r).space, rfl⟩

theorem delim_renderT (cx : Ctx) (items : List (Bool × S)) (x : Bytes) (hx : Delim cx x) :
    Delim cx (renderT items ++ x) := by
  cases items with
  | nil => simpa [renderT] using hx
  | cons p r =>
    obtain ⟨b, s⟩ := p
    rw [renderT]
    cases b
    · simp only [Bool.false_eq_true, if_false, List.cons_append, List.nil_append]; exact delim_space cx _
    · simp only [if_true, sepAND, List.cons_append]; exact delim_space cx _

mutual
theorem derivM (cx : Ctx) : ∀ (s : S), okS cx s → ∀ (tail : Bytes), Delim cx tail →
    ∃ t, Parses cx .M (render s ++ tail) [t] tail ∧ GoodT t (fun re res i => sem re res i s)
  | .star, _, tail, _ => ⟨_, .star (Tk.op cx false cStar tail (by decide)), GoodT.star⟩
  | .term kt kv v, hok, tail, hd => by
    rw [okS] at hok
    obtain ⟨⟨k1, hk⟩, k2, hv, hflag⟩ := hok
    have := Parses.term (o := 0) hk.isWord (hk.tk (delim_colon cx _)) (Tk.op cx false cColon _ (by decide))
      hv.isValue (hv.tk hd)
    rw [leaf_of_kind kv v _ _ k2 hflag] at this
    exact ⟨_, by simpa [render] using this, GoodT.leaf kv v _⟩
  | .list kt kv vs, hok, tail, hd => by
    rw [okS] at hok
    obtain ⟨⟨k1, hk⟩, hne, hw⟩ := hok
    have := Parses.list hk.isWord (hk.tk (delim_colon cx _)) (Tk.op cx false cColon _ (by decide))
      (Tk.op cx true cLP _ (by decide)) (derivL cx _ kv tail vs hne hw)
    exact ⟨_, by simpa [render] using this, GoodT.leaves kv _ vs⟩
  | .neg m, hok, tail, hd => by
    rw [okS] at hok
    obtain ⟨t, ht, hg⟩ := derivM cx m hok tail hd
    exact ⟨_, by rw [render, List.cons_append]; exact .neg (Tk.op cx false cDash _ (by decide)) ht, hg.not⟩
  | .paren alts, hok, tail, hd => by
    rw [okS] at hok
    obtain ⟨ts, ht, hg⟩ := derivE cx alts hok.1 hok.2 (cRP :: tail) (Or.inr ⟨tail, rfl⟩)
    have := Parses.paren (Tk.op cx false cLP _ (by decide)) ht (Tk.op cx false cRP tail (by decide))
    exact ⟨_, by simpa [render] using this, hg.finish⟩
theorem derivT (cx : Ctx) : ∀ (items : List (Bool × S)), okT cx items → ∀ (tail cur : Bytes), ETail tail cur →
    ∃ ts, Parses cx .T (renderT items ++ tail) ts cur ∧ GoodAll ts (fun re res i => semT re res i items)
  | [], _, tail, cur, ht => by
    obtain ⟨k, tok, q1, htk, hs⟩ := ht.tk cx
    exact ⟨[], by rw [renderT, List.nil_append]; exact .stop htk hs, GoodAll.nil⟩
  | (bb, s) :: r, hok, tail, cur, ht => by
    rw [okT] at hok
    obtain ⟨t, hm, hgt⟩ := derivM cx s hok.1 (renderT r ++ tail) (delim_renderT cx r tail (ht.delim cx))
    obtain ⟨ts, hl, hg⟩ := derivT cx r hok.2 tail cur ht
    refine ⟨t :: ts, ?_, GoodAll.cons hgt hg⟩
    have item := (hm.juxt hl).space
    cases bb with
    | false => simpa [renderT] using item
    | true => simpa [renderT, sepAND] using Parses.and (tk_AND cx false _).space item
theorem derivA (cx : Ctx) : ∀ (a : List (Bool × S)), a ≠ [] → okT cx a → ∀ (tail cur : Bytes), ETail tail cur →
    ∃ t, Parses cx .A (renderA a ++ tail) [t] cur ∧ GoodT t (fun re res i => semT re res i a)
  | [], h, _, _, _, _ => absurd rfl h
  | (bb, s) :: r, _, hok, tail, cur, ht => by
    rw [okT] at hok
    obtain ⟨t, hm, hgt⟩ := derivM cx s hok.1 (renderT r ++ tail) (delim_renderT cx r tail (ht.delim cx))
    obtain ⟨ts, hl, hg⟩ := derivT cx r hok.2 tail cur ht
    exact ⟨_, by simpa [renderA] using Parses.andExpr hm hl, (GoodAll.cons hgt hg).finish⟩
theorem derivE (cx : Ctx) : ∀ (alts : List (List (Bool × S))), alts ≠ [] → okE cx alts →
    ∀ (tail : Bytes), (tail = [] ∨ ∃ r, tail = cRP :: r) →
    ∃ ts, Parses cx .O (renderE alts ++ tail) ts tail ∧ GoodAny ts (fun re res i => semE re res i alts)
  | [], h, _, _, _ => absurd rfl h
  | [a], _, hok, tail, htl => by
    rw [okE] at hok
    obtain ⟨k, tok, q1, htk, hk, ht⟩ : ∃ k tok q1, Tk cx false tail k tok tail q1 ∧ (k == kO) = false ∧ ETail tail tail := by
      rcases htl with rfl | ⟨r, rfl⟩
      · exact ⟨_, _, _, Tk.nil cx false, by decide, ETail.nil⟩
      · exact ⟨_, _, _, Tk.op cx false cRP r (by decide), by decide, ETail.rp r⟩
    obtain ⟨t, ha, hg⟩ := derivA cx a hok.1 hok.2.1 tail tail ht
    exact ⟨_, by simpa [renderE] using Parses.last ha htk hk, GoodAny.cons hg GoodAny.nil⟩
  | a :: a2 :: rest, _, hok, tail, htl => by
    rw [okE] at hok
    obtain ⟨t, ha, hg⟩ := derivA cx a hok.1 hok.2.1 _ _ (ETail.or (renderE (a2 :: rest) ++ tail))
    obtain ⟨as, ho, hga⟩ := derivE cx (a2 :: rest) (by simp) hok.2.2 tail htl
    exact ⟨_, by simpa [renderE, sepOR] using Parses.more ha (tk_OR cx false _) ho.space, GoodAny.cons hg hga⟩
end

theorem parseM (cx : Ctx) : ∀ (s : S), okS cx s → ∀ (f : Nat) (tail : Bytes) (e : ErrSt),
    5 * (render s ++ tail).length < f → Delim cx tail →
    ∃ t, matchF cx f (render s ++ tail) e = ⟨t, tail, e⟩ ∧ GoodT t (fun re res i => sem re res i s) := by
  intro s hok f tail e hf hd
  obtain ⟨t, ht, hg⟩ := derivM cx s hok tail hd
  exact ⟨t, ht.sound f e hf, hg⟩

theorem parseT (cx : Ctx) : ∀ (items : List (Bool × S)), okT cx items →
    ∀ (f : Nat) (terms : List Filter) (tail cur : Bytes) (e : ErrSt) (b : Meaning),
    5 * (renderT items ++ tail).length + 1 < f → ETail tail cur → GoodAll terms b →
    ∃ t, andLoop cx f terms (renderT items ++ tail) e = ⟨t, cur, e⟩ ∧
      GoodT t (fun re res i => b re res i && semT re res i items) := by
  intro items hok f terms tail cur e b hf ht hg
  obtain ⟨ts, hl, hgs⟩ := derivT cx items hok tail cur ht
  exact ⟨_, hl.sound f terms e hf, (hg.append hgs).finish⟩

theorem parseA (cx : Ctx) : ∀ (a : List (Bool × S)), a ≠ [] → okT cx a →
    ∀ (f : Nat) (tail cur : Bytes) (e : ErrSt),
    5 * (renderA a ++ tail).length + 2 < f → ETail tail cur →
    ∃ t, andExprF cx f (renderA a ++ tail) e = ⟨t, cur, e⟩ ∧ GoodT t (fun re res i => semT re res i a)
  | a, hne, hok, f, tail, cur, e, hf, ht => by
    obtain ⟨t, ha, hg⟩ := derivA cx a hne hok tail cur ht
    exact ⟨t, ha.sound f e hf, hg⟩

theorem parseFilter_render (cx : Ctx) (E : List (List (Bool × S))) (hne : E ≠ []) (hok : okE cx E) :
    ∃ t, parseFilter cx (renderE E) = .ok t ∧ GoodT t (fun re res i => semE re res i E) := by
  obtain ⟨ts, ho, hg⟩ := derivE cx E hne hok [] (Or.inl rfl)
  rw [List.append_nil] at ho
  exact ⟨_, (parseFilter_ok_iff cx _ _).mpr ⟨ts, [], ho, atEnd_nil cx, rfl⟩, hg.finish⟩

end C06
