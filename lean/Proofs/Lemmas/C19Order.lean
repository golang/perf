/-
C19 helper lemmas: `blt` (Go string `<` / SQLite BINARY collation on `List UInt8`) is a strict total
order with the empty string as least element; packaged as a Mathlib `LinearOrder`.
-/
import Model.Storage.Query
import Mathlib.Order.Defs.LinearOrder
import Proofs.Lemmas.Shared.BytesOrder

namespace C19
open Storage.Query

theorem blt_lt : Shared.DecidesLt blt :=
  ⟨Shared.bytesLt_iff (fun a => by cases a <;> rfl) (fun _ _ => rfl) fun a as b bs => Shared.step_if a b (blt as bs)⟩

theorem blt_nil_right (a : Bytes) : blt a [] = false := by
  cases a <;> rfl

theorem blt_nil_left (v : Bytes) (hv : v ≠ []) : blt [] v = true := by
  cases v with
  | nil => exact absurd rfl hv
  | cons _ _ => rfl

theorem blt_irrefl (a : Bytes) : blt a a = false := blt_lt.irrefl a

theorem blt_trans (a b c : Bytes) (h1 : blt a b = true) (h2 : blt b c = true) : blt a c = true :=
  blt_lt.trans a b c h1 h2

theorem blt_total (a b : Bytes) : blt a b = true ∨ a = b ∨ blt b a = true := blt_lt.total a b

theorem blt_asymm (a b : Bytes) (h : blt a b = true) : blt b a = false := blt_lt.asymm a b h

theorem blt_ne (a b : Bytes) (h : blt a b = true) : a ≠ b := by
  intro e; subst e; rw [blt_irrefl] at h; cases h

/-- The bytewise order as a Mathlib linear order (a `def`, not an instance: core already has a
lexicographic `<` on lists). -/
@[reducible] def bytesOrder : LinearOrder Bytes where
  le a b := blt b a = false
  lt a b := blt a b = true
  le_refl a := blt_irrefl a
  le_trans a b c h1 h2 := by
    show blt c a = false
    cases hca : blt c a with
    | false => rfl
    | true =>
      rcases blt_total a b with h | h | h
      · have := blt_trans c a b hca h; rw [h2] at this; cases this
      · subst h; rw [h2] at hca; cases hca
      · rw [h1] at h; cases h
  lt_iff_le_not_ge a b := by
    show blt a b = true ↔ blt b a = false ∧ ¬ blt a b = false
    constructor
    · intro h; exact ⟨blt_asymm a b h, by simp [h]⟩
    · intro ⟨_, h⟩; simpa using h
  le_antisymm a b h1 h2 := by
    rcases blt_total a b with h | h | h
    · rw [h2] at h; cases h
    · exact h
    · rw [h1] at h; cases h
  le_total a b := by
    show blt b a = false ∨ blt a b = false
    cases h : blt b a with
    | false => exact Or.inl rfl
    | true => exact Or.inr (blt_asymm b a h)
  toDecidableLE := fun a b => inferInstanceAs (Decidable (blt b a = false))
  toDecidableLT := fun a b => inferInstanceAs (Decidable (blt a b = true))
  toDecidableEq := inferInstance
  min a b := if blt b a = false then a else b
  max a b := if blt b a = false then b else a
  min_def _ _ := rfl
  max_def _ _ := rfl
  compare a b := if blt a b = true then .lt else if a = b then .eq else .gt
  compare_eq_compareOfLessAndEq _ _ := rfl

end C19
