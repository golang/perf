/-
Token-level facts for the text-level theorems of C06, on top of the C07 tokenizer model and
lemmas: the token (`C07.Tk`) that `next` reads from a bare or quoted word followed by a delimiter,
and from the keywords AND / OR.
-/
import Proofs.Lemmas.C07Bare
import Proofs.Lemmas.C07Quote
import Proofs.Lemmas.C07Lex
import Model.Proc.ParseFilter
namespace C06
open Proc.Tok C07

/-- a delimiter byte: ASCII white space or one of `( ) : @ ,` -/
def isDelim (cx : Ctx) (d : UInt8) : Prop := d < 0x80 ∧ (isSpaceRune cx d.toNat || isOpR d.toNat) = true

/-- what may follow a bare word: nothing, or a delimiter byte -/
def Delim (cx : Ctx) (rest : Bytes) : Prop := rest = [] ∨ ∃ d r, rest = d :: r ∧ isDelim cx d

theorem Delim.notCont {cx : Ctx} {rest : Bytes} (h : Delim cx rest) : Shared.okTail rest :=
  h.imp id fun ⟨d, r, e, hd, _⟩ => ⟨d, r, e, .inl (UInt8.lt_iff_toNat_lt.1 hd)⟩

abbrev wordRune (cx : Ctx) : Nat → Bool := fun r => !(isSpaceRune cx r || isOpR r)

/-- a delimiter in this file's sense (an ASCII byte) is one in the sense of the C07 lemmas (any rune on which
`bareWord` stops) -/
theorem Delim.c07 {cx : Ctx} {rest : Bytes} (h : Delim cx rest) : C07.Delim cx rest := by
  rcases h with rfl | ⟨d, r, rfl, hd, hs⟩
  · exact Or.inl rfl
  · exact Or.inr (by rw [decodeRune_lo d r hd]; exact hs)

/-- the conditions of C07's `bare_word_ok` on a word `c :: t` -/
structure BareOK (cx : Ctx) (m : Bool) (c : UInt8) (t : Bytes) : Prop where
  hop : isStartOpB c = false
  hq : c ≠ cQuote
  hsl : m = true → c ≠ cSlash
  hr : allRunes (wordRune cx) (t.length + 2) (c :: t) = true

theorem next_bareWord (cx : Ctx) (m : Bool) (c : UInt8) (t rest : Bytes) (e : ErrSt)
    (hw : BareOK cx m c t) (hrest : Delim cx rest) :
    next cx m (c :: t ++ rest) e = mkTok cx (c :: t ++ rest)
      (if c :: t == wAND then kA else if c :: t == wOR then kO else kW) (c :: t) rest e :=
  next_bare cx m c t rest e hw.hop hw.hq hw.hsl _ (by simp) (by simp) hw.hr hrest.c07 hrest.notCont

/-- `txt` is a way of writing the word `val` in key (`m = false`) or value (`m = true`) position:
a bare word under the conditions of C07's `bare_word_ok`, or a double-quoted literal whose body is
made of items and which `strconv.Unquote` turns into `val` (e.g. `hexQuote val`, for every `val`).
`kind` is the token kind ('w' or 'q'). -/
inductive Word (cx : Ctx) (m : Bool) : UInt8 → Bytes → Bytes → Prop
  | bare (c : UInt8) (t : Bytes) : BareOK cx m c t → c :: t ≠ wAND → c :: t ≠ wOR →
      Word cx m kW (c :: t) (c :: t)
  | quoted (body val : Bytes) : Items body → unquote (cQuote :: (body ++ [cQuote])) = some val →
      Word cx m kQ (cQuote :: (body ++ [cQuote])) val

theorem Word.hex (cx : Ctx) (m : Bool) (val : Bytes) : Word cx m kQ (hexQuote val) val :=
  Word.quoted _ val (items_hexBody val) (unquote_hexQuote val)

theorem Word.isWord {cx : Ctx} {m : Bool} {k : UInt8} {txt val : Bytes} (h : Word cx m k txt val) :
    Proc.ParseFilter.isWord k = true := by
  cases h <;> decide

theorem Word.kind {cx : Ctx} {m : Bool} {k : UInt8} {txt val : Bytes} (h : Word cx m k txt val) :
    k = kW ∨ k = kQ := by
  cases h <;> simp

theorem Word.length_pos {cx : Ctx} {m : Bool} {k : UInt8} {txt val : Bytes} (h : Word cx m k txt val) :
    1 ≤ txt.length := by
  cases h <;> simp

theorem Word.tk {cx : Ctx} {m : Bool} {k : UInt8} {txt val : Bytes} (hw : Word cx m k txt val) {rest : Bytes}
    (hrest : Delim cx rest) : Tk cx m (txt ++ rest) k val (txt ++ rest) rest := by
  refine Tk.here (fun e => ?_) (by have := hw.length_pos; rw [List.length_append]; omega)
  cases hw with
  | bare c t hb hA hO =>
    rw [next_bareWord cx m c t rest e hb hrest, if_neg (by simpa using hA), if_neg (by simpa using hO)]
  | quoted body _ hi hu =>
    exact next_literal cx m hi hu rest e

theorem bareOK_OR (cx : Ctx) (m : Bool) : BareOK cx m 79 [82] := by
  refine ⟨by decide, by decide, fun _ => by decide, ?_⟩
  simp [allRunes, wordRune, decodeRune, isSpaceRune, isOpR]

theorem bareOK_AND (cx : Ctx) (m : Bool) : BareOK cx m 65 [78, 68] := by
  refine ⟨by decide, by decide, fun _ => by decide, ?_⟩
  simp [allRunes, wordRune, decodeRune, isSpaceRune, isOpR]

theorem delim_space (cx : Ctx) (r : Bytes) : Delim cx (0x20 :: r) :=
  Or.inr ⟨0x20, r, rfl, by decide, by simp [isSpaceRune]⟩

theorem tk_OR (cx : Ctx) (m : Bool) (r : Bytes) : Tk cx m (wOR ++ 0x20 :: r) kO wOR (wOR ++ 0x20 :: r) (0x20 :: r) :=
  Tk.here (fun e => next_bareWord cx m 79 [82] _ e (bareOK_OR cx m) (delim_space cx r)) (by simp [wOR])

theorem tk_AND (cx : Ctx) (m : Bool) (r : Bytes) : Tk cx m (wAND ++ 0x20 :: r) kA wAND (wAND ++ 0x20 :: r) (0x20 :: r) :=
  Tk.here (fun e => next_bareWord cx m 65 [78, 68] _ e (bareOK_AND cx m) (delim_space cx r)) (by simp [wAND])

theorem delim_op (cx : Ctx) (c : UInt8) (r : Bytes) (h : isOpR c.toNat = true) (hc : c < 0x80) : Delim cx (c :: r) :=
  Or.inr ⟨c, r, rfl, hc, by simp [h]⟩

theorem delim_rp (cx : Ctx) (r : Bytes) : Delim cx (cRP :: r) := delim_op cx cRP r (by decide) (by decide)
theorem delim_colon (cx : Ctx) (r : Bytes) : Delim cx (cColon :: r) := delim_op cx cColon r (by decide) (by decide)
theorem delim_nil (cx : Ctx) : Delim cx [] := Or.inl rfl

end C06
