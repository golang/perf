/-
C15 helper lemmas: the sort of `benchmath.NewSample` (`slices.SortFunc` with `cmp.Compare` and a
sign-bit tie-break, the code after commit 803247b; model `Tab.sortFloats`) sorts by an integer key;
two permutations of a list whose elements are separated by that key sort to the same list.
-/
import Proofs.Lemmas.F64Bits
import Proofs.Lemmas.C14Tables

namespace C15L
open F64 Tab C14L

/-- the order key of `NewSample`'s sort: NaNs first (negative sign first), then by value, and
for equal magnitude the negative one first — so −0 comes before +0 -/
def fkey (x : Bits) : Int :=
  if isNaN x then (if signBit x then -(2 ^ 66 : Int) - 1 else -(2 ^ 66 : Int))
  else if signBit x then -(2 * ((x.toNat % 2 ^ 63 : Nat) : Int)) - 1 else 2 * ((x.toNat % 2 ^ 63 : Nat) : Int)

theorem fkey_of_not_nan (x : Bits) (h : isNaN x = false) : fkey x = tkey x := by
  unfold fkey tkey okey
  rw [h, magOf_eq_mod]
  cases signBit x <;> simp only [Bool.false_eq_true, if_false, if_true, Bool.toNat_false, Bool.toNat_true] <;> omega

theorem fkey_nan_lt (a b : Bits) (ha : isNaN a = true) (hb : isNaN b = false) : fkey a < fkey b := by
  have hl := b.toNat_lt
  unfold fkey
  rw [ha, hb]
  cases signBit a <;> cases signBit b <;> simp only [Bool.false_eq_true, if_false, if_true] <;> omega

theorem f64Less_iff (a b : Bits) : f64Less a b = true ↔ fkey a < fkey b := by
  unfold f64Less
  cases hna : isNaN a <;> cases hnb : isNaN b
  · rw [fkey_of_not_nan a hna, fkey_of_not_nan b hnb, tkey, tkey]
    simp only [Bool.or_false, Bool.false_and, Bool.false_or, Bool.or_eq_true, Bool.and_eq_true, Bool.not_eq_true',
      lt_iff_okey a b hna hnb, eq_iff_okey a b hna hnb]
    cases signBit a <;> cases signBit b <;> simp <;> omega
  · have := fkey_nan_lt b a hnb hna
    simp only [F64.lt, F64.eq, hna, hnb, Bool.or_true, if_true, Bool.false_and, Bool.or_self, Bool.and_false,
      Bool.not_true, Bool.false_eq_true, false_iff]
    omega
  · simp only [Bool.not_false, Bool.and_self, Bool.or_true, Bool.true_or, true_iff]
    exact fkey_nan_lt a b hna hnb
  · simp only [F64.lt, F64.eq, fkey, hna, hnb, Bool.or_self, if_true, Bool.not_true, Bool.and_false, Bool.false_or,
      Bool.and_self, Bool.true_or, Bool.true_and]
    cases signBit a <;> cases signBit b <;> simp

theorem insertF_perm' (x : Bits) (l : List Bits) : (insertF x l).Perm (x :: l) := insertF_is.perm x l

theorem fkey_decides : Shared.Decides (fun x y => ¬ f64Less y x = true) fun x y => fkey x ≤ fkey y := by
  refine ⟨fun x y h => ?_, fun x y h => ?_, fun x y z h => ?_⟩
  · have := (not_congr (f64Less_iff y x)).1 h; omega
  · have := (f64Less_iff y x).1 (Classical.not_not.1 h); omega
  · have := (not_congr (f64Less_iff y x)).1 h; omega

theorem sortFloats_sorted (l : List Bits) : (sortFloats l).Pairwise fun a b => fkey a ≤ fkey b := by
  rw [sortFloats_eq]
  exact insertF_is.sort_pairwise fkey_decides l

/-- a sample is CLEAN when the sort key separates its bit patterns. The key (code after commit
803247b) separates ALL non-NaN patterns (−0 and +0 included); only two NaNs of the same sign with
different payloads are not separated -/
def Clean (l : List Bits) : Prop := ∀ a ∈ l, ∀ b ∈ l, fkey a = fkey b → a = b

/-- sorted samples of two arrangements of a clean multiset are equal -/
theorem sortFloats_eq_of_perm {l l' : List Bits} (hp : l.Perm l') (hc : Clean l) :
    sortFloats l = sortFloats l' := by
  rw [sortFloats_eq, sortFloats_eq]
  exact insertF_is.sort_eq_of_perm fkey_decides hp
    fun a b ha hb h1 h2 => hc a ha b hb (Int.le_antisymm h1 h2)

theorem fkey_inj_of_not_nan (a b : Bits) (ha : isNaN a = false) (hb : isNaN b = false) (hk : fkey a = fkey b) :
    a = b :=
  tkey_inj a b (by rw [← fkey_of_not_nan a ha, ← fkey_of_not_nan b hb, hk])

/-- sufficient: at most one NaN bit pattern (in particular: no NaN, or only the NaN the reader
produces for "NaN"); zeros of both signs are allowed -/
theorem clean_of_one_nan_pattern (l : List Bits) (hn : ∀ a ∈ l, ∀ b ∈ l, isNaN a = true → isNaN b = true → a = b) :
    Clean l := by
  intro a ha b hb hk
  cases hna : isNaN a <;> cases hnb : isNaN b
  · exact fkey_inj_of_not_nan a b hna hnb hk
  · have := fkey_nan_lt b a hnb hna
    omega
  · have := fkey_nan_lt a b hna hnb
    omega
  · exact hn a ha b hb hna hnb

theorem clean_of_no_nan (l : List Bits) (hn : ∀ a ∈ l, isNaN a = false) : Clean l :=
  clean_of_one_nan_pattern l (fun a ha _ _ h _ => by rw [hn a ha] at h; cases h)

end C15L
