/-
C03 — the mirrored decimal slow path: the pieces of `decimal.floatBits` — the shift counts from
`powtab`, the test of the second scaling loop, `RoundedInteger` in fraction form, the exits by the position
of the point, and the assembly of the bits.
-/
import Proofs.Lemmas.C03Dec
import Proofs.Lemmas.C03Frac

namespace C03
open Num Spec.NumText F64

theorem dval_frac (a : Dc) :
    (((decFrac (valOf 10 a.d) (a.dp - a.d.length)).1 : Nat) : ℚ) / ((decFrac (valOf 10 a.d) (a.dp - a.d.length)).2 : Nat) = dval a :=
  decFrac_ratio _ _

/-- the shift count chosen from `powtab` -/
def pstep (i : Int) : Nat := if i ≥ 9 then 27 else powtab.getD i.toNat 27

theorem pstep_facts (i : Int) :
    1 ≤ pstep i ∧ pstep i ≤ 27 ∧ (1 ≤ i → 2 ^ pstep i ≤ 10 ^ i.toNat) ∧ (i = 0 → pstep i = 1) := by
  unfold pstep
  by_cases h9 : i ≥ 9
  · simp only [h9, if_true]
    refine ⟨by decide, by decide, fun _ => ?_, fun h => by omega⟩
    calc 2 ^ 27 ≤ 10 ^ 9 := by decide
      _ ≤ 10 ^ i.toNat := Nat.pow_le_pow_right (by decide) (by omega)
  · simp only [h9, if_false]
    have : i.toNat < 9 := by omega
    have hcases : ∀ j, j < 9 → 1 ≤ powtab.getD j 27 ∧ powtab.getD j 27 ≤ 27 ∧ (1 ≤ j → 2 ^ powtab.getD j 27 ≤ 10 ^ j) ∧
        (j = 0 → powtab.getD j 27 = 1) := by decide
    obtain ⟨a, b, c, d⟩ := hcases i.toNat this
    exact ⟨a, b, fun h => c (by omega), fun h => d (by omega)⟩

/-- one round of a scaling loop, by at least one bit, against a power of two: the measures of both loops -/
theorem scale_step {x : ℚ} (hx : 0 ≤ x) {k : ℤ} (hk : 1 ≤ k) (c : ℤ) :
    ((2 : ℚ) ^ c ≤ x → (2 : ℚ) ^ (c + 1) ≤ x * (2 : ℚ) ^ k) ∧
    (x < (2 : ℚ) ^ c → x * (2 : ℚ) ^ (-k) < (2 : ℚ) ^ (c - 1)) := by
  have two_ne : (2 : ℚ) ≠ 0 := by norm_num
  have h2 : (2 : ℚ) ≤ (2 : ℚ) ^ k := by
    have := zpow_le_zpow_right₀ (by norm_num : (1 : ℚ) ≤ 2) hk
    rwa [zpow_one] at this
  have hpk : (0 : ℚ) < (2 : ℚ) ^ k := zpow_pos (by norm_num) k
  constructor
  · intro h
    rw [zpow_add_one₀ two_ne]
    exact mul_le_mul h h2 (by norm_num) hx
  · intro h
    rw [zpow_neg, ← div_eq_mul_inv, div_lt_iff₀ hpk, zpow_sub_one₀ two_ne]
    calc x < (2 : ℚ) ^ c := h
      _ = (2 : ℚ) ^ c * 2⁻¹ * 2 := by field_simp
      _ ≤ _ := mul_le_mul_of_nonneg_left h2 (by positivity)

theorem half_by_head (a : Dc) (hnz : NZ a) (hdp : a.dp = 0) : a.d.headD 0 < 53 ↔ dval a < 1 / 2 := by
  cases hd : a.d with
  | nil => exact absurd hd hnz.ne
  | cons c cs =>
    have hdig := hnz.dig
    rw [hd, List.all_cons, Bool.and_eq_true] at hdig
    have f1 := ge53_iff hdig.1
    have hv := valOf_lt cs hdig.2
    have hval : dval a = ((digVal c * 10 ^ cs.length + valOf 10 cs : Nat) : ℚ) / ((10 : ℚ) ^ cs.length * 10) := by
      unfold dval
      rw [hdp, hd, valOf_cons, List.length_cons]
      have : (0 : Int) - ((cs.length + 1 : Nat) : Int) = -((cs.length + 1 : Nat) : Int) := by omega
      rw [this, zpow_neg, zpow_natCast, pow_succ, div_eq_mul_inv]
    -- both sides say that the digits are below 5 · 10^(n-1)
    rw [List.headD_cons, hval, div_lt_iff₀ (by positivity),
      show (1 / 2 : ℚ) * ((10 : ℚ) ^ cs.length * 10) = ((5 * 10 ^ cs.length : Nat) : ℚ) by push_cast; ring, Nat.cast_lt]
    constructor
    · intro h
      have : ¬ 5 ≤ digVal c := fun h5 => absurd h (UInt8.not_lt.mpr (f1.mpr h5))
      have := Nat.mul_le_mul_right (10 ^ cs.length) (show digVal c ≤ 4 by omega)
      omega
    · intro h
      apply Classical.byContradiction
      intro hn
      have := Nat.mul_le_mul_right (10 ^ cs.length) (f1.mp (UInt8.not_lt.mp hn))
      omega

theorem fbUp_cond (d : Dc) (hnz : NZ d) (hdp : d.dp ≤ 0) :
    (d.dp < 0 || (d.dp == 0 && d.d.headD 0 < 53)) = true ↔ dval d < 1 / 2 := by
  by_cases hneg : d.dp < 0
  · have := (dp_le_iff d hnz (-1)).mp (by omega)
    simp only [hneg, decide_true, Bool.true_or, true_iff]
    exact lt_trans this (by norm_num)
  · have hdp0 : d.dp = 0 := by omega
    rw [← half_by_head d hnz hdp0]
    simp [hdp0]

theorem fbUp_small (d : Dc) (hnz : NZ d) (hdp : d.dp ≤ 0) (hhalf : dval d < 1 / 2) :
    dval d * (2 : ℚ) ^ pstep (-d.dp) < 1 := by
  obtain ⟨_, _, np, n0⟩ := pstep_facts (-d.dp)
  by_cases hneg : d.dp < 0
  · have hq : ((2 ^ pstep (-d.dp) : Nat) : ℚ) ≤ ((10 ^ (-d.dp).toNat : Nat) : ℚ) := by exact_mod_cast np (by omega)
    have e : (10 : ℚ) ^ d.dp * ((10 ^ (-d.dp).toNat : Nat) : ℚ) = 1 := by
      rw [Nat.cast_pow, Nat.cast_ofNat, ← zpow_natCast, ← zpow_add₀ (by norm_num : (10 : ℚ) ≠ 0),
        show d.dp + ((-d.dp).toNat : ℤ) = 0 by omega, zpow_zero]
    calc dval d * (2 : ℚ) ^ pstep (-d.dp) = dval d * ((2 ^ pstep (-d.dp) : Nat) : ℚ) := by push_cast; rfl
      _ ≤ dval d * ((10 ^ (-d.dp).toNat : Nat) : ℚ) := mul_le_mul_of_nonneg_left hq (dval_bounds d hnz).2.2.le
      _ < (10 : ℚ) ^ d.dp * ((10 ^ (-d.dp).toNat : Nat) : ℚ) :=
        mul_lt_mul_of_pos_right ((dp_le_iff d hnz d.dp).mp le_rfl) (by positivity)
      _ = 1 := e
  · rw [n0 (by omega), pow_one]; linarith

theorem ri_near (a : Dec) (hd : a.d.all isDec = true) (htrim : a.trunc = false → a.d.getLast? ≠ some 48) (h19 : a.dp ≤ 19) :
    NearInt a.trunc (roundedInteger a) (decFrac (valOf 10 a.d) (a.dp - a.d.length)).1 (decFrac (valOf 10 a.d) (a.dp - a.d.length)).2 := by
  obtain ⟨ds, dp, t⟩ := a
  simp only at hd htrim h19 ⊢
  have h64 := pow10_19
  have hv := valOf_lt ds hd
  have hsr : ¬ (0 ≤ dp ∧ dp < ds.length) → shouldRoundUp { d := ds, dp := dp, trunc := t } dp = false := fun h => by
    unfold shouldRoundUp
    have : (decide (dp < 0) || decide (dp ≥ (ds.length : Int))) = true := by
      simp only [Bool.or_eq_true, decide_eq_true_eq]; omega
    simp only [this, if_true]
  unfold decFrac
  by_cases hin : 0 ≤ dp ∧ dp < ds.length
  · obtain ⟨k, rfl⟩ := Int.eq_ofNat_of_zero_le hin.1
    have hlt : k < ds.length := by omega
    rw [if_neg (by omega)]
    have hsplit : ds = ds.take k ++ ds[k] :: ds.drop (k + 1) := by
      rw [← List.drop_eq_getElem_cons hlt, List.take_append_drop]
    have hlen : (ds.take k).length = k := by rw [List.length_take]; omega
    have hL : (-((k : Int) - (ds.length : Int))).toNat = (ds.drop (k + 1)).length + 1 := by
      rw [List.length_drop]; omega
    generalize ds[k] = c at hsplit
    generalize ds.drop (k + 1) = rest at hsplit hL
    have hall : (ds.take k).all isDec = true ∧ isDec c = true ∧ rest.all isDec = true := by
      rw [hsplit, List.all_append, List.all_cons] at hd
      simp only [Bool.and_eq_true] at hd
      exact ⟨hd.1, hd.2.1, hd.2.2⟩
    have htrim' : t = false → (c :: rest).getLast? ≠ some 48 := by
      intro htr
      have htrim := htrim htr
      rw [hsplit, List.getLast?_append] at htrim
      cases hgl : (c :: rest).getLast? with
      | none => simp at hgl
      | some x => rw [hgl] at htrim; simpa using htrim
    have := ri_near_split (ds.take k) c rest t hall.1 hall.2.1 hall.2.2 htrim' (by omega)
    rw [hlen, ← hsplit] at this
    rw [hL]; exact this
  · have hri : roundedInteger { d := ds, dp := dp, trunc := t } =
        if 0 ≤ dp then valOf 10 ds * 10 ^ (dp.toNat - ds.length) else 0 := by
      unfold roundedInteger
      have hdp : ¬ (dp > 20) := by omega
      simp only [hdp, if_false, hsr hin, Bool.false_eq_true]
      by_cases h0 : 0 ≤ dp
      · rw [if_pos h0, List.take_of_length_le (by omega), riDigits_eq ds hd 0 0 (by decide) (by omega), ← valOf_eq]
        apply riPad_eq
        have h1 : valOf 10 ds * 10 ^ (dp.toNat - ds.length) < 10 ^ ds.length * 10 ^ (dp.toNat - ds.length) :=
          Nat.mul_lt_mul_of_pos_right hv (Nat.pow_pos (by decide))
        have h2 : 10 ^ ds.length * 10 ^ (dp.toNat - ds.length) = 10 ^ dp.toNat := by rw [← Nat.pow_add]; congr 1; omega
        have h3 : 10 ^ dp.toNat ≤ 10 ^ 19 := Nat.pow_le_pow_right (by decide) (by omega)
        omega
      · rw [if_neg h0, show dp.toNat = 0 by omega]
        simp only [List.take_zero, riDigits, Nat.zero_sub, riPad]
    rw [hri]
    by_cases h0 : 0 ≤ dp
    · rw [if_pos h0, if_pos (by omega), show (dp - (ds.length : Int)).toNat = dp.toNat - ds.length by omega]
      exact NearInt.of_exact _ _
    · rw [if_neg h0, if_neg (by omega)]
      apply NearInt.zero
      have hle : 10 ^ (ds.length + 1) ≤ 10 ^ (-(dp - (ds.length : Int))).toNat :=
        Nat.pow_le_pow_right (by decide) (by omega)
      rw [Nat.pow_succ] at hle
      omega

/-- `floatBits` from the rounded mantissa on: rounding carry, overflow, denormal exponent, assembly -/
def fbRound (neg0 : Bool) (mant : Nat) (exp : Int) (tr : Bool) : FbRes :=
  let bias : Int := -1023
  let (mant, exp, ovf) :=
    if mant == 2 ^ 53 then
      (mant >>> 1, exp + 1, decide (exp + 1 - bias ≥ 2 ^ 11 - 1))
    else (mant, exp, false)
  if ovf then ⟨fbAssemble neg0 0 (2 ^ 11 - 1 + bias), true, tr⟩
  else
    let exp := if mant &&& 2 ^ 52 == 0 then bias else exp
    ⟨fbAssemble neg0 mant exp, false, tr⟩

/-- `floatBits` after the two scaling loops -/
def fbFinish (neg0 : Bool) (d : Dc) (exp : Int) : FbRes :=
  let bias : Int := -1023
  let exp := exp - 1
  let (d, exp) := if exp < bias + 1 then (d.shift (-((bias + 1 - exp))), bias + 1) else (d, exp)
  if exp - bias ≥ 2 ^ 11 - 1 then ⟨fbAssemble neg0 0 (2 ^ 11 - 1 + bias), true, d.trunc⟩
  else
    let d := d.shift 53
    fbRound neg0 (roundedInteger { d := d.d, dp := d.dp, trunc := d.trunc }) exp d.trunc

theorem floatBits_eq (d0 : Dc) :
    floatBits d0 =
      if d0.d.isEmpty then ⟨fbAssemble d0.neg 0 (-1023), false, d0.trunc⟩
      else if d0.dp > 310 then ⟨fbAssemble d0.neg 0 (2 ^ 11 - 1 + -1023), true, d0.trunc⟩
      else if d0.dp < -330 then ⟨fbAssemble d0.neg 0 (-1023), false, d0.trunc⟩
      else fbFinish d0.neg (fbUp 2000 (fbDown 2000 d0 0).1 (fbDown 2000 d0 0).2).1
             (fbUp 2000 (fbDown 2000 d0 0).1 (fbDown 2000 d0 0).2).2 := by
  unfold floatBits fbFinish
  rfl

theorem and_bit52 (m : Nat) (hm : m < 2 ^ 53) : (m &&& 2 ^ 52 == 0) = decide (m < 2 ^ 52) := by
  by_cases hlt : m < 2 ^ 52
  · have hb : m.testBit 52 = false := Nat.testBit_lt_two_pow hlt
    have : m &&& 2 ^ 52 = 0 := by
      apply Nat.eq_of_testBit_eq
      intro i
      rw [Nat.testBit_and, Nat.testBit_two_pow, Nat.zero_testBit]
      by_cases h : 52 = i
      · subst h; simp [hb]
      · simp [h]
    rw [this, decide_eq_true hlt]; rfl
  · have hb : m.testBit 52 = true := by
      apply Nat.testBit_of_two_pow_le_and_two_pow_add_one_gt <;> omega
    have : m &&& 2 ^ 52 ≠ 0 := by
      intro h0
      have := congrArg (fun x => x.testBit 52) h0
      simp only [Nat.testBit_and, Nat.testBit_two_pow, hb, Nat.zero_testBit] at this
      simp at this
    rw [decide_eq_false hlt]; exact beq_false_of_ne this

theorem fbAssemble_zero (neg : Bool) : fbAssemble neg 0 (-1023) = F64.zero neg := by
  cases neg <;> decide

def _root_.Num.FbRes.toExcept (r : FbRes) : Except NumErr Bits := if r.ovf then .error .range else .ok r.bits

/-- the exits of `floatBits` by the position of the point (`dp > 310`, `dp < -330`), read on a value between
`10^(dp-1)` and `10^dp` -/
theorem dp_range (V : ℚ) (dp : Int) (lo : (10 : ℚ) ^ (dp - 1) ≤ V) (hi : V < (10 : ℚ) ^ dp) :
    (310 < dp → (overflowThreshold : ℚ) ≤ V) ∧ (dp < -330 → V ≤ 1 / (2 : ℚ) ^ 1076) ∧
    (-330 ≤ dp → 1 / (2 : ℚ) ^ 1100 ≤ V) ∧ (dp ≤ 310 → V < (2 : ℚ) ^ (1030 : ℕ)) := by
  have num : (10 : Nat) ^ 310 < 2 ^ 1030 ∧ (10 : Nat) ^ 331 ≤ 2 ^ 1100 := by decide +kernel
  have mono : ∀ {a b : Int}, a ≤ b → (10 : ℚ) ^ a ≤ (10 : ℚ) ^ b := fun h => zpow_le_zpow_right₀ (by norm_num) h
  have nat : ∀ m : ℕ, (10 : ℚ) ^ ((m : ℕ) : ℤ) = ((10 ^ m : ℕ) : ℚ) := fun m => by rw [zpow_natCast]; push_cast; rfl
  have neg : ∀ m : ℕ, (10 : ℚ) ^ (-((m : ℕ) : ℤ)) = 1 / ((10 ^ m : ℕ) : ℚ) := fun m => by rw [zpow_neg, nat, one_div]
  refine ⟨fun h => ?_, fun h => ?_, fun h => ?_, fun h => ?_⟩
  · exact le_trans thr_le_pow10 (le_trans (mono (by omega)) lo)
  · exact le_trans (le_trans hi.le (mono (by omega))) tiny_pow10
  · calc 1 / (2 : ℚ) ^ 1100 ≤ 1 / ((10 ^ 331 : ℕ) : ℚ) :=
          one_div_le_one_div_of_le (by positivity) (by exact_mod_cast num.2)
      _ = (10 : ℚ) ^ (-((331 : ℕ) : ℤ)) := (neg 331).symm
      _ ≤ (10 : ℚ) ^ (dp - 1) := mono (by push_cast; omega)
      _ ≤ V := lo
  · calc V < (10 : ℚ) ^ dp := hi
      _ ≤ (10 : ℚ) ^ ((310 : ℕ) : ℤ) := mono (by push_cast; omega)
      _ = ((10 ^ 310 : ℕ) : ℚ) := nat 310
      _ < (2 : ℚ) ^ (1030 : ℕ) := by exact_mod_cast num.1

theorem overflow_of_exp (V2 : ℚ) (x : Int) (hhalf : 1 / 2 ≤ V2) (hx : 1025 ≤ x) : (overflowThreshold : ℚ) ≤ V2 * (2 : ℚ) ^ x := by
  have hT := thr_le_pow2
  have h2p : (2 : ℚ) ^ ((1024 : ℤ) + 1) ≤ (2 : ℚ) ^ x :=
    zpow_le_zpow_right₀ (by norm_num) (by omega)
  rw [zpow_add_one₀ (by norm_num : (2 : ℚ) ≠ 0)] at h2p
  generalize (2 : ℚ) ^ (1024 : ℤ) = P at *
  generalize (2 : ℚ) ^ x = Z at *
  have hPpos : (0 : ℚ) ≤ P := le_trans (Nat.cast_nonneg _) hT
  have : (1 / 2 : ℚ) * (P * 2) ≤ V2 * Z := mul_le_mul hhalf h2p (by positivity) (by linarith)
  linarith

/-- `floatBits` from the rounded mantissa on is the packing of biased exponent · 2^52 + mantissa:
the rounding carry and the denormal exponent are what that sum does by itself -/
theorem fbRound_packed (neg0 : Bool) (mant : Nat) (exp2 : Int) (tr : Bool) (hmle : mant ≤ 2 ^ 53)
    (hmlo : 2 ^ 52 ≤ mant ∨ exp2 = -1022) (hlo2 : -1022 ≤ exp2) (hexp2 : exp2 ≤ 1023) :
    (fbRound neg0 mant exp2 tr).toExcept = (packed neg0 ((exp2 + 1022).toNat * 2 ^ 52 + mant)).toExcept := by
  rw [packed_toExcept]
  unfold fbRound FbRes.toExcept
  simp only []
  by_cases h53 : mant = 2 ^ 53
  · have e1 : (mant == 2 ^ 53) = true := by rw [h53]; exact beq_self_eq_true _
    have hs : mant >>> 1 = 2 ^ 52 := by rw [h53, Nat.shiftRight_eq_div_pow]; rfl
    simp only [e1, if_true]
    by_cases hov2 : exp2 + 1 - -1023 ≥ 2 ^ 11 - 1
    · simp only [hov2, decide_true, if_true]
      rw [if_pos (by rw [h53]; omega)]
    · have hb : ((2 : Nat) ^ 52 &&& 2 ^ 52 == 0) = false := by decide
      simp only [hov2, decide_false, Bool.false_eq_true, if_false, hs, hb]
      rw [if_neg (by rw [h53]; omega), fbAssemble_mag neg0 (2 ^ 52) (exp2 + 1) (by decide) (Or.inl ⟨le_refl _, by omega, by omega⟩),
        show (exp2 + 1 + 1022).toNat * 2 ^ 52 + 2 ^ 52 = (exp2 + 1022).toNat * 2 ^ 52 + mant by rw [h53]; omega]
  · have e1 : (mant == 2 ^ 53) = false := beq_false_of_ne h53
    have hm53 : mant < 2 ^ 53 := by omega
    simp only [e1, Bool.false_eq_true, if_false]
    rw [and_bit52 mant hm53]
    by_cases h52 : mant < 2 ^ 52
    · obtain rfl : exp2 = -1022 := by rcases hmlo with h | h; omega; exact h
      simp only [h52, decide_true, if_true]
      rw [if_neg (by omega), fbAssemble_mag neg0 mant (-1023) hm53 (Or.inr ⟨h52, rfl⟩)]
      rfl
    · simp only [h52, decide_false, Bool.false_eq_true, if_false]
      rw [if_neg (by omega), fbAssemble_mag neg0 mant exp2 hm53 (Or.inl ⟨by omega, hlo2, hexp2⟩)]

end C03
