/-
Helper lemmas for C08: the fields of an entry of `root.Sub` (`flatAt`), the index space of a Projection
(`FInv`) and its key nodes (`NInv`), what the primitive steps do to them (a row write, a new
sub-field, `internRow`, the parts of parsing), and the reachable states (`Reachable`).
-/
import Proofs.Lemmas.C08Trim
import Proofs.Lemmas.C08Make

namespace C08
open Proc.Sort Proc.Projection Proc.Extract

/-- position `pos` of the top-level field list holds a group (a `.config` field with sub-fields) -/
def isGroupAt (top : List Top) (pos : Nat) : Prop := ∃ n subs, top[pos]? = some (Top.group n subs)

theorem flat_mapFields (g : Field → Field) (top : List Top) :
    (top.map (Top.mapFields g)).flatMap Top.flat = (top.flatMap Top.flat).map g := by
  induction top with
  | nil => rfl
  | cons t rest ih =>
    cases t <;> simp [Top.mapFields, Top.flat, List.flatMap_cons, ih]

theorem isGroupAt_mapFields (g : Field → Field) (top : List Top) (pos : Nat) :
    isGroupAt (top.map (Top.mapFields g)) pos ↔ isGroupAt top pos := by
  unfold isGroupAt
  rw [List.getElem?_map]
  cases h : top[pos]? with
  | none => simp
  | some t => cases t <;> simp [Top.mapFields]

theorem getElem?_addSubAt (top : List Top) (pos : Nat) (fld : Field) (q : Nat) :
    (addSubAt top pos fld)[q]? =
      if q = pos then
        (match top[pos]? with
         | some (.group n s) => some (.group n (s ++ [fld]))
         | x => x)
      else top[q]? := by
  induction top generalizing pos q with
  | nil => simp [addSubAt]
  | cons t rest ih =>
    cases pos with
    | zero =>
      cases t with
      | leaf f => cases q <;> simp [addSubAt]
      | group n subs => cases q <;> simp [addSubAt]
    | succ pos' =>
      cases q with
      | zero => simp [addSubAt]
      | succ q' =>
        have := ih pos' q'
        simp only [addSubAt, List.getElem?_cons_succ, this, Nat.add_right_cancel_iff]

theorem isGroupAt_addSubAt (top : List Top) (pos : Nat) (fld : Field) (q : Nat) :
    isGroupAt (addSubAt top pos fld) q ↔ isGroupAt top q := by
  unfold isGroupAt
  rw [getElem?_addSubAt]
  split
  · rename_i h
    subst h
    cases top[q]? with
    | none => simp
    | some t => cases t <;> simp
  · rfl

/-- the flattened fields contributed by entry `j` of `root.Sub` -/
def flatAt (top : List Top) (j : Nat) : List Field := ((top[j]?).map Top.flat).getD []

theorem mem_flat_iff (top : List Top) (f : Field) : f ∈ top.flatMap Top.flat ↔ ∃ j, f ∈ flatAt top j := by
  simp only [List.mem_flatMap, flatAt]
  constructor
  · rintro ⟨t, ht, hf⟩
    obtain ⟨j, hj, rfl⟩ := List.getElem_of_mem ht
    exact ⟨j, by simp [List.getElem?_eq_getElem hj, hf]⟩
  · rintro ⟨j, hf⟩
    cases h : top[j]? with
    | none => simp [h] at hf
    | some t => exact ⟨t, List.mem_of_getElem? h, by simpa [h] using hf⟩

theorem flatAt_group {top : List Top} {pos : Nat} (hg : isGroupAt top pos) : flatAt top pos = groupSubs top pos := by
  obtain ⟨n, s, h⟩ := hg
  simp [flatAt, groupSubs, h, Top.flat]

theorem flatAt_addSubAt (top : List Top) (pos : Nat) (fld : Field) (hg : isGroupAt top pos) (q : Nat) :
    flatAt (addSubAt top pos fld) q = if q = pos then flatAt top pos ++ [fld] else flatAt top q := by
  obtain ⟨n, s, h⟩ := hg
  unfold flatAt
  rw [getElem?_addSubAt]
  by_cases hq : q = pos
  · subst hq; simp [h, Top.flat]
  · simp [hq]

theorem mem_flat_addSubAt (top : List Top) (pos : Nat) (fld : Field) (hg : isGroupAt top pos) (f : Field) :
    f ∈ (addSubAt top pos fld).flatMap Top.flat ↔ f ∈ top.flatMap Top.flat ∨ f = fld := by
  simp only [mem_flat_iff, flatAt_addSubAt _ _ _ hg]
  constructor
  · rintro ⟨j, hj⟩
    split at hj
    · exact (List.mem_append.mp hj).imp (fun h => ⟨pos, h⟩) List.mem_singleton.mp
    · exact Or.inl ⟨j, hj⟩
  · rintro (⟨j, hj⟩ | rfl)
    · refine ⟨j, ?_⟩
      split
      · rename_i e; exact List.mem_append_left _ (e ▸ hj)
      · exact hj
    · exact ⟨pos, by simp⟩

theorem flatAt_mapFields (g : Field → Field) (top : List Top) (j : Nat) :
    flatAt (top.map (Top.mapFields g)) j = (flatAt top j).map g := by
  unfold flatAt
  rw [List.getElem?_map]
  cases top[j]? with
  | none => rfl
  | some t => cases t <;> simp [Top.mapFields, Top.flat]

theorem mem_flatAt_snoc (top : List Top) (t : Top) (j : Nat) (f : Field) :
    f ∈ flatAt (top ++ [t]) j ↔ (j < top.length ∧ f ∈ flatAt top j) ∨ (j = top.length ∧ f ∈ t.flat) := by
  unfold flatAt
  rcases Nat.lt_trichotomy j top.length with h | h | h
  · rw [List.getElem?_append_left h]
    simp [h, Nat.ne_of_lt h]
  · subst h
    simp
  · rw [List.getElem?_eq_none (by simp; omega)]
    simp [Nat.lt_asymm h, Nat.ne_of_gt h]

/-- The field index space: the row buffer has one slot per index, the flattened fields cover
exactly the indices below `nFields`, every `.config` closure has its group. -/
structure FInv (p : Proj) : Prop where
  rowLen : p.row.length = p.nFields
  cover : ∀ i, i < p.nFields → ∃ f ∈ p.flat, f.idx = i
  bound : ∀ f ∈ p.flat, f.idx < p.nFields
  groups : ∀ pos o, Part.config pos o ∈ p.parts → isGroupAt p.top pos

/-- `q` is `p` after some row writes and field additions. -/
structure Ext (p q : Proj) : Prop where
  nodes : q.nodes = p.nodes
  parts : q.parts = p.parts
  unitIdx : q.unitIdx = p.unitIdx
  nFields : p.nFields ≤ q.nFields
  mono : ∀ j f, f ∈ flatAt p.top j → f ∈ flatAt q.top j

theorem Ext.trans {p q r : Proj} (h1 : Ext p q) (h2 : Ext q r) : Ext p r :=
  ⟨h2.nodes.trans h1.nodes, h2.parts.trans h1.parts, h2.unitIdx.trans h1.unitIdx,
   Nat.le_trans h1.nFields h2.nFields, fun j f h => h2.mono j f (h1.mono j f h)⟩

theorem setRow_FInv (p : Proj) (row : List Bytes) (hlen : row.length = p.row.length) (h : FInv p) :
    FInv { p with row := row } :=
  ⟨hlen.trans h.rowLen, h.cover, h.bound, h.groups⟩

theorem setRow_Ext (p : Proj) (row : List Bytes) : Ext p { p with row := row } :=
  ⟨rfl, rfl, rfl, Nat.le_refl _, fun _ _ h => h⟩

theorem mkSubField_idx (name : Bytes) (idx : Nat) (o : Order) (b : Bool) : (mkSubField name idx o b).idx = idx := by
  unfold mkSubField mkField; cases o <;> rfl

theorem mkSubField_name (name : Bytes) (idx : Nat) (o : Order) (b : Bool) : (mkSubField name idx o b).name = name := by
  unfold mkSubField mkField; cases o <;> rfl

theorem FInv_addField (p q : Proj) (fld : Field) (h : FInv p) (hidx : fld.idx = p.nFields)
    (hrow : q.row = p.row ++ [[]]) (hnf : q.nFields = p.nFields + 1) (hparts : q.parts = p.parts)
    (hflat : ∀ f, f ∈ q.flat ↔ f ∈ p.flat ∨ f = fld)
    (hgrp : ∀ pos, isGroupAt p.top pos → isGroupAt q.top pos) : FInv q := by
  constructor
  · rw [hrow, hnf, List.length_append, h.rowLen]; rfl
  · intro i hi
    rw [hnf] at hi
    by_cases hlt : i < p.nFields
    · obtain ⟨f, hf, hfi⟩ := h.cover i hlt
      exact ⟨f, (hflat f).mpr (Or.inl hf), hfi⟩
    · exact ⟨fld, (hflat fld).mpr (Or.inr rfl), by omega⟩
  · intro f hf
    rw [hnf]
    rcases (hflat f).mp hf with hf | rfl
    · have := h.bound f hf; omega
    · omega
  · intro pos o hq
    rw [hparts] at hq
    exact hgrp pos (h.groups pos o hq)

theorem addSubField_FInv (p : Proj) (pos : Nat) (name : Bytes) (o : Order) (h : FInv p)
    (hg : isGroupAt p.top pos) : FInv (p.addSubField pos name o).1 :=
  FInv_addField p _ (mkSubField name p.nFields o (!p.nodes.isEmpty)) h (mkSubField_idx _ _ _ _) rfl rfl rfl
    (fun f => mem_flat_addSubAt _ _ _ hg f) (fun _ hp => (isGroupAt_addSubAt _ _ _ _).mpr hp)

theorem mem_flatAt_addSubField {p : Proj} {pos : Nat} (name : Bytes) (o : Order) (hg : isGroupAt p.top pos)
    (q : Nat) (f : Field) :
    f ∈ flatAt (p.addSubField pos name o).1.top q ↔
      f ∈ flatAt p.top q ∨ (q = pos ∧ f = mkSubField name p.nFields o (!p.nodes.isEmpty)) := by
  simp only [Proj.addSubField, flatAt_addSubAt _ _ _ hg]
  by_cases hq : q = pos <;> simp [hq]

theorem addSubField_Ext (p : Proj) (pos : Nat) (name : Bytes) (o : Order) (hg : isGroupAt p.top pos) :
    Ext p (p.addSubField pos name o).1 :=
  ⟨rfl, rfl, rfl, by simp [Proj.addSubField], fun j f h => (mem_flatAt_addSubField name o hg j f).mpr (Or.inl h)⟩

/-- the observation-order map of a new sub-field: "" has rank 0 if keys exist already -/
theorem mkSubField_ranks (name : Bytes) (idx : Nat) (o : Order) (b : Bool) (ho : (mkSubField name idx o b).order = .first) :
    (mkSubField name idx o b).ranks = if b then [([], 0)] else [] := by
  cases o with
  | first => rfl
  | alpha | num | fixed => cases ho

theorem configStep_cases (env : Env) (pos : Nat) (o : Order) (p : Proj) (cfg : Bytes × Bytes × Bool) :
    (configStep env pos o p cfg = p ∧
      (cfg.2.2 = false ∨
        ((∀ g ∈ groupSubs p.top pos, g.name ≠ cfg.1) ∧ env.configKeys.contains cfg.1 = true))) ∨
    (cfg.2.2 = true ∧ ∃ g ∈ groupSubs p.top pos, g.name = cfg.1 ∧
      configStep env pos o p cfg = { p with row := p.row.set g.idx cfg.2.1 }) ∨
    (cfg.2.2 = true ∧ (∀ g ∈ groupSubs p.top pos, g.name ≠ cfg.1) ∧ env.configKeys.contains cfg.1 = false ∧
      configStep env pos o p cfg =
        { (p.addSubField pos cfg.1 o).1 with row := (p.addSubField pos cfg.1 o).1.row.set p.nFields cfg.2.1 }) := by
  unfold configStep
  cases hfile : cfg.2.2
  · exact Or.inl ⟨rfl, Or.inl rfl⟩
  · simp only [Bool.not_true, Bool.false_eq_true, if_false]
    cases hfind : (groupSubs p.top pos).find? (·.name == cfg.1) with
    | some g =>
      exact Or.inr (Or.inl ⟨trivial, g, List.mem_of_find?_eq_some hfind, by simpa using List.find?_some hfind, rfl⟩)
    | none =>
      have hnone : ∀ g ∈ groupSubs p.top pos, g.name ≠ cfg.1 := fun g hg he => by
        simpa [he] using List.find?_eq_none.mp hfind g hg
      cases hex : env.configKeys.contains cfg.1
      · exact Or.inr (Or.inr ⟨trivial, hnone, rfl, rfl⟩)
      · exact Or.inl ⟨rfl, Or.inr ⟨hnone, rfl⟩⟩

theorem vals_eq_getElem (p : Proj) (k : Nat) (hk : k < p.nodes.length) : p.vals k = p.nodes[k].vals := by
  simp [Proj.vals, List.getElem?_eq_getElem hk]

/-- invariant of the key nodes (the intern table): each is filed under the hash of its row, rows are
trimmed, pairwise different and no longer than the number of fields -/
structure NInv (h : List Bytes → UInt64) (p : Proj) : Prop where
  hash : ∀ n ∈ p.nodes, n.hash = h n.vals
  trimmed : ∀ n ∈ p.nodes, trim n.vals = n.vals
  distinct : p.nodes.Pairwise fun a b => a.vals ≠ b.vals
  len : ∀ n ∈ p.nodes, n.vals.length ≤ p.nFields

theorem NInv.beyond {h : List Bytes → UInt64} {p : Proj} (hn : NInv h p) (k : Nat) {i : Nat} (hi : p.nFields ≤ i) :
    getVal (p.vals k) i = [] := by
  unfold Proj.vals
  cases hk : p.nodes[k]? with
  | none => exact getVal_nil i
  | some n => exact getVal_of_le _ _ (Nat.le_trans (hn.len n (List.mem_of_getElem? hk)) hi)

theorem NInv.vals_trimmed {h : List Bytes → UInt64} {p : Proj} (hn : NInv h p) (k : Nat) :
    trim (p.vals k) = p.vals k := by
  unfold Proj.vals
  cases hk : p.nodes[k]? with
  | none => rfl
  | some n => exact hn.trimmed n (List.mem_of_getElem? hk)

theorem NInv_of_Ext (h : List Bytes → UInt64) {p q : Proj} (e : Ext p q) (hn : NInv h p) : NInv h q :=
  ⟨by rw [e.nodes]; exact hn.hash, by rw [e.nodes]; exact hn.trimmed, by rw [e.nodes]; exact hn.distinct,
   by rw [e.nodes]; intro n hm; exact Nat.le_trans (hn.len n hm) e.nFields⟩


/-- `g` changes nothing of a field but its observation-order map (what `internRow` does to the fields) -/
structure KeepsKey (g : Field → Field) : Prop where
  idx : ∀ f, (g f).idx = f.idx
  name : ∀ f, (g f).name = f.name
  order : ∀ f, (g f).order = f.order

theorem observeField_same (row : List Bytes) : KeepsKey (observeField row) := by
  refine ⟨fun f => ?_, fun f => ?_, fun f => ?_⟩ <;> unfold observeField <;> split <;> rfl

theorem internRow_cases (h : List Bytes → UInt64) (p : Proj) :
    (∃ k, k < p.nodes.length ∧ p.vals k = trim p.row ∧ p.internRow h = (p, k)) ∨
    ((∀ n ∈ p.nodes, ¬ (n.hash = h (trim p.row) ∧ n.vals = trim p.row)) ∧
      p.internRow h = ({ p with top := p.top.map (Top.mapFields (observeField (trim p.row))),
                                nodes := p.nodes ++ [{ hash := h (trim p.row), vals := trim p.row }] },
                       p.nodes.length)) := by
  simp only [Proj.internRow]
  cases hf : findNode p.nodes (h (trim p.row)) (trim p.row) 0 with
  | some k =>
    obtain ⟨_, n, hn, hv⟩ := findNode_some _ _ _ _ _ hf
    rw [Nat.sub_zero] at hn
    exact .inl ⟨k, (List.getElem?_eq_some_iff.mp hn).1, by simp [Proj.vals, hn, hv], rfl⟩
  | none => exact .inr ⟨findNode_none _ _ _ _ hf, rfl⟩

theorem internRow_key (h : List Bytes → UInt64) (p : Proj) :
    (p.internRow h).2 < (p.internRow h).1.nodes.length ∧ (p.internRow h).1.vals (p.internRow h).2 = trim p.row := by
  rcases internRow_cases h p with ⟨k, hk, hv, e⟩ | ⟨_, e⟩ <;> rw [e]
  · exact ⟨hk, hv⟩
  · simp [Proj.vals]

theorem internRow_shape (h : List Bytes → UInt64) (p : Proj) :
    ∃ g : Field → Field, KeepsKey g ∧
      (p.internRow h).1 = { p with top := p.top.map (Top.mapFields g), nodes := (p.internRow h).1.nodes } := by
  rcases internRow_cases h p with ⟨k, _, _, e⟩ | ⟨_, e⟩ <;> rw [e]
  · refine ⟨id, ⟨fun _ => rfl, fun _ => rfl, fun _ => rfl⟩, ?_⟩
    have : (Top.mapFields id) = id := by funext t; cases t <;> simp [Top.mapFields]
    simp [this]
  · exact ⟨_, observeField_same _, rfl⟩

theorem projectUnits_induct (h : List Bytes → UInt64) (ui : Nat) {P : Proj → Prop}
    (hset : ∀ q v, P q → P { q with row := q.row.set ui v }) (hint : ∀ q, P q → P (q.internRow h).1)
    (us : List Bytes) (p : Proj) (hp : P p) : P (projectUnits h ui p us).1 := by
  induction us generalizing p with
  | nil => exact hp
  | cons u rest ih => exact ih _ (hint _ (hset p u hp))

theorem projectValues_induct (h : List Bytes → UInt64) (env : Env) (p : Proj) (r : Res) {P : Proj → Prop}
    (hset : ∀ q i v, P q → P { q with row := q.row.set i v }) (hint : ∀ q, P q → P (q.internRow h).1)
    (hp : P (p.populateRow env r)) : P (p.projectValues h env r).1 := by
  unfold Proj.projectValues
  dsimp only
  split
  · exact hint _ hp
  · exact projectUnits_induct h _ (fun q v => hset q _ v) hint _ _ hp

theorem vals_of_prefix {p q : Proj} (hpre : p.nodes <+: q.nodes) {k : Nat} (hk : k < p.nodes.length) :
    k < q.nodes.length ∧ q.vals k = p.vals k := by
  have hk' := Nat.lt_of_lt_of_le hk hpre.length_le
  exact ⟨hk', by rw [vals_eq_getElem q k hk', vals_eq_getElem p k hk, hpre.getElem hk]⟩

theorem internRow_nodes (h : List Bytes → UInt64) (p : Proj) : p.nodes <+: (p.internRow h).1.nodes := by
  rcases internRow_cases h p with ⟨_, _, _, e⟩ | ⟨_, e⟩ <;> rw [e]
  · exact List.prefix_rfl
  · exact List.prefix_append _ _

theorem projectUnits_nodes (h : List Bytes → UInt64) (ui : Nat) (us : List Bytes) (p : Proj) :
    p.nodes <+: (projectUnits h ui p us).1.nodes :=
  projectUnits_induct h ui (P := fun q => p.nodes <+: q.nodes) (fun _ _ hq => hq)
    (fun q hq => hq.trans (internRow_nodes h q)) us p List.prefix_rfl

theorem projectUnits_vals (h : List Bytes → UInt64) (ui : Nat) (us : List Bytes) (p : Proj) :
    (projectUnits h ui p us).2.length = us.length ∧
    ∀ j, j < us.length →
      (projectUnits h ui p us).2.getD j 0 < (projectUnits h ui p us).1.nodes.length ∧
      (projectUnits h ui p us).1.vals ((projectUnits h ui p us).2.getD j 0) = trim (p.row.set ui (us.getD j [])) := by
  induction us generalizing p with
  | nil => exact ⟨rfl, fun j hj => absurd hj (by simp)⟩
  | cons u rest ih =>
    simp only [projectUnits]
    obtain ⟨hk, hv⟩ := internRow_key h { p with row := p.row.set ui u }
    obtain ⟨_, _, e⟩ := internRow_shape h { p with row := p.row.set ui u }
    have hrow := congrArg Proj.row e
    obtain ⟨ih1, ih2⟩ := ih ({ p with row := p.row.set ui u }.internRow h).1
    refine ⟨by simp [ih1], fun j hj => ?_⟩
    cases j with
    | zero =>
      obtain ⟨hk', hstable⟩ := vals_of_prefix
        (projectUnits_nodes h ui rest ({ p with row := p.row.set ui u }.internRow h).1) hk
      exact ⟨hk', hstable.trans hv⟩
    | succ j' =>
      have := ih2 j' (by simpa using hj)
      rwa [hrow, List.set_set] at this

theorem flat_append (a b : List Top) : (a ++ b).flatMap Top.flat = a.flatMap Top.flat ++ b.flatMap Top.flat :=
  List.flatMap_append

theorem isGroupAt_append_left (top : List Top) (t : Top) (pos : Nat) (h : isGroupAt top pos) :
    isGroupAt (top ++ [t]) pos := by
  obtain ⟨n, s, hh⟩ := h
  have hlt : pos < top.length := (List.getElem?_eq_some_iff.mp hh).1
  exact ⟨n, s, by rw [List.getElem?_append_left hlt]; exact hh⟩

theorem addRootField_FInv (p : Proj) (name : Bytes) (o : Order) (h : FInv p) :
    FInv (p.addRootField name o).1 :=
  FInv_addField p _ (mkField name p.nFields o) h rfl rfl rfl rfl
    (fun f => by simp [Proj.addRootField, Proj.flat, Top.flat])
    (fun _ hp => isGroupAt_append_left _ _ _ hp)

theorem addPart_FInv (p : Proj) (part : Part) (h : FInv p)
    (hg : ∀ pos o, part = .config pos o → isGroupAt p.top pos) : FInv { p with parts := p.parts ++ [part] } :=
  ⟨h.rowLen, h.cover, h.bound, fun pos o hq => by
    rcases List.mem_append.mp hq with hq | hq
    · exact h.groups pos o hq
    · exact hg pos o (List.mem_singleton.mp hq).symm⟩

theorem addGroup_FInv (p : Proj) (name : Bytes) (h : FInv p) : FInv (p.addGroup name).1 := by
  have hflat : (p.addGroup name).1.flat = p.flat := by simp [Proj.addGroup, Proj.flat, Top.flat]
  exact ⟨h.rowLen, by rw [hflat]; exact h.cover, by rw [hflat]; exact h.bound,
    fun q o hq => isGroupAt_append_left _ _ _ (h.groups q o hq)⟩

theorem partProj_FInv (s : Proj) (sp : Spec) (h : FInv s) : FInv (partProj s sp) := by
  unfold partProj partOf
  split
  · refine addPart_FInv (s.addGroup dotConfig).1 _ (addGroup_FInv s dotConfig h) ?_
    intro pos o hp
    injection hp with hp
    exact ⟨dotConfig, [], by rw [← hp]; exact List.getElem?_concat_length⟩
  · refine addPart_FInv _ _ (addRootField_FInv s _ sp.order h) ?_
    intro pos o hp
    split at hp <;> cases hp

theorem built_FInv {s : Proj} (hb : Built s) : FInv s ∧ s.nodes = [] := by
  induction hb with
  | new =>
    exact ⟨⟨rfl, by intro i hi; simp [newProjection] at hi, by intro f hf; simp [newProjection, Proj.flat] at hf,
      by intro q o hq; simp [newProjection] at hq⟩, rfl⟩
  | part s sp _ _ ih => exact ⟨partProj_FInv s sp ih.1, by rw [partProj_nodes, ih.2]⟩

/-- The states a Projection can be in: produced by `Parse`, `ParseWithUnit` or `Residue` of any
parser state, then any sequence of `Project` / `ProjectValues` calls, each under any state of
the parser (`env`). -/
inductive Reachable (h : List Bytes → UInt64) : Proj → Prop
  | parsed (pa : Parser) (specs : List Spec) (pa' : Parser) (s : Proj) :
      pa.parse specs = (pa', .ok s) → Reachable h s
  | parsedWithUnit (pa : Parser) (specs : List Spec) (pa' : Parser) (s : Proj) :
      pa.parseWithUnit specs = (pa', .ok s) → Reachable h s
  | residue (pa : Parser) : Reachable h (pa.residue).2
  | project (p : Proj) (env : Env) (r : Res) : Reachable h p → Reachable h (p.project h env r).1
  | projectValues (p : Proj) (env : Env) (r : Res) : Reachable h p → Reachable h (p.projectValues h env r).1

end C08
