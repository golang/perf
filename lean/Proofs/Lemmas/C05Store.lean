/-
C05 ∘ C02: the configuration an extractor reads after ANY history of `key: value` lines,
`SetConfig` calls and deletions. Rests on C02's slot-store refinement (`Store.Refines`, `Store.cfgGet_live`).
-/
import Model.Proc.Extract
import Model.Proc.CfgHist
import Proofs.Lemmas.C02Spec
import Proofs.Lemmas.C02Store
import Proofs.Lemmas.Shared.List

namespace C05
open Bytes Fmt Proc.Extract

/-- What an extractor sees of a store: `Config` = the live slots, in slot order. -/
def viewOf (name : Bytes) (s : Store) : ResView :=
  { name := name, config := s.live.map fun c => (c.key, c.value) }

theorem extractConfig_view (name : Bytes) (s : Store) (k : Bytes) :
    extractConfig (viewOf name s) k = ((cfgGet s.live k).map (·.1)).getD [] := by
  unfold extractConfig viewOf cfgGet
  simp only [List.find?_map, Function.comp_def]
  cases s.live.find? fun c => c.key == k <;> rfl

/-- the index-based lookup Go performs (`ConfigIndex`, then `Config[pos].Value`) -/
def extractConfigIndexed (s : Store) (k : Bytes) : Bytes :=
  match s.get k with
  | some c => c.value
  | none => []

theorem extractConfigIndexed_toMap (s : Store) (k : Bytes) :
    extractConfigIndexed s k = ((s.toMap k).map (·.1)).getD [] := by
  unfold extractConfigIndexed Store.toMap
  cases s.get k <;> rfl

theorem extractConfigIndexed_eq (name : Bytes) (s : Store) (h : s.Inv) (k : Bytes) :
    extractConfigIndexed s k = extractConfig (viewOf name s) k := by
  rw [extractConfig_view, Store.cfgGet_live h, extractConfigIndexed_toMap]

open Proc.CfgHist

theorem cloneStore_live (s : Store) : (cloneStore s).live = s.live := by
  show List.take (s.live.length) s.live = s.live
  exact List.take_length

theorem cloneStore_inv {s : Store} (h : s.Inv) : (cloneStore s).Inv := by
  have hidx : (cloneStore s).index = buildIndex s.live := by
    simp only [Store.index, cloneStore_live]; rfl
  refine Store.inv_iff_live.2 ⟨by simp [cloneStore], fun k i => ?_⟩
  rw [hidx, buildIndex_get s.live (Store.live_keys_nodup h), cloneStore_live]

theorem cloneStore_toMap {s : Store} (h : s.Inv) (k : Bytes) : (cloneStore s).toMap k = s.toMap k := by
  rw [← Store.cfgGet_live (cloneStore_inv h), ← Store.cfgGet_live h, cloneStore_live]

open Spec.Format

theorem rel_empty : Store.empty.Refines [] := Store.refines_reset Store.empty

theorem rel_clone {s : Store} {m : CMap} (h : s.Refines m) : (cloneStore s).Refines m :=
  ⟨cloneStore_inv h.1, fun k => (cloneStore_toMap h.1 k).trans (h.2 k)⟩

/-- a history of slot stores (with `Clone`) against the same history of finite maps: same shape, and every store
refines the map in its place -/
structure HRel (a : Hist Store) (b : Hist CMap) : Prop where
  len : a.all.length = b.all.length
  all : ∀ i, (a.all.getD i Store.empty).Refines (b.all.getD i [])
  cur : a.cur = b.cur
  stack : a.stack = b.stack

theorem hrel_init : HRel initStore initMap := by
  refine ⟨rfl, ?_, rfl, rfl⟩
  intro i
  cases i with
  | zero => exact rel_empty
  | succ n => simpa [initStore, initMap] using rel_empty

theorem getD_set_rel {a : List Store} {b : List CMap} (hall : ∀ i, (a.getD i Store.empty).Refines (b.getD i []))
    (c : Nat) {s : Store} {m : CMap} (hsm : s.Refines m) (hlen : a.length = b.length) (i : Nat) :
    ((a.set c s).getD i Store.empty).Refines ((b.set c m).getD i []) := by
  rw [Shared.getD_set, Shared.getD_set, hlen]
  by_cases h : c = i ∧ c < b.length
  · rw [if_pos h, if_pos h]; exact hsm
  · rw [if_neg h, if_neg h]; exact hall i

theorem getD_concat_rel {a : List Store} {b : List CMap} (hall : ∀ i, (a.getD i Store.empty).Refines (b.getD i []))
    {s : Store} {m : CMap} (hsm : s.Refines m) (hlen : a.length = b.length) (i : Nat) :
    ((a ++ [s]).getD i Store.empty).Refines ((b ++ [m]).getD i []) := by
  simp only [List.getD_eq_getElem?_getD, List.getElem?_append, hlen]
  split
  · next h => simpa [List.getD_eq_getElem?_getD, h, hlen] using hall i
  · cases i - b.length with
    | zero => simpa using hsm
    | succ n => simpa using rel_empty

theorem step_rel {a : Hist Store} {b : Hist CMap} (h : HRel a b) (op : HOp) :
    HRel (stepStore a op) (stepMap b op) := by
  obtain ⟨hlen, hall, hcur, hstack⟩ := h
  have hc : (a.all.getD a.cur Store.empty).Refines (b.all.getD b.cur []) := hcur ▸ hall a.cur
  cases op with
  | clone =>
    exact ⟨by simp [stepStore, stepMap, Hist.step, hlen], getD_concat_rel hall (rel_clone hc) hlen,
      hlen, by simp [stepStore, stepMap, Hist.step, hcur, hstack]⟩
  | back =>
    simp only [stepStore, stepMap, Hist.step]
    rw [hstack]
    cases b.stack with
    | nil => exact ⟨hlen, hall, hcur, by rw [hstack]⟩
    | cons p rest => exact ⟨hlen, hall, rfl, rfl⟩
  | set k v =>
    refine ⟨by simp [stepStore, stepMap, Hist.step, hlen], ?_, hcur, hstack⟩
    simp only [stepStore, stepMap, Hist.step]
    rw [hcur] at hc ⊢
    exact getD_set_rel hall b.cur (hc.set k v false) hlen

theorem hist_rel (ops : List HOp) :
    HRel (ops.foldl stepStore initStore) (ops.foldl stepMap initMap) := by
  suffices h : ∀ a b, HRel a b → HRel (ops.foldl stepStore a) (ops.foldl stepMap b) from h _ _ hrel_init
  induction ops with
  | nil => intro a b h; exact h
  | cons op ops ih => intro a b h; exact ih _ _ (step_rel h op)

end C05
