/-
C16 — one step of the width loop makes its cell fit and never narrows a column; hence after the
whole pass every cell fits, whatever the order of the cells and of the columns.
-/
import Proofs.Lemmas.C16Width
import Proofs.Lemmas.Shared.Sort

namespace C16
open Tab.TextTab

/-- what the cell needs: the column's margin plus the value -/
def need (lm : List Nat) (c : Cell) : Int := (runeCount c.value : Int) + (lm.getD c.col 0 : Nat)

def Fits (lm : List Nat) (ws : List Int) (c : Cell) : Prop :=
  need lm c ≤ sumRange ws c.col c.span

instance (lm : List Nat) (ws : List Int) (c : Cell) : Decidable (Fits lm ws c) := by
  unfold Fits; infer_instance

variable (shrink : Nat → Bool) (sortCols : List Int → List Nat → List Nat)

theorem cellStep_cases (grow : Bool) (lm : List Nat) (ws : List Int) (c : Cell) :
    (∃ x, cellStep grow shrink sortCols lm ws c = ws.set c.col (max (ws.getD c.col 0) x)) ∨
    cellStep grow shrink sortCols lm ws c = ws ∨
    ∃ w0 l, cellStep grow shrink sortCols lm ws c = distribute ws w0 l := by
  unfold cellStep
  dsimp only
  by_cases h1 : (c.span == 1) = true
  · exact Or.inl ⟨_, if_pos h1⟩
  · rw [if_neg h1]
    by_cases h2 : sumRange ws c.col c.span ≥ (runeCount c.value : Int) + (lm.getD c.col 0 : Nat)
    · exact Or.inr (Or.inl (if_pos h2))
    · exact Or.inr (Or.inr ⟨_, _, if_neg h2⟩)

theorem cellStep_length (grow : Bool) (lm : List Nat) (ws : List Int) (c : Cell) :
    (cellStep grow shrink sortCols lm ws c).length = ws.length := by
  rcases cellStep_cases shrink sortCols grow lm ws c with ⟨x, h⟩ | h | ⟨w0, l, h⟩ <;> rw [h]
  · exact List.length_set
  · exact distribute_length _ _ _

theorem cellStep_ge (grow : Bool) (lm : List Nat) (ws : List Int) (c : Cell) (i : Nat) :
    ws.getD i 0 ≤ (cellStep grow shrink sortCols lm ws c).getD i 0 := by
  rcases cellStep_cases shrink sortCols grow lm ws c with ⟨x, h⟩ | h | ⟨w0, l, h⟩ <;> rw [h]
  · exact set_max_ge ws c.col i x
  · exact Int.le_refl _
  · exact distribute_ge _ _ _ _

/-- distributing `w0` over the columns `l0` of a cell, in any order, makes the cell `w` wide when
its other columns already account for `w - w0`: the columns of `l0` end up holding `w0` together
(`distribute_total`) and the others keep their width -/
theorem distribute_fits (hperm : ∀ ws l, (sortCols ws l).Perm l) (ws : List Int) (col span : Nat)
    (w w0 : Int) (l0 : List Nat) (hne : l0 ≠ []) (hnd : l0.Nodup) (hlt : ∀ i ∈ l0, i < ws.length)
    (hsum : ∀ ws' : List Int, (∀ i, i ∉ l0 → ws'.getD i 0 = ws.getD i 0) →
      sumRange ws' col span = (w - w0) + (l0.map fun i => ws'.getD i 0).sum) :
    w ≤ sumRange (distribute ws w0 (sortCols ws l0)) col span := by
  have hp := hperm ws l0
  have ht := distribute_total (sortCols ws l0) ws w0
    (fun h0 => hne (by rw [h0] at hp; exact hp.symm.eq_nil))
    (hp.nodup_iff.mpr hnd) (fun x hx => hlt x (hp.mem_iff.mp hx))
  rw [Shared.perm_sum_map _ hp] at ht
  have hs := hsum (distribute ws w0 (sortCols ws l0))
    (fun i hi => distribute_unchanged _ ws w0 i (fun hm => hi (hp.mem_iff.mp hm)))
  omega

/-- the step establishes the fit of its own cell (`grow = true`: the code after commit b5d6dcd) -/
theorem cellStep_fits (hperm : ∀ ws l, (sortCols ws l).Perm l)
    (lm : List Nat) (ws : List Int) (c : Cell)
    (hspan : 1 ≤ c.span) (hlen : c.col + c.span ≤ ws.length) :
    Fits lm (cellStep true shrink sortCols lm ws c) c := by
  unfold Fits need cellStep
  dsimp only
  generalize ((runeCount c.value : Int) + (lm.getD c.col 0 : Nat)) = w
  by_cases h1 : (c.span == 1) = true
  · have hs : c.span = 1 := by simpa using h1
    have hc : c.col < ws.length := by omega
    rw [if_pos h1, hs, sumRange, sumRange, Shared.getD_set, if_pos ⟨rfl, hc⟩]
    have := Int.le_max_right (ws.getD c.col 0) w
    omega
  · rw [if_neg h1]
    by_cases h2 : sumRange ws c.col c.span ≥ w
    · rw [if_pos h2]; exact h2
    · -- the cell does not fit yet: the columns collected by `splitShrink` share the remainder,
      -- or, if every column is a shrink column, all of them are taken after all
      rw [if_neg h2]
      have hs := fun ws' => split_sum shrink ws ws' c.span c.col w
      by_cases he : (splitShrink shrink ws c.col c.span w).2.isEmpty = true
      · have hnil : (splitShrink shrink ws c.col c.span w).2 = [] := by simpa using he
        have h0 := hs ws (fun _ _ _ _ => rfl)
        rw [hnil, List.map_nil, List.sum_nil] at h0
        rw [he, Bool.and_self, if_pos rfl, addBack_eq]
        refine distribute_fits sortCols hperm ws c.col c.span w _ _
          (by rw [Ne, List.range'_eq_nil_iff]; omega) List.nodup_range' (fun i hi => ?_) (fun ws' _ => ?_)
        · have := List.mem_range'_1.mp hi
          omega
        · rw [← sumRange_eq]
          omega
      · have he' : ((splitShrink shrink ws c.col c.span w).2.isEmpty && true) = false := by simpa using he
        rw [he', if_neg Bool.false_ne_true]
        refine distribute_fits sortCols hperm ws c.col c.span w _ _ (fun h0 => he (by rw [h0]; rfl))
          ((split_sublist ..).nodup List.nodup_range') (fun i hi => ?_)
          (fun ws' h => hs ws' (fun i _ _ h3 => h i h3))
        have := List.mem_range'_1.mp ((split_sublist shrink ws _ _ _).subset hi)
        omega

theorem insertCol_is (ws : List Int) : Shared.IsInsert (fun c d => ws.getD d 0 < ws.getD c 0) (insertCol ws) :=
  ⟨fun _ => rfl, fun _ _ _ => rfl⟩

/-- the column order Go's `sort.Slice` produces on short slices is a permutation -/
theorem insertSortCols_perm (ws : List Int) (l : List Nat) : (insertSortCols ws l).Perm l := by
  rw [insertSortCols, ← List.foldr_reverse]
  exact ((insertCol_is ws).sort_perm _).trans (List.reverse_perm _)

theorem foldl_cellStep_length (grow : Bool) (lm : List Nat) (cells : List Cell) :
    ∀ ws, (cells.foldl (cellStep grow shrink sortCols lm) ws).length = ws.length := by
  induction cells with
  | nil => intro ws; rfl
  | cons c rest ih => intro ws; simp only [List.foldl_cons]; rw [ih, cellStep_length]

theorem foldl_cellStep_ge (grow : Bool) (lm : List Nat) (cells : List Cell) :
    ∀ ws i, ws.getD i 0 ≤ (cells.foldl (cellStep grow shrink sortCols lm) ws).getD i 0 := by
  induction cells with
  | nil => intro ws i; exact Int.le_refl _
  | cons c rest ih =>
    intro ws i
    simp only [List.foldl_cons]
    exact Int.le_trans (cellStep_ge shrink sortCols grow lm ws c i) (ih _ i)

theorem foldl_cellStep_fits (hperm : ∀ ws l, (sortCols ws l).Perm l) (lm : List Nat)
    (cells : List Cell) : ∀ (ws : List Int) (c : Cell), c ∈ cells → 1 ≤ c.span →
      c.col + c.span ≤ ws.length →
      Fits lm (cells.foldl (cellStep true shrink sortCols lm) ws) c := by
  induction cells with
  | nil => intro ws c h; simp at h
  | cons d rest ih =>
    intro ws c hc hspan hlen
    simp only [List.foldl_cons]
    rcases List.mem_cons.mp hc with h | h
    · subst h
      exact Int.le_trans (cellStep_fits shrink sortCols hperm lm ws c hspan hlen)
        (sumRange_mono _ _ (foldl_cellStep_ge shrink sortCols true lm rest _) _ _)
    · exact ih _ c h hspan (by rw [cellStep_length]; exact hlen)

theorem foldl_marginStep_length (cells : List Cell) :
    ∀ lm, (cells.foldl marginStep lm).length = lm.length := by
  induction cells with
  | nil => intro lm; rfl
  | cons c rest ih => intro lm; simp only [List.foldl_cons]; rw [ih]; simp [marginStep]

theorem foldl_marginStep_ge (cells : List Cell) :
    ∀ lm i, lm.getD i 0 ≤ (cells.foldl marginStep lm).getD i 0 := by
  induction cells with
  | nil => intro lm i; exact Nat.le_refl _
  | cons c rest ih =>
    intro lm i
    simp only [List.foldl_cons]
    refine Nat.le_trans ?_ (ih _ i)
    unfold marginStep
    rw [Shared.getD_set]
    split
    · rename_i h; rw [← h.1]; exact Nat.le_max_right _ _
    · exact Nat.le_refl _

theorem lmargins_ge (cells : List Cell) : ∀ (lm : List Nat) (c : Cell), c ∈ cells → c.col < lm.length →
    runeCount c.margin ≤ (cells.foldl marginStep lm).getD c.col 0 := by
  induction cells with
  | nil => intro lm c h; simp at h
  | cons d rest ih =>
    intro lm c hc hlen
    simp only [List.foldl_cons]
    rcases List.mem_cons.mp hc with h | h
    · subst h
      refine Nat.le_trans ?_ (foldl_marginStep_ge rest _ _)
      unfold marginStep
      rw [Shared.getD_set]
      simp only [hlen, and_self, if_true]
      exact Nat.le_max_left _ _
    · exact ih _ c h (by simp [marginStep]; exact hlen)

theorem widthPass_nonneg (grow : Bool) (shrink : Nat → Bool) (sortCols : List Int → List Nat → List Nat)
    (lm : List Nat) (cols : Nat) (ordered : List Cell) (i : Nat) :
    0 ≤ (widthPass grow shrink sortCols lm cols ordered).getD i 0 := by
  have := foldl_cellStep_ge shrink sortCols grow lm ordered (List.replicate cols 0) i
  refine Int.le_trans ?_ this
  simp only [List.getD_eq_getElem?_getD, List.getElem?_replicate]
  split <;> simp

theorem widthPass_length (grow : Bool) (shrink : Nat → Bool) (sortCols : List Int → List Nat → List Nat)
    (lm : List Nat) (cols : Nat) (ordered : List Cell) :
    (widthPass grow shrink sortCols lm cols ordered).length = cols := by
  unfold widthPass
  rw [foldl_cellStep_length]; simp

end C16
