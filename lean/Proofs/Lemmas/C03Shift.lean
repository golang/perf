/-
C03 — the mirrored decimal slow path: what ONE shift (`rightShift` / `leftShift`, at most
60 bits) does with its 800-digit buffer: the result is the exact product or quotient cut to the
buffer (a floor on the grid 10^(dp' − 800)), and `trunc` is set exactly when something non-zero was
cut. A shift that leaves `trunc` unset is therefore exact, and so is `decimal.Shift` (repeated
shifts by at most 60 bits).
-/
import Proofs.Lemmas.C03LShift
import Proofs.Lemmas.Shared.Decimal

namespace C03
open Num Spec.NumText

/-- what one buffer-limited shift step does to the value: a floor on the grid `10^(dp' − 800)`,
with the truncation flag set exactly when the step was inexact -/
structure StepRes (a a' : Dc) (f : ℚ) : Prop where
  wf : WF a'
  ne : a'.d ≠ []
  trimmed : Trimmed a'
  neg : a'.neg = a.neg
  le : dval a' ≤ dval a * f
  lt : dval a * f < dval a' + (10 : ℚ) ^ (a'.dp - 800)
  exact : dval a' = dval a * f → a'.trunc = a.trunc
  inexact : dval a' ≠ dval a * f → a'.trunc = true

theorem StepRes.cut {a a' : Dc} {f : ℚ} (s : StepRes a a' f) : Cut a' (dval a * f) a.trunc :=
  ⟨s.le, s.lt, s.exact, s.inexact⟩

theorem stepRes_trim (a b : Dc) (f : ℚ) (hb : NZ b) (hneg : b.neg = a.neg)
    (c : Cut b (dval a * f) a.trunc) : StepRes a b.trim f := by
  obtain ⟨w1, w3, w4⟩ := trim_wf b hb
  exact ⟨w1.toWF, w1.ne, w3, hneg, by rw [w4]; exact c.le, by rw [w4, trim_dp b w1.ne]; exact c.lt,
    by rw [w4]; exact c.exact, by rw [w4]; exact c.inexact⟩

theorem StepRes.nz {a a' : Dc} {f : ℚ} (s : StepRes a a' f) : NZ a' := ⟨s.wf, s.ne⟩

theorem step_lower (a a' : Dc) (f : ℚ) (h : StepRes a a' f) : dval a * f / 2 ≤ dval a' := by
  obtain ⟨lo, _, _⟩ := dval_bounds a' h.nz
  have hlt := h.lt
  have : (10 : ℚ) ^ (a'.dp - 800) ≤ (10 : ℚ) ^ (a'.dp - 1) := zpow_le_zpow_right₀ (by norm_num) (by omega)
  linarith

theorem step_dp (a a' : Dc) (f : ℚ) (hnz : NZ a) (hs : StepRes a a' f) (hf : f ≤ (10 : ℚ) ^ (19 : Int)) :
    a'.dp ≤ a.dp + 19 := by
  rw [dp_le_iff a' hs.nz, zpow_add₀ (by norm_num : (10 : ℚ) ≠ 0)]
  calc dval a' ≤ dval a * f := hs.le
    _ ≤ dval a * (10 : ℚ) ^ (19 : Int) := mul_le_mul_of_nonneg_left hf (dval_bounds a hnz).2.2.le
    _ < _ := mul_lt_mul_of_pos_right ((dp_le_iff a hnz a.dp).mp le_rfl) (by positivity)

theorem pow60_le (k : Int) (hk : k ≤ 60) : (2 : ℚ) ^ k ≤ (10 : ℚ) ^ (19 : Int) :=
  le_trans (zpow_le_zpow_right₀ (by norm_num) hk) (by norm_num)

theorem rightShift_floor (a : Dc) (k : Nat) (hk : k ≤ 60) (hnz : NZ a) :
    StepRes a (rightShift a k) (1 / (2 : ℚ) ^ k) := by
  -- the three loops of `rightShift` in turn: `rsPick_spec` (digits picked, then zeros appended,
  -- until the accumulator reaches 2^k), `rsMain_spec` (one quotient digit per remaining digit),
  -- `rsTail_gen` (the remainder written out as far as the buffer allows, `R` left over); their
  -- identities add up to the long division `hNat`, which `cut_of_rem` reads on the values, and
  -- `stepRes_trim` concludes
  have hlead : 0 < 0 * 10 ^ a.d.length + valOf 10 a.d := by
    rw [Nat.zero_mul, Nat.zero_add]; exact Nat.lt_of_lt_of_le (Nat.pow_pos (by decide)) hnz.lo
  obtain ⟨n1, r1, rest, pad, e1, v1, rr, hpad, g1, b1, hr⟩ := rsPick_spec k hk a.d 0 0 hnz.dig hlead
  have hp2 : 0 < 2 ^ k := Nat.pow_pos (by decide)
  have b1' := b1 (by omega)
  obtain ⟨m1, m2, m3, m4⟩ := rsMain_spec k rest n1 [] hr b1' rfl
  have hrs : rightShift a k =
      ({ a with d := (rsTail k 64 (rsMain k rest n1 []).1 (rsMain k rest n1 []).2.length (rsMain k rest n1 []).2 a.trunc).1.reverse,
                dp := a.dp - ((r1 : Int) - 1),
                trunc := (rsTail k 64 (rsMain k rest n1 []).1 (rsMain k rest n1 []).2.length (rsMain k rest n1 []).2 a.trunc).2 } : Dc).trim := by
    unfold rightShift; rw [e1]
  generalize hn2 : (rsMain k rest n1 []).1 = n2 at *
  generalize ho2 : (rsMain k rest n1 []).2 = out2 at *
  have hok : TailOK k 64 n2 := Or.inr ⟨0, by omega, by simp, by omega⟩
  have hrestlen : rest.length ≤ a.d.length := by
    by_cases hp0 : 0 < pad
    · rw [hpad hp0]; simp
    · omega
  have hl2 : out2.length ≤ bufLen := by
    rw [m3]; simp only [List.length_nil, Nat.zero_add]; have := hnz.len; omega
  obtain ⟨p, R, t1, tR, t2, tlen, t3, tex, tin, tp⟩ := rsTail_gen k 64 n2 out2 a.trunc hok m2 m4 hl2
  generalize ho3 : (rsTail k 64 n2 out2.length out2 a.trunc).1 = out3 at *
  generalize htr3 : (rsTail k 64 n2 out2.length out2 a.trunc).2 = tr3 at *
  have v0 : valOf 10 ([] : Bytes) = 0 := rfl
  simp only [List.reverse_nil, v0, Nat.mul_zero, Nat.zero_add, List.length_nil] at m1 m3
  let b : Dc := { a with d := out3.reverse, dp := a.dp - ((r1 : Int) - 1), trunc := tr3 }
  have hb : rightShift a k = b.trim := hrs
  have hlen3 : out3.reverse.length = rest.length + p := by rw [List.length_reverse, t2, m3]
  have hL : 1 ≤ rest.length + p := by
    cases hrest : rest with
    | nil =>
      have hn21 : n1 = n2 := by rw [hrest] at hn2; simpa [rsMain] using hn2
      have := tp (by omega) (by rw [m3, hrest]; decide)
      omega
    | cons x xs => simp only [List.length_cons]; omega
  have hbnz : NZ b := by
    refine NZ.of_lo (by show out3.reverse.all isDec = true; rw [List.all_reverse]; exact t3)
      (by show out3.reverse.length ≤ bufLen; rw [List.length_reverse]; exact tlen) ?_
    show 10 ^ (out3.reverse.length - 1) ≤ valOf 10 out3.reverse
    rw [hlen3]
    refine quot_lo k _ R n1 (valOf 10 rest * 10 ^ p) _ hL ?_ tR g1
    rw [t1, m1, Nat.pow_add]; ring
  have hNat : 10 * 2 ^ k * valOf 10 out3.reverse + R = valOf 10 a.d * 10 ^ (pad + p) := by
    rw [t1, m1]
    simp only [Nat.zero_mul, Nat.zero_add] at v1
    rw [v1, Nat.pow_add]; ring
  have hexp : a.dp - ((r1 : Int) - 1) - (out3.reverse.length : Int) = (a.dp - a.d.length) + 1 - ((pad + p : Nat) : Int) := by
    have hr1 : (r1 : Int) + rest.length = a.d.length + pad := by
      have := rr; simp only [Nat.zero_add] at this; exact_mod_cast this
    rw [hlen3]; push_cast; omega
  have hX : dval a * (1 / (2 : ℚ) ^ k) =
      ((valOf 10 a.d * 10 ^ (pad + p) : ℕ) : ℚ) / ((10 * 2 ^ k : ℕ) : ℚ) * (10 : ℚ) ^ (b.dp - b.d.length) := by
    rw [show b.dp - (b.d.length : Int) = (a.dp - a.d.length) + 1 - ((pad + p : Nat) : Int) from hexp, dval]
    generalize a.dp - (a.d.length : Int) = E
    rw [zpow_sub₀ (by norm_num : (10 : ℚ) ≠ 0), zpow_add₀ (by norm_num : (10 : ℚ) ≠ 0), zpow_natCast, zpow_one]
    push_cast
    field_simp
  rw [hb]
  refine stepRes_trim a b _ hbnz rfl ?_
  rw [hX]
  exact cut_of_rem b _ _ R _ tR hNat tex fun hR => ⟨(tin hR).1, by
    show out3.reverse.length = 800
    rw [List.length_reverse, (tin hR).2]; rfl⟩

theorem leftShift_floor (a : Dc) (k : Nat) (hk1 : 1 ≤ k) (hk : k ≤ 60) (hnz : NZ a) :
    StepRes a (leftShift a k) ((2 : ℚ) ^ k) := by
  -- `all` = ALL digits of `valOf a.d · 2^k` (`lsMain_spec`, `lsTail_spec`); the cheat table
  -- predicts their number exactly (`cheat_digits` with `Shared.pow10_unique`: `hcount`), so the code
  -- keeps `all.take 800` and drops `all.drop 800` (`cut_digits`)
  have hlo := hnz.lo
  obtain ⟨c1, c2⟩ := cheat_digits k hk1 hk a.d hnz.dig hlo hnz.ne
  have hnd : 1 ≤ a.d.length := List.length_pos_iff.mpr hnz.ne
  have hrd : a.d.reverse.all isDec = true := by rw [List.all_reverse]; exact hnz.dig
  obtain ⟨m1, m2, m3, m4⟩ := lsMain_spec k a.d.reverse 0 [] hrd rfl
  have hp2 : 0 < 2 ^ k := Nat.pow_pos (by decide)
  have m4' := m4 hp2
  have v0 : valOf 10 ([] : Bytes) = 0 := rfl
  simp only [List.reverse_reverse, v0, Nat.zero_add, List.length_nil, Nat.pow_zero, Nat.mul_one,
    List.length_reverse] at m1 m2
  generalize hn : (lsMain k a.d.reverse 0 []).1 = n at *
  generalize ho : (lsMain k a.d.reverse 0 []).2 = out at *
  have hn64 : n < 10 ^ 64 := by
    have : 2 ^ k ≤ 2 ^ 60 := Nat.pow_le_pow_right (by decide) hk
    have : (2 : Nat) ^ 60 < 10 ^ 64 := by decide
    omega
  obtain ⟨t1, t2, u1, u2⟩ := lsTail_spec 64 n out hn64 m3
  generalize hall : lsTail 64 n out = all at *
  have hV : valOf 10 all = valOf 10 a.d * 2 ^ k := by rw [t1]; exact m1
  have hlow : 10 ^ (all.length - 1) ≤ valOf 10 all := u2 fun hn0 => by
    rw [hn0, Nat.zero_mul, Nat.add_zero] at m1
    rw [m1, m2]
    exact Nat.le_trans hlo (Nat.le_mul_of_pos_right _ hp2)
  have hup := valOf_lt all t2
  have hallpos : 1 ≤ all.length := by omega
  have hcount : all.length = a.d.length + cheatDelta k a.d := by
    apply Shared.pow10_unique _ _ (valOf 10 all) hallpos (by omega) hlow hup
    · rw [hV]; exact c1
    · rw [hV]; exact c2
  have hls : leftShift a k =
      ({ a with d := (all.take bufLen).take (min (a.d.length + cheatDelta k a.d) bufLen + (all.length - (a.d.length + cheatDelta k a.d))),
                dp := a.dp + (cheatDelta k a.d : Int),
                trunc := a.trunc || (all.drop bufLen).any (· != 48) } : Dc).trim := by
    unfold leftShift cheatDelta
    simp only [hn, ho, hall]
  have hkept : (all.take bufLen).take (min (a.d.length + cheatDelta k a.d) bufLen + (all.length - (a.d.length + cheatDelta k a.d)))
      = all.take bufLen := by
    rw [← hcount, Nat.sub_self, Nat.add_zero]
    apply List.take_of_length_le
    rw [List.length_take]; omega
  rw [hkept] at hls
  let b : Dc := { a with d := all.take bufLen, dp := a.dp + (cheatDelta k a.d : Int),
                         trunc := a.trunc || (all.drop bufLen).any (· != 48) }
  have hb : leftShift a k = b.trim := hls
  have hbl : bufLen = 800 := rfl
  have hbwf : WF b := WF.of_take all t2 (fun _ => hlow) rfl
  have hbne : b.d ≠ [] := fun h => by
    have := congrArg List.length h
    rw [show b.d = all.take bufLen from rfl, List.length_take, List.length_nil] at this
    omega
  rw [hb]
  refine stepRes_trim a b _ ⟨hbwf, hbne⟩ rfl ?_
  have c := cut_digits all t2 b a.trunc rfl rfl
  have hexp : b.dp - (all.length : Int) = a.dp - a.d.length := by
    show a.dp + (cheatDelta k a.d : Int) - (all.length : Int) = _
    rw [hcount]; push_cast; ring
  rw [hexp, hV] at c
  have e : dval a * (2 : ℚ) ^ k = ((valOf 10 a.d * 2 ^ k : ℕ) : ℚ) * (10 : ℚ) ^ (a.dp - a.d.length) := by
    unfold dval; push_cast; ring
  rw [e]; exact c

theorem trim_trunc (a : Dc) : a.trim.trunc = a.trunc := rfl
theorem trim_neg (a : Dc) : a.trim.neg = a.neg := rfl

/-- the loop of `Shift` over either single shift -/
def shiftBy (step : Dc → Nat → Dc) : Nat → Dc → Nat → Dc
  | 0, a, _ => a
  | fuel + 1, a, k => if k > maxShift then shiftBy step fuel (step a maxShift) (k - maxShift) else step a k

theorem shiftLeftBy_eq : ∀ (fuel : Nat) (a : Dc) (k : Nat), shiftLeftBy fuel a k = shiftBy leftShift fuel a k := by
  intro fuel
  induction fuel with
  | zero => intro a k; rfl
  | succ fuel ih => intro a k; unfold shiftLeftBy shiftBy; rw [ih]

theorem shiftRightBy_eq : ∀ (fuel : Nat) (a : Dc) (k : Nat), shiftRightBy fuel a k = shiftBy rightShift fuel a k := by
  intro fuel
  induction fuel with
  | zero => intro a k; rfl
  | succ fuel ih => intro a k; unfold shiftRightBy shiftBy; rw [ih]

theorem shiftBy_two (step : Dc → Nat → Dc) (fuel : Nat) (a : Dc) (n : Nat) (hn : n ≤ 120) :
    shiftBy step (fuel + 2) a n = if n > maxShift then step (step a maxShift) (n - maxShift) else step a n := by
  have hm : maxShift = 60 := rfl
  unfold shiftBy
  by_cases hbig : n > maxShift
  · rw [if_pos hbig, if_pos hbig]; unfold shiftBy; rw [if_neg (by omega)]
  · rw [if_neg hbig, if_neg hbig]

theorem two_zpow_nat (n : Nat) : (2 : ℚ) ^ (-(n : Int)) = 1 / (2 : ℚ) ^ n := by
  rw [zpow_neg, zpow_natCast, one_div]

/-- `a.Shift(k)`, `k ≠ 0`, on a decimal that is not zero is the loop over the single shift of `k`'s direction
(`s = ±1`), each step of which is a buffer-limited multiplication by `2^(s·n)` -/
theorem shift_cases (a : Dc) (hne : a.d ≠ []) (k : Int) (hk : k ≠ 0) :
    ∃ (step : Dc → Nat → Dc) (s : Int) (n : Nat), (s = 1 ∨ s = -1) ∧ k = s * n ∧ 1 ≤ n ∧
      a.shift k = shiftBy step 100 a n ∧
      ∀ a n, 1 ≤ n → n ≤ 60 → NZ a → StepRes a (step a n) ((2 : ℚ) ^ (s * n)) := by
  have hemp : a.d.isEmpty = false := List.isEmpty_eq_false_iff.mpr hne
  unfold Dc.shift
  simp only [hemp, Bool.false_eq_true, if_false]
  by_cases hpos : k > 0
  · rw [if_pos hpos, shiftLeftBy_eq]
    exact ⟨leftShift, 1, k.toNat, Or.inl rfl, by omega, by omega, rfl, fun a n h1 h2 hw => by
      rw [one_mul, zpow_natCast]; exact leftShift_floor a n h1 h2 hw⟩
  · rw [if_neg hpos, if_pos (by omega), shiftRightBy_eq]
    exact ⟨rightShift, -1, (-k).toNat, Or.inr rfl, by omega, by omega, rfl, fun a n h1 h2 hw => by
      rw [neg_one_mul, two_zpow_nat]; exact rightShift_floor a n h2 hw⟩

theorem shiftBy_exact (step : Dc → Nat → Dc) (f : Nat → ℚ) (hf : ∀ m n, f (m + n) = f m * f n)
    (hstep : ∀ a n, 1 ≤ n → n ≤ 60 → NZ a → StepRes a (step a n) (f n)) :
    ∀ (fuel : Nat) (a : Dc) (k : Nat), 1 ≤ k → k ≤ 60 * fuel → NZ a → (shiftBy step fuel a k).trunc = false →
    dval (shiftBy step fuel a k) = dval a * f k ∧ NZ (shiftBy step fuel a k) ∧
    Trimmed (shiftBy step fuel a k) ∧ (shiftBy step fuel a k).neg = a.neg ∧ a.trunc = false := by
  intro fuel
  induction fuel with
  | zero => intro a k h1 h2; omega
  | succ fuel ih =>
    intro a k hk1 hk hnz ht'
    have hm : maxShift = 60 := rfl
    unfold shiftBy at ht' ⊢
    by_cases hbig : k > maxShift
    · rw [if_pos hbig] at ht' ⊢
      have s := hstep a maxShift (by decide) (by decide) hnz
      obtain ⟨b1, b2, b4, b5, b6⟩ := ih (step a maxShift) (k - maxShift) (by omega) (by omega) s.nz ht'
      have a1 := s.cut.eq_of_trunc b6
      have a6 := s.cut.flag_of_trunc b6
      refine ⟨?_, b2, b4, by rw [b5, s.neg], a6⟩
      rw [b1, a1, mul_assoc, ← hf]
      congr 2; omega
    · rw [if_neg hbig] at ht' ⊢
      have s := hstep a k hk1 (by omega) hnz
      exact ⟨s.cut.eq_of_trunc ht', s.nz, s.trimmed, s.neg, s.cut.flag_of_trunc ht'⟩

end C03
