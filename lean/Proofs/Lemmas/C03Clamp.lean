/-
C03 — the clamp of the exponent digit loop (`if e < 10000 { e = e*10 + digit }` in `readFloat` and
`decimal.set`). An exponent literal below 100000 is read exactly. Of a longer one only the first
five significant digits c (10000 ≤ c ≤ 99999) are kept; the value is then still driven to ±0 or
to ±Inf + range error exactly as by the exact exponent UNLESS the mantissa text compensates the
exponent: about 9 700 digits after the point (decimal) or 2 240 hex digits. The disagreeing texts are finding
candidates (notes/C03.md).
-/
import Proofs.Lemmas.C03Eval
import Proofs.Lemmas.C03Recognise

namespace C03
open Num Spec.NumText F64

/-- the specification with every exponent read as the code reads it (literal clamped: `g`) -/
def parseFloatSpecG (g : Int) (s : Bytes) : Except NumErr Bits :=
  match specialSpec s with
  | some b => .ok b
  | none =>
    match recognise s with
    | none => .error .syntax
    | some p => (clampP p g).eval

theorem parseFloatSpecG_eq (g : Int) (s : Bytes) (h : ∀ p, recognise s = some p → (clampP p g).eval = p.eval) :
    parseFloatSpecG g s = parseFloatSpec s := by
  unfold parseFloatSpecG parseFloatSpec
  cases specialSpec s with
  | some b => rfl
  | none =>
    cases hrec : recognise s with
    | none => rfl
    | some p => exact h p hrec

theorem expGapS_body (s : Bytes) :
    expGapS s = expGap (digS (isHexPrefix (splitSign s).2)) (bodyU s (isHexPrefix (splitSign s).2)) := by
  unfold expGapS bodyU
  cases isHexPrefix (splitSign s).2 <;> rfl

theorem expLit_body (s : Bytes) :
    expLit s = valOf 10 (expLitDigits (digS (isHexPrefix (splitSign s).2)) (bodyU s (isHexPrefix (splitSign s).2))) := by
  unfold expLit bodyU
  cases isHexPrefix (splitSign s).2 <;> rfl

/-- **the gap the clamp opens**: none below 100000; above, the code reads a five-digit exponent of
the same sign -/
theorem spTail_gap (hex : Bool) (u : Bytes) (x : Int) (h : spTail hex (spR2 (digS hex) u) = some x) :
    (valOf 10 (expLitDigits (digS hex) u) < 100000 → expGap (digS hex) u = 0) ∧
    (100000 ≤ valOf 10 (expLitDigits (digS hex) u) →
      (x = (valOf 10 (expLitDigits (digS hex) u) : Int) ∧ 10000 ≤ x + expGap (digS hex) u ∧ x + expGap (digS hex) u ≤ 99999) ∨
      (x = -(valOf 10 (expLitDigits (digS hex) u) : Int) ∧ -99999 ≤ x + expGap (digS hex) u ∧ x + expGap (digS hex) u ≤ -10000)) := by
  unfold expLitDigits expGap
  unfold spTail at h
  cases hr : spR2 (digS hex) u with
  | nil => simp [valOf]
  | cons c r3 =>
    rw [hr] at h
    simp only [] at h ⊢
    by_cases hc : (lowerc c == (if hex = true then 112 else 101)) = true
    · rw [if_pos hc] at h
      exact gapInt_spec _ _ x (parseExp_eq r3 ▸ h)
    · rw [if_neg hc] at h; cases h

theorem expGapS_zero (s : Bytes) (p : Parsed) (hrec : recognise s = some p) (hlit : expLit s < 100000) :
    expGapS s = 0 := by
  obtain ⟨hh, x, hx, _, _⟩ := recog_facts s p hrec
  rw [expGapS_body, ← hh]
  exact (spTail_gap p.hex _ x hx).1 (by rw [hh, ← expLit_body]; exact hlit)

theorem clampGap_eq (s : Bytes) (h : isHexPrefix (splitSign s).2 = false) : clampGap s = expGapS s := by
  unfold clampGap expGapS expGap spR2 gapInt clampFrom
  simp only [h, Bool.false_eq_true, if_false]
  rfl

theorem parseFloatSpecG_small (s : Bytes) (hlit : expLit s < 100000) :
    parseFloatSpecG (expGapS s) s = parseFloatSpec s :=
  parseFloatSpecG_eq _ s fun p hrec => by rw [expGapS_zero s p hrec hlit, clampP_zero]

/-- **beyond the clamp both exponents saturate** — `x` the exponent the specification reads
(±L, L ≥ 100000), `x + g` the one the code reads (±c, 10000 ≤ c ≤ 99999), `F` digits after the
point, `i` digits before it: with at most 9691 / 9669 (decimal) resp. 2244 / 2231 (hex) of them
both values overflow, or both round to zero. -/
theorem clamp_sat (p : Parsed) (g x : Int) (F i L : Nat)
    (hexp : p.exp = x + -(((if p.hex then 4 else 1) * F : Nat) : Int))
    (hmant : p.mant < baseOf p.hex ^ (i + F))
    (hL : 100000 ≤ L)
    (hgap : (x = (L : Int) ∧ 10000 ≤ x + g ∧ x + g ≤ 99999) ∨ (x = -(L : Int) ∧ -99999 ≤ x + g ∧ x + g ≤ -10000))
    (hmod : if p.hex then i ≤ 2231 ∧ F ≤ 2244 else i ≤ 9669 ∧ F ≤ 9691) :
    (clampP p g).eval = p.eval := by
  by_cases hm0 : p.mant = 0
  · rw [eval_zero p hm0, eval_zero (clampP p g) hm0]; rfl
  have hm : 0 < p.mant := Nat.pos_of_ne_zero hm0
  have hmq : (1 : ℚ) ≤ (p.mant : ℚ) := by exact_mod_cast hm
  -- base b, the value is mantissa·b^exp, the mantissa is below b^W; 1e309 resp. 2^1024 overflow,
  -- 1e-331 resp. 2^-1076 round to zero
  obtain ⟨b, W, H, S, hb, hvp, hvq, hMlt, hT, hS, hbig, hsmall⟩ :
      ∃ (b : ℚ) (W : Nat) (H S : Int), 1 ≤ b ∧ valueOf p = (p.mant : ℚ) * b ^ p.exp ∧
        valueOf (clampP p g) = (p.mant : ℚ) * b ^ (p.exp + g) ∧ (p.mant : ℚ) < b ^ W ∧
        (overflowThreshold : ℚ) ≤ b ^ H ∧ b ^ (-S) ≤ 1 / (2 : ℚ) ^ 1076 ∧
        (x = (L : Int) → H ≤ p.exp ∧ H ≤ p.exp + g) ∧
        (x = -(L : Int) → p.exp + (W : Int) ≤ -S ∧ p.exp + g + (W : Int) ≤ -S) := by
    cases hph : p.hex
    · simp only [hph, Bool.false_eq_true, if_false, Nat.one_mul] at hexp hmod
      rw [hph, show baseOf false = 10 from rfl] at hmant
      refine ⟨10, i + F, 309, 331, by norm_num, by simp [valueOf, hph], by simp [valueOf, clampP, hph],
        by exact_mod_cast hmant, thr_le_pow10, tiny_pow10, fun hx => by omega, fun hx => by omega⟩
    · simp only [hph, if_true] at hexp hmod
      rw [hph, show baseOf true = 16 from rfl] at hmant
      refine ⟨2, 4 * (i + F), 1024, 1076, by norm_num, by simp [valueOf, hph], by simp [valueOf, clampP, hph],
        ?_, thr_le_pow2, ?_, fun hx => by omega, fun hx => by omega⟩
      · rw [pow_mul, show ((2 : ℚ) ^ 4) = 16 by norm_num]; exact_mod_cast hmant
      · rw [zpow_neg, show (1076 : ℤ) = ((1076 : ℕ) : ℤ) from rfl, zpow_natCast, one_div]
  rcases hgap with ⟨hx, _, _⟩ | ⟨hx, _, _⟩
  · rw [eval_of_big p hm (by rw [hvp]; exact pow_sat_big b _ _ hb 0 (by simpa using hmq) H _ hT (by simpa using (hbig hx).1)),
      eval_of_big (clampP p g) hm (by rw [hvq]; exact pow_sat_big b _ _ hb 0 (by simpa using hmq) H _ hT (by simpa using (hbig hx).2))]
  · rw [eval_of_small p hm (by rw [hvp]; exact pow_sat_small b _ _ hb W hMlt S _ hS (hsmall hx).1),
      eval_of_small (clampP p g) hm (by rw [hvq]; exact pow_sat_small b _ _ hb W hMlt S _ hS (hsmall hx).2)]
    rfl

theorem valOf_lt_sig_base (B : Nat) (l : Bytes) (h : ∀ c ∈ l, digVal c < B) :
    valOf B l < B ^ (l.dropWhile (· == 48)).length := by
  rw [← valOf_sig]
  exact valOf_lt_pow B _ fun c hc => h c ((List.dropWhile_sublist _).mem hc)

/-- digits before the point (after leading zeros) and digits after it -/
def mantLens (s : Bytes) : Nat × Nat :=
  let h := isHexPrefix (splitSign s).2
  let u := bodyU s h
  (((u.takeWhile (digS h)).dropWhile (· == 48)).length, (spFP (digS h) u).length)

/-- the mantissa text is too short to compensate a clamped exponent: at most 9669 significant
digits before the point and 9691 digits after it (hex: 2231 and 2244). The bounds are sharp for the
smallest clamped value 10000 (checked on the real code): `0.` + 9690 zeros + `1e100000` (9691
digits after the point) still overflows, with 9691 zeros the code returns 1e308; `0x` + 2231
digits `f` + `p-100000` still rounds to 0, with 2232 digits the code returns 2e-323. -/
def Moderate (s : Bytes) : Prop :=
  if isHexPrefix (splitSign s).2 then (mantLens s).1 ≤ 2231 ∧ (mantLens s).2 ≤ 2244
  else (mantLens s).1 ≤ 9669 ∧ (mantLens s).2 ≤ 9691

/-- **the clamp does not change the result** of a recognised numeral whose exponent literal is
100000 or more, when the mantissa text is `Moderate` -/
theorem clamp_agree (s : Bytes) (p : Parsed) (hrec : recognise s = some p) (hbig : 100000 ≤ expLit s)
    (hmod : Moderate s) : (clampP p (expGapS s)).eval = p.eval := by
  obtain ⟨hh, x, hsp, hM, hE⟩ := recog_facts s p hrec
  have e1 := expGapS_body s
  have e2 := expLit_body s
  rw [← hh] at e1 e2
  have hg := (spTail_gap p.hex _ x hsp).2 (by rw [← e2]; exact hbig)
  rw [← e2, ← e1] at hg
  unfold Moderate mantLens at hmod
  rw [← hh] at hmod
  simp only [] at hmod
  generalize hu : bodyU s p.hex = u at *
  have hip : ∀ c ∈ u.takeWhile (digS p.hex), digVal c < baseOf p.hex := by
    intro c hc
    have := List.all_takeWhile (p := digS p.hex) (l := u)
    rw [List.all_eq_true] at this
    exact digS_lt _ c (this c hc)
  have hfp : ∀ c ∈ spFP (digS p.hex) u, digVal c < baseOf p.hex := by
    intro c hc
    have := spFP_all (digS p.hex) u
    rw [List.all_eq_true] at this
    exact digS_lt _ c (this c hc)
  have h1 := valOf_lt_sig_base (baseOf p.hex) _ hip
  have h2 := valOf_lt_pow (baseOf p.hex) _ hfp
  have hmant : p.mant < baseOf p.hex ^ (((u.takeWhile (digS p.hex)).dropWhile (· == 48)).length + (spFP (digS p.hex) u).length) := by
    rw [hM, valOf_append, Nat.pow_add]
    generalize valOf (baseOf p.hex) (u.takeWhile (digS p.hex)) = a at *
    generalize valOf (baseOf p.hex) (spFP (digS p.hex) u) = b at *
    generalize baseOf p.hex ^ ((u.takeWhile (digS p.hex)).dropWhile (· == 48)).length = A at *
    generalize baseOf p.hex ^ (spFP (digS p.hex) u).length = P at *
    have : (a + 1) * P ≤ A * P := Nat.mul_le_mul_right _ h1
    have e : (a + 1) * P = a * P + P := by ring
    omega
  exact clamp_sat p (expGapS s) x _ _ (expLit s) hE hmant hbig hg hmod

theorem parseFloatSpecG_agree (s : Bytes) (h : expLit s < 100000 ∨ Moderate s) :
    parseFloatSpecG (expGapS s) s = parseFloatSpec s := by
  by_cases hlit : expLit s < 100000
  · exact parseFloatSpecG_small s hlit
  · exact parseFloatSpecG_eq _ s fun p hrec => clamp_agree s p hrec (by omega) (h.resolve_left hlit)

end C03
