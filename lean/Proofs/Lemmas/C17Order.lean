/-
C17 helper lemmas: first-appearance bookkeeping of `addValue` (the model of `addMetrics` plus the
append; invariant: every metric's key components are in the lists); tables follow unit order.
-/
import Model.Legacy.Collection
import Proofs.Lemmas.Shared.FirstOcc

namespace C17
open Legacy F64

theorem contains_iff (l : List Str) (s : Str) : l.contains s = true ↔ s ∈ l := by
  simp

theorem _root_.Legacy.addString_eq (l : List Str) (s : Str) : addString l s = FirstOcc.add l s := by
  unfold addString FirstOcc.add
  by_cases h : s ∈ l
  · rw [if_pos h, if_pos ((contains_iff l s).2 h)]
  · rw [if_neg h, if_neg fun hc => h ((contains_iff l s).1 hc)]

theorem addString_of_mem (l : List Str) (s : Str) (h : s ∈ l) : addString l s = l :=
  (addString_eq l s).trans (FirstOcc.add_of_mem h)

theorem mem_addString {l : List Str} {s x : Str} : x ∈ addString l s ↔ x ∈ l ∨ x = s :=
  addString_eq l s ▸ FirstOcc.mem_add

/-- every metric's unit, group and config are in the collection's lists -/
def Inv (c : Coll) : Prop :=
  ∀ km ∈ c.metrics, km.1.unit ∈ c.units ∧ km.1.group ∈ c.groups ∧ km.1.config ∈ c.configs

theorem inv_empty : Inv ({} : Coll) := by
  intro km h; simp at h

theorem findMetric_some (ms : List (Key × Metrics)) (k : Key) (m : Metrics)
    (h : findMetric ms k = some m) : (k, m) ∈ ms := by
  unfold findMetric at h
  cases hf : ms.find? (fun p => p.1 == k) with
  | none => simp [hf] at h
  | some p =>
    simp [hf] at h
    have h1 := List.find?_some hf
    have h2 := List.mem_of_find?_eq_some hf
    simp at h1
    obtain ⟨pk, pm⟩ := p
    simp at h1 h
    subst h1; subst h
    exact h2

theorem addValue_lists (c : Coll) (key : Key) (val : Bits) (hinv : Inv c) :
    (addValue c key val).units = addString c.units key.unit ∧
    (addValue c key val).groups = addString c.groups key.group ∧
    (addValue c key val).configs = addString c.configs key.config ∧
    Inv (addValue c key val) := by
  unfold addValue
  cases h : findMetric c.metrics key with
  | some m =>
    have hmem := findMetric_some _ _ _ h
    obtain ⟨hu, hg, hc⟩ := hinv _ hmem
    simp only at hu hg hc
    simp only [addString_of_mem _ _ hu, addString_of_mem _ _ hg, addString_of_mem _ _ hc, true_and]
    intro km hkm
    simp only [List.mem_map] at hkm
    obtain ⟨⟨k0, m0⟩, h0, rfl⟩ := hkm
    have := hinv _ h0
    by_cases hk : (k0 == key) = true <;> simp [hk] <;> exact this
  | none =>
    simp only [true_and]
    intro km hkm
    simp only [List.mem_append, List.mem_singleton] at hkm
    rcases hkm with hkm | rfl
    · obtain ⟨a, b, d⟩ := hinv _ hkm
      exact ⟨mem_addString.mpr (Or.inl a), mem_addString.mpr (Or.inl b), mem_addString.mpr (Or.inl d)⟩
    · exact ⟨mem_addString.mpr (Or.inr rfl), mem_addString.mpr (Or.inr rfl), mem_addString.mpr (Or.inr rfl)⟩

theorem lookup_map_values {α β : Type} [BEq α] [LawfulBEq α] (f : α → β → β) (l : List (α × β)) (a : α) :
    (l.map fun kv => (kv.1, f kv.1 kv.2)).lookup a = (l.lookup a).map (f a) := by
  induction l with
  | nil => rfl
  | cons kv l ih =>
    rw [List.map_cons, List.lookup_cons, List.lookup_cons]
    cases h : a == kv.1
    · exact ih
    · rw [eq_of_beq h]; rfl

theorem benchOf_setBench (bm : List (Str × List Str)) (g g' : Str) (bs : List Str) :
    benchOf (setBench bm g bs) g' = if g' = g then bs else benchOf bm g' := by
  unfold benchOf setBench
  cases hl : bm.lookup g with
  | some v =>
    have hf : (fun (x : Str × List Str) => match x with | (k, v) => if (k == g) = true then (k, bs) else (k, v))
        = fun kv => (kv.1, if kv.1 == g then bs else kv.2) := by
      funext ⟨k, v⟩; dsimp only; split <;> rfl
    rw [Option.isSome_some, if_pos rfl, hf, lookup_map_values fun k v => if k == g then bs else v]
    by_cases h : g' = g
    · rw [h, hl, if_pos rfl]; simp
    · rw [if_neg h]; cases bm.lookup g' <;> simp [h]
  | none =>
    rw [Option.isSome_none, if_neg Bool.false_ne_true, List.lookup_append]
    by_cases h : g' = g
    · rw [h, hl, if_pos rfl]; simp
    · have hb : (g' == g) = false := beq_false_of_ne h
      rw [if_neg h, List.lookup_cons, hb]
      cases bm.lookup g' <;> rfl

/-- every metric's benchmark is listed under its group -/
def InvB (c : Coll) : Prop := ∀ km ∈ c.metrics, km.1.bench ∈ benchOf c.benchmarks km.1.group

theorem invB_empty : InvB ({} : Coll) := by
  intro km h; simp at h

theorem addValue_bench (c : Coll) (key : Key) (val : Bits) (hinv : InvB c) :
    (∀ g, benchOf (addValue c key val).benchmarks g =
        if g = key.group then addString (benchOf c.benchmarks g) key.bench else benchOf c.benchmarks g) ∧
    InvB (addValue c key val) := by
  unfold addValue
  cases h : findMetric c.metrics key with
  | some m =>
    have hmem := findMetric_some _ _ _ h
    have hb := hinv _ hmem
    simp only at hb
    constructor
    · intro g
      by_cases hg : g = key.group
      · subst hg; simp [addString_of_mem _ _ hb]
      · simp [hg]
    · intro km hkm
      simp only [List.mem_map] at hkm
      obtain ⟨⟨k0, m0⟩, h0, rfl⟩ := hkm
      have := hinv _ h0
      by_cases hk : (k0 == key) = true <;> simp [hk] <;> exact this
  | none =>
    constructor
    · intro g
      simp only [benchOf_setBench]
      by_cases hg : g = key.group
      · subst hg; simp
      · simp [hg]
    · intro km hkm
      simp only [List.mem_append, List.mem_singleton] at hkm
      simp only [benchOf_setBench]
      rcases hkm with hkm | rfl
      · have := hinv _ hkm
        by_cases hg : km.1.group = key.group
        · simp only [hg, if_true]
          rw [← hg]; exact mem_addString.mpr (Or.inl this)
        · simp only [hg, if_false]; exact this
      · simp [mem_addString]

theorem buildTable_unit (T : TestFn) (G : GeoFn) (c : Coll) (a : Bits) (u : Str) (t : Table)
    (h : buildTable T G c a u = some t) : t.unit = u := by
  unfold buildTable at h
  simp only at h
  split at h
  · cases h
  · injection h with h; rw [← h]

theorem filterMap_units_sublist (T : TestFn) (G : GeoFn) (c : Coll) (a : Bits) (us : List Str) :
    List.Sublist ((us.filterMap fun u => buildTable T G c a u).map (·.unit)) us := by
  induction us with
  | nil => simp
  | cons u us ih =>
    simp only [List.filterMap_cons]
    cases h : buildTable T G c a u with
    | none => exact List.Sublist.cons _ ih
    | some t =>
      simp only [List.map_cons]
      rw [buildTable_unit T G c a u t h]
      exact List.Sublist.cons_cons _ ih

end C17
