/-
The underscore rule. `underscoreOK`'s state machine (atoi.go) is the specification's rule `underscoresOK`
(`underscoreLoop_eq`); a text without underscores obeys both; `strip`.
-/
import Proofs.Lemmas.C03Digits

namespace C03
open Num Spec.NumText

/-- the specification's digit class for a literal -/
def digS (hex : Bool) : UInt8 → Bool := if hex then isHexDig else isDec

theorem isHexDig_of_digS {hex : Bool} {c : UInt8} (h : digS hex c = true) : isHexDig c = true := by
  cases hex
  · exact isHexDig_of_isDec h
  · exact h

theorem digS_ne {hex : Bool} {c k : UInt8} (h : digS hex c = true) (hk : isHexDig k = false) : c ≠ k :=
  ne_of_class (isHexDig_of_digS h) hk

/-- the digit test of `underscoreOK` and `readFloat` is the specification's digit class -/
theorem digM_eq (hex : Bool) (c : UInt8) :
    ((48 ≤ c && c ≤ 57) || (hex && 97 ≤ lower c && lower c ≤ 102)) = digS hex c := by
  show (isDec c || (hex && 97 ≤ lower c && lower c ≤ 102)) = digS hex c
  cases hex
  · simp [digS]
  · cases hd : isDec c
    · rw [Bool.false_or, Bool.true_and, hexLetter_test c hd]; rfl
    · exact (isHexDig_of_isDec hd).symm

def headDigG (dig : UInt8 → Bool) : Bytes → Bool
  | [] => false
  | c :: _ => dig c

def headDig (hex : Bool) : Bytes → Bool := headDigG (digS hex)

theorem uOK_nil (dig : UInt8 → Bool) (prev : Bool) : underscoresOK dig prev [] = true := by
  unfold underscoresOK; rfl

theorem uOK_us (dig : UInt8 → Bool) (prev : Bool) (cs : Bytes) :
    underscoresOK dig prev (95 :: cs) =
      (prev && headDigG dig cs && underscoresOK dig false cs) := by
  conv => lhs; unfold underscoresOK
  simp only [beq_self_eq_true, if_true]
  cases cs <;> rfl

theorem uOK_other (dig : UInt8 → Bool) (prev : Bool) (c : UInt8) (cs : Bytes) (h : c ≠ 95) :
    underscoresOK dig prev (c :: cs) = underscoresOK dig (dig c) cs := by
  conv => lhs; unfold underscoresOK
  have e95 : (c == 95) = false := by simpa using h
  simp [e95]

theorem saw_beq (a b : Saw) : (a == b) = decide (a = b) := by cases a <;> cases b <;> rfl

theorem headDig_cons (hex : Bool) (c : UInt8) (cs : Bytes) : headDig hex (c :: cs) = digS hex c := rfl
theorem headDig_nil (hex : Bool) : headDig hex [] = false := rfl
theorem headDigG_eq (hex : Bool) (cs : Bytes) : headDigG (digS hex) cs = headDig hex cs := rfl

/-- **`underscoreLoop` = the specification's underscore rule.** In state `under` the next byte
must be a digit; otherwise the rule is `underscoresOK` with "previous byte was a digit" =
`saw == digit`. -/
theorem underscoreLoop_eq (hex : Bool) (s : Bytes) : ∀ saw : Saw,
    underscoreLoop hex s saw =
      ((if saw == .under then headDig hex s else true) && underscoresOK (digS hex) (saw == .digit) s) := by
  induction s with
  | nil => intro saw; cases saw <;> simp [underscoreLoop, headDig_nil, uOK_nil]
  | cons c cs ih =>
    intro saw
    unfold underscoreLoop
    rw [digM_eq]
    by_cases hd : digS hex c = true
    · simp only [hd, if_true, ih, headDig_cons, uOK_other _ _ c cs (digS_ne hd rfl)]
      cases saw <;> simp
    · simp only [Bool.not_eq_true] at hd
      simp only [hd, Bool.false_eq_true, if_false]
      by_cases h95 : c = 95
      · subst h95
        simp only [beq_self_eq_true, if_true, uOK_us, headDigG_eq, headDig_cons, hd]
        cases saw <;> simp [ih, saw_beq]
      · have e95 : (c == 95) = false := by simpa using h95
        simp only [e95, Bool.false_eq_true, if_false, uOK_other _ _ c cs h95, headDig_cons, hd]
        cases saw <;> simp [ih, saw_beq]

theorem underscoresOK_no_us (dig : UInt8 → Bool) (x : Bytes) (h : ∀ c ∈ x, c ≠ 95) :
    ∀ prev, underscoresOK dig prev x = true := by
  induction x with
  | nil => intro _; rfl
  | cons c x ih =>
    intro prev
    rw [uOK_other dig prev c x (h c List.mem_cons_self)]
    exact ih (fun d hd => h d (List.mem_cons_of_mem _ hd)) _

theorem underscoreLoop_no_us (hex : Bool) (s : Bytes) (hs : ∀ c ∈ s, c ≠ 95) (saw : Saw) (hsaw : saw ≠ Saw.under) :
    underscoreLoop hex s saw = true := by
  rw [underscoreLoop_eq, underscoresOK_no_us _ s hs]
  cases saw <;> first | rfl | exact absurd rfl hsaw

/-- `underscoreOK` after the sign: the base prefix, then the loop -/
def usBody (s : Bytes) : Bool :=
  match s with
  | 48 :: x :: r =>
    if lower x == 98 || lower x == 111 || lower x == 120 then underscoreLoop (lower x == 120) r .digit
    else underscoreLoop false s .start
  | _ => underscoreLoop false s .start

theorem underscoreOK_cons (c0 : UInt8) (tl : Bytes) :
    underscoreOK (c0 :: tl) = usBody (if c0 == 45 || c0 == 43 then tl else c0 :: tl) := rfl

theorem usBody_no_us (b : Bytes) (hb : ∀ c ∈ b, c ≠ 95) : usBody b = true := by
  unfold usBody
  split
  · rename_i x r
    split
    · exact underscoreLoop_no_us _ r (fun c hc => hb c (List.mem_cons_of_mem _ (List.mem_cons_of_mem _ hc)))
        .digit (by decide)
    · exact underscoreLoop_no_us _ _ hb .start (by decide)
  · exact underscoreLoop_no_us _ _ hb .start (by decide)

theorem underscoreOK_no_us (s : Bytes) (h : ∀ c ∈ s, c ≠ 95) : underscoreOK s = true := by
  cases s with
  | nil => rfl
  | cons c0 r =>
    rw [underscoreOK_cons]
    refine usBody_no_us _ fun c hc => ?_
    split at hc
    · exact h c (List.mem_cons_of_mem _ hc)
    · exact h c hc

theorem strip_us (cs : Bytes) : strip (95 :: cs) = strip cs := by simp [strip]
theorem strip_cons (c : UInt8) (cs : Bytes) (h : c ≠ 95) : strip (c :: cs) = c :: strip cs := by
  simp [strip, h]

theorem dropWhile_head {p : UInt8 → Bool} (t : Bytes) (c : UInt8) (r : Bytes) (h : t.dropWhile p = c :: r) :
    p c = false := by
  simpa [h] using List.head_dropWhile_not p (l := t) (h ▸ List.cons_ne_nil _ _)

theorem mem_strip (t : Bytes) : ∀ c ∈ strip t, c ≠ 95 := by
  intro c hc
  unfold strip at hc
  rw [List.mem_filter] at hc
  simpa using hc.2

theorem uOK_after_nondigit (dig : UInt8 → Bool) (prev : Bool) (c : UInt8) (r : Bytes)
    (h95 : c ≠ 95) (hd : dig c = false) (hu : underscoresOK dig prev (c :: r) = true) :
    underscoresOK dig false r = true ∧ (∀ r', r ≠ 95 :: r') := by
  rw [uOK_other dig prev c r h95, hd] at hu
  refine ⟨hu, fun r' h => ?_⟩
  subst h
  rw [uOK_us] at hu
  simp at hu

end C03
