/-
C20 helper lemmas: the decimal rendering of upload ids (`renderId`): the loop `natBytes` is `%d`
(`Shared.dec`), hence digits only and the length of an 8-digit day; `renderId` is injective.
-/
import Model.Storage.Upload
import Proofs.Lemmas.Shared.Decimal

namespace C20
open Storage.Upload

theorem div_ten_lt {n : Nat} (h : ¬ n < 10) : n / 10 < n :=
  Nat.div_lt_self (Nat.lt_of_lt_of_le (by decide) (Nat.le_of_not_lt h)) (by decide)

theorem digitsAux_eq (n : Nat) : ∀ fuel acc, n < fuel → digitsAux fuel n acc = natBytes n ++ acc := by
  induction n using Nat.strongRecOn with
  | _ n ih =>
    intro fuel acc h
    obtain ⟨f, rfl⟩ : ∃ f, fuel = f + 1 := ⟨fuel - 1, (Nat.succ_pred_eq_of_pos (Nat.zero_lt_of_lt h)).symm⟩
    rw [natBytes, digitsAux, digitsAux]
    split
    · rfl
    · have hlt := div_ten_lt ‹_›
      rw [ih _ hlt f _ (Nat.lt_of_lt_of_le hlt (Nat.le_of_lt_succ h)), ih _ hlt n _ hlt]
      simp

theorem natBytes_eq (n : Nat) :
    natBytes n = if n < 10 then [UInt8.ofNat (48 + n)] else natBytes (n / 10) ++ [UInt8.ofNat (48 + n % 10)] := by
  rw [natBytes, digitsAux]
  split
  · rfl
  · exact digitsAux_eq _ _ _ (div_ten_lt ‹_›)

theorem natBytes_dec (n : Nat) : natBytes n = Shared.dec n := by
  induction n using Nat.strongRecOn with
  | _ n ih =>
    rw [natBytes_eq, Shared.dec_eq]
    split
    · rfl
    · rw [ih _ (div_ten_lt ‹_›)]

theorem natBytes_digits (n : Nat) : ∀ c ∈ natBytes n, 48 ≤ c.toNat ∧ c.toNat ≤ 57 :=
  natBytes_dec n ▸ Shared.dec_digit n

theorem natBytes_ne_nil (n : Nat) : natBytes n ≠ [] := natBytes_dec n ▸ Shared.dec_ne_nil n

theorem natBytes_injective {m n : Nat} (h : natBytes m = natBytes n) : m = n :=
  Shared.dec_injective (natBytes_dec m ▸ natBytes_dec n ▸ h)

theorem natBytes_day_length (d : Nat) (h1 : 10000000 ≤ d) (h2 : d < 100000000) : (natBytes d).length = 8 :=
  natBytes_dec d ▸ Shared.dec_length_eq (k := 7) h1 h2

theorem dot_not_digit (n : Nat) : (46 : UInt8) ∉ natBytes n := fun h => by
  have := natBytes_digits n 46 h
  simp at this

theorem renderId_injective {a b : UKey} (h : renderId a = renderId b) : a = b := by
  unfold renderId at h
  simp only [List.append_assoc, List.singleton_append] at h
  have := Shared.split_at_sep _ _ _ _ (dot_not_digit a.day) (dot_not_digit b.day) h
  have hd := natBytes_injective this.1
  have hs := natBytes_injective this.2
  cases a; cases b; simp_all

end C20
