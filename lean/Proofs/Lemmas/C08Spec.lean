/-
Helper for C08 `lossless_spec`: what `newExtractor(key)` extracts from a result, in the vocabulary of
the name specification (Model/Spec/Name.lean; the extractor theorems of property C05).
-/
import Proofs.Lemmas.C08Loss
import Proofs.C05

namespace C08
open Proc.Sort Proc.Projection Proc.Extract

/-- The specified value of a specific key in a result: base name, GOMAXPROCS, the text after
`/k=` in the first part with that prefix, or the configured value. -/
def specKeyVal (k : Bytes) (r : Res) : Bytes :=
  if k = dotName then (Spec.Name.decomp r.name).1
  else if k = gomaxprocsKey then Spec.Name.gomaxprocs (Spec.Name.decomp r.name).2
  else if k.head? = some Fmt.Name.slash then Spec.Name.subname k (Spec.Name.decomp r.name).2
  else match r.config.find? (·.1 == k) with
    | some c => c.2.1
    | none => []

theorem extractD_spec (sp : Spec) (r : Res) (hs : isSpecific sp = true) :
    extractD sp.key r = specKeyVal sp.key r := by
  unfold isSpecific isErr at hs
  simp only [Bool.and_eq_true, Bool.not_eq_true', Bool.or_eq_false_iff, bne_iff_ne, ne_eq,
    Bool.and_eq_false_imp] at hs
  obtain ⟨⟨⟨⟨_, _⟩, h3⟩, hc⟩, hf⟩ := hs
  have h3' := h3 ⟨hc, hf⟩
  simp only [beq_eq_false_iff_ne, ne_eq] at h3'
  obtain ⟨hu, hem⟩ := h3'
  have hne : sp.key ≠ [] := by
    intro e; rw [e] at hem; simp at hem
  unfold extractD specKeyVal
  by_cases h1 : sp.key = dotName
  · rw [h1, C05.name_key, C05.parts_eq_spec]; simp [Res.view]
  · by_cases h2 : sp.key = gomaxprocsKey
    · rw [h2, C05.gomaxprocs_key, C05.parts_eq_spec]
      have : gomaxprocsKey ≠ dotName := by decide
      simp [this, Res.view]
    · by_cases h4 : sp.key.head? = some Fmt.Name.slash
      · cases hk : sp.key with
        | nil => exact absurd hk hne
        | cons c t =>
          rw [hk] at h4 h2 h1
          simp only [List.head?_cons, Option.some.injEq] at h4
          subst h4
          rw [C05.subname_key t r.view h2, C05.parts_eq_spec]
          simp [h1, h2, Res.view]
      · rw [C05.config_key sp.key r.view hne h4 hc hu h1 hf]
        simp only [h1, h2, h4, if_false, Res.view, List.find?_map]
        have : ((fun x : Bytes × Bytes => x.1 == sp.key) ∘ fun c : Bytes × Bytes × Bool => (c.1, c.2.1)) =
            fun c => c.1 == sp.key := rfl
        rw [this]
        cases r.config.find? (fun c => c.1 == sp.key) <;> rfl

end C08
