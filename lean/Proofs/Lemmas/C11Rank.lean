/-
C11: the rank loop of `MannWhitneyUTest` computes the pair-counting statistic, and its tie vector is
the run-length vector of the pooled sorted sample (no entry above 1 exactly for distinct values).
-/
import Model.Stats.UStat
import Model.Spec.UExact
import Proofs.Lemmas.C11Labelings
import Mathlib.Order.Defs.LinearOrder
import Mathlib.Order.Basic
import Mathlib.Tactic.Ring
import Mathlib.Tactic.Linarith
import Mathlib.Data.List.Perm.Basic
import Mathlib.Data.List.Dedup
import Proofs.Lemmas.Shared.Sort

namespace C11
open Stats.UStat Spec.UExact

variable {α : Type} [LinearOrder α]

/-- the model of `sort.Float64s` is an insertion sort in the sense of `Shared/Sort.lean` -/
theorem insertSorted_is : Shared.IsInsert (fun x y : α => ¬ y < x) insertSorted :=
  .of_flip (fun _ => rfl) fun _ _ _ => rfl

theorem sortF_perm (l : List α) : (sortF l).Perm l := insertSorted_is.sort_perm l

theorem le_decides : Shared.Decides (fun x y : α => ¬ y < x) (· ≤ ·) :=
  ⟨fun _ _ => le_of_not_gt, fun _ _ h => le_of_lt (not_not.1 h), fun _ _ _ h => le_trans (le_of_not_gt h)⟩

theorem sortF_sorted (l : List α) : (sortF l).Pairwise (· ≤ ·) := insertSorted_is.sort_pairwise le_decides l

theorem sortF_length (l : List α) : (sortF l).length = l.length := (sortF_perm l).length_eq

/-- the values of a labelled list (as `labeledMerge` builds it) that come from the first sample (`trues`, label `true`)
    resp. from the second (`falses`) -/
def trues (L : List (α × Bool)) : List α := (L.filter (fun p => p.2)).map (fun p => p.1)
def falses (L : List (α × Bool)) : List α := (L.filter (fun p => !p.2)).map (fun p => p.1)

set_option linter.unusedSectionVars false in
@[simp] theorem trues_nil : trues ([] : List (α × Bool)) = [] := rfl
set_option linter.unusedSectionVars false in
@[simp] theorem falses_nil : falses ([] : List (α × Bool)) = [] := rfl

section Labels
variable {β : Type}

@[simp] theorem trues_cons_true (a : β) (L : List (β × Bool)) : trues ((a, true) :: L) = a :: trues L := by
  simp [trues]
@[simp] theorem trues_cons_false (a : β) (L : List (β × Bool)) : trues ((a, false) :: L) = trues L := by
  simp [trues]
@[simp] theorem falses_cons_true (a : β) (L : List (β × Bool)) : falses ((a, true) :: L) = falses L := by
  simp [falses]
@[simp] theorem falses_cons_false (a : β) (L : List (β × Bool)) : falses ((a, false) :: L) = a :: falses L := by
  simp [falses]
theorem trues_append (L L' : List (β × Bool)) : trues (L ++ L') = trues L ++ trues L' := by
  simp [trues]
theorem falses_append (L L' : List (β × Bool)) : falses (L ++ L') = falses L ++ falses L' := by
  simp [falses]

theorem forall_trues {Q : β → Prop} {L : List (β × Bool)} (h : ∀ p ∈ L, Q p.1) : ∀ a ∈ trues L, Q a :=
  List.forall_mem_map.mpr fun p hp => h p (List.mem_of_mem_filter hp)

theorem forall_falses {Q : β → Prop} {L : List (β × Bool)} (h : ∀ p ∈ L, Q p.1) : ∀ a ∈ falses L, Q a :=
  List.forall_mem_map.mpr fun p hp => h p (List.mem_of_mem_filter hp)

theorem trues_falses_length (L : List (β × Bool)) :
    (trues L).length + (falses L).length = L.length := by
  induction L with
  | nil => rfl
  | cons p L ih =>
    obtain ⟨a, l⟩ := p
    cases l <;> simp <;> omega

end Labels

section Merge
variable {β : Type} [LT β] [DecidableLT β]

theorem labeledMerge_trues_falses (xs ys : List β) :
    trues (labeledMerge xs ys) = xs ∧ falses (labeledMerge xs ys) = ys := by
  fun_induction labeledMerge xs ys with
  | case1 ys => simp [trues, falses, List.filter_map, Function.comp_def]
  | case2 x xs => simp [trues, falses, List.filter_map, Function.comp_def]
  | case3 x xs y ys h ih => simp [ih.1, ih.2]
  | case4 x xs y ys h ih => simp [ih.1, ih.2]

theorem labeledMerge_values_perm (xs ys : List β) :
    ((labeledMerge xs ys).map fun p => p.1).Perm (xs ++ ys) := by
  fun_induction labeledMerge xs ys with
  | case1 ys => simp [Function.comp_def]
  | case2 x xs => simp [Function.comp_def]
  | case3 x xs y ys h ih => simpa using ih
  | case4 x xs y ys h ih =>
    simp only [List.map_cons]
    exact (List.Perm.cons y ih).trans List.perm_middle.symm

theorem labeledMerge_mem {p : β × Bool} {xs ys : List β} (h : p ∈ labeledMerge xs ys) :
    p.1 ∈ xs ∨ p.1 ∈ ys :=
  List.mem_append.mp ((labeledMerge_values_perm xs ys).mem_iff.mp (List.mem_map_of_mem h))

end Merge

theorem labeledMerge_sorted (xs ys : List α) (hx : xs.Pairwise (· ≤ ·)) (hy : ys.Pairwise (· ≤ ·)) :
    (labeledMerge xs ys).Pairwise (fun p q => p.1 ≤ q.1) := by
  fun_induction labeledMerge xs ys with
  | case1 ys => exact List.Pairwise.map _ (fun _ _ h => h) hy
  | case2 x xs => exact List.Pairwise.map _ (fun _ _ h => h) hx
  | case3 x xs y ys h ih =>
    rw [List.pairwise_cons]
    refine ⟨?_, ih (List.pairwise_cons.mp hx).2 hy⟩
    intro p hp
    rcases labeledMerge_mem hp with hp | hp
    · exact (List.pairwise_cons.mp hx).1 _ hp
    · rcases List.mem_cons.mp hp with hp | hp
      · rw [hp]; exact le_of_lt h
      · exact le_trans (le_of_lt h) ((List.pairwise_cons.mp hy).1 _ hp)
  | case4 x xs y ys h ih =>
    have hyx : y ≤ x := not_lt.mp h
    rw [List.pairwise_cons]
    refine ⟨?_, ih hx (List.pairwise_cons.mp hy).2⟩
    intro p hp
    rcases labeledMerge_mem hp with hp | hp
    · rcases List.mem_cons.mp hp with hp | hp
      · rw [hp]; exact hyx
      · exact le_trans hyx ((List.pairwise_cons.mp hx).1 _ hp)
    · exact (List.pairwise_cons.mp hy).1 _ hp

theorem sorted_head_run {β : Type} (key : β → α) (S : List β) : ∀ (x : β),
    (x :: S).Pairwise (fun p q => key p ≤ key q) →
    ∃ A B, x :: S = A ++ B ∧ (∀ p ∈ A, key p = key x) ∧ A ≠ [] ∧ (∀ p ∈ B, key x < key p) ∧
      B.Pairwise (fun p q => key p ≤ key q) ∧ B.length ≤ S.length := by
  induction S with
  | nil => intro x _; exact ⟨[x], [], rfl, by simp, by simp, by simp, List.Pairwise.nil, le_refl _⟩
  | cons b S ih =>
    intro x h
    rw [List.pairwise_cons] at h
    by_cases hba : key b = key x
    · obtain ⟨A, B, hAB, hA, _, hB, hBs, hlen⟩ := ih b h.2
      refine ⟨x :: A, B, by rw [hAB]; rfl,
        List.forall_mem_cons.2 ⟨rfl, fun p hp => (hA p hp).trans hba⟩, by simp,
        fun p hp => hba ▸ hB p hp, hBs, ?_⟩
      simp only [List.length_cons]; omega
    · have hab : key x < key b := lt_of_le_of_ne (h.1 b List.mem_cons_self) (Ne.symm hba)
      exact ⟨[x], b :: S, rfl, by simp, by simp,
        List.forall_mem_cons.2 ⟨hab, fun p hp =>
          lt_of_lt_of_le hab ((List.pairwise_cons.mp h.2).1 p hp)⟩, h.2, le_refl _⟩

theorem takeRun_run {β : Type} [DecidableEq β] (v : β) (run rest' : List (β × Bool))
    (hrun : ∀ p ∈ run, p.1 = v) (hrest : ∀ p ∈ rest', p.1 ≠ v) :
    takeRun v (run ++ rest') = (run.length, (trues run).length, rest') := by
  induction run with
  | nil =>
    match rest', hrest with
    | [], _ => rfl
    | (w, l) :: r, hrest =>
      rw [List.nil_append, takeRun, if_neg (hrest (w, l) List.mem_cons_self)]
      rfl
  | cons p run ih =>
    obtain ⟨w, l⟩ := p
    rw [List.cons_append, takeRun, if_pos (hrun (w, l) List.mem_cons_self),
      ih fun p hp => hrun p (List.mem_cons_of_mem _ hp)]
    cases l <;> rfl

theorem tieVectorOf_eq_map_count (ds M : List α) : tieVectorOf ds M = ds.map fun a => M.count a := by
  unfold tieVectorOf
  refine List.map_congr_left fun a _ => ?_
  rw [List.count_eq_countP, List.countP_eq_length_filter]
  congr 1

/-- multiplicities of the distinct values of `M`, in order of (last) occurrence -/
def tv (M : List α) : List Nat := tieVectorOf M.dedup M

theorem dedup_run (v : α) (A B : List α) (hA : ∀ a ∈ A, a = v) (hne : A ≠ [])
    (hB : ∀ b ∈ B, v < b) : (A ++ B).dedup = v :: B.dedup := by
  induction A with
  | nil => exact absurd rfl hne
  | cons a A ih =>
    have hav : a = v := hA a List.mem_cons_self
    subst hav
    by_cases hA' : A = []
    · subst hA'
      have : a ∉ B := fun h => lt_irrefl a (hB a h)
      simpa using List.dedup_cons_of_notMem this
    · have hmem : a ∈ A ++ B := by
        obtain ⟨a', A', rfl⟩ := List.exists_cons_of_ne_nil hA'
        have : a' = a := hA a' (List.mem_cons_of_mem _ List.mem_cons_self)
        subst this
        exact List.mem_append_left _ List.mem_cons_self
      rw [List.cons_append, List.dedup_cons_of_mem hmem]
      exact ih (fun x hx => hA x (List.mem_cons_of_mem _ hx)) hA'

theorem tv_run (v : α) (A B : List α) (hA : ∀ a ∈ A, a = v) (hne : A ≠ [])
    (hB : ∀ b ∈ B, v < b) : tv (A ++ B) = A.length :: tv B := by
  unfold tv
  rw [tieVectorOf_eq_map_count, tieVectorOf_eq_map_count, dedup_run v A B hA hne hB, List.map_cons]
  congr 1
  · rw [List.count_append, List.count_eq_length.mpr fun a ha => (hA a ha).symm,
      List.count_eq_zero.mpr fun h => lt_irrefl v (hB v h), Nat.add_zero]
  · apply List.map_congr_left
    intro a ha
    rw [List.count_append, List.count_eq_zero.mpr fun h => ne_of_gt (hB a (List.mem_dedup.mp ha)) (hA a h),
      Nat.zero_add]

/-- the outer loop on a sorted list, started at rank offset `i`: the doubled rank sum of the first
    sample grows by the doubled pair count `twoUPairs` plus n(n+1) + 2·i·n (n = first-sample members
    of `L`), and the tie vector of `L` is appended; `u_is_pair_count` is the case `i = 0` -/
theorem rankLoop_spec (fuel : Nat) : ∀ (i : Nat) (L : List (α × Bool)) (s : RankState),
    L.Pairwise (fun p q => p.1 ≤ q.1) → L.length ≤ fuel →
    (rankLoop fuel i L s).twoR1
        = s.twoR1 + twoUPairs (trues L) (falses L)
          + (trues L).length * ((trues L).length + 1) + 2 * i * (trues L).length
      ∧ (rankLoop fuel i L s).T = s.T ++ tv (L.map fun p => p.1) := by
  induction fuel with
  | zero =>
    intro i L s _ hl
    obtain rfl : L = [] := List.length_eq_zero_iff.mp (Nat.le_zero.mp hl)
    simp [rankLoop, twoUPairs_nil_left, tv, tieVectorOf]
  | succ fuel ih =>
    intro i L s hs hl
    match L, hs, hl with
    | [], _, _ => simp [rankLoop, twoUPairs_nil_left, tv, tieVectorOf]
    | (v, l) :: rest, hs, hl =>
      obtain ⟨run, rest', hL, hrun, hne, hrest, hs', hl'⟩ := sorted_head_run Prod.fst rest (v, l) hs
      have htr : takeRun v ((v, l) :: rest) = (run.length, (trues run).length, rest') := by
        rw [hL, takeRun_run v run rest' hrun fun p hp => ne_of_gt (hrest p hp)]
      simp only [rankLoop, htr]
      obtain ⟨ih1, ih2⟩ := ih (i + run.length) rest' _ hs'
        (by simp only [List.length_cons] at hl; omega)
      rw [ih1, ih2]
      constructor
      · rw [hL, trues_append, falses_append,
          twoUPairs_run v _ _ _ _ (forall_trues hrun) (forall_falses hrun) (forall_trues hrest)
            (forall_falses hrest),
          List.length_append, ← trues_falses_length run]
        generalize (falses run).length = d
        generalize (trues run).length = c
        generalize twoUPairs (trues rest') (falses rest') = P
        generalize (trues rest').length = m
        -- the run occupies ranks i+1 … i+c+d: each first-sample member gets the doubled average rank
        have e : (if c ≠ 0 then s.twoR1 + (i + (c + d) + (i + 1)) * c else s.twoR1)
            = s.twoR1 + (i + (c + d) + (i + 1)) * c := by
          split
          · rfl
          · rename_i h; rw [not_not.mp h, Nat.mul_zero, Nat.add_zero]
        rw [e]
        ring
      · have h1 : 1 ≤ run.length := List.length_pos_iff.mpr hne
        have e : i + run.length - (i + 1) + 1 = run.length := by omega
        rw [hL, List.map_append, tv_run v (run.map fun p => p.1) (rest'.map fun p => p.1)
          (List.forall_mem_map.mpr hrun) (by simpa using hne) (List.forall_mem_map.mpr hrest)]
        simp [e]

theorem ranks_twoR1 (xs ys : List α) (hx : xs.Pairwise (· ≤ ·)) (hy : ys.Pairwise (· ≤ ·)) :
    (ranks (labeledMerge xs ys)).twoR1 = twoUPairs xs ys + xs.length * (xs.length + 1) := by
  unfold ranks
  rw [(rankLoop_spec _ 0 _ _ (labeledMerge_sorted xs ys hx hy) (le_refl _)).1,
    (labeledMerge_trues_falses xs ys).1, (labeledMerge_trues_falses xs ys).2]
  simp

theorem u_is_pair_count (x1 x2 : List α) :
    Stats.UStat.twoU1 x1 x2 = ((Spec.UExact.twoUPairs x1 x2 : Nat) : Int) := by
  unfold twoU1
  rw [ranks_twoR1 _ _ (sortF_sorted x1) (sortF_sorted x2), sortF_length,
    twoUPairs_perm_left (sortF_perm x1), twoUPairs_perm_right _ (sortF_perm x2)]
  push_cast
  ring

theorem merged_values (x1 x2 : List α) :
    ((labeledMerge (sortF x1) (sortF x2)).map fun p => p.1) = sortF (x1 ++ x2) := by
  apply List.Perm.eq_of_pairwise (le := (· ≤ ·)) (fun a b _ _ hab hba => le_antisymm hab hba)
  · have := labeledMerge_sorted _ _ (sortF_sorted x1) (sortF_sorted x2)
    exact List.pairwise_map.mpr this
  · exact sortF_sorted _
  · exact (labeledMerge_values_perm _ _).trans
      (((sortF_perm x1).append (sortF_perm x2)).trans (sortF_perm (x1 ++ x2)).symm)

theorem tieVectorOf_perm (ds : List α) {M M' : List α} (h : M.Perm M') :
    tieVectorOf ds M = tieVectorOf ds M' := by
  rw [tieVectorOf_eq_map_count, tieVectorOf_eq_map_count]
  exact List.map_congr_left fun a _ => h.count_eq a

theorem tie_vector_is_run_lengths (x1 x2 : List α) :
    Stats.UStat.tieVector x1 x2
      = Spec.UExact.tieVectorOf ((Stats.UStat.sortF (x1 ++ x2)).dedup) (x1 ++ x2) := by
  unfold tieVector ranks
  rw [(rankLoop_spec _ 0 _ _ (labeledMerge_sorted _ _ (sortF_sorted x1) (sortF_sorted x2)) (le_refl _)).2,
    merged_values]
  simp only [List.nil_append, tv]
  exact tieVectorOf_perm _ (sortF_perm _)

theorem hasTies_tieVectorOf_eq_false_iff (pool : List α) :
    Stats.UDist.hasTies (tieVectorOf ((sortF pool).dedup) pool) = false ↔ pool.Nodup := by
  unfold Stats.UDist.hasTies
  rw [tieVectorOf_eq_map_count, List.any_eq_false, List.nodup_iff_count_le_one]
  constructor
  · intro h a
    by_cases ha : a ∈ pool
    · have := h _ (List.mem_map.mpr
        ⟨a, List.mem_dedup.mpr ((sortF_perm pool).mem_iff.mpr ha), rfl⟩)
      simpa using this
    · rw [List.count_eq_zero_of_not_mem ha]
      omega
  · intro h t ht
    obtain ⟨a, _, rfl⟩ := List.mem_map.mp ht
    simpa using h a

theorem tieVectorOf_nodup (pool : List α) (h : pool.Nodup) :
    Spec.UExact.tieVectorOf ((Stats.UStat.sortF pool).dedup) pool = List.replicate pool.length 1 := by
  rw [tieVectorOf_eq_map_count, List.Nodup.dedup ((sortF_perm pool).nodup_iff.mpr h),
    List.eq_replicate_iff]
  refine ⟨by rw [List.length_map, sortF_length], fun t ht => ?_⟩
  obtain ⟨a, ha, rfl⟩ := List.mem_map.mp ht
  exact List.count_eq_one_of_mem h ((sortF_perm pool).mem_iff.mp ha)

theorem rankLoop_hasTies (fuel : Nat) : ∀ (i : Nat) (L : List (α × Bool)) (s : RankState),
    ∃ T', (rankLoop fuel i L s).T = s.T ++ T' ∧
      (rankLoop fuel i L s).hasTies = (s.hasTies || T'.any fun t => decide (t > 1)) := by
  induction fuel with
  | zero => intro i L s; exact ⟨[], by simp [rankLoop]⟩
  | succ fuel ih =>
    intro i L s
    match L with
    | [] => exact ⟨[], by simp [rankLoop]⟩
    | (v, l) :: rest =>
      simp only [rankLoop]
      generalize takeRun v ((v, l) :: rest) = r
      obtain ⟨T', h1, h2⟩ := ih (i + r.1) r.2.2
        { twoR1 := if r.2.1 ≠ 0 then s.twoR1 + (i + r.1 + (i + 1)) * r.2.1 else s.twoR1
          T := s.T ++ [i + r.1 - (i + 1) + 1]
          hasTies := s.hasTies || decide (i + r.1 > i + 1) }
      refine ⟨(i + r.1 - (i + 1) + 1) :: T', ?_, ?_⟩
      · rw [h1]; simp
      · rw [h2]
        simp only [List.any_cons, Bool.or_assoc]
        congr 2
        simp only [decide_eq_decide]
        omega

theorem ranks_hasTies (L : List (α × Bool)) :
    (ranks L).hasTies = Stats.UDist.hasTies (ranks L).T := by
  unfold ranks
  obtain ⟨T', h1, h2⟩ := rankLoop_hasTies L.length 0 L { twoR1 := 0, T := [], hasTies := false }
  rw [h1, h2]
  rfl

theorem ranks_hasTies_iff (L : List (α × Bool)) :
    (ranks L).hasTies = true ↔ ∃ t ∈ (ranks L).T, t > 1 := by
  rw [ranks_hasTies, Stats.UDist.hasTies, List.any_eq_true]
  simp

end C11
