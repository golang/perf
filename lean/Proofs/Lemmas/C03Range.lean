/-
C03 helper lemmas: the specification's range rule (|value| ≥ 2^1024 − 2^970) is exactly
"the rounding saturates to infinity" (`F64.roundMag_eq_posInf_iff`), on the fractions of the specification.
-/
import Proofs.Lemmas.F64Interval
import Model.Num.Atof

namespace C03
open Num F64 Spec.NumText

theorem threshold_cast : ((overflowThreshold : Nat) : ℚ) = (2 : ℚ) ^ 1024 - (2 : ℚ) ^ 970 := by
  unfold overflowThreshold
  rw [Nat.cast_sub (Nat.pow_le_pow_right (by decide) (by decide)), Nat.cast_pow, Nat.cast_pow, Nat.cast_ofNat]

theorem thr_le_div (n d : Nat) (hd : 0 < d) : overflowThreshold * d ≤ n ↔ (overflowThreshold : ℚ) ≤ (n : ℚ) / d := by
  rw [le_div_iff₀ (Nat.cast_pos.2 hd)]; exact_mod_cast Iff.rfl

theorem roundMag_inf_iff (n d : Nat) (hd : 0 < d) :
    roundMag n d = posInf ↔ overflowThreshold * d ≤ n := by
  rw [roundMag_eq_posInf_iff n d hd, thr_le_div n d hd, threshold_cast]

theorem overflows_powFrac (b m : Nat) (e : Int) :
    overflows b m e = decide (overflowThreshold * (powFrac b m e).2 ≤ (powFrac b m e).1) := by
  unfold overflows powFrac
  split
  · rw [Nat.mul_one]
  · rfl

theorem overflows_iff (b m : Nat) (e : Int) (hb : 0 < b) :
    overflows b m e = true ↔ (2 : ℚ) ^ 1024 - (2 : ℚ) ^ 970 ≤ (m : ℚ) * (b : ℚ) ^ e := by
  rw [overflows_powFrac, decide_eq_true_eq, thr_le_div _ _ (powFrac_snd_pos m e hb), powFrac_ratio b m e hb,
    threshold_cast]

end C03
