/-
Bit patterns of float64 without rational numbers (core Lean only): a pattern is its sign bit and its
magnitude `magOf`, the predicates classify by the magnitude, and off NaN the comparison functions are
the order of the integer key `okey`; the total sort key `tkey`.
-/
import Model.Base.F64

namespace F64

theorem shr_eq_zero_iff (n k : Nat) : n >>> k = 0 ↔ n < 2 ^ k := by
  rw [Nat.shiftRight_eq_div_pow]; exact Nat.div_eq_zero_iff_lt (Nat.pow_pos (by decide))

theorem expField_eq (b : Bits) : expField b = b.toNat / 2 ^ 52 % 2 ^ 11 := by
  unfold expField
  rw [UInt64.toNat_and, UInt64.toNat_shiftRight]
  have : (2047 : UInt64).toNat = 2 ^ 11 - 1 := by decide
  rw [this, Nat.and_two_pow_sub_one_eq_mod, Nat.shiftRight_eq_div_pow]
  rfl

theorem fracField_eq (b : Bits) : fracField b = b.toNat % 2 ^ 52 := by
  unfold fracField
  rw [UInt64.toNat_and]
  have : (0xFFFFFFFFFFFFF : UInt64).toNat = 2 ^ 52 - 1 := by decide
  rw [this, Nat.and_two_pow_sub_one_eq_mod]

theorem signBit_false_iff (b : Bits) : signBit b = false ↔ b.toNat < 2 ^ 63 := by
  unfold signBit
  rw [bne_eq_false_iff_eq, ← UInt64.toNat_inj, UInt64.toNat_shiftRight, Nat.shiftRight_eq_div_pow]
  have : (63 : UInt64).toNat % 64 = 63 := by decide
  rw [this]
  have : (0 : UInt64).toNat = 0 := by decide
  rw [this]
  have := b.toNat_lt
  omega

theorem fracField_lt (x : Bits) : fracField x < 2 ^ 52 := by
  rw [fracField_eq]; exact Nat.mod_lt _ (by decide)

theorem expField_lt (x : Bits) : expField x < 2 ^ 11 := by
  rw [expField_eq]; exact Nat.mod_lt _ (by decide)

/-- the magnitude bits of a pattern -/
def magOf (x : Bits) : Nat := expField x * 2 ^ 52 + fracField x

theorem magOf_eq_mod (x : Bits) : magOf x = x.toNat % 2 ^ 63 := by
  unfold magOf; rw [expField_eq, fracField_eq]; omega

theorem magOf_lt (b : Bits) : magOf b < 2 ^ 63 := by
  rw [magOf_eq_mod]; exact Nat.mod_lt _ (by decide)

theorem toNat_decomp_full (x : Bits) :
    x.toNat = (if signBit x then 2 ^ 63 else 0) + magOf x := by
  have hs := signBit_false_iff x
  have hlt := x.toNat_lt
  rw [magOf_eq_mod]
  cases h : signBit x
  · have := hs.mp h; simp only [Bool.false_eq_true, if_false]; omega
  · have : ¬ x.toNat < 2 ^ 63 := fun h' => by rw [hs.mpr h'] at h; cases h
    simp only [if_true]; omega

theorem eq_of_sign_mag (a b : Bits) (hs : signBit a = signBit b) (hm : magOf a = magOf b) : a = b := by
  rw [← UInt64.toNat_inj, toNat_decomp_full a, toNat_decomp_full b, hs, hm]

theorem isZero_iff (b : Bits) : isZero b = true ↔ magOf b = 0 := by
  have := fracField_lt b
  unfold isZero magOf
  simp only [Bool.and_eq_true, beq_iff_eq]; omega
theorem isInf_iff (b : Bits) : isInf b = true ↔ magOf b = 0x7FF0000000000000 := by
  have := fracField_lt b
  unfold isInf magOf
  simp only [Bool.and_eq_true, beq_iff_eq]; omega
theorem isFinite_iff (b : Bits) : isFinite b = true ↔ magOf b < 0x7FF0000000000000 := by
  have := fracField_lt b; have := expField_lt b
  unfold isFinite magOf
  simp only [bne_iff_ne, ne_eq]; omega
theorem isNaN_false_iff (b : Bits) : isNaN b = false ↔ magOf b ≤ 0x7FF0000000000000 := by
  have := fracField_lt b; have := expField_lt b
  unfold isNaN magOf
  simp only [← Bool.not_eq_true, Bool.and_eq_true, beq_iff_eq, bne_iff_ne, ne_eq]; omega
theorem isZero_false_iff (b : Bits) : isZero b = false ↔ 0 < magOf b := by
  rw [← Bool.not_eq_true, isZero_iff]; omega
theorem isInf_false_iff (b : Bits) : isInf b = false ↔ magOf b ≠ 0x7FF0000000000000 := by
  rw [← Bool.not_eq_true, isInf_iff]

theorem isNaN_of_finite {b : Bits} (h : isFinite b = true) : isNaN b = false := by
  rw [isNaN_false_iff]; rw [isFinite_iff] at h; omega
theorem isInf_of_finite {b : Bits} (h : isFinite b = true) : isInf b = false := by
  rw [isInf_false_iff]; rw [isFinite_iff] at h; omega

theorem isFinite_of_not_nan_inf {b : Bits} (hn : isNaN b = false) (hi : isInf b = false) : isFinite b = true := by
  rw [isFinite_iff]; rw [isNaN_false_iff] at hn; rw [isInf_false_iff] at hi; omega

theorem isFinite_of_toNat_lt (b : Bits) (h : b.toNat < 0x7FF0000000000000) : isFinite b = true := by
  rw [isFinite_iff]
  have := toNat_decomp_full b
  have hs : signBit b = false := by rw [signBit_false_iff]; omega
  rw [hs] at this; simp at this; omega

theorem or_negZero_toNat (m : Bits) (hm : m.toNat < 2 ^ 63) :
    (m ||| negZero).toNat = 2 ^ 63 + m.toNat := by
  rw [UInt64.toNat_or]
  have : negZero.toNat = 2 ^ 63 * 1 := by decide
  rw [this, Nat.or_comm, ← Nat.two_pow_add_eq_or_of_lt hm 1]

theorem roundMag_le_inf (num den : Nat) : (roundMag num den).toNat ≤ 0x7FF0000000000000 := by
  unfold roundMag
  split
  · decide
  · simp only []
    split
    · decide
    · rw [UInt64.toNat_ofNat']
      have : ∀ x : Nat, x % 2 ^ 64 ≤ x := fun x => Nat.mod_le _ _
      omega

theorem signBit_inf (s : Bool) : signBit (inf s) = s := by cases s <;> decide
theorem magOf_inf (s : Bool) : magOf (inf s) = 0x7FF0000000000000 :=
  (isInf_iff _).mp (by cases s <;> decide)
theorem signBit_zero (s : Bool) : signBit (zero s) = s := by cases s <;> decide
theorem isZero_zero (s : Bool) : isZero (zero s) = true := by cases s <;> decide
theorem isFinite_zero (s : Bool) : isFinite (zero s) = true := by cases s <;> decide
theorem magOf_zero (s : Bool) : magOf (zero s) = 0 := (isZero_iff _).mp (isZero_zero s)

theorem roundRat_false (n d : Nat) : roundRat false n d = roundMag n d := by
  simp only [roundRat, Bool.false_eq_true, if_false]
theorem roundRat_true (n d : Nat) : roundRat true n d = roundMag n d ||| negZero := by
  simp only [roundRat, if_true]

/-- what `roundRat` does with the sign -/
def signed (s : Bool) (y : Bits) : Bits := if s then y ||| negZero else y

theorem roundRat_eq_signed (s : Bool) (n d : Nat) : roundRat s n d = signed s (roundMag n d) := rfl

theorem signBit_roundRat (s : Bool) (n d : Nat) : signBit (roundRat s n d) = s := by
  have h := roundMag_le_inf n d
  cases s
  · rw [roundRat_false, signBit_false_iff]; omega
  · rw [roundRat_true, ← Bool.not_eq_false, signBit_false_iff, or_negZero_toNat _ (by omega)]; omega

theorem magOf_roundRat (s : Bool) (n d : Nat) : magOf (roundRat s n d) = (roundMag n d).toNat := by
  have h := roundMag_le_inf n d
  cases s
  · rw [roundRat_false, magOf_eq_mod]; exact Nat.mod_eq_of_lt (by omega)
  · rw [roundRat_true, magOf_eq_mod, or_negZero_toNat _ (by omega)]; omega

theorem roundRat_isNaN (s : Bool) (n d : Nat) : isNaN (roundRat s n d) = false := by
  rw [isNaN_false_iff, magOf_roundRat]; exact roundMag_le_inf n d

/-- sign and magnitude as one integer: off NaN the float order is the order of `okey`
(−0 and +0 coincide) -/
def okey (b : Bits) : Int := if signBit b then -(magOf b : Int) else magOf b

theorem lt_iff_okey (a b : Bits) (ha : isNaN a = false) (hb : isNaN b = false) :
    lt a b = true ↔ okey a < okey b := by
  have ea := toNat_decomp_full a
  have eb := toNat_decomp_full b
  have la := magOf_lt a
  have lb := magOf_lt b
  unfold lt okey
  simp only [ha, hb, Bool.or_self, Bool.false_eq_true, if_false, Bool.and_eq_true, isZero_iff,
    UInt64.lt_iff_toNat_lt]
  generalize magOf a = ma at *
  generalize magOf b = mb at *
  -- by the four sign combinations: with equal signs `lt` compares the magnitudes (the other way
  -- round for negatives), with opposite signs it is decided by the signs unless both are zero;
  -- `omega` reads each case off `toNat = sign bit + magnitude` (`ea`, `eb`)
  cases sa : signBit a <;> cases sb : signBit b <;>
    simp only [sa, sb, Bool.false_eq_true, if_false, if_true] at ea eb ⊢ <;>
    split <;> simp only [decide_eq_true_eq, Bool.false_eq_true, false_iff, true_iff] <;> omega

theorem eq_iff_okey (a b : Bits) (ha : isNaN a = false) (hb : isNaN b = false) :
    eq a b = true ↔ okey a = okey b := by
  have ea := toNat_decomp_full a
  have eb := toNat_decomp_full b
  have la := magOf_lt a
  have lb := magOf_lt b
  unfold eq okey
  simp only [ha, hb, Bool.or_self, Bool.false_eq_true, if_false, Bool.if_true_left, Bool.or_eq_true,
    Bool.and_eq_true, decide_eq_true_eq, beq_iff_eq, ← UInt64.toNat_inj, isZero_iff]
  generalize magOf a = ma at *
  generalize magOf b = mb at *
  cases sa : signBit a <;> cases sb : signBit b <;>
    simp only [sa, sb, Bool.false_eq_true, if_false, if_true] at ea eb ⊢ <;>
    omega

theorem lt_eq_false_of_isNaN {a b : Bits} (h : isNaN a = true ∨ isNaN b = true) : lt a b = false := by
  unfold lt; rw [if_pos (by rw [Bool.or_eq_true]; exact h)]


theorem lt_asymm' (a b : Bits) (h : lt a b = true) : lt b a = false := by
  cases ha : isNaN a
  · cases hb : isNaN b
    · have := (lt_iff_okey a b ha hb).mp h
      rw [← Bool.not_eq_true, lt_iff_okey b a hb ha]; omega
    · exact lt_eq_false_of_isNaN (Or.inl hb)
  · exact lt_eq_false_of_isNaN (Or.inr ha)

theorem lt_irrefl' (a : Bits) : lt a a = false := by
  cases h : lt a a
  · rfl
  · exact h.symm.trans (lt_asymm' a a h)

theorem lt_trans' (a b c : Bits) (ha : isNaN a = false) (hb : isNaN b = false) (hc : isNaN c = false)
    (h1 : lt a b = true) (h2 : lt b c = true) : lt a c = true := by
  rw [lt_iff_okey _ _ ha hb] at h1; rw [lt_iff_okey _ _ hb hc] at h2
  rw [lt_iff_okey _ _ ha hc]; omega

theorem lt_negtrans (a b c : Bits) (ha : isNaN a = false) (hb : isNaN b = false) (hc : isNaN c = false)
    (h1 : lt a b = false) (h2 : lt b c = false) : lt a c = false := by
  rw [← Bool.not_eq_true, lt_iff_okey _ _ ha hb] at h1
  rw [← Bool.not_eq_true, lt_iff_okey _ _ hb hc] at h2
  rw [← Bool.not_eq_true, lt_iff_okey _ _ ha hc]
  omega

theorem lt_trichotomy' (a b : Bits) (ha : isNaN a = false) (hb : isNaN b = false) :
    lt a b = true ∨ eq a b = true ∨ lt b a = true := by
  rw [lt_iff_okey _ _ ha hb, eq_iff_okey _ _ ha hb, lt_iff_okey _ _ hb ha]; omega

theorem eq_refl' (a : Bits) (ha : isNaN a = false) : eq a a = true := by
  rw [eq_iff_okey _ _ ha ha]

theorem eq_congr_lt (a a' b : Bits) (ha : isNaN a = false) (ha' : isNaN a' = false)
    (hb : isNaN b = false) (h : eq a a' = true) : lt a b = lt a' b := by
  rw [eq_iff_okey _ _ ha ha'] at h
  rw [Bool.eq_iff_iff, lt_iff_okey _ _ ha hb, lt_iff_okey _ _ ha' hb, h]

/-- `okey` separates all patterns but −0 from +0 -/
theorem okey_inj (a b : Bits) (ha : a ≠ negZero) (hb : b ≠ negZero) (h : okey a = okey b) : a = b := by
  have da := toNat_decomp_full a; have db := toNat_decomp_full b
  have la := magOf_lt a; have lb := magOf_lt b
  have nz : negZero.toNat = 2 ^ 63 := by decide
  have ha' : a.toNat ≠ 2 ^ 63 := fun h => ha (by rw [← UInt64.toNat_inj, h, nz])
  have hb' : b.toNat ≠ 2 ^ 63 := fun h => hb (by rw [← UInt64.toNat_inj, h, nz])
  rw [← UInt64.toNat_inj]
  unfold okey at h
  cases hsa : signBit a <;> cases hsb : signBit b <;>
    simp only [hsa, hsb, if_true, if_false, Bool.false_eq_true] at da db h <;> omega

/-- total order key of the sorts (`slices.SortFunc` with `cmp.Compare` and the sign-bit tie-break):
the value order `okey` doubled, the negative one of a pair first, so −0 comes just before +0;
it separates all patterns -/
def tkey (b : Bits) : Int := 2 * okey b - (signBit b).toNat

theorem tkey_inj (a b : Bits) (h : tkey a = tkey b) : a = b := by
  have la := magOf_lt a
  have lb := magOf_lt b
  unfold tkey okey at h
  cases sa : signBit a <;> cases sb : signBit b <;>
    simp only [sa, sb, Bool.false_eq_true, if_false, if_true, Bool.toNat_false, Bool.toNat_true] at h
  · exact eq_of_sign_mag a b (sa.trans sb.symm) (by omega)
  · omega
  · omega
  · exact eq_of_sign_mag a b (sa.trans sb.symm) (by omega)

end F64
