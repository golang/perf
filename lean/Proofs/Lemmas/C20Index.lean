/-
C20 helper lemmas: one file part. The file store (`FsStep`: which names a step may touch; what Close leaves under a name), the
writes of `indexFile` (`FaultFree`: a range of file-store calls the fault does not hit), and the three ways
`indexFile` ends (`FileEnd`).
-/
import Proofs.Lemmas.C20Tx
import Proofs.Lemmas.Shared.Sort

namespace C20
open Storage.Upload

theorem mem_remove {s : Store} {p : Path} {e : Path × Bytes} :
    e ∈ s.remove p ↔ e ∈ s ∧ e.1 ≠ p := by
  simp [Store.remove, List.mem_filter]

theorem mem_put {s : Store} {p : Path} {c : Bytes} {e : Path × Bytes} :
    e ∈ s.put p c ↔ (e ∈ s ∧ e.1 ≠ p) ∨ e = (p, c) := by
  simp [Store.put, mem_remove]

theorem not_mem_remove (s : Store) (p : Path) : p ∉ (s.remove p).map Prod.fst := by
  intro h
  obtain ⟨e, he, rfl⟩ := List.mem_map.mp h
  exact (mem_remove.mp he).2 rfl

theorem remove_put (s : Store) (p : Path) (c : Bytes) : (s.put p c).remove p = s.remove p := by
  simp [Store.put, Store.remove, List.filter_append, List.filter_filter]

theorem filter_put_self (s : Store) (p : Path) (c : Bytes) : (s.put p c).filter (fun e => e.1 == p) = [(p, c)] := by
  simp [Store.put, Store.remove, List.filter_append, List.filter_filter]

theorem filter_put_ne (s : Store) {p q : Path} (c : Bytes) (h : q ≠ p) :
    (s.put p c).filter (fun e => e.1 == q) = s.filter (fun e => e.1 == q) := by
  have hp : [(p, c)].filter (fun e => e.1 == q) = [] := by simp [Ne.symm h]
  rw [Store.put, Store.remove, List.filter_append, List.filter_filter, hp, List.append_nil]
  refine List.filter_congr fun e _ => ?_
  by_cases he : e.1 = q <;> simp [he, h]

/-- everything new in `b` belongs to upload `k`; everything of other uploads in `a` is still in `b` -/
def FsStep (k : UKey) (a b : Store) : Prop :=
  (∀ e ∈ b, e ∈ a ∨ e.1.up = k) ∧ (∀ e ∈ a, e.1.up ≠ k → e ∈ b)

theorem FsStep.refl (k : UKey) (a : Store) : FsStep k a a := ⟨fun _ h => Or.inl h, fun _ h _ => h⟩

theorem FsStep.trans {k : UKey} {a b c : Store} (h1 : FsStep k a b) (h2 : FsStep k b c) : FsStep k a c :=
  ⟨fun e he => (h2.1 e he).elim (h1.1 e) Or.inr, fun e he hk => h2.2 e (h1.2 e he hk) hk⟩

theorem FsStep.remove (a : Store) (p : Path) : FsStep p.up a (a.remove p) :=
  ⟨fun _ he => Or.inl (mem_remove.mp he).1, fun _ he hk => mem_remove.mpr ⟨he, fun h => hk (h ▸ rfl)⟩⟩

theorem FsStep.put (a : Store) (p : Path) (c : Bytes) : FsStep p.up a (a.put p c) := by
  refine ⟨fun e he => ?_, fun e he hk => mem_put.mpr (Or.inl ⟨he, fun h => hk (h ▸ rfl)⟩)⟩
  rcases mem_put.mp he with h | rfl
  · exact Or.inl h.1
  · exact Or.inr rfl

theorem failsAt_self (ft : Fault) : failsAt (some ft) ft.k = true := by
  show (if ft.sticky then decide (ft.k ≤ ft.k) else ft.k == ft.k) = true
  split <;> simp

/-- none of the file-store calls `a`, …, `b - 1` is hit by the fault -/
def FaultFree (f : Option Fault) (a b : Nat) : Prop := ∀ j, a ≤ j → j < b → failsAt f j = false

theorem FaultFree.one {f : Option Fault} {a : Nat} (h : ¬ failsAt f a = true) : FaultFree f a (a + 1) := by
  intro j h1 h2
  obtain rfl : j = a := by omega
  simpa using h

theorem FaultFree.trans {f : Option Fault} {a b c : Nat} (h1 : FaultFree f a b) (h2 : FaultFree f b c) :
    FaultFree f a c :=
  fun j ha hc => (Nat.lt_or_ge j b).elim (h1 j ha) fun hb => h2 j hb hc

theorem doWrites_ok {f : Option Fault} {ws : List Bytes} {opc : Nat} {res : Bool × Nat × Bytes × List Op}
    (hres : doWrites f ws opc = res) (h : res.1 = false) :
    res.2.1 = opc + ws.length ∧ res.2.2.1 = ws.flatten ∧ FaultFree f opc res.2.1 := by
  subst hres
  induction ws generalizing opc with
  | nil => exact ⟨rfl, rfl, fun j h1 h2 => absurd h2 (Nat.not_lt.mpr h1)⟩
  | cons w ws ih =>
    simp only [doWrites] at h ⊢
    split at h
    · simp at h
    · rename_i hf
      simp only at h
      rw [if_neg hf]
      have := ih h
      exact ⟨by simp only [List.length_cons]; omega, by simp [this.2.1], (FaultFree.one hf).trans this.2.2⟩

theorem insertSorted_is : Shared.IsInsert (fun x y : Bytes × Bytes => bytesLt x.1 y.1 = true) insertSorted :=
  ⟨fun _ => rfl, fun _ _ _ => rfl⟩

theorem sortLabels_length (l : Labels) : (sortLabels l).length = l.length :=
  (insertSorted_is.sort_perm l).length_eq

/-- number of metadata header lines -/
def nkeys (env : Env) (fname : Bytes) : Nat :=
  3 + (if fname.isEmpty then 0 else 1) + (if env.user.isEmpty then 0 else 1)

theorem mkMeta_length (env : Env) (k : UKey) (i : Nat) (fname : Bytes) : (mkMeta env k i fname).length = nkeys env fname := by
  unfold mkMeta nkeys
  split <;> split <;> simp

/-- file-store calls a fault-free run makes for one file: NewWriter, header lines and separator,
one Write per read, Close -/
def fileOps (env : Env) (fname content : Bytes) (chunks : List Nat) : Nat :=
  1 + (nkeys env fname + 1) + (splitChunks content chunks).length + 1

theorem splitChunks_flatten (b : Bytes) (ns : List Nat) : (splitChunks b ns).flatten = b := by
  induction ns generalizing b with
  | nil => simp only [splitChunks]; split <;> simp_all
  | cons n ns ih =>
    simp only [splitChunks]
    split
    · simp_all
    · split
      · exact ih b
      · simp [ih]

/-- the bytes a successful upload stores for a file: sorted metadata header, blank line, content -/
def fileBytes (env : Env) (k : UKey) (i : Nat) (fname content : Bytes) : Bytes :=
  ((sortLabels (mkMeta env k i fname)).map headerLine ++ [[10]]).flatten ++ content

/-- a part that lets the loop go on -/
def partOk : Part → Prop
  | Part.field name => name = commitWord
  | Part.file _ content cut _ => cut = false ∧ ∃ l ∈ splitLines content, isResultLine l = true

/-- The three ways `indexFile` ends. -/
inductive FileEnd (f : Option Fault) (env : Env) (r : Run) (t : Tx) (x : FileIn) : Run × Tx × Option Err → Prop
  /-- NewWriter fails -/
  | refused : FileEnd f env r t x ({ r with opc := r.opc + 1, trace := r.trace ++ [Op.nw false] }, t, some Err.fs)
  /-- any later failure: the writer is closed with an error and the name is not in the store -/
  | failed {t' : Tx} (opc : Nat) (tr : List Op) (e : Err) : t'.id = t.id →
      FileEnd f env r t x ({ r with opc := opc, trace := tr, inprog := some ⟨t.id, x.idx⟩,
                                    fs := r.fs.remove ⟨t.id, x.idx⟩ }, t', some e)
  /-- success: every file-store call went through, the part was acceptable, its lines are inserted -/
  | stored {t' : Tx} (tr : List Op) : TxExt t t' (fileLines x.content) →
      partOk (Part.file x.fname x.content x.cut x.chunks) →
      FaultFree f r.opc (r.opc + fileOps env x.fname x.content x.chunks) →
      FileEnd f env r t x ({ r with opc := r.opc + fileOps env x.fname x.content x.chunks, trace := tr,
                                    fs := r.fs.put ⟨t.id, x.idx⟩ (fileBytes env t.id x.idx x.fname x.content) },
                           t', none)

theorem indexFile_cases (env : Env) (f : Option Fault) (r : Run) (t : Tx) (x : FileIn) :
    FileEnd f env r t x (indexFile env f r t x) := by
  unfold indexFile
  -- the results of the two `doWrites` runs become variables; the branches are then taken one at a time with
  -- `by_cases` and `rw`, which is far cheaper to check than `split` on the whole body
  extract_lets p md opc h ops0 b buf ops results
  have hres : results.map (·.line) = fileLines x.content := readResults_lines md _ md
  clear_value (hh : h = _) (hbb : b = _) results
  have hw := doWrites_ok hh.symm
  have hb := doWrites_ok hbb.symm
  clear hh hbb
  simp only [List.length_append, List.length_map, sortLabels_length, md, mkMeta_length, List.length_cons,
    List.length_nil, opc] at hw
  by_cases hnw : failsAt f r.opc = true
  · rw [if_pos hnw]
    exact .refused
  rw [if_neg hnw]
  by_cases hh : h.1 = true
  · rw [if_pos hh]
    exact .failed _ _ _ rfl
  rw [if_neg hh]
  by_cases hbb : b.1 = true
  · rw [if_pos hbb]
    exact .failed _ _ _ rfl
  rw [if_neg hbb]
  cases ht' : t.insertRecords results with
  | none => exact .failed _ _ _ rfl
  | some t' =>
    have ext := hres ▸ TxExt.insertRecords ht'
    dsimp only
    by_cases hcut : x.cut = true
    · rw [if_pos hcut]
      exact .failed _ _ _ ext.id
    rw [if_neg hcut]
    by_cases hemp : results.isEmpty = true
    · rw [if_pos hemp]
      exact .failed _ _ _ ext.id
    rw [if_neg hemp]
    by_cases hcl : failsAt f b.2.1 = true
    · -- Close fails, then CloseWithError
      have : (if leavesOf f = true then r.fs.put p buf else r.fs).remove p = r.fs.remove p := by
        split
        · exact remove_put _ _ _
        · rfl
      rw [if_pos hcl, this]
      exact .failed _ _ _ ext.id
    obtain ⟨w1, w2, w3⟩ := hw (by simpa using hh)
    obtain ⟨b1, b2, b3⟩ := hb (by simpa using hbb)
    have e1 : b.2.1 + 1 = r.opc + fileOps env x.fname x.content x.chunks := by
      unfold fileOps
      omega
    have e2 : buf = fileBytes env t.id x.idx x.fname x.content := by
      simp only [buf, w2, b2, splitChunks_flatten, fileBytes]
    have hlines : fileLines x.content ≠ [] := by
      rw [← hres]
      simpa using hemp
    obtain ⟨l, hl⟩ := List.exists_mem_of_ne_nil _ hlines
    rw [if_neg hcl, e1, e2]
    -- NewWriter, the header writes, the body writes, Close
    exact .stored _ ext ⟨by simpa using hcut, l, List.mem_filter.mp hl⟩
      (e1 ▸ (((FaultFree.one hnw).trans w3).trans b3).trans (.one hcl))

/-- what one `indexFile` call can do to the state -/
structure FileStep (t : Tx) (r r2 : Run) (t2 : Tx) (e : Option Err) : Prop where
  id : t2.id = t.id
  uploads : r2.uploads = r.uploads
  tx : r2.tx = r.tx
  fileids : r2.fileids = r.fileids
  fs : FsStep t.id r.fs r2.fs
  inprog_ok : e = none → r2.inprog = r.inprog
  inprog_err : ∀ p, r.inprog = none → r2.inprog = some p → e ≠ none ∧ p ∉ r2.fs.map Prod.fst

theorem FileEnd.step {env : Env} {f : Option Fault} {r r2 : Run} {t t2 : Tx} {x : FileIn} {e : Option Err}
    (h : FileEnd f env r t x (r2, t2, e)) : FileStep t r r2 t2 e := by
  cases h with
  | refused => exact ⟨rfl, rfl, rfl, rfl, .refl _ _, fun _ => rfl, fun p h1 h2 => by simp [h1] at h2⟩
  | failed opc tr e hid =>
    refine ⟨hid, rfl, rfl, rfl, .remove _ ⟨t.id, x.idx⟩, nofun, fun p _ h2 => ?_⟩
    cases h2
    exact ⟨by simp, not_mem_remove _ _⟩
  | stored tr ext _ _ =>
    exact ⟨ext.id, rfl, rfl, rfl, .put _ ⟨t.id, x.idx⟩ _, fun _ => rfl, fun p h1 h2 => by simp [h1] at h2⟩

end C20
