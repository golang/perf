/-
C11 helper lemmas shared by the other C11 lemma files: Go accumulation loops as sums; the model's
multiplicative binomial is `Nat.choose`; the CDF wrapper branch by branch.
-/
import Model.Stats.UDist
import Model.Spec.UExact
import Mathlib.Data.Nat.Choose.Basic
import Mathlib.Algebra.BigOperators.Group.Finset.Basic

namespace C11
open Stats.UDist

theorem foldl_add_eq_sum {M : Type} [AddCommMonoid M] (g : Nat → M) (n : Nat) :
    (List.range n).foldl (fun acc i => acc + g i) 0 = ∑ i ∈ Finset.range n, g i := by
  induction n with
  | zero => rfl
  | succ n ih => rw [List.range_succ, List.foldl_append, ih, Finset.sum_range_succ]; rfl

theorem foldl_choose_aux (n k : Nat) (hk : k ≤ n) :
    (List.range k).foldl (fun acc i => acc * (n - i) / (i + 1)) 1 = Nat.choose n k := by
  induction k with
  | zero => simp
  | succ k ih =>
    rw [List.range_succ, List.foldl_append, ih (Nat.le_of_succ_le hk)]
    simp only [List.foldl_cons, List.foldl_nil]
    have h := Nat.choose_succ_right_eq n k
    rw [← h, Nat.mul_div_cancel _ (Nat.succ_pos k)]

theorem choose_eq (n k : Nat) : choose n k = Nat.choose n k := by
  unfold choose
  split
  · rename_i h; exact (Nat.choose_eq_zero_of_lt h).symm
  · rename_i h; exact foldl_choose_aux n k (Nat.le_of_not_gt h)

/-- the specification's binomial is defined by the same text as the model's -/
theorem spec_choose_eq (n k : Nat) : Spec.UExact.choose n k = Nat.choose n k :=
  (rfl : Spec.UExact.choose n k = choose n k).trans (choose_eq n k)

theorem chooseI_eq (n k : Nat) : chooseI (n : Int) (k : Int) = Nat.choose n k := by
  unfold chooseI
  split
  · rename_i h
    rcases h with h | h
    · omega
    · have : n < k := by exact_mod_cast h
      exact (Nat.choose_eq_zero_of_lt this).symm
  · simp [choose_eq]

theorem cdfPure_neg (n1 n2 : Nat) (T : List Nat) {v : Int} (h : v < 0) : cdfPure n1 n2 T v = 0 := by
  unfold cdfPure cdfWith
  rw [if_pos h]

theorem cdfPure_top (n1 n2 : Nat) (T : List Nat) {v : Int} (h : 2 * ((n1 * n2 : Nat) : Int) ≤ v) :
    cdfPure n1 n2 T v = 1 := by
  unfold cdfPure cdfWith
  rw [if_neg (by omega), if_pos h]

theorem cdfPure_tied (n1 n2 : Nat) {T : List Nat} (hT : hasTies T = true) {v : Int} (h0 : 0 ≤ v)
    (h1 : v < 2 * ((n1 * n2 : Nat) : Int)) :
    cdfPure n1 n2 T v = ((A T T.length n1 v : Nat) : Rat) / ((choose (n1 + n2) n1 : Nat) : Rat) := by
  unfold cdfPure cdfWith
  rw [if_neg (by omega), if_neg (by omega), if_pos hT]

end C11
