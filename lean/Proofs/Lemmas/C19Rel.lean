/-
C19 helper lemmas: from the query text to the set of selected records.
-/
import Model.Storage.Query
import Proofs.Lemmas.C19Order
import Proofs.Lemmas.C19Merge
import Proofs.Lemmas.Shared.Sort
import Mathlib.Data.List.Nodup

namespace C19
open Storage.Query

/-- `satG` at the bytewise order -/
abbrev sat (p : Part) (v : Bytes) : Prop := satG blt p v

theorem merge_sat_bytes (p p2 : Part) (v : Bytes) (hv : v ≠ []) :
    satOpt blt (merge p p2) v ↔ (sat p v ∧ sat p2 v) :=
  @merge_sat Bytes bytesOrder blt [] (fun _ _ => Iff.rfl) (fun v => blt_nil_right v) p p2 v hv

/-- the labels of one record: a functional relation key ↦ value without empty values -/
structure LabelRel (L : Bytes → Bytes → Prop) : Prop where
  functional : ∀ k v1 v2, L k v1 → L k v2 → v1 = v2
  nonempty : ∀ k v, L k v → v ≠ []

/-- a record with labels `L` satisfies the term `p` -/
def termSat (L : Bytes → Bytes → Prop) (p : Part) : Prop := ∃ v, L p.key v ∧ sat p v

def tblSat (L : Bytes → Bytes → Prop) (tbl : List Part) : Prop := ∀ t ∈ tbl, termSat L t

variable {L : Bytes → Bytes → Prop}

theorem bind_eq_ok {ε α β : Type} (x : Except ε α) (f : α → Except ε β) (b : β) :
    (x >>= f) = .ok b ↔ ∃ a, x = .ok a ∧ f a = .ok b := by
  cases x <;> simp [bind, Except.bind]

theorem bind_eq_error {ε α β : Type} (x : Except ε α) (f : α → Except ε β) (e : ε) :
    (x >>= f) = .error e ↔ x = .error e ∨ ∃ a, x = .ok a ∧ f a = .error e := by
  cases x <;> simp [bind, Except.bind]

theorem addPart_err (tbl : List Part) (p : Part) (e : QErr) (h : addPart tbl p = .error e) :
    e = .eof := by
  fun_induction addPart tbl p
  -- case3: same key and `merge` fails, the one error `addPart` raises itself
  case case3 => cases h; rfl
  -- case4: another key, the error comes from the recursive call
  case case4 ih =>
    rcases (bind_eq_error _ _ _).mp h with h | ⟨_, _, h⟩
    · exact ih h
    · cases h
  -- case1 (empty table), case2 (same key, `merge` succeeds): no error
  all_goals cases h

theorem merge_termSat (hL : LabelRel L) (t p : Part) (hk : t.key = p.key) :
    (∃ m, merge t p = some m ∧ termSat L m) ↔ (termSat L t ∧ termSat L p) := by
  constructor
  · rintro ⟨m, hm, v, hv, hs⟩
    have hmk : m.key = t.key := merge_keeps_key t p m hm hk
    have := (merge_sat_bytes t p v (hL.nonempty _ _ hv)).mp (hm ▸ hs)
    exact ⟨⟨v, hmk ▸ hv, this.1⟩, ⟨v, hk ▸ hmk ▸ hv, this.2⟩⟩
  · rintro ⟨⟨v, hv, hs⟩, ⟨v2, hv2, hs2⟩⟩
    obtain rfl : v2 = v := hL.functional _ _ _ hv2 (hk ▸ hv)
    have := (merge_sat_bytes t p v2 (hL.nonempty _ _ hv)).mpr ⟨hs, hs2⟩
    cases hm : merge t p with
    | none => rw [hm] at this; exact this.elim
    | some m =>
      rw [hm] at this
      have hmk : m.key = t.key := merge_keeps_key t p m hm hk
      exact ⟨m, rfl, v2, hmk ▸ hv, this⟩

theorem tblSat_cons (t : Part) (tbl : List Part) : tblSat L (t :: tbl) ↔ termSat L t ∧ tblSat L tbl := by
  simp [tblSat]

theorem addPart_spec (hL : LabelRel L) (tbl : List Part) (p : Part) :
    (∀ tbl', addPart tbl p = .ok tbl' → (tblSat L tbl' ↔ (tblSat L tbl ∧ termSat L p))) ∧
    (addPart tbl p = .error .eof → ¬ (tblSat L tbl ∧ termSat L p)) := by
  fun_induction addPart tbl p
  case case1 =>
    refine ⟨fun tbl' h => ?_, fun h => by cases h⟩
    cases h; simp [tblSat]
  case case2 t rest hk m hm =>
    refine ⟨fun tbl' h => ?_, fun h => by cases h⟩
    cases h
    have := merge_termSat hL t p (beq_iff_eq.mp hk)
    rw [hm] at this
    simp only [Option.some.injEq, exists_eq_left'] at this
    rw [tblSat_cons, tblSat_cons, this, and_right_comm]
  case case3 t rest hk hm =>
    refine ⟨fun tbl' h => (by cases h), fun _ hsat => ?_⟩
    have := (merge_termSat hL t p (beq_iff_eq.mp hk)).mpr ⟨((tblSat_cons _ _).mp hsat.1).1, hsat.2⟩
    rw [hm] at this
    obtain ⟨_, h, _⟩ := this
    cases h
  case case4 t rest hk ih =>
    constructor
    · intro tbl' h
      obtain ⟨r, hr, h⟩ := (bind_eq_ok _ _ _).mp h
      cases h
      rw [tblSat_cons, tblSat_cons, ih.1 r hr, and_assoc]
    · intro h hsat
      rcases (bind_eq_error _ _ _).mp h with h | ⟨_, _, h⟩
      · exact ih.2 h ⟨((tblSat_cons _ _).mp hsat.1).2, hsat.2⟩
      · cases h

theorem parseWordGo_ne_eof (k w : Bytes) : parseWordGo k w ≠ .error .eof := by
  fun_induction parseWordGo k w <;> simp_all

theorem collect_spec (hL : LabelRel L) (ws : List Bytes) (tbl : List Part) :
    (∀ tbl', collect tbl ws = .ok tbl' →
      (tblSat L tbl' ↔ (tblSat L tbl ∧ ∀ w ∈ ws, ∃ p, parseWord w = .ok p ∧ termSat L p))) ∧
    (collect tbl ws = .error .eof →
      ¬ (tblSat L tbl ∧ ∀ w ∈ ws, ∀ p, parseWord w = .ok p → termSat L p)) := by
  induction ws generalizing tbl with
  | nil =>
    refine ⟨fun tbl' h => ?_, fun h => by cases h⟩
    cases h; simp
  | cons w ws ih =>
    unfold collect
    constructor
    · intro tbl' h
      obtain ⟨p, hp, h⟩ := (bind_eq_ok _ _ _).mp h
      obtain ⟨t1, ha, h⟩ := (bind_eq_ok _ _ _).mp h
      rw [(ih t1).1 tbl' h, (addPart_spec hL tbl p).1 t1 ha]
      simp only [List.mem_cons, forall_eq_or_imp, hp, Except.ok.injEq, exists_eq_left', and_assoc]
    · intro h ⟨ht, hall⟩
      rcases (bind_eq_error _ _ _).mp h with h | ⟨p, hp, h⟩
      · exact parseWordGo_ne_eof [] w h
      · have hp' := hall w (by simp) p hp
        rcases (bind_eq_error _ _ _).mp h with h | ⟨t1, ha, h⟩
        · exact (addPart_spec hL tbl p).2 h ⟨ht, hp'⟩
        · exact (ih t1).2 h ⟨((addPart_spec hL tbl p).1 t1 ha).mpr ⟨ht, hp'⟩,
            fun w' hw' => hall w' (by simp [hw'])⟩

theorem insertByKey_is : Shared.IsInsert (fun p t : Part => blt p.key t.key = true) insertByKey :=
  ⟨fun _ => rfl, fun _ _ _ => rfl⟩

theorem mem_sortByKey (t : Part) (l : List Part) : t ∈ sortByKey l ↔ t ∈ l :=
  (insertByKey_is.sort_perm l).mem_iff

/-- integrity of a database state (what the schema's keys guarantee, plus the `upload` label the
server adds to every record) -/
structure WF (db : DB) : Prop where
  recNodup : (db.records.map RecordRow.rkey).Nodup
  labelPK : (db.labels.map fun l => (l.upload, l.rid, l.name)).Nodup
  fk : ∀ l ∈ db.labels, l.rkey ∈ db.records.map RecordRow.rkey
  uploadLabel : ∀ r ∈ db.records, (⟨r.upload, r.rid, uploadKey, r.upload⟩ : LabelRow) ∈ db.labels

/-- no stored label value is the empty string (see finding N8 for what happens otherwise) -/
def NoEmptyValues (db : DB) : Prop := ∀ l ∈ db.labels, l.value ≠ []

/-- the labels of the record with key `rk` -/
def labelRel (db : DB) (rk : RKey) : Bytes → Bytes → Prop :=
  fun k v => (⟨rk.1, rk.2, k, v⟩ : LabelRow) ∈ db.labels

theorem labelRel_ok (db : DB) (hwf : WF db) (hne : NoEmptyValues db) (rk : RKey) :
    LabelRel (labelRel db rk) where
  functional k v1 v2 h1 h2 := by
    have := List.inj_on_of_nodup_map hwf.labelPK h1 h2 rfl
    exact (LabelRow.mk.injEq .. ▸ this).2.2.2
  nonempty k v h := hne _ h

theorem mem_rows_label (db : DB) (k : Bytes) (pr : Pred) (rk : RKey) :
    rk ∈ (Sql.label k pr).rows db ↔ ∃ v, labelRel db rk k v ∧ pr.holds v = true := by
  simp only [Sql.rows, List.mem_map, List.mem_filter, Bool.and_eq_true, beq_iff_eq, labelRel]
  constructor
  · rintro ⟨⟨u, r, n, v⟩, ⟨hl, hn, hp⟩, rfl⟩
    simp only at hn; subst hn
    exact ⟨v, hl, hp⟩
  · rintro ⟨v, hl, hp⟩
    exact ⟨_, ⟨hl, rfl, hp⟩, rfl⟩

theorem mem_rows_upload (db : DB) (pr : Pred) (rk : RKey) :
    rk ∈ (Sql.upload pr).rows db ↔ rk ∈ db.records.map RecordRow.rkey ∧ pr.holds rk.1 = true := by
  simp only [Sql.rows, List.mem_map, List.mem_filter]
  constructor
  · rintro ⟨r, ⟨hr, hp⟩, rfl⟩; exact ⟨⟨r, hr, rfl⟩, hp⟩
  · rintro ⟨⟨r, hr, rfl⟩, hp⟩; exact ⟨r, ⟨hr, hp⟩, rfl⟩

/-- the predicate agrees with the part on non-empty values only: `key>""` is "any value" -/
theorem sql_cases (p : Part) (s : Sql) (hs : p.sql = .ok s) :
    ∃ pr, (s = .upload pr ∧ p.key = uploadKey ∨ s = .label p.key pr ∧ p.key ≠ uploadKey) ∧
      ∀ v, v ≠ [] → (pr.holds v = true ↔ sat p v) := by
  obtain ⟨k, op, a, a2⟩ := p
  unfold Part.sql at hs
  split at hs
  · rename_i hk
    have hk' := beq_iff_eq.mp hk
    cases op <;> cases hs
    · exact ⟨_, Or.inl ⟨rfl, hk'⟩, fun v _ => beq_iff_eq⟩
    · exact ⟨_, Or.inl ⟨rfl, hk'⟩, fun v _ => Bool.and_eq_true_iff⟩
    · exact ⟨_, Or.inl ⟨rfl, hk'⟩, fun v _ => Iff.rfl⟩
    · exact ⟨_, Or.inl ⟨rfl, hk'⟩, fun v _ => Iff.rfl⟩
  · rename_i hk
    have hk' : k ≠ uploadKey := fun e => hk (beq_iff_eq.mpr e)
    cases op <;> simp only at hs
    · split at hs <;> cases hs
      exact ⟨_, Or.inr ⟨rfl, hk'⟩, fun v _ => beq_iff_eq⟩
    · cases hs
      exact ⟨_, Or.inr ⟨rfl, hk'⟩, fun v _ => Bool.and_eq_true_iff⟩
    · cases hs
      exact ⟨_, Or.inr ⟨rfl, hk'⟩, fun v _ => Iff.rfl⟩
    · split at hs <;> cases hs
      · rename_i ha
        rw [List.isEmpty_iff.mp ha]
        exact ⟨_, Or.inr ⟨rfl, hk'⟩, fun v hv => iff_of_true rfl (blt_nil_left v hv)⟩
      · exact ⟨_, Or.inr ⟨rfl, hk'⟩, fun v _ => Iff.rfl⟩

theorem sql_sat (db : DB) (hwf : WF db) (hne : NoEmptyValues db) (p : Part) (s : Sql)
    (hs : p.sql = .ok s) (rk : RKey) (hrk : rk ∈ db.records.map RecordRow.rkey) :
    rk ∈ s.rows db ↔ termSat (labelRel db rk) p := by
  have hL := labelRel_ok db hwf hne rk
  obtain ⟨pr, hs | hs, hpr⟩ := sql_cases p s hs
  · -- the `upload` label of a record is its upload id
    obtain ⟨rfl, hk⟩ := hs
    obtain ⟨r, hr, rfl⟩ := List.mem_map.mp hrk
    have hup : labelRel db r.rkey p.key r.upload := hk ▸ hwf.uploadLabel r hr
    rw [mem_rows_upload, and_iff_right hrk]
    refine (hpr r.upload (hL.nonempty _ _ hup)).trans ⟨fun h => ⟨_, hup, h⟩, ?_⟩
    rintro ⟨v, hv, h⟩
    rwa [hL.functional _ _ _ hv hup] at h
  · obtain ⟨rfl, -⟩ := hs
    rw [mem_rows_label]
    exact exists_congr fun v => and_congr_right fun hv => hpr v (hL.nonempty _ _ hv)
theorem nodup_rows (db : DB) (hwf : WF db) (s : Sql) : (s.rows db).Nodup := by
  cases s with
  | upload pr =>
    simp only [Sql.rows]
    exact (List.Nodup.filter _ (List.Nodup.of_map _ hwf.recNodup)).map_on (by
      intro x hx y hy hxy
      exact List.inj_on_of_nodup_map hwf.recNodup (List.mem_filter.mp hx).1 (List.mem_filter.mp hy).1 hxy)
  | label k pr =>
    simp only [Sql.rows]
    refine (List.Nodup.filter _ (List.Nodup.of_map _ hwf.labelPK)).map_on ?_
    intro x hx y hy hxy
    have hx' := List.mem_filter.mp hx
    have hy' := List.mem_filter.mp hy
    have hnx : x.name = k := by have := hx'.2; simp only [Bool.and_eq_true, beq_iff_eq] at this; exact this.1
    have hny : y.name = k := by have := hy'.2; simp only [Bool.and_eq_true, beq_iff_eq] at this; exact this.1
    apply List.inj_on_of_nodup_map hwf.labelPK hx'.1 hy'.1
    simp only [LabelRow.rkey, Prod.mk.injEq] at hxy
    simp [hxy.1, hxy.2, hnx, hny]

section join
variable {κ β : Type} [BEq κ] [LawfulBEq κ] (f : β → κ) (a : List κ) (b : List β)

/-- Both joins of the model (`joinUsing`, and the `LEFT JOIN Records` of `selectRecords`) have this
shape: for each key of `a` in turn, the rows of `b` that carry it. -/
theorem mem_flatMap_filter (x : β) : x ∈ a.flatMap (fun k => b.filter (f · == k)) ↔ x ∈ b ∧ f x ∈ a := by
  simp only [List.mem_flatMap, List.mem_filter, beq_iff_eq]
  constructor
  · rintro ⟨k, hk, hx, rfl⟩; exact ⟨hx, hk⟩
  · rintro ⟨hx, hk⟩; exact ⟨_, hk, hx, rfl⟩

theorem nodup_flatMap_filter (ha : a.Nodup) (hb : b.Nodup) :
    (a.flatMap fun k => b.filter (f · == k)).Nodup := by
  rw [List.nodup_flatMap]
  refine ⟨fun k _ => hb.filter _, ha.imp fun hkk' => ?_⟩
  simp only [Function.onFun, List.disjoint_left, List.mem_filter, beq_iff_eq]
  rintro z ⟨_, h1⟩ ⟨_, h2⟩
  exact hkk' (h1.symm.trans h2)
end join

theorem joinUsing_eq (a b : List RKey) : joinUsing a b = a.flatMap fun x => b.filter (· == x) := by
  unfold joinUsing
  congr 1; funext x
  conv => rhs; rw [← List.map_id (b.filter (· == x))]
  apply List.map_congr_left
  intro y hy
  have := (List.mem_filter.mp hy).2
  simp only [beq_iff_eq] at this
  simp [this]

theorem mem_joinUsing (a b : List RKey) (x : RKey) : x ∈ joinUsing a b ↔ x ∈ a ∧ x ∈ b := by
  rw [joinUsing_eq]
  exact (mem_flatMap_filter id a b x).trans and_comm

theorem nodup_joinUsing (a b : List RKey) (ha : a.Nodup) (hb : b.Nodup) : (joinUsing a b).Nodup := by
  rw [joinUsing_eq]
  exact nodup_flatMap_filter id a b ha hb

theorem foldl_join (db : DB) (hwf : WF db) (rest : List Sql) (init : List RKey) (hi : init.Nodup) :
    (rest.foldl (fun acc t => joinUsing acc (t.rows db)) init).Nodup ∧
    ∀ x, x ∈ rest.foldl (fun acc t => joinUsing acc (t.rows db)) init ↔
      (x ∈ init ∧ ∀ t ∈ rest, x ∈ t.rows db) := by
  induction rest generalizing init with
  | nil => simp [hi]
  | cons t ts ih =>
    simp only [List.foldl_cons]
    have := ih (joinUsing init (t.rows db)) (nodup_joinUsing _ _ hi (nodup_rows db hwf t))
    refine ⟨this.1, fun x => ?_⟩
    rw [this.2, mem_joinUsing]
    simp only [List.mem_cons, forall_eq_or_imp]
    exact and_assoc

theorem selectRecords_spec (db : DB) (hwf : WF db) (sqls : List Sql) :
    (selectRecords db sqls).Nodup ∧
    ∀ r, r ∈ selectRecords db sqls ↔ (r ∈ db.records ∧ ∀ s ∈ sqls, r.rkey ∈ s.rows db) := by
  have hrec : db.records.Nodup := List.Nodup.of_map _ hwf.recNodup
  cases sqls with
  | nil => simp [selectRecords, hrec]
  | cons s rest =>
    have hj := foldl_join db hwf rest (s.rows db) (nodup_rows db hwf s)
    simp only [selectRecords, joinAll, List.forall_mem_cons]
    exact ⟨nodup_flatMap_filter RecordRow.rkey _ _ hj.1 hrec, fun r =>
      (mem_flatMap_filter RecordRow.rkey _ _ r).trans (and_congr_right fun _ => hj.2 _)⟩

theorem selectRecords_sub (db : DB) (sqls : List Sql) : ∀ r ∈ selectRecords db sqls, r ∈ db.records := by
  cases sqls with
  | nil => exact fun _ h => h
  | cons s rest =>
    intro r h
    obtain ⟨_, _, hr⟩ := List.mem_flatMap.mp h
    exact (List.mem_filter.mp hr).1

theorem queryRecords_sub {db : DB} {q : Bytes} {recs : List RecordRow} (h : queryRecords db q = .ok recs) :
    ∀ r ∈ recs, r ∈ db.records := by
  unfold queryRecords at h
  obtain ⟨sqls, _, h⟩ := (bind_eq_ok _ _ _).mp h
  cases h
  exact selectRecords_sub db sqls

theorem sql_ne_eof (p : Part) : p.sql ≠ .error .eof := by
  fun_cases Part.sql p <;> simp

theorem sqlAll_ne_eof (ps : List Part) : sqlAll ps ≠ .error .eof := by
  induction ps with
  | nil => simp [sqlAll]
  | cons p ps ih =>
    unfold sqlAll
    intro h
    rcases (bind_eq_error _ _ _).mp h with h | ⟨_, _, h⟩
    · exact sql_ne_eof p h
    · rcases (bind_eq_error _ _ _).mp h with h | ⟨_, _, h⟩
      · exact ih h
      · cases h

theorem sqlAll_rows (db : DB) (hwf : WF db) (hne : NoEmptyValues db) (ps : List Part) (sqls : List Sql)
    (h : sqlAll ps = .ok sqls) (rk : RKey) (hrk : rk ∈ db.records.map RecordRow.rkey) :
    (∀ s ∈ sqls, rk ∈ s.rows db) ↔ tblSat (labelRel db rk) ps := by
  induction ps generalizing sqls with
  | nil => cases h; simp [tblSat]
  | cons p ps ih =>
    unfold sqlAll at h
    obtain ⟨s, hs, h⟩ := (bind_eq_ok _ _ _).mp h
    obtain ⟨r, hr, h⟩ := (bind_eq_ok _ _ _).mp h
    cases h
    rw [tblSat_cons, List.forall_mem_cons, ih r hr, sql_sat db hwf hne p s hs rk hrk]

theorem parseQuery_rows (db : DB) (hwf : WF db) (hne : NoEmptyValues db) (q : Bytes) (sqls : List Sql)
    (h : parseQuery q = .ok sqls) (rk : RKey) (hrk : rk ∈ db.records.map RecordRow.rkey) :
    (∀ s ∈ sqls, rk ∈ s.rows db) ↔
      ∀ w ∈ splitWords q, ∃ p, parseWord w = .ok p ∧ termSat (labelRel db rk) p := by
  unfold parseQuery mergedParts at h
  obtain ⟨ps, hm, hs⟩ := (bind_eq_ok _ _ _).mp h
  obtain ⟨tbl, hc, hm⟩ := (bind_eq_ok _ _ _).mp hm
  cases hm
  have hsort : tblSat (labelRel db rk) (sortByKey tbl) ↔ tblSat (labelRel db rk) tbl :=
    forall_congr' fun t => by rw [mem_sortByKey]
  rw [sqlAll_rows db hwf hne _ sqls hs rk hrk, hsort, (collect_spec (labelRel_ok db hwf hne rk) _ []).1 tbl hc]
  exact and_iff_right nofun

theorem parseQuery_unsat (db : DB) (hwf : WF db) (hne : NoEmptyValues db) (q : Bytes)
    (h : parseQuery q = .error .eof) (rk : RKey) :
    ¬ ∀ w ∈ splitWords q, ∀ p, parseWord w = .ok p → termSat (labelRel db rk) p := by
  unfold parseQuery mergedParts at h
  have hc : collect [] (splitWords q) = .error .eof := by
    rcases (bind_eq_error _ _ _).mp h with h | ⟨_, _, h⟩
    · rcases (bind_eq_error _ _ _).mp h with h | ⟨_, _, h⟩
      · exact h
      · cases h
    · exact absurd h (sqlAll_ne_eof _)
  exact fun hall => (collect_spec (labelRel_ok db hwf hne rk) _ []).2 hc ⟨nofun, hall⟩

end C19
