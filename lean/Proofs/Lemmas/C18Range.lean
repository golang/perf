/-
C18 helper: the insertion sort over ℚ sorts and permutes (`Shared/Sort.lean`); a sample read at any rank (`Within.lerp`), hence percentile
and median, and the resampled ratios stay inside the interval spanned by the data.
-/
import Proofs.Lemmas.C18Boot
import Proofs.Lemmas.Shared.Sort

namespace C18
open Series.Boot

theorem rat_less (x y : Rat) : rat.less x y = decide (x < y) := by simp [Arith.less]

theorem insertSorted_is : Shared.IsInsert (fun x y : Rat => ¬ rat.less y x = true) (insertSorted rat) :=
  .of_flip (fun _ => rfl) fun _ _ _ => rfl

theorem sort_perm (l : List Rat) : (sort rat l).Perm l := insertSorted_is.sort_perm l

theorem sort_sorted (l : List Rat) : (sort rat l).Pairwise (· ≤ ·) := by
  have key : ∀ x y : Rat, ¬ rat.less y x = true ↔ x ≤ y := fun x y => by rw [rat_less, decide_eq_true_eq, not_lt]
  exact insertSorted_is.sort_pairwise ⟨fun x y => (key x y).1, fun x y h => le_of_not_ge ((key x y).not.1 h),
    fun x y z h => le_trans ((key x y).1 h)⟩ l

theorem median_within {L H : Rat} {a : List Rat} (h : Within L H a) (hne : a ≠ []) :
    L ≤ median rat a ∧ median rat a ≤ H := by
  rw [median_eq_lerp hne]
  exact h.lerp hne _

theorem percentile_within {L H : Rat} {a : List Rat} {p : Rat} (h : Within L H a) (hne : a ≠ [])
    (hp0 : 0 ≤ p) (hp1 : p ≤ 1) : L ≤ percentile rat a p ∧ percentile rat a p ≤ H := by
  rw [percentile_eq_lerp hne hp0 hp1]
  exact h.lerp hne _

theorem within_of_perm {L H : Rat} {a b : List Rat} (hp : a.Perm b) (h : Within L H b) : Within L H a :=
  fun v hv => h v (hp.mem_iff.mp hv)

theorem resample_within {L H : Rat} {vals : List Rat} (h : Within L H vals) (hne : vals ≠ []) (idx : List Nat) :
    Within L H (resample rat vals idx) := by
  apply within_of_perm (sort_perm _)
  intro v hv
  obtain ⟨i, _, rfl⟩ := List.mem_map.mp hv
  have hn : i % vals.length < vals.length := Nat.mod_lt _ (List.length_pos_iff.mpr hne)
  rw [List.getD_eq_getElem _ _ hn]
  exact h _ (List.getElem_mem hn)

theorem resample_length (vals : List Rat) (idx : List Nat) : (resample rat vals idx).length = idx.length := by
  simp [resample, (sort_perm _).length_eq]

theorem oneRatio_within {nl nh dl dh : Rat} {nu de : List Rat} (hnu : Within nl nh nu) (hde : Within dl dh de)
    (hnu0 : nu ≠ []) (hde0 : de ≠ []) (hnl : 0 < nl) (hdl : 0 < dl) {inu ide : List Nat}
    (hi : 0 < inu.length) (hd : 0 < ide.length) :
    nl / dh ≤ oneRatio rat nu de inu ide ∧ oneRatio rat nu de inu ide ≤ nh / dl := by
  have hrn : resample rat nu inu ≠ [] :=
    List.ne_nil_of_length_pos (by rw [resample_length]; exact hi)
  have hrd : resample rat de ide ≠ [] :=
    List.ne_nil_of_length_pos (by rw [resample_length]; exact hd)
  obtain ⟨hm1, hm2⟩ := median_within (resample_within hnu hnu0 inu) hrn
  obtain ⟨hd1, hd2⟩ := median_within (resample_within hde hde0 ide) hrd
  have hdpos : 0 < median rat (resample rat de ide) := lt_of_lt_of_le hdl hd1
  unfold oneRatio
  simp only [rat_eq, rat_ofNat, Nat.cast_zero, decide_eq_true_eq, ne_of_gt hdpos, if_false, rat_div]
  -- a larger numerator over a smaller positive denominator
  exact ⟨div_le_div₀ (hnl.le.trans hm1) hm1 hdpos hd2, div_le_div₀ (hnl.le.trans (hm1.trans hm2)) hm2 hdl hd1⟩

theorem ratios_length (nu de : List Rat) (n : Nat) (stream : List Nat) :
    (ratios rat nu de n stream).length = n := by
  induction n generalizing stream with
  | zero => simp [ratios]
  | succ n ih => simp [ratios, ih]

theorem ratios_within {nl nh dl dh : Rat} {nu de : List Rat} (hnu : Within nl nh nu) (hde : Within dl dh de)
    (hnu0 : nu ≠ []) (hde0 : de ≠ []) (hnl : 0 < nl) (hdl : 0 < dl) (n : Nat) (stream : List Nat)
    (hs : n * (nu.length + de.length) ≤ stream.length) :
    Within (nl / dh) (nh / dl) (ratios rat nu de n stream) := by
  induction n generalizing stream with
  | zero => intro v hv; simp [ratios] at hv
  | succ n ih =>
    have hnl' : 0 < nu.length := List.length_pos_iff.mpr hnu0
    have hdl' : 0 < de.length := List.length_pos_iff.mpr hde0
    have hexp : (n + 1) * (nu.length + de.length) = n * (nu.length + de.length) + nu.length + de.length := by ring
    rw [hexp] at hs
    intro v hv
    simp only [ratios, List.mem_cons] at hv
    rcases hv with rfl | hv
    · apply oneRatio_within hnu hde hnu0 hde0 hnl hdl
      · rw [List.length_take]; omega
      · rw [List.length_take, List.length_drop]; omega
    · refine ih _ ?_ v hv
      simp only [List.length_drop]
      omega

end C18
