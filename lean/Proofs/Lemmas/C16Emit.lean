/-
C16 — row emission: under the fit of the widths every cell is written at its column offset,
whole, and ends before the next cell's column.
-/
import Model.Tab.TextTab

namespace C16
open Tab.TextTab

theorem runeCount_nil : runeCount [] = 0 := rfl

theorem runeCount_space_cons (s : Bytes) : runeCount (0x20 :: s) = 1 + runeCount s := rfl

theorem runeCount_spaces_append (n : Nat) (s : Bytes) : runeCount (spaces n ++ s) = n + runeCount s := by
  induction n with
  | zero => simp [spaces]
  | succ n ih =>
    have : spaces (n + 1) ++ s = 0x20 :: (spaces n ++ s) := by simp [spaces, List.replicate_succ]
    rw [this, runeCount_space_cons, ih]; omega

theorem runeCount_spaces (n : Nat) : runeCount (spaces n) = n := by
  have := runeCount_spaces_append n []
  simpa [runeCount_nil] using this

theorem padStar_nonneg (w : Int) (s : Bytes) (h : 0 ≤ w) :
    padStar w s = spaces (w.toNat - runeCount s) ++ s := by
  unfold padStar; simp [h]

/-- geometry of the pieces written for one cell when the writer stands at `off`:
the pad brings it exactly to the column's offset, the margin is right-justified and whole in the
column's margin width, the value is whole, preceded by `k` blanks chosen by the alignment, and
ends inside the cell's columns (exactly at their end when right-aligned). -/
def CellOK (offs : List Int) (lm : List Nat) (off : Int) (c : Cell) : Prop :=
  off ≤ offs.getD c.col 0 ∧
  ∃ k : Nat,
    (cellPieces offs lm off c).1 =
      [spaces (offs.getD c.col 0 - off).toNat,
       spaces (lm.getD c.col 0 - runeCount c.margin) ++ c.margin,
       spaces k ++ c.value] ∧
    (c.align = .left → k = 0) ∧
    (c.value = [] → k = 0) ∧
    (c.align = .right → c.value ≠ [] →
      offs.getD c.col 0 + (lm.getD c.col 0 : Nat) + (k : Nat) + (runeCount c.value : Nat) = offs.getD (c.col + c.span) 0) ∧
    (c.align = .center → c.value ≠ [] →
      (k : Int) = (offs.getD (c.col + c.span) 0 - offs.getD c.col 0 - (lm.getD c.col 0 : Nat) - (runeCount c.value : Nat)) / 2) ∧
    (cellPieces offs lm off c).2 =
      offs.getD c.col 0 + (lm.getD c.col 0 : Nat) + (k : Nat) + (runeCount c.value : Nat) ∧
    (cellPieces offs lm off c).2 ≤ offs.getD (c.col + c.span) 0

theorem lpad_spec (a : Align) (v : Bytes) (tw : Int) (htw : (runeCount v : Int) ≤ tw) :
    ∃ k : Nat, lpad a v tw = spaces k ++ v ∧ (a = .left → k = 0) ∧ (v = [] → k = 0) ∧
      (a = .right → v ≠ [] → (k : Int) + (runeCount v : Nat) = tw) ∧
      (a = .center → v ≠ [] → (k : Int) = (tw - (runeCount v : Nat)) / 2) ∧
      (k : Int) + (runeCount v : Nat) ≤ tw := by
  by_cases hv : v = []
  · subst hv
    exact ⟨0, rfl, fun _ => rfl, fun _ => rfl, fun _ h => absurd rfl h, fun _ h => absurd rfl h,
      by rw [Int.natCast_zero, Int.zero_add]; exact htw⟩
  · have hl : lpad a v tw = match a with
        | .left => v
        | .center => padStar (Int.tdiv (tw - runeCount v) 2) [] ++ v
        | .right => padStar tw v := by
      unfold lpad
      rw [if_neg (by simpa using hv)]
      rfl
    have h0 : (0 : Int) ≤ tw - (runeCount v : Nat) := by omega
    cases a with
    | left =>
      exact ⟨0, hl, fun _ => rfl, fun h => absurd h hv, (fun h => by cases h), (fun h => by cases h),
        by rw [Int.natCast_zero, Int.zero_add]; exact htw⟩
    | right =>
      refine ⟨tw.toNat - runeCount v, ?_, (fun h => by cases h), fun h => absurd h hv, fun _ _ => by omega,
        (fun h => by cases h), by omega⟩
      rw [hl]
      exact padStar_nonneg _ _ (by omega)
    | center =>
      refine ⟨((tw - (runeCount v : Nat)) / 2).toNat, ?_, (fun h => by cases h), fun h => absurd h hv,
        (fun h => by cases h), fun _ _ => by omega, by omega⟩
      rw [hl]
      show padStar (Int.tdiv (tw - (runeCount v : Nat)) 2) [] ++ v = _
      rw [Int.tdiv_eq_ediv_of_nonneg h0, padStar_nonneg _ _ (by omega), runeCount_nil, Nat.sub_zero,
        List.append_nil]

theorem cellOK_of_fit (offs : List Int) (lm : List Nat) (off : Int) (c : Cell)
    (hoff : off ≤ offs.getD c.col 0)
    (hfit : (lm.getD c.col 0 : Nat) + (runeCount c.value : Int)
      ≤ offs.getD (c.col + c.span) 0 - offs.getD c.col 0) :
    CellOK offs lm off c := by
  obtain ⟨k, hk, hl, he, hr, hc, hle⟩ := lpad_spec c.align c.value
    (offs.getD (c.col + c.span) 0 - offs.getD c.col 0 - (lm.getD c.col 0 : Nat)) (by omega)
  have hp : (cellPieces offs lm off c).1 =
      [spaces (offs.getD c.col 0 - off).toNat, spaces (lm.getD c.col 0 - runeCount c.margin) ++ c.margin,
       spaces k ++ c.value] := by
    unfold cellPieces
    dsimp only
    rw [hk, padStar_nonneg _ _ (by omega), padStar_nonneg _ _ (Int.natCast_nonneg _), runeCount_nil,
      Nat.sub_zero, List.append_nil, Int.toNat_natCast]
  have hend : (cellPieces offs lm off c).2 =
      offs.getD c.col 0 + (lm.getD c.col 0 : Nat) + (k : Nat) + (runeCount c.value : Nat) := by
    unfold cellPieces
    dsimp only
    rw [hk, runeCount_spaces_append, Int.natCast_add]
    omega
  exact ⟨hoff, k, hp, hl, he, fun h1 h2 => by have := hr h1 h2; omega, fun h1 h2 => by have := hc h1 h2; omega,
    hend, by rw [hend]; omega⟩

/-- every cell the loop writes is written with the geometry `CellOK` (the loop restarts at offset
0 on a new row) -/
def EmitOK (offs : List Int) (lm : List Nat) : EmitSt → List Cell → Prop
  | _, [] => True
  | st, c :: rest =>
    (skipped c = false → CellOK offs lm (if c.row > st.row then 0 else st.off) c) ∧
    EmitOK offs lm (emitCell offs lm st c) rest

/-- `a` is written before `b`: an earlier row, or the same row and wholly to the left -/
def Before (a b : Cell) : Prop := a.row < b.row ∨ (a.row = b.row ∧ a.col + a.span ≤ b.col)

theorem emitOK_of (offs : List Int) (lm : List Nat)
    (hmono : ∀ i j, i ≤ j → j < offs.length → offs.getD i 0 ≤ offs.getD j 0)
    (h0 : ∀ i, 0 ≤ offs.getD i 0) :
    ∀ (cells : List Cell) (st : EmitSt),
      cells.Pairwise Before →
      (∀ c ∈ cells, c.col + c.span < offs.length ∧
        (lm.getD c.col 0 : Nat) + (runeCount c.value : Int)
          ≤ offs.getD (c.col + c.span) 0 - offs.getD c.col 0) →
      (∀ c ∈ cells, st.row ≤ c.row ∧ (c.row = st.row → st.off ≤ offs.getD c.col 0)) →
      EmitOK offs lm st cells := by
  intro cells
  induction cells with
  | nil => intro st _ _ _; trivial
  | cons c rest ih =>
    intro st hpw hcells hst
    have hc := hcells c (List.mem_cons_self ..)
    have hsc := hst c (List.mem_cons_self ..)
    rw [List.pairwise_cons] at hpw
    have hoff0 : (if c.row > st.row then 0 else st.off) ≤ offs.getD c.col 0 := by
      split
      · exact h0 _
      · exact hsc.2 (by omega)
    have hok := cellOK_of_fit offs lm _ c hoff0 hc.2
    refine ⟨fun _ => hok, ?_⟩
    apply ih _ hpw.2 (fun d hd => hcells d (List.mem_cons_of_mem _ hd))
    intro d hd
    have hsd := hst d (List.mem_cons_of_mem _ hd)
    unfold emitCell
    by_cases hsk : skipped c = true
    · rw [if_pos hsk]; exact hsd
    · rw [if_neg hsk]
      have hb := hpw.1 d hd
      have hrow : (if c.row > st.row then c.row else st.row) = c.row := by
        by_cases h : c.row > st.row
        · exact if_pos h
        · rw [if_neg h]; omega
      dsimp only
      rw [hrow]
      rcases hb with hb | hb
      · exact ⟨by omega, fun h => by omega⟩
      · refine ⟨by omega, fun _ => ?_⟩
        obtain ⟨_, k, _, _, _, _, _, _, hle⟩ := hok
        refine Int.le_trans hle (hmono _ _ hb.2 ?_)
        have := (hcells d (List.mem_cons_of_mem _ hd)).1
        omega

end C16
