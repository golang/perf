/-
What a regexp matches.  The matcher is a parameter `rx : source → value → Bool`; the oracle index `reId src` is an
injective numbering, so every `rx` is an oracle (`oracleOf rx`).  Also the matcher `rxLit` of the anchored-literal
sub-language (Model/Spec/LitRegexp.lean).
-/
import Model.Proc.FilterText
import Model.Spec.LitRegexp

namespace C06
open Proc.FilterText Proc.FilterEval

def idOf (acc : Nat) (s : Bytes) : Nat := s.foldl (fun a b => a * 256 + b.toNat) acc

theorem reId_eq (s : Bytes) : reId s = idOf 1 s := rfl

theorem idOf_snoc (acc : Nat) (s : Bytes) (b : UInt8) : idOf acc (s ++ [b]) = idOf acc s * 256 + b.toNat := by
  simp [idOf, List.foldl_append]

theorem idOf_pos (s : Bytes) : s.length < idOf 1 s := by
  rw [← s.reverse_reverse]
  induction s.reverse with
  | nil => simp [idOf]
  | cons b r ih => rw [List.reverse_cons, idOf_snoc]; simp at ih ⊢; omega

/-- base-256 digits of `n` down to the leading 1 -/
def reSrcAux : Nat → Nat → Bytes → Bytes
  | 0, _, acc => acc
  | f + 1, n, acc => if n ≤ 1 then acc else reSrcAux f (n / 256) (UInt8.ofNat (n % 256) :: acc)

/-- the regexp source with oracle index `n` -/
def reSrc (n : Nat) : Bytes := reSrcAux n n []

theorem reSrcAux_idOf (s : Bytes) : ∀ (out : Bytes) (f : Nat), s.length < f →
    reSrcAux f (idOf 1 s) out = s ++ out := by
  rw [← s.reverse_reverse]
  induction s.reverse with
  | nil =>
    intro out f hf
    match f, hf with
    | f + 1, _ => simp [reSrcAux, idOf]
  | cons b r ih =>
    intro out f hf
    match f, hf with
    | f + 1, hf =>
      have hpos := idOf_pos r.reverse
      have hb := b.toNat_lt
      rw [List.reverse_cons, idOf_snoc, reSrcAux]
      have h1 : ¬ (idOf 1 r.reverse * 256 + b.toNat ≤ 1) := by omega
      have h2 : (idOf 1 r.reverse * 256 + b.toNat) / 256 = idOf 1 r.reverse := by omega
      have h3 : (idOf 1 r.reverse * 256 + b.toNat) % 256 = b.toNat := by omega
      rw [if_neg h1, h2, h3, ih _ f (by simp at hf ⊢; omega)]
      simp

theorem reSrc_reId (s : Bytes) : reSrc (reId s) = s := by
  rw [reSrc, reId_eq, reSrcAux_idOf s [] _ (idOf_pos s)]
  simp

/-- a matcher on sources as an oracle on indices -/
def oracleOf (rx : Bytes → Bytes → Bool) : ReOracle := fun id v => rx (reSrc id) v

theorem oracleOf_reId (rx : Bytes → Bytes → Bool) (src v : Bytes) : oracleOf rx (reId src) v = rx src v := by
  simp [oracleOf, reSrc_reId]

open Spec.LitRegexp in
/-- the matcher of the literal sub-language (`false` outside it) -/
def rxLit (src v : Bytes) : Bool :=
  match parse src with
  | some r => r.matches v
  | none => false

open Spec.LitRegexp in
/-- a literal without regexp metacharacters, non-ASCII bytes or `/` -/
def PlainLit (lit : Bytes) : Prop := ∀ c, c ∈ lit → isMeta c = false ∧ c < 0x80 ∧ c ≠ 47

open Spec.LitRegexp in
theorem litBody_plain (lit : Bytes) (h : PlainLit lit) : litBody lit = some lit := by
  induction lit with
  | nil => rfl
  | cons c r ih =>
    obtain ⟨h1, h2, _⟩ := h c (by simp)
    have hb : (c == 92) = false := by
      cases hc : c == 92
      · rfl
      · have : c = 92 := by simpa using hc
        subst this; simp [isMeta] at h1
    have hge : ¬ (c ≥ 0x80) := by
      simp only [ge_iff_le, UInt8.not_le]; exact h2
    unfold litBody
    simp [hb, h1, hge, ih (fun x hx => h x (by simp [hx]))]

open Spec.LitRegexp in
theorem stripEndRev_dollar (r : Bytes) (h : 92 ∉ r) : stripEndRev (36 :: r) = (true, r) := by
  match r with
  | [] => rfl
  | a :: r' =>
    have : a ≠ 92 := fun e => h (by simp [e])
    simp [stripEndRev, this]

open Spec.LitRegexp in
theorem stripGroup_of_not_mem (s : Bytes) (h : 40 ∉ s) : stripGroup s = s := by
  match s with
  | [] => rfl
  | a :: r =>
    have : a ≠ 40 := fun e => h (by simp [e])
    simp [stripGroup, this]

open Spec.LitRegexp in
theorem parse_anchored (lit : Bytes) (h : PlainLit lit) :
    parse (94 :: (lit ++ [36])) = some ⟨true, lit, true⟩ := by
  have hm : ∀ c, isMeta c = true → c ∉ lit := fun c hc hl => by simp [(h c hl).1] at hc
  simp only [parse, stripStart, List.reverse_append, List.reverse_cons, List.reverse_nil, List.nil_append,
    List.singleton_append, stripEndRev_dollar lit.reverse (by simpa using hm 92 (by decide)), List.reverse_reverse,
    stripGroup_of_not_mem lit (hm 40 (by decide)), litBody_plain lit h]

theorem rxLit_anchored (lit : Bytes) (h : PlainLit lit) (v : Bytes) :
    rxLit (94 :: (lit ++ [36])) v = decide (v = lit) := by
  simp only [rxLit, parse_anchored lit h, Spec.LitRegexp.LitRe.matches]
  by_cases hv : v = lit <;> simp [hv]

section
open Bytes Spec.LitRegexp

/-- examples of the sub-language: `^Copy$`, `\ACopy\z`, `^(?:Copy)$`,
`^B\/op$` all mean "is exactly", `^Copy` "starts with", `Copy$` "ends with", `Copy` "contains" -/
example : parse (Bytes.ofString "^Copy$") = some ⟨true, Bytes.ofString "Copy", true⟩ := by decide +kernel
example : parse (Bytes.ofString "\\ACopy\\z") = some ⟨true, Bytes.ofString "Copy", true⟩ := by decide +kernel
example : parse (Bytes.ofString "^(?:Copy)$") = some ⟨true, Bytes.ofString "Copy", true⟩ := by decide +kernel
example : parse (Bytes.ofString "^B\\/op$") = some ⟨true, Bytes.ofString "B/op", true⟩ := by decide +kernel
example : parse (Bytes.ofString "^Copy") = some ⟨true, Bytes.ofString "Copy", false⟩ := by decide +kernel
example : parse (Bytes.ofString "Copy$") = some ⟨false, Bytes.ofString "Copy", true⟩ := by decide +kernel
example : parse (Bytes.ofString "^Co.y$") = none := by decide +kernel
example : (⟨true, Bytes.ofString "Copy", true⟩ : LitRe).matches (Bytes.ofString "FastCopy") = false := by decide +kernel

end

end C06
