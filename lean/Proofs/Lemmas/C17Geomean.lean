/-
C17 helper lemmas: the bookkeeping of `addGeomean` — one cell per configuration (`geoCell`), the row
exists iff some configuration contributes more than one non-zero mean.
-/
import Model.Legacy.Collection

namespace C17
open Legacy F64

theorem geoMeansOf_nonzero (c : Coll) (unit : Str) :
    ∀ cfg, ∀ x ∈ geoMeansOf c unit cfg, eq x posZero = false := by
  intro cfg x hx
  unfold geoMeansOf at hx
  simp only [List.mem_flatMap, List.mem_filterMap] at hx
  obtain ⟨g, _, b, _, h⟩ := hx
  split at h
  · rename_i m _
    by_cases hz : eq m.mean posZero = true
    · simp [hz] at h
    · simp [hz] at h
      rw [← h]; simpa using hz
  · simp at h

/-- the cell the geomean row shows for one config -/
def geoCell (G : GeoFn) (c : Coll) (unit cfg : Str) : Metrics :=
  if (geoMeansOf c unit cfg).isEmpty then ({} : Metrics)
  else { unit := unit, mean := G (geoMeansOf c unit cfg) }

theorem geoStep_metrics (G : GeoFn) (c : Coll) (unit : Str) (acc : GeoAcc) (cfg : Str) :
    (geoStep G c unit acc cfg).metrics = acc.metrics ++ [geoCell G c unit cfg] := by
  unfold geoStep geoCell
  by_cases h : (geoMeansOf c unit cfg).isEmpty = true <;> simp [h]

theorem geoStep_maxCount (G : GeoFn) (c : Coll) (unit : Str) (acc : GeoAcc) (cfg : Str) :
    (geoStep G c unit acc cfg).maxCount = max acc.maxCount (geoMeansOf c unit cfg).length := by
  unfold geoStep
  simp only [apply_ite GeoAcc.maxCount, ite_self]
  split <;> omega

theorem geoFold_metrics (G : GeoFn) (c : Coll) (unit : Str) (cfgs : List Str) (acc : GeoAcc) :
    (cfgs.foldl (geoStep G c unit) acc).metrics = acc.metrics ++ cfgs.map (geoCell G c unit) := by
  induction cfgs generalizing acc with
  | nil => simp
  | cons cfg cfgs ih => simp [List.foldl_cons, ih, geoStep_metrics]

theorem geoFold_maxCount (G : GeoFn) (c : Coll) (unit : Str) (cfgs : List Str) (acc : GeoAcc) :
    1 < (cfgs.foldl (geoStep G c unit) acc).maxCount ↔
      1 < acc.maxCount ∨ ∃ cfg ∈ cfgs, 1 < (geoMeansOf c unit cfg).length := by
  induction cfgs generalizing acc with
  | nil => simp
  | cons cfg cfgs ih =>
    simp only [List.foldl_cons, ih, geoStep_maxCount, List.mem_cons, exists_eq_or_imp]
    constructor
    · rintro (h | h)
      · rcases Nat.lt_or_ge 1 acc.maxCount with h1 | h1
        · exact Or.inl h1
        · right; left; omega
      · right; right; exact h
    · rintro (h | h | h)
      · left; omega
      · left; omega
      · right; exact h

theorem addGeomean_isSome (G : GeoFn) (c : Coll) (unit : Str) (delta : Bool) :
    (addGeomean G c unit delta).isSome ↔ ∃ cfg ∈ c.configs, 1 < (geoMeansOf c unit cfg).length := by
  have key := geoFold_maxCount G c unit c.configs { delta := delta }
  simp only [Nat.not_lt_zero, false_or] at key
  rw [← key]
  unfold addGeomean
  simp only
  by_cases h : (c.configs.foldl (geoStep G c unit) { delta := delta }).maxCount ≤ 1
  · simp [h]
  · simp only [h, if_false]
    constructor
    · intro _; omega
    · intro _; split <;> rfl

theorem addGeomean_metrics (G : GeoFn) (c : Coll) (unit : Str) (delta : Bool) :
    ∀ r, addGeomean G c unit delta = some r →
      r.bench = geoRowName ∧
      r.metrics = c.configs.map (fun cfg =>
        if (geoMeansOf c unit cfg).isEmpty then ({} : Metrics)
        else { unit := unit, mean := G (geoMeansOf c unit cfg) }) := by
  intro r h
  have hm := geoFold_metrics G c unit c.configs { delta := delta }
  simp only [List.nil_append] at hm
  unfold addGeomean at h
  simp only at h
  split at h
  · cases h
  · split at h
    · injection h with h; rw [← h]; exact ⟨rfl, hm⟩
    · injection h with h; rw [← h]; exact ⟨rfl, hm⟩

end C17
