/-
C12 helper lemmas: the modified Lentz iteration of `betacf` (exact instance) against the
convergents A_j/B_j of the continued fraction 1/(1 + e₁/(1 + e₂/(1 + …))).
-/
import Proofs.Lemmas.C12Dist

namespace C12
open Stats Stats.Beta

/-- the partial numerators in the order the code consumes them: e₁ = −(a+b)x/(a+1) (folded into
the initial state), e₂ₘ = `numEven m`, e₂ₘ₊₁ = `numOdd m` -/
def cfNum (x a b : ℚ) (j : ℕ) : ℚ :=
  if j = 1 then -((a + b) * x / (a + 1))
  else if j % 2 = 0 then numEven x a b (j / 2) else numOdd x a b (j / 2)

/-- numerators and denominators of the convergents (Wallis / fundamental recurrence):
A₀ = B₀ = 1, A₁ = 1, B₁ = 1 + e₁, X_{j+2} = X_{j+1} + e_{j+2}·X_j.  A_j/B_j is the continued
fraction truncated after e_j. -/
def cfA (e : ℕ → ℚ) : ℕ → ℚ
  | 0 => 1
  | 1 => 1
  | j + 2 => cfA e (j + 1) + e (j + 2) * cfA e j

def cfB (e : ℕ → ℚ) : ℕ → ℚ
  | 0 => 1
  | 1 => 1 + e 1
  | j + 2 => cfB e (j + 1) + e (j + 2) * cfB e j

/-- truncations really are the nested fractions (first three, as a sanity check of the indexing) -/
example (e : ℕ → ℚ) : cfA e 2 / cfB e 2 = (1 + e 2) / (1 + e 2 + e 1) := by
  show (1 + e 2 * 1) / (1 + e 1 + e 2 * 1) = _
  ring

/-- the guard `raiseZero` leaves z unchanged -/
def GuardOff (z : ℚ) : Prop := raiseZero z = z

theorem one_rat : (Stats.Beta.one : ℚ) = 1 := Nat.cast_one
theorem two_rat : (Stats.Beta.two : ℚ) = 2 := Nat.cast_ofNat

theorem tiny_pos : (0 : ℚ) < (tiny : ℚ) := by
  show (0 : ℚ) < ((1 : ℕ) : ℚ) / ((2 ^ 1074 : ℕ) : ℚ)
  positivity

theorem GuardOff.ne_zero {z : ℚ} (h : GuardOff z) : z ≠ 0 := by
  rintro rfl
  have : Arith.lt (Arith.abs (0 : ℚ)) (tiny : ℚ) = true := by
    rw [lt_rat, abs_rat, abs_zero]; exact tiny_pos
  rw [GuardOff, raiseZero, if_pos this] at h
  exact tiny_pos.ne' h

theorem halfStep_eq (e : ℚ) (s : LState ℚ) (g1 : GuardOff (1 + e * s.d))
    (g2 : GuardOff (1 + e / s.c)) :
    (halfStep e s).1 =
      ⟨1 + e / s.c, 1 / (1 + e * s.d), s.h * (1 / (1 + e * s.d) * (1 + e / s.c))⟩ := by
  unfold GuardOff at g1 g2
  simp only [halfStep, one_rat, div_rat, mul_rat, add_rat, g1, g2]

/-- Lentz state after the numerators e₁ … e_{k+1} -/
def lstate (x a b : ℚ) : ℕ → LState ℚ
  | 0 => initState x a b
  | k + 1 => (halfStep (cfNum x a b (k + 2)) (lstate x a b k)).1

/-- the two guarded quantities of the half step that consumes e_{k+2} -/
def guardsOff (x a b : ℚ) (k : ℕ) : Prop :=
  GuardOff (1 + cfNum x a b (k + 2) * (lstate x a b k).d) ∧
  GuardOff (1 + cfNum x a b (k + 2) / (lstate x a b k).c)

/-- the guard of the initial state -/
def guardInit (x a b : ℚ) : Prop := GuardOff (1 + cfNum x a b 1)

/-- invariant: c_j = A_j/A_{j−1}, d_j = B_{j−1}/B_j, h_j = A_j/B_j (j = k+1), with the divisors non-zero -/
structure LentzInv (e : ℕ → ℚ) (s : LState ℚ) (k : ℕ) : Prop where
  c : s.c * cfA e k = cfA e (k + 1)
  d : s.d * cfB e (k + 1) = cfB e k
  h : s.h * cfB e (k + 1) = cfA e (k + 1)
  a0 : cfA e k ≠ 0
  a1 : cfA e (k + 1) ≠ 0
  b1 : cfB e (k + 1) ≠ 0

theorem lentz_init (x a b : ℚ) (hg : guardInit x a b) :
    LentzInv (cfNum x a b) (lstate x a b 0) 0 := by
  have hz : cfB (cfNum x a b) 1 ≠ 0 := hg.ne_zero
  have he : (1 : ℚ) - (a + b) * x / (a + 1) = 1 + cfNum x a b 1 := by
    rw [cfNum, if_pos rfl, sub_eq_add_neg]
  have hs : lstate x a b 0 = ⟨1, 1 / (1 + cfNum x a b 1), 1 / (1 + cfNum x a b 1)⟩ := by
    unfold guardInit GuardOff at hg
    simp only [lstate, initState, one_rat, sub_rat, div_rat, mul_rat, add_rat, he, hg]
  rw [hs]
  exact ⟨mul_one _, one_div_mul_cancel hz, one_div_mul_cancel hz, one_ne_zero, one_ne_zero, hz⟩

/-- B_{k+2} = B_{k+1}(1 + e d) and A_{k+2} = A_{k+1}(1 + e / c), for any numerators and any state -/
theorem lentz_step (e : ℕ → ℚ) (s : LState ℚ) (k : ℕ) (hi : LentzInv e s k)
    (g1 : GuardOff (1 + e (k + 2) * s.d)) (g2 : GuardOff (1 + e (k + 2) / s.c)) :
    LentzInv e (halfStep (e (k + 2)) s).1 (k + 1) := by
  have z1 := g1.ne_zero
  have hc0 : s.c ≠ 0 := fun h0 => hi.a1 (by rw [← hi.c, h0, zero_mul])
  have hB : cfB e (k + 2) = cfB e (k + 1) * (1 + e (k + 2) * s.d) := by
    rw [cfB, ← hi.d]; ring
  have hA : cfA e (k + 2) = cfA e (k + 1) * (1 + e (k + 2) / s.c) := by
    rw [cfA, ← hi.c, mul_add, mul_one, mul_comm (s.c * _), ← mul_assoc, div_mul_cancel₀ _ hc0]
  have hinv := one_div_mul_cancel z1
  rw [halfStep_eq _ _ g1 g2]
  refine ⟨?_, ?_, ?_, hi.a1, hA ▸ mul_ne_zero hi.a1 g2.ne_zero, hB ▸ mul_ne_zero hi.b1 z1⟩
  · rw [hA, mul_comm]
  · rw [hB]; linear_combination cfB e (k + 1) * hinv
  · rw [hB, hA, ← hi.h]
    linear_combination s.h * cfB e (k + 1) * (1 + e (k + 2) / s.c) * hinv

theorem lentz_inv (x a b : ℚ) (hg0 : guardInit x a b) :
    ∀ k, (∀ j, j < k → guardsOff x a b j) → LentzInv (cfNum x a b) (lstate x a b k) k := by
  intro k
  induction k with
  | zero => intro _; exact lentz_init x a b hg0
  | succ n ih =>
    intro hg
    exact lentz_step _ _ n (ih fun j hj => hg j (Nat.lt_succ_of_lt hj)) (hg n n.lt_succ_self).1
      (hg n n.lt_succ_self).2

theorem cfNum_even (x a b : ℚ) (m : ℕ) : cfNum x a b (2 * m) = numEven x a b m := by
  rw [cfNum, if_neg (by omega), if_pos (Nat.mul_mod_right 2 m), Nat.mul_div_cancel_left m two_pos]

theorem cfNum_odd (x a b : ℚ) (m : ℕ) (hm : 1 ≤ m) : cfNum x a b (2 * m + 1) = numOdd x a b m := by
  rw [cfNum, if_neg (by omega), if_neg (by omega), show (2 * m + 1) / 2 = m by omega]

/-- `hfac` of iteration m (1-based): the product d·c of its odd half step -/
def hfac (x a b : ℚ) (m : ℕ) : ℚ :=
  (halfStep (cfNum x a b (2 * m + 1)) (lstate x a b (2 * m - 1))).2

/-- the termination test of the code: `math.Abs(hfac-1) < epsilon`, ε = 3e-14 -/
def stopTest (x a b : ℚ) (m : ℕ) : Prop := |hfac x a b m - 1| < 3 / 10 ^ 14

theorem stop_iff (x a b : ℚ) (m : ℕ) :
    (Arith.lt (Arith.abs (Arith.sub (hfac x a b m) (Stats.Beta.one : ℚ))) (epsilon : ℚ) = true) ↔
      stopTest x a b m := by
  have e1 : (epsilon : ℚ) = 3 / 10 ^ 14 := by
    show ((3 : ℕ) : ℚ) / ((10 ^ 14 : ℕ) : ℚ) = _
    norm_num
  rw [lt_rat, abs_rat, sub_rat, one_rat, e1, stopTest]

instance (x a b : ℚ) (m : ℕ) : Decidable (stopTest x a b m) := by unfold stopTest; infer_instance

/-- iteration m = j + 1 of the loop, entered with the state after e₁ … e_{2j+1}: its two half
steps consume e_{2j+2} and e_{2j+3} -/
theorem cfLoop_succ (x a b : ℚ) (fuel j : ℕ) :
    cfLoop x a b (fuel + 1) (j + 1) (lstate x a b (2 * j)) =
      if stopTest x a b (j + 1) then some (lstate x a b (2 * j + 2)).h
      else cfLoop x a b fuel (j + 2) (lstate x a b (2 * j + 2)) := by
  rw [cfLoop, ← cfNum_even, ← cfNum_odd x a b (j + 1) j.succ_pos]
  exact if_congr (stop_iff x a b (j + 1)) rfl rfl

/-- the loop is a search for the first iteration whose test fires -/
theorem cfLoop_eq_find (x a b : ℚ) : ∀ (fuel j : ℕ),
    cfLoop x a b fuel (j + 1) (lstate x a b (2 * j)) =
      ((List.range' (j + 1) fuel).find? fun m => decide (stopTest x a b m)).map
        fun m => (lstate x a b (2 * m)).h := by
  intro fuel
  induction fuel with
  | zero => exact fun _ => rfl
  | succ n ih =>
    intro j
    rw [cfLoop_succ, List.range'_succ, List.find?_cons]
    by_cases ht : stopTest x a b (j + 1)
    · rw [if_pos ht, decide_eq_true ht]; rfl
    · rw [if_neg ht, decide_eq_false ht]; exact ih (j + 1)

theorem betacf_eq_find (x a b : ℚ) :
    betacf x a b = ((List.range' 1 maxIterations).find? fun m => decide (stopTest x a b m)).map
      fun m => (lstate x a b (2 * m)).h :=
  cfLoop_eq_find x a b maxIterations 0

theorem hfac_ratio (x a b : ℚ) (m : ℕ) (hm : 1 ≤ m) {A1 A0 B1 B0 : ℚ}
    (hc : (lstate x a b (2 * m)).c = A1 / A0) (hd : (lstate x a b (2 * m)).d = B0 / B1) :
    hfac x a b m = (A1 / B1) / (A0 / B0) := by
  obtain ⟨j, rfl⟩ := Nat.exists_eq_add_of_le' hm
  have hf : hfac x a b (j + 1) = (lstate x a b (2 * (j + 1))).d * (lstate x a b (2 * (j + 1))).c := rfl
  rw [hf, hc, hd, div_mul_div_comm, div_div_div_eq, mul_comm B0]

end C12
