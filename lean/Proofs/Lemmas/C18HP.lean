/-
C18 helper: HashPairs.  What the rearrangement loop leaves in HashPairs[series] (code after
commit 83c6e29: first writer wins, a missing denominator hash is filled in later), for both
duplicate policies, and why it does not depend on the visiting order under `CDet`.
-/
import Proofs.Lemmas.C18Cells

namespace C18
open Series

/-- one HashPairs update, seen from a fixed series point -/
def hpCell (o : Option (Bytes × Bytes)) (c : Contrib) : Option (Bytes × Bytes) :=
  match o with
  | none => some (c.hash, c.bhash)
  | some (n, d) => if n = c.hash ∧ d = [] then some (n, c.bhash) else some (n, d)

theorem setHP_lookup (c : Contrib) (m : List (Bytes × (Bytes × Bytes))) (s : Bytes) :
    alookup s (setHP c.ser c.hash c.bhash m) = if c.ser = s then hpCell (alookup s m) c else alookup s m := by
  unfold setHP
  by_cases hs : c.ser = s
  · subst hs
    cases hl : alookup c.ser m with
    | none => simp [hpCell, alookup_aset]
    | some p => by_cases hc : p.1 = c.hash ∧ p.2 = [] <;> simp [hpCell, hc, hl, alookup_aset]
  · have hs' : ¬ s = c.ser := fun e => hs e.symm
    cases alookup c.ser m with
    | none => simp [hs, hs', alookup_aset]
    | some p => by_cases hc : p.1 = c.hash ∧ p.2 = [] <;> simp [hs, hs', hc, alookup_aset]

theorem step_hp (env : Env) (pol : Policy) (a : Acc) (c : Contrib) :
    (step env pol a c).hp =
      if pol = .combine ∧ (alookup c.key a.cells).isSome then a.hp else setHP c.ser c.hash c.bhash a.hp := by
  unfold step Contrib.key
  cases hl : alookup (c.bench, c.ser) a.cells <;> cases pol <;> simp [hl]

theorem step_present (env : Env) (pol : Policy) (a : Acc) (c : Contrib) (k : Bytes × Bytes) :
    (alookup k (step env pol a c).cells).isSome = (decide (k = c.key) || (alookup k a.cells).isSome) := by
  rw [step_lookup]
  by_cases h : c.key = k
  · subst h
    cases alookup c.key a.cells <;> cases pol <;> simp [stepCell]
    split <;> rfl
  · have h' : ¬ k = c.key := fun e => h e.symm
    simp [h, h']

/-- the contributions that reach HashPairs: all of them under DUPE_REPLACE, under DUPE_COMBINE only the
first-visited one of every cell -/
def heard (pol : Policy) (present : Bytes × Bytes → Bool) : List Contrib → List Contrib
  | [] => []
  | c :: cs => (if pol = .combine ∧ present c.key then [] else [c]) ++
      heard pol (fun k => decide (k = c.key) || present k) cs

theorem hp_lookup_from (env : Env) (pol : Policy) (cs : List Contrib) (a : Acc) (present : Bytes × Bytes → Bool)
    (hpres : ∀ k, present k = (alookup k a.cells).isSome) (s : Bytes) :
    alookup s (cs.foldl (step env pol) a).hp =
      ((heard pol present cs).filter (fun c => c.ser = s)).foldl hpCell (alookup s a.hp) := by
  induction cs generalizing a present with
  | nil => rfl
  | cons c cs ih =>
    rw [List.foldl_cons, ih _ (fun k => decide (k = c.key) || present k)
      (fun k => by rw [step_present, hpres]), step_hp, ← hpres, heard, List.filter_append, List.foldl_append]
    congr 1
    by_cases hp : pol = .combine ∧ present c.key = true
    · simp [hp]
    · by_cases h : c.ser = s
      · subst h; simp [hp, setHP_lookup]
      · simp [hp, h, setHP_lookup]

theorem heard_replace (present : Bytes × Bytes → Bool) (cs : List Contrib) : heard .replace present cs = cs := by
  induction cs generalizing present with
  | nil => rfl
  | cons c cs ih => simp [heard, ih]

theorem heard_sub (pol : Policy) (present : Bytes × Bytes → Bool) (cs : List Contrib) :
    ∀ c ∈ heard pol present cs, c ∈ cs := by
  induction cs generalizing present with
  | nil => intro c hc; simp [heard] at hc
  | cons x cs ih =>
    intro c hc
    rcases List.mem_append.mp hc with h | h
    · split at h
      · exact absurd h List.not_mem_nil
      · exact List.mem_cons.mpr (Or.inl (List.mem_singleton.mp h))
    · exact List.mem_cons_of_mem _ (ih _ c h)

theorem heard_rep (pol : Policy) (present : Bytes × Bytes → Bool) (cs : List Contrib) :
    ∀ c ∈ cs, present c.key = false → ∃ c' ∈ heard pol present cs, c'.key = c.key := by
  induction cs generalizing present with
  | nil => intro c hc; simp at hc
  | cons x cs ih =>
    intro c hc hp
    by_cases hk : c.key = x.key
    · exact ⟨x, List.mem_append_left _ (by simp [← hk, hp]), hk.symm⟩
    · rcases List.mem_cons.mp hc with rfl | h
      · exact absurd rfl hk
      · obtain ⟨c', hc', hk'⟩ := ih (fun k => decide (k = x.key) || present k) c h (by simp [hk, hp])
        exact ⟨c', List.mem_append_right _ hc', hk'⟩

/-- the first non-empty baseline hash of the list ("" if none) -/
def firstNE : List Contrib → Bytes
  | [] => []
  | c :: G => if c.bhash = [] then firstNE G else c.bhash

theorem firstNE_spec (G : List Contrib) :
    (firstNE G = [] ∧ ∀ c ∈ G, c.bhash = []) ∨ (∃ c ∈ G, c.bhash ≠ [] ∧ firstNE G = c.bhash) := by
  induction G with
  | nil => exact Or.inl ⟨rfl, fun _ h => absurd h List.not_mem_nil⟩
  | cons c G ih =>
    by_cases hb : c.bhash = []
    · rw [firstNE, if_pos hb]
      rcases ih with ⟨e, a⟩ | ⟨c', m, n, e⟩
      · exact Or.inl ⟨e, List.forall_mem_cons.mpr ⟨hb, a⟩⟩
      · exact Or.inr ⟨c', List.mem_cons_of_mem _ m, n, e⟩
    · exact Or.inr ⟨c, List.mem_cons_self .., hb, by rw [firstNE, if_neg hb]⟩

theorem hp_fold_some (h d : Bytes) (G : List Contrib) (hall : ∀ c ∈ G, c.hash = h) :
    G.foldl hpCell (some (h, d)) = some (h, if d = [] then firstNE G else d) := by
  induction G generalizing d with
  | nil => by_cases hd : d = [] <;> simp [firstNE, hd]
  | cons c G ih =>
    have hc : c.hash = h := hall c (List.mem_cons_self ..)
    have ih := fun d => ih d fun x hx => hall x (List.mem_cons_of_mem _ hx)
    by_cases hd : d = [] <;> simp [hpCell, hc, hd, ih, firstNE]

/-- what a run of updates with one numerator hash leaves behind -/
def hpVal (G : List Contrib) : Option (Bytes × Bytes) :=
  match G with
  | [] => none
  | g0 :: _ => some (g0.hash, firstNE G)

theorem hp_fold_none (G : List Contrib) (hall : ∀ x ∈ G, ∀ y ∈ G, x.hash = y.hash) :
    G.foldl hpCell none = hpVal G := by
  cases G with
  | nil => rfl
  | cons g0 G =>
    rw [List.foldl_cons, hpVal, firstNE]
    exact hp_fold_some g0.hash g0.bhash G fun c hc => hall c (List.mem_cons_of_mem _ hc) g0 (List.mem_cons_self ..)

theorem hpVal_congr {G1 G2 : List Contrib} (ha : G1 = [] ↔ G2 = [])
    (hb : ∀ x ∈ G1 ++ G2, ∀ y ∈ G1 ++ G2, x.hash = y.hash ∧ (x.bhash = y.bhash ∨ x.bhash = [] ∨ y.bhash = []))
    (hc : (∃ c ∈ G1, c.bhash ≠ []) ↔ (∃ c ∈ G2, c.bhash ≠ [])) : hpVal G1 = hpVal G2 := by
  cases G1 with
  | nil => rw [ha.mp rfl]
  | cons g1 G1 =>
    cases G2 with
    | nil => exact absurd (ha.mpr rfl) (by simp)
    | cons g2 G2 =>
      simp only [hpVal, Option.some.injEq, Prod.mk.injEq]
      refine ⟨(hb g1 (by simp) g2 (by simp)).1, ?_⟩
      rcases firstNE_spec (g1 :: G1) with ⟨e1, a1⟩ | ⟨c1, m1, n1, e1⟩
      · rcases firstNE_spec (g2 :: G2) with ⟨e2, a2⟩ | ⟨c2, m2, n2, e2⟩
        · rw [e1, e2]
        · obtain ⟨c, hc1, hc2⟩ := hc.mpr ⟨c2, m2, n2⟩
          exact absurd (a1 c hc1) hc2
      · rcases firstNE_spec (g2 :: G2) with ⟨e2, a2⟩ | ⟨c2, m2, n2, e2⟩
        · obtain ⟨c, hc1, hc2⟩ := hc.mp ⟨c1, m1, n1⟩
          exact absurd (a2 c hc1) hc2
        · rw [e1, e2]
          rcases (hb c1 (List.mem_append_left _ m1) c2 (List.mem_append_right _ m2)).2 with h | h | h
          · exact h
          · exact absurd h n1
          · exact absurd h n2

theorem hpCell_canon (o : Option (Bytes × Bytes)) (c : Contrib) : hpCell o (canonC c) = hpCell o c := rfl

theorem heard_canon (pol : Policy) (present : Bytes × Bytes → Bool) (cs : List Contrib) :
    heard pol present (cs.map canonC) = (heard pol present cs).map canonC := by
  induction cs generalizing present with
  | nil => rfl
  | cons c cs ih =>
    rw [List.map_cons, heard, heard, canonC_key, ih, List.map_append]
    split <;> rfl

/-- the contributions that decide HashPairs[s] -/
def hpList (pol : Policy) (cs : List Contrib) (s : Bytes) : List Contrib :=
  (heard pol (fun _ => false) cs).filter (fun c => c.ser = s)

theorem hp_lookup (env : Env) (pol : Policy) (cs : List Contrib) (s : Bytes) :
    alookup s (cs.foldl (step env pol) {}).hp = (hpList pol cs s).foldl hpCell none :=
  hp_lookup_from env pol cs {} (fun _ => false) (fun _ => rfl) s

theorem hp_canon (env : Env) (pol : Policy) (cs : List Contrib) (s : Bytes) :
    alookup s ((cs.map canonC).foldl (step env pol) {}).hp = alookup s (cs.foldl (step env pol) {}).hp := by
  rw [hp_lookup, hp_lookup, hpList, heard_canon, filter_map_canon _ (fun _ => rfl), List.foldl_map]
  rfl

theorem hpList_sub (pol : Policy) (cs : List Contrib) (s : Bytes) :
    ∀ c ∈ hpList pol cs s, c ∈ cs ∧ c.ser = s := by
  intro c hc
  obtain ⟨h1, h2⟩ := List.mem_filter.mp hc
  exact ⟨heard_sub _ _ _ c h1, by simpa using h2⟩

theorem hpList_rep (pol : Policy) (cs : List Contrib) {c : Contrib} (hc : c ∈ cs) :
    ∃ c' ∈ hpList pol cs c.ser, c'.key = c.key := by
  obtain ⟨c', hc', hk⟩ := heard_rep pol (fun _ => false) cs c hc rfl
  exact ⟨c', List.mem_filter.mpr ⟨hc', decide_eq_true (congrArg Prod.snd hk)⟩, hk⟩

theorem hpList_nil_iff (pol : Policy) (cs : List Contrib) (s : Bytes) :
    hpList pol cs s = [] ↔ ∀ c ∈ cs, c.ser ≠ s := by
  constructor
  · rintro h c hc rfl
    obtain ⟨c', hc', -⟩ := hpList_rep pol cs hc
    rw [h] at hc'
    exact absurd hc' List.not_mem_nil
  · intro h
    apply List.eq_nil_iff_forall_not_mem.mpr
    intro c hc
    exact h c (hpList_sub pol cs s c hc).1 (hpList_sub pol cs s c hc).2

theorem hpList_ne_iff (pol : Policy) (cs : List Contrib) (hd : CDet pol cs) (s : Bytes) :
    (∃ c ∈ hpList pol cs s, c.bhash ≠ []) ↔ (∃ c ∈ cs, c.ser = s ∧ c.bhash ≠ []) := by
  constructor
  · rintro ⟨c, hc, hb⟩
    exact ⟨c, (hpList_sub pol cs s c hc).1, (hpList_sub pol cs s c hc).2, hb⟩
  · rintro ⟨x, hx, hs, hb⟩
    cases pol with
    | replace => exact ⟨x, List.mem_filter.mpr ⟨by rwa [heard_replace], by simpa using hs⟩, hb⟩
    | combine =>
      obtain ⟨c, hc, hcs, hall⟩ := hd.heard rfl x hx hb
      obtain ⟨c', hc', hk⟩ := hpList_rep .combine cs hc
      rw [hcs, hs] at hc'
      exact ⟨c', hc', hall c' (hpList_sub _ _ _ c' hc').1 hk⟩

theorem hp_perm (env : Env) (pol : Policy) {cs cs' : List Contrib} (p : cs.Perm cs') (hd : CDet pol cs) (s : Bytes) :
    alookup s (cs.foldl (step env pol) {}).hp = alookup s (cs'.foldl (step env pol) {}).hp := by
  have hd' := hd.perm p
  rw [hp_lookup, hp_lookup]
  have hsame : ∀ (cs : List Contrib), CDet pol cs → ∀ x ∈ hpList pol cs s, ∀ y ∈ hpList pol cs s, x.hash = y.hash := by
    intro cs hd x hx y hy
    have h1 := hpList_sub pol cs s x hx
    have h2 := hpList_sub pol cs s y hy
    exact (hd.hp1 x h1.1 y h2.1 (h1.2.trans h2.2.symm)).1
  rw [hp_fold_none _ (hsame cs hd), hp_fold_none _ (hsame cs' hd')]
  apply hpVal_congr
  · simp only [hpList_nil_iff, p.mem_iff]
  · intro x hx y hy
    have mem : ∀ z ∈ hpList pol cs s ++ hpList pol cs' s, z ∈ cs ∧ z.ser = s := by
      intro z hz
      rcases List.mem_append.mp hz with h | h
      · exact hpList_sub pol cs s z h
      · exact ⟨p.mem_iff.mpr (hpList_sub pol cs' s z h).1, (hpList_sub pol cs' s z h).2⟩
    have h1 := mem x hx
    have h2 := mem y hy
    exact hd.hp1 x h1.1 y h2.1 (h1.2.trans h2.2.symm)
  · simp only [hpList_ne_iff pol cs hd, hpList_ne_iff pol cs' hd', p.mem_iff]

theorem hp_congr (env : Env) (pol : Policy) {cs1 cs2 : List Contrib}
    (hp : (cs1.map canonC).Perm (cs2.map canonC)) (hd : CDet pol cs1) (s : Bytes) :
    alookup s (cs1.foldl (step env pol) {}).hp = alookup s (cs2.foldl (step env pol) {}).hp := by
  rw [← hp_canon env pol cs1, ← hp_canon env pol cs2]
  exact hp_perm env pol hp hd.canon s

end C18
