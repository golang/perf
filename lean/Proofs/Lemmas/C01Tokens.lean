/-
Single printed lines. From what the line grammar makes of printed keys and fields and the well-formedness
clauses of `Spec/RoundTrip.lean`: what the reader makes of a `key: value` line, a `key:` line, a benchmark line
and a unit-metadata line (`CfgGood`, `BenchGood`, `UnitGood`), hence the hypotheses of `history_lines` for a
history satisfying `WFnoCR` (`wf_good`).
-/
import Proofs.Lemmas.C01History
import Proofs.Lemmas.C01Grammar
import Proofs.Lemmas.Shared.Decimal

namespace C01
open Fmt Spec.RoundTrip
open Spec.Format (joinSp firstAndFields_join)

theorem keyOK_scan {uc : UC} {k : Bytes} (h : keyOK uc k = true) :
    kvScan uc true 0 (k ++ [58]) = .found k [] := by
  unfold keyOK at h
  simp only [Bool.and_eq_true, beq_iff_eq] at h
  exact h.2

theorem keyOK_noSpace {uc : UC} {k : Bytes} (h : keyOK uc k = true) : noAsciiSpace k = true := by
  unfold keyOK at h
  simp only [Bool.and_eq_true] at h
  exact h.1

/-- a key starts with a byte that is neither `B` nor `U` (the first rune is lower case) -/
theorem keyOK_head {uc : UC} {k : Bytes} (h : keyOK uc k = true) :
    ∃ c t, k = c :: t ∧ c ≠ 66 ∧ c ≠ 85 := by
  have hs := keyOK_scan h
  cases k with
  | nil => exact nomatch hs
  | cons c t =>
    refine ⟨c, t, rfl, fun hc => ?_, fun hc => ?_⟩
    · subst hc; exact nomatch hs
    · subst hc; exact nomatch hs

theorem parse_kvLine {uc : UC} {k v : Bytes} (hk : keyOK uc k = true) (hv : valueOKnoCR v = true) :
    parseKeyValueLine uc (kvLine k v) = some (k, v) := by
  rw [← Spec.Format.kvLine_eq, kvLine, show k ++ [58, 32] ++ v = k ++ 58 :: 32 :: v by simp,
    Spec.Format.kvLine_key hk]
  unfold valueOKnoCR at hv
  simp only [Bool.and_eq_true, Bool.not_eq_true'] at hv
  cases v with
  | nil => simp at hv
  | cons x xs =>
    have hx : Spec.Format.isBlankByte x = false := by simpa [isBlank, Spec.Format.isBlankByte] using hv.2
    have h32 : Spec.Format.isBlankByte 32 = true := by decide
    simp [List.dropWhile, hx, h32]

theorem parse_delLine {uc : UC} {k : Bytes} (hk : keyOK uc k = true) :
    parseKeyValueLine uc (delLine k) = some (k, []) := by
  rw [← Spec.Format.kvLine_eq, delLine, Spec.Format.kvLine_key hk]

theorem scanLine_keyLine (O : Oracles) {k v rest : Bytes} (hk : keyOK O.uc k = true)
    (hp : parseKeyValueLine O.uc (k ++ rest) = some (k, v)) : Sets O (k ++ rest) k v := by
  intro st
  obtain ⟨c, t, rfl, h66, h85⟩ := keyOK_head hk
  have hpre : Bytes.hasPrefix (c :: t ++ rest) benchmarkPrefix = false := by
    simp [Bytes.hasPrefix, benchmarkPrefix, h66]
  have hunit : isUnitLine O.uc (c :: t ++ rest) = none := by
    cases hu : isUnitLine O.uc (c :: t ++ rest) with
    | none => rfl
    | some r => exact absurd (Option.some.inj (isUnitLine_head hu)) h85
  rw [scanLine_kv hpre hunit, hp]
  rfl

theorem sets_kvLine (O : Oracles) {k v : Bytes} (hk : keyOK O.uc k = true)
    (hv : valueOKnoCR v = true) : Sets O (kvLine k v) k v := by
  have hline : kvLine k v = k ++ ([58, 32] ++ v) := List.append_assoc _ _ _
  have hp := parse_kvLine hk hv
  rw [hline] at hp ⊢
  exact scanLine_keyLine O hk hp

theorem sets_delLine (O : Oracles) {k : Bytes} (hk : keyOK O.uc k = true) : Sets O (delLine k) k [] :=
  scanLine_keyLine O hk (parse_delLine hk)

theorem delOk_of_internal (O : Oracles) {k : Bytes} (hk : internalKeyOK O k = true) :
    Sets O (delLine k) k [] ∨ Inert O (delLine k) := by
  unfold internalKeyOK at hk
  simp only [Bool.and_eq_true, Bool.or_eq_true, Bool.not_eq_true'] at hk
  rcases hk.2 with h | h
  · exact Or.inl (sets_delLine O h)
  · right
    intro st
    have h1 : isUnitLine O.uc (k ++ [58]) = none := by
      cases hh : isUnitLine O.uc (k ++ [58]) <;> simp_all
    have h2 : parseKeyValueLine O.uc (k ++ [58]) = none := by
      cases hh : parseKeyValueLine O.uc (k ++ [58]) <;> simp_all
    rw [delLine, scanLine_kv h.1.1 h1, h2]
    rfl

theorem cfgGood_of_ok (O : Oracles) {c : Cfg} (h : cfgOKnoCR O c = true) : CfgGood O c := by
  unfold cfgOKnoCR at h
  unfold CfgGood
  cases hf : c.file with
  | true =>
    simp only [hf, ↓reduceIte, Bool.and_eq_true] at h
    refine ⟨sets_kvLine O h.1 h.2, fun hv => ?_, sets_delLine O h.1⟩
    have := h.2
    rw [hv] at this
    simp [valueOKnoCR] at this
  | false =>
    simp only [hf, Bool.false_eq_true, ↓reduceIte] at h
    exact delOk_of_internal O h

theorem tokenOK_ascii (uc : UC) : ∀ t : Bytes, (∀ c ∈ t, c < 0x80 ∧ asciiSpace c = false) →
    tokenOK uc t = true := by
  intro t h
  rw [Spec.Format.tokenOK_iff]
  induction t with
  | nil => intro r hr; cases hr
  | cons c t ih =>
    obtain ⟨hc, hs⟩ := h c List.mem_cons_self
    rw [Spec.Format.runes_ascii c hc]
    intro r hr
    rcases List.mem_cons.1 hr with rfl | hr
    · exact (asciiSpace_eq uc c hc).symm.trans hs
    · exact ih (fun c' h' => h c' (List.mem_cons_of_mem _ h')) r hr

theorem fmtInt_token (uc : UC) (n : Int) : fmtInt n ≠ [] ∧ tokenOK uc (fmtInt n) = true := by
  have key : ∀ m : Nat, ∀ c ∈ decimalDigits m, c < 0x80 ∧ asciiSpace c = false := by
    intro m c hc
    have := Shared.dec_digit m c hc
    refine ⟨?_, asciiSpace_high c (by omega)⟩
    rw [UInt8.lt_iff_toNat_lt]
    have : (0x80 : UInt8).toNat = 128 := rfl
    omega
  unfold fmtInt
  split
  · refine ⟨by simp, tokenOK_ascii uc _ ?_⟩
    intro c hc
    simp only [List.mem_cons] at hc
    rcases hc with hc | hc
    · subst hc; exact ⟨by decide, by decide⟩
    · exact key _ c hc
  · exact ⟨Shared.dec_ne_nil _, tokenOK_ascii uc _ (key _)⟩

/-- What the round trip needs from number printing and parsing for ONE value (the abstract pair
`fmtNum`/`atof`): printing then parsing gives the number back (NaNs are identified), and the
printed number is one non-empty field. -/
def NumGood (O : Oracles) (P : WParams) (x : UInt64) : Prop :=
  (∃ y, O.atof (P.fmtNum x) = .ok y ∧ normNum y = normNum x) ∧
    P.fmtNum x ≠ [] ∧ tokenOK O.uc (P.fmtNum x) = true

/-- the same for an iteration count (`%d`/`Atoi`) -/
def IntGood (O : Oracles) (n : Int) : Prop := O.atoi (fmtInt n) = .ok n

/-- … for the numbers of a result -/
def ResNumOK (O : Oracles) (P : WParams) (r : Res) : Prop :=
  IntGood O r.iters ∧ ∀ v ∈ r.values, NumGood O P v.written.1

/-- … for the numbers that occur in a history (decidable for executable `O`, `P`) -/
def NumOKFor (O : Oracles) (P : WParams) (h : List Rec) : Prop :=
  ∀ r, Rec.result r ∈ h → ResNumOK O P r

/-- … for all numbers -/
structure NumOK (O : Oracles) (P : WParams) : Prop where
  atoi : ∀ n, O.atoi (fmtInt n) = .ok n
  atof : ∀ x, ∃ y, O.atof (P.fmtNum x) = .ok y ∧ normNum y = normNum x
  numTok : ∀ x, P.fmtNum x ≠ [] ∧ tokenOK O.uc (P.fmtNum x) = true

theorem NumOK.for {O : Oracles} {P : WParams} (h : NumOK O P) (hist : List Rec) : NumOKFor O P hist :=
  fun r _ => ⟨h.atoi r.iters, fun _ _ => ⟨h.atof _, h.numTok _⟩⟩

def valToks (P : WParams) (vs : List Val) : List Bytes :=
  vs.flatMap (fun v => [P.fmtNum v.written.1, v.written.2])

theorem benchLine_eq (P : WParams) (r : Res) :
    benchLine P r = benchmarkPrefix ++ (r.name ++ 32 :: joinSp (fmtInt r.iters :: valToks P r.values)) := by
  have key : ∀ (vs : List Val) (t : Bytes),
      t ++ vs.flatMap (fun v => 32 :: (P.fmtNum v.written.1 ++ 32 :: v.written.2)) =
        joinSp (t :: valToks P vs) := by
    intro vs
    induction vs with
    | nil => intro t; simp [valToks, joinSp]
    | cons v vs ih =>
      intro t
      have := ih v.written.2
      simp only [valToks] at this
      simp only [List.flatMap_cons, valToks, List.cons_append, List.nil_append, joinSp, List.append_assoc]
      rw [this]
  have hg : (fun v : Val => [32] ++ P.fmtNum v.written.1 ++ [32] ++ v.written.2) =
      (fun v => 32 :: (P.fmtNum v.written.1 ++ 32 :: v.written.2)) := by
    funext v; simp
  unfold benchLine
  rw [hg, ← key]
  simp

theorem written_eq (v : Val) : written v = (normNum v.written.1, v.written.2) := by
  unfold written Val.written
  split <;> rfl

theorem written_mkVal (O : Oracles) (val : UInt64) (unit : Bytes) (hne : unit ≠ []) :
    written (Spec.Format.mkVal O val unit) = (normNum val, unit) := by
  have hue : unit.isEmpty = false := by cases unit <;> simp_all
  unfold Spec.Format.mkVal
  split
  · rfl
  · simp [written, hue]

theorem measurements_tokens (O : Oracles) (P : WParams) :
    ∀ vs : List Val, (∀ v ∈ vs, NumGood O P v.written.1) → (∀ v ∈ vs, v.written.2 ≠ []) →
      ∃ vals, Spec.Format.measurements O (valToks P vs) = .ok vals ∧ vals.map written = vs.map written := by
  intro vs
  induction vs with
  | nil => intro _ _; exact ⟨[], rfl, rfl⟩
  | cons v vs ih =>
    intro hnum hu
    obtain ⟨y, hy, hny⟩ := (hnum v List.mem_cons_self).1
    obtain ⟨vals, hp, hv⟩ := ih (fun v' h => hnum v' (List.mem_cons_of_mem _ h))
      (fun v' h => hu v' (List.mem_cons_of_mem _ h))
    refine ⟨Spec.Format.mkVal O y v.written.2 :: vals, ?_, ?_⟩
    · simp only [valToks, List.flatMap_cons, List.cons_append, List.nil_append, Spec.Format.measurements, hy]
      simp only [valToks] at hp
      rw [hp]
    · rw [List.map_cons, List.map_cons, hv, written_eq v, ← hny]
      exact congrArg (· :: _) (written_mkVal O y _ (hu v List.mem_cons_self))

theorem benchLine_tokens (O : Oracles) (P : WParams) (r : Res) (hnum : ResNumOK O P r)
    (hunits : ∀ v ∈ r.values, v.written.2 ≠ [] ∧ tokenOK O.uc v.written.2 = true) :
    ∀ t ∈ fmtInt r.iters :: valToks P r.values, t ≠ [] ∧ tokenOK O.uc t = true := by
  intro t ht
  simp only [List.mem_cons, valToks, List.mem_flatMap, List.not_mem_nil, or_false] at ht
  rcases ht with ht | ⟨v, hv', ht⟩
  · subst ht; exact fmtInt_token O.uc r.iters
  · rcases ht with ht | ht
    · subst ht; exact (hnum.2 v hv').2
    · subst ht; exact hunits v hv'

theorem benchGood_of_ok (O : Oracles) (P : WParams) (r : Res) (hnum : ResNumOK O P r)
    (hname : tokenOK O.uc r.name = true) (hvals : r.values ≠ [])
    (hunits : ∀ v ∈ r.values, v.written.2 ≠ [] ∧ tokenOK O.uc v.written.2 = true) : BenchGood O P r := by
  obtain ⟨vals, hp, hv⟩ := measurements_tokens O P r.values hnum.2 (fun v h => (hunits v h).1)
  refine ⟨vals, ?_, hv⟩
  have hdrop : (benchLine P r).drop 9 = r.name ++ 32 :: joinSp (fmtInt r.iters :: valToks P r.values) := by
    rw [benchLine_eq]
    simp [benchmarkPrefix]
  have hat : O.atoi (fmtInt r.iters) = .ok r.iters := hnum.1
  have hne : (valToks P r.values).isEmpty = false := by
    cases hr : r.values with
    | nil => exact absurd hr hvals
    | cons _ _ => rfl
  rw [← Spec.Format.benchLine_eq]
  unfold Spec.Format.benchLine
  simp only [hdrop, firstAndFields_join O.uc _ _ hname (benchLine_tokens O P r hnum hunits), hat, hne, hp,
    Bool.false_eq_true, ↓reduceIte]

theorem span_key (key value : Bytes) (h : Bytes.hasByte key 61 = false) :
    (key ++ 61 :: value).span (fun c => !(c == 61)) = (key, 61 :: value) := by
  have hk : ∀ a ∈ key, (fun c : UInt8 => !(c == 61)) a = true := by
    simpa [Bytes.hasByte] using h
  rw [Shared.span_eq, List.takeWhile_append_of_pos hk, List.dropWhile_append_of_pos hk]
  simp

theorem tokenOK_unitPrefix (uc : UC) : tokenOK uc unitPrefix = true := by
  simp [tokenOK, noAsciiSpace, unitPrefix, takeField, asciiSpace, asciiSpaceMask]

theorem unitLine_eq (u : UnitMeta) :
    unitLine u = unitPrefix ++ 32 :: joinSp [u.origUnit, u.key ++ 61 :: u.value] := by
  simp [unitLine, joinSp]

theorem unitLine_tokens (O : Oracles) (u : UnitMeta) (h : unitOK O u = true) :
    ∀ t ∈ [u.origUnit, u.key ++ 61 :: u.value], t ≠ [] ∧ tokenOK O.uc t = true := by
  unfold unitOK at h
  simp only [Bool.and_eq_true, Bool.not_eq_true', beq_iff_eq] at h
  obtain ⟨⟨⟨⟨⟨hone, hotok⟩, _⟩, _⟩, hkvtok⟩, _⟩ := h
  rw [List.append_assoc] at hkvtok
  intro t ht
  simp only [List.mem_cons, List.not_mem_nil, or_false] at ht
  rcases ht with ht | ht
  · subst ht; exact ⟨fun e => by rw [e] at hone; exact (nomatch hone), hotok⟩
  · subst ht; exact ⟨by simp, hkvtok⟩

theorem unitGood_of_ok (O : Oracles) (u : UnitMeta) (h : unitOK O u = true) : UnitGood O u := by
  have htoks := unitLine_tokens O u h
  unfold unitOK at h
  simp only [Bool.and_eq_true, Bool.not_eq_true', beq_iff_eq] at h
  obtain ⟨⟨⟨⟨_, hkne⟩, hk61⟩, _⟩, htidy⟩ := h
  intro st hfresh
  have hline := unitLine_eq u
  obtain ⟨rest, hunit, hf⟩ : ∃ rest, isUnitLine O.uc (unitLine u) = some rest ∧
      fields O.uc rest = [u.origUnit, u.key ++ 61 :: u.value] := by
    have := Spec.Format.unitLine_eq O.uc (unitLine u)
    unfold Spec.Format.unitLine at this
    rw [hline, firstAndFields_join O.uc _ _ (tokenOK_unitPrefix O.uc) htoks] at this
    rw [hline]
    simpa using this.symm
  have hpre : Bytes.hasPrefix (unitLine u) benchmarkPrefix = false := by
    simp [hline, unitPrefix, benchmarkPrefix, Bytes.hasPrefix]
  have hspan := span_key u.key u.value hk61
  have hke : u.key.isEmpty = false := hkne
  rw [scanLine_unit hpre hunit]
  simp only [Bool.false_eq_true, ↓reduceIte, parseUnitLine, hf, ← htidy, unitFields,
    unitField, hspan, List.isEmpty_cons, hke, Bool.or_self, hfresh, List.drop_succ_cons,
    List.drop_zero, List.append_nil, next]

theorem distinct_iff (ks : List Bytes) : distinct ks = true ↔ ks.Nodup := by
  induction ks with
  | nil => exact ⟨fun _ => List.nodup_nil, fun _ => rfl⟩
  | cons k ks ih =>
    simp only [distinct, Bool.and_eq_true, Bool.not_eq_true', List.contains_eq_mem, decide_eq_false_iff_not,
      List.nodup_cons, ih]

theorem resOKnoCR_iff {O : Oracles} {r : Res} : resOKnoCR O r = true ↔
    (r.config.map Cfg.key).Nodup ∧ (∀ c ∈ r.config, cfgOKnoCR O c = true) ∧ r.values ≠ [] ∧
      tokenOK O.uc r.name = true ∧ ∀ v ∈ r.values, valOK O.uc v = true := by
  simp only [resOKnoCR, Bool.and_eq_true, List.all_eq_true, Bool.not_eq_true', distinct_iff,
    List.isEmpty_eq_false_iff, and_assoc]

theorem written_snd (v : Val) : v.written.2 = if v.origUnit.isEmpty then v.unit else v.origUnit := by
  unfold Val.written; split <;> rfl

theorem written_unit_of_ok {uc : UC} {v : Val} (h : valOK uc v = true) :
    v.written.2 ≠ [] ∧ tokenOK uc v.written.2 = true := by
  simp only [valOK, Bool.and_eq_true, Bool.not_eq_true'] at h
  rw [written_snd]
  exact ⟨fun he => by rw [he] at h; exact (nomatch h.1), h.2⟩

theorem recGood_of_ok (O : Oracles) (P : WParams) (r : Rec)
    (hnum : ∀ res, r = .result res → ResNumOK O P res) (h : recOKnoCR O r = true) : RecGood O P r := by
  cases r with
  | err e => trivial
  | unit u => exact unitGood_of_ok O u h
  | result res =>
    obtain ⟨hd, hc, hv, hn, hu⟩ := resOKnoCR_iff.1 h
    exact ⟨hd, fun c hcm => cfgGood_of_ok O (hc c hcm),
      benchGood_of_ok O P res (hnum res rfl) hn hv fun v hvm => written_unit_of_ok (hu v hvm)⟩

theorem distinctPairs_iff (ps : List (Bytes × Bytes)) : distinctPairs ps = true ↔ ps.Nodup := by
  induction ps with
  | nil => exact ⟨fun _ => List.nodup_nil, fun _ => rfl⟩
  | cons p ps ih =>
    simp only [distinctPairs, Bool.and_eq_true, Bool.not_eq_true', List.contains_eq_mem, decide_eq_false_iff_not,
      List.nodup_cons, ih]

theorem wf_recs {O : Oracles} {h : List Rec} (hwf : WFnoCR O h = true) :
    (∀ r ∈ h, recOKnoCR O r = true) ∧ distinctPairs (unitKeys h) = true := by
  simp only [WFnoCR, Bool.and_eq_true, List.all_eq_true] at hwf
  exact hwf

theorem wf_good {O : Oracles} {P : WParams} {h : List Rec} (hnum : NumOKFor O P h)
    (hwf : WFnoCR O h = true) : (∀ r ∈ h, RecGood O P r) ∧ (unitKeys h).Nodup :=
  ⟨fun r hr => recGood_of_ok O P r (fun res e => hnum res (e ▸ hr)) ((wf_recs hwf).1 r hr),
   (distinctPairs_iff _).1 (wf_recs hwf).2⟩

end C01
