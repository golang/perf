/-
C11, untied Mann–Whitney distribution: the recurrence `pRec` of `UDist.p` counts assignments of the pool `pool0` of distinct
values (`pRec_eq`), whence its flip and swap symmetries and the untied branch of the CDF wrapper (`cdfPure_untied_pRec`).
-/
import Model.Stats.UDist
import Model.Spec.UExact
import Proofs.Lemmas.C11Basic
import Proofs.Lemmas.C11Labelings
import Mathlib.Data.Nat.Choose.Basic
import Mathlib.Algebra.Order.Field.Rat
import Mathlib.Algebra.BigOperators.Group.Finset.Basic
import Mathlib.Algebra.BigOperators.Intervals
import Mathlib.Algebra.BigOperators.Field
import Mathlib.Tactic.Ring
import Mathlib.Tactic.Linarith
import Mathlib.Tactic.FieldSimp
import Mathlib.Tactic.LinearCombination

namespace C11
open Stats.UDist Spec.UExact

theorem pRec_zero_left (m : Nat) (u : Int) : pRec 0 m u = if u = 0 then 1 else 0 := by
  rw [pRec]

theorem pRec_zero_right (n : Nat) (u : Int) : pRec n 0 u = if u = 0 then 1 else 0 := by
  cases n <;> rw [pRec]

theorem pRec_succ_succ (n m : Nat) (u : Int) :
    pRec (n + 1) (m + 1) u = if u < 0 then 0 else
      (((n + 1 : Nat) : Rat) * pRec n (m + 1) (u - ((m + 1 : Nat) : Int))
        + ((m + 1 : Nat) : Rat) * pRec (n + 1) m u) / ((n + 1 + (m + 1) : Nat) : Rat) := by
  rw [pRec]

theorem pRec_neg (n m : Nat) (u : Int) (hu : u < 0) : pRec n m u = 0 := by
  cases n with
  | zero => rw [pRec_zero_left, if_neg (by omega)]
  | succ n =>
    cases m with
    | zero => rw [pRec_zero_right, if_neg (by omega)]
    | succ m => rw [pRec_succ_succ, if_pos hu]

/-- the count form of the recurrence: `q n m u = pRec n m u · C(n+m, n)` -/
def q (n m : Nat) (u : Int) : Rat := pRec n m u * (Nat.choose (n + m) n : Rat)

theorem q_zero_left (m : Nat) (u : Int) : q 0 m u = if u = 0 then 1 else 0 := by
  unfold q; rw [pRec_zero_left]; simp

theorem q_zero_right (n : Nat) (u : Int) : q n 0 u = if u = 0 then 1 else 0 := by
  unfold q; rw [pRec_zero_right]; simp

theorem q_rec1 (n m : Nat) (u : Int) :
    q (n + 1) (m + 1) u = q n (m + 1) (u - ((m : Int) + 1)) + q (n + 1) m u := by
  unfold q
  by_cases hu : u < 0
  · rw [pRec_neg _ _ _ hu, pRec_neg _ _ _ hu, pRec_neg _ _ _ (by omega : u - ((m : Int) + 1) < 0)]
    simp
  rw [pRec_succ_succ, if_neg hu]
  have h1 : ((n + 1 : Nat) : Rat) * (Nat.choose (n + 1 + (m + 1)) (n + 1) : Rat)
      = ((n + 1 + (m + 1) : Nat) : Rat) * (Nat.choose (n + (m + 1)) n : Rat) := by
    rw [show n + 1 + (m + 1) = n + (m + 1) + 1 by omega]
    exact_mod_cast (Nat.mul_comm _ _).trans (Nat.add_one_mul_choose_eq (n + (m + 1)) n).symm
  have h2 : ((m + 1 : Nat) : Rat) * (Nat.choose (n + 1 + (m + 1)) (n + 1) : Rat)
      = ((n + 1 + (m + 1) : Nat) : Rat) * (Nat.choose (n + 1 + m) (n + 1) : Rat) := by
    have := Nat.choose_mul_succ_eq (n + 1 + m) (n + 1)
    rw [show n + 1 + m + 1 - (n + 1) = m + 1 by omega] at this
    exact_mod_cast (Nat.mul_comm _ _).trans (this.symm.trans (Nat.mul_comm _ _))
  have hD : ((n + 1 + (m + 1) : Nat) : Rat) ≠ 0 := by
    exact_mod_cast (by omega : n + 1 + (m + 1) ≠ 0)
  rw [div_mul_eq_mul_div, div_eq_iff hD, Nat.cast_add m 1, Nat.cast_one]
  linear_combination (pRec n (m + 1) (u - ((m : Int) + 1))) * h1 + (pRec (n + 1) m u) * h2

/-- number of assignments with `2·U = 2·u` (`u : Int`; none for negative u) -/
def cntSpec {α : Type} [LT α] [DecidableLT α] [DecidableEq α] (n : Nat) (pool : List α)
    (u : Int) : Nat :=
  (nullDistOf n pool).countP (fun (x : Nat) => decide ((x : Int) = 2 * u))

section Count
variable {α : Type} [LT α] [DecidableLT α] [DecidableEq α]

theorem cntSpec_zero (pool : List α) (u : Int) :
    cntSpec 0 pool u = if u = 0 then 1 else 0 := by
  rw [cntSpec, countP_nullDistOf, countP_splits_zero, twoUPairs_nil_left_u]
  by_cases hu : u = 0
  · simp [hu]
  · simp [hu]

theorem cntSpec_of_lt (n : Nat) (pool : List α) (u : Int) (h : pool.length < n) :
    cntSpec n pool u = 0 := by
  rw [cntSpec, countP_nullDistOf, splits_gt pool n h]
  rfl

end Count

section Top
variable {α : Type} [LinearOrder α]

/-- the head is the largest value (`tup_block_top` with a group of one): in the first sample it
    beats every member of the second, in the second it loses to everybody -/
theorem twoUPairs_cons_top_left (a : α) (p1 p2 : List α) (h1 : ∀ x ∈ p1, x < a) (h2 : ∀ x ∈ p2, x < a) :
    twoUPairs (a :: p1) p2 = twoUPairs p1 p2 + 2 * p2.length := by
  have e := tup_block_top a 1 0 p1 p2 h1 h2
  simp only [List.replicate_one, List.replicate_zero, List.singleton_append, List.nil_append] at e
  rw [e]
  omega

theorem twoUPairs_cons_top_right (a : α) (p1 p2 : List α) (h1 : ∀ x ∈ p1, x < a) (h2 : ∀ x ∈ p2, x < a) :
    twoUPairs p1 (a :: p2) = twoUPairs p1 p2 := by
  have e := tup_block_top a 0 1 p1 p2 h1 h2
  simp only [List.replicate_one, List.replicate_zero, List.singleton_append, List.nil_append] at e
  rw [e]
  omega

theorem cntSpec_cons (n : Nat) (a : α) (l : List α) (u : Int) (hgt : ∀ x ∈ l, x < a) :
    cntSpec (n + 1) (a :: l) u
      = cntSpec n l (u - ((l.length - n : Nat) : Int)) + cntSpec (n + 1) l u := by
  unfold cntSpec
  rw [countP_nullDistOf, countP_nullDistOf, countP_nullDistOf, countP_splits_cons]
  congr 1 <;> apply List.countP_congr <;> intro p hp <;>
    obtain ⟨h1, h2⟩ := splits_mem_forall hgt hp
  · obtain ⟨h3, h4⟩ := splits_mem_length hp
    simp only [twoUPairs_cons_top_left a p.1 p.2 h1 h2, decide_eq_true_eq]
    push_cast
    omega
  · simp only [twoUPairs_cons_top_right a p.1 p.2 h1 h2]

/-- no ties between the samples: every pair weighs 0 or 2 -/
theorem twoUPairs_even {xs ys : List α} (h : ∀ a ∈ xs, ∀ b ∈ ys, a ≠ b) : twoUPairs xs ys % 2 = 0 := by
  induction xs with
  | nil => rfl
  | cons a xs ih =>
    have row : ∀ l : List α, (∀ b ∈ l, a ≠ b) → (l.map fun b => pairW a b).sum % 2 = 0 := by
      intro l
      induction l with
      | nil => intro _; rfl
      | cons b l ihl =>
        intro hl
        have := ihl fun b' hb' => hl b' (List.mem_cons_of_mem _ hb')
        rw [List.map_cons, List.sum_cons]
        rcases lt_or_gt_of_ne (hl b List.mem_cons_self) with hab | hab
        · rwa [pairW_lt hab, Nat.zero_add]
        · rwa [pairW_gt hab, Nat.add_mod_left]
    rw [twoUPairs_cons_left, Nat.add_mod, row ys (h a List.mem_cons_self),
      ih fun a' ha' => h a' (List.mem_cons_of_mem _ ha')]

theorem nullDistOf_even (pool : List α) (hnd : pool.Nodup) (n : Nat) :
    ∀ d ∈ nullDistOf n pool, d % 2 = 0 := by
  intro d hd
  obtain ⟨p, hp, rfl⟩ := List.mem_map.mp hd
  have hdis := List.nodup_append.mp ((splits_mem hp).2.nodup_iff.mpr hnd)
  exact twoUPairs_even fun a ha b hb => hdis.2.2 a ha b hb

end Top

/-- general form (`u : Int`): `pRec n m u · C(n+m, n)` is the number of assignments of a strictly
    descending pool with `2·U = 2·u`: both satisfy the same recurrence -/
theorem pRec_mul_choose_eq_cntSpec {α : Type} [LinearOrder α] (pool : List α) :
    ∀ (n m : Nat), pool.length = n + m → pool.Pairwise (· > ·) → ∀ u : Int,
      pRec n m u * (Nat.choose (n + m) n : Rat) = ((cntSpec n pool u : Nat) : Rat) := by
  induction pool with
  | nil =>
    intro n m hlen _ u
    obtain ⟨rfl, rfl⟩ := Nat.add_eq_zero_iff.mp hlen.symm
    rw [← q, q_zero_left, cntSpec_zero, Nat.cast_ite, Nat.cast_one, Nat.cast_zero]
  | cons a l ih =>
    intro n m hlen hdesc u
    rw [List.length_cons] at hlen
    obtain ⟨ha, hdl⟩ := List.pairwise_cons.mp hdesc
    cases n with
    | zero => rw [← q, q_zero_left, cntSpec_zero, Nat.cast_ite, Nat.cast_one, Nat.cast_zero]
    | succ n =>
      rw [cntSpec_cons n a l u ha]
      cases m with
      | zero =>
        have hl : l.length = n := by omega
        rw [hl, Nat.sub_self, Nat.cast_zero, sub_zero, cntSpec_of_lt (n + 1) l u (by omega),
          Nat.add_zero (cntSpec n l u), ← ih n 0 hl hdl u]
        exact (q_zero_right (n + 1) u).trans (q_zero_right n u).symm
      | succ m =>
        rw [show l.length - n = m + 1 by omega, Nat.cast_add, ← ih n (m + 1) (by omega) hdl,
          ← ih (n + 1) m (by omega) hdl, Nat.cast_add m 1, Nat.cast_one]
        exact q_rec1 n m u

theorem cntSpec_eq_filter_length {α : Type} [LT α] [DecidableLT α] [DecidableEq α]
    (n : Nat) (pool : List α) (u : Nat) :
    cntSpec n pool (u : Int) = ((nullDistOf n pool).filter (· = 2 * u)).length := by
  unfold cntSpec
  rw [List.countP_eq_length_filter]
  congr 1
  apply List.filter_congr
  intro x _
  have : ((x : Int) = 2 * (u : Int)) ↔ x = 2 * u := by omega
  simp [this]

theorem untied_recurrence_exact {α : Type} [LinearOrder α] (n m : Nat) (pool : List α)
    (hlen : pool.length = n + m) (hdesc : pool.Pairwise (· > ·)) (u : Nat) :
    Stats.UDist.pRec n m (u : Int) * (Nat.choose (n + m) n : Rat)
      = (((Spec.UExact.nullDistOf n pool).filter (· = 2 * u)).length : Rat) := by
  rw [pRec_mul_choose_eq_cntSpec pool n m hlen hdesc, cntSpec_eq_filter_length]

theorem choose_cast_ne_zero (n m : Nat) : (Nat.choose (n + m) n : Rat) ≠ 0 := by
  exact_mod_cast Nat.choose_ne_zero (Nat.le_add_right n m)

/-- the descending pool `N−1, …, 0`: a concrete pool on which `pRec` is the count, and which the
    reflection `k ↦ N−1−k` maps onto itself -/
def pool0 (N : Nat) : List Nat := (List.range N).reverse

theorem pool0_desc (N : Nat) : (pool0 N).Pairwise (· > ·) :=
  List.pairwise_reverse.mpr List.pairwise_lt_range

theorem pool0_length (N : Nat) : (pool0 N).length = N := by simp [pool0]

theorem pool0_reflect (N : Nat) : ((pool0 N).map fun k => N - 1 - k).Perm (pool0 N) := by
  have : (List.range N).map (fun k => N - 1 - k) = (List.range N).reverse := by
    rw [List.range_eq_range', List.reverse_range', ← List.range_eq_range', Nat.zero_add]
  rw [pool0, List.map_reverse, this, List.reverse_reverse]
  exact (List.reverse_perm _).symm

theorem pRec_eq (n m : Nat) (u : Int) :
    pRec n m u = ((cntSpec n (pool0 (n + m)) u : Nat) : Rat) / (Nat.choose (n + m) n : Rat) := by
  rw [← pRec_mul_choose_eq_cntSpec _ n m (pool0_length _) (pool0_desc _),
    mul_div_cancel_right₀ _ (choose_cast_ne_zero n m)]

theorem pRec_nonneg (n m : Nat) : ∀ u : Int, 0 ≤ pRec n m u := by
  intro u
  rw [pRec_eq]; exact div_nonneg (Nat.cast_nonneg _) (Nat.cast_nonneg _)

theorem countP_or_disjoint {β : Type} (p q r : β → Bool) (l : List β)
    (hr : ∀ x, r x = (p x || q x)) (hd : ∀ x, p x = true → q x = true → False) :
    l.countP r = l.countP p + l.countP q := by
  induction l with
  | nil => simp
  | cons a l ih =>
    simp only [List.countP_cons, ih, hr a]
    cases hp : p a <;> cases hq : q a <;> simp <;> first | omega | exact (hd a hp hq).elim

theorem sum_countP_even (l : List Nat) (K : Nat) :
    ∑ w ∈ Finset.range K, l.countP (fun (x : Nat) => decide ((x : Int) = 2 * ((w : Nat) : Int)))
      = l.countP (fun d => decide (d % 2 = 0 ∧ d < 2 * K)) := by
  induction K with
  | zero =>
    simp
  | succ K ih =>
    rw [Finset.sum_range_succ, ih]
    symm
    apply countP_or_disjoint
    · intro x
      rw [Bool.eq_iff_iff]
      simp only [Bool.or_eq_true, decide_eq_true_eq]
      omega
    · intro x hx hy
      simp only [decide_eq_true_eq] at hx hy
      omega

/-- every assignment has an even doubled statistic in `0 … 2·n·m`, so the counts add up to `C(n+m, n)` -/
theorem pmf_sums_to_one_untied (n m : Nat) :
    ∑ u ∈ Finset.range (n * m + 1), pRec n m (u : Int) = 1 := by
  simp only [pRec_eq]
  rw [← Finset.sum_div, ← Nat.cast_sum, div_eq_one_iff_eq (choose_cast_ne_zero n m), Nat.cast_inj]
  unfold cntSpec
  rw [sum_countP_even, show Nat.choose (n + m) n = (nullDistOf n (pool0 (n + m))).length by
    rw [nullDistOf_length, pool0_length], List.countP_eq_length]
  intro d hd
  have hle := nullDistOf_le n _ d hd
  rw [pool0_length, Nat.add_sub_cancel_left] at hle
  have := nullDistOf_even _ ((pool0_desc (n + m)).imp ne_of_gt) n d hd
  simp only [decide_eq_true_eq]
  omega

theorem MirrorOf.countP_eq {n m : Nat} {d d' : List Nat} (h : MirrorOf (2 * (n * m)) d d') (u : Int) :
    d'.countP (fun (x : Nat) => decide ((x : Int) = 2 * (((n * m : Nat) : Int) - u)))
      = d.countP (fun (x : Nat) => decide ((x : Int) = 2 * u)) := by
  rw [h.2]
  exact List.countP_congr fun v hv => by
    have := h.1 v hv
    simp only [decide_eq_true_eq]
    push_cast
    omega

theorem cntSpec_flip (n m : Nat) (u : Int) :
    cntSpec n (pool0 (n + m)) u = cntSpec n (pool0 (n + m)) (((n * m : Nat) : Int) - u) := by
  have h := nullDistOf_mirror (fun k => n + m - 1 - k) n
    (fun a ha b hb => by
      have h1 : a < n + m := by simpa [pool0] using ha
      have h2 : b < n + m := by simpa [pool0] using hb
      show a < b ↔ n + m - 1 - b < n + m - 1 - a
      omega) (pool0_reflect (n + m))
  rw [pool0_length, Nat.add_sub_cancel_left] at h
  exact (h.countP_eq u).symm

theorem pRec_flip (n m : Nat) (u : Int) : pRec n m u = pRec n m (((n * m : Nat) : Int) - u) := by
  rw [pRec_eq, pRec_eq n m (_ - u), cntSpec_flip]

theorem cntSpec_compl {α : Type} [LinearOrder α] (n m : Nat) (pool : List α)
    (hlen : pool.length = n + m) (u : Int) :
    cntSpec n pool u = cntSpec m pool (((n * m : Nat) : Int) - u) := by
  have h := nullDistOf_compl n pool (by omega)
  rw [hlen, Nat.add_sub_cancel_left] at h
  exact (h.countP_eq u).symm

theorem pRec_swap (n m : Nat) (u : Int) : pRec n m u = pRec m n u := by
  rw [pRec_flip m n u, pRec_eq, pRec_eq m n, cntSpec_compl n m _ (pool0_length _), Nat.add_comm m n,
    Nat.mul_comm m n, Nat.choose_symm_add]

theorem pRec_eq_zero_of_gt (n m : Nat) (u : Int) (h : ((n * m : Nat) : Int) < u) : pRec n m u = 0 := by
  rw [pRec_flip]
  exact pRec_neg _ _ _ (by omega)

theorem untied_dist_symmetric (n m u : Nat) :
    pRec n m (u : Int) = pRec n m (((n * m : Nat) : Int) - (u : Int))
      ∧ pRec n m (u : Int) = pRec m n (u : Int) :=
  ⟨pRec_flip n m u, pRec_swap n m u⟩

theorem pUntiedRec_getD (n1 n2 v : Nat) : (pUntiedRec n1 n2).getD v 0 = pRec n1 n2 (v : Int) := by
  unfold pUntiedRec
  by_cases hv : v < n1 * n2 + 1
  · simp only [Array.getD, Array.size_ofFn, hv, dite_true, Array.getInternal_eq_getElem,
      Array.getElem_ofFn]
    split
    · exact (pRec_swap n1 n2 v).symm
    · rfl
  · simp only [Array.getD, Array.size_ofFn, hv, dite_false]
    exact (pRec_eq_zero_of_gt n1 n2 v (by push_cast at hv ⊢; omega)).symm

/-- for a probability function on `0 … N` that is symmetric about `N/2`, the mass above `ui` is the
    mass of the reflected prefix (the flip of `UDist.CDF` to the shorter tail) -/
theorem prefix_flip_of_symm (f : Nat → Rat) (N ui : Nat) (hui : ui < N)
    (hsym : ∀ v ≤ N, f (N - v) = f v) (htot : ∑ v ∈ Finset.range (N + 1), f v = 1) :
    1 - ∑ v ∈ Finset.range (N - ui - 1 + 1), f v = ∑ v ∈ Finset.range (ui + 1), f v := by
  have hrefl : ∑ v ∈ Finset.range (N - ui), f v = ∑ v ∈ Finset.Ico (ui + 1) (N + 1), f v := by
    rw [Finset.range_eq_Ico,
      ← Finset.sum_congr rfl fun v hv => hsym v (by have := Finset.mem_Ico.mp hv; omega),
      Finset.sum_Ico_reflect f 0 (by omega : N - ui ≤ N + 1)]
    congr 2
    omega
  rw [show N - ui - 1 + 1 = N - ui by omega, hrefl, ← htot,
    ← Finset.sum_range_add_sum_Ico f (by omega : ui + 1 ≤ N + 1)]
  ring

theorem pRec_prefix_flip (n m ui : Nat) (hui : ui < n * m) :
    1 - ∑ v ∈ Finset.range (n * m - ui - 1 + 1), pRec n m (v : Int)
      = ∑ v ∈ Finset.range (ui + 1), pRec n m (v : Int) :=
  prefix_flip_of_symm (fun v => pRec n m (v : Int)) (n * m) ui hui
    (fun v hv => by rw [pRec_flip n m v, Nat.cast_sub hv]) (pmf_sums_to_one_untied n m)

theorem cdfPure_untied_pRec (n1 n2 : Nat) (T : List Nat) (hT : Stats.UDist.hasTies T = false) (twoU : Int)
    (h0 : 0 ≤ twoU) (h1 : twoU < 2 * ((n1 * n2 : Nat) : Int)) :
    cdfPure n1 n2 T twoU = ∑ v ∈ Finset.range ((twoU / 2).toNat + 1), pRec n1 n2 (v : Int) := by
  unfold cdfPure cdfWith
  rw [if_neg (by omega), if_neg (by omega), hT]
  simp only [Bool.false_eq_true, if_false, foldl_add_eq_sum, pUntiedRec_getD]
  have hui : (twoU / 2).toNat < n1 * n2 := by omega
  by_cases hflip : (twoU / 2).toNat ≥ (n1 * n2 + 1) / 2
  · simp only [hflip, decide_true, if_true]
    exact pRec_prefix_flip n1 n2 _ hui
  · simp only [hflip, decide_false, Bool.false_eq_true, if_false]

end C11
