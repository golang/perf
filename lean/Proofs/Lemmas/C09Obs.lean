/-
Helper lemmas for C09 `first_order_is_observation_order`: the rank map of a `first` field is the
list of its distinct values in order of first observation, numbered 0,1,2,…
-/
import Proofs.Lemmas.C08Own
import Proofs.Lemmas.C09Fixed
import Proofs.Lemmas.Shared.FirstOcc

namespace C09
open Proc.Sort Proc.Projection Proc.Extract C08

/-- The distinct values of a sequence in order of first occurrence. -/
def firstOcc (l : List Bytes) : List Bytes :=
  l.foldl (fun acc v => if acc.contains v then acc else acc ++ [v]) []

theorem firstOcc_eq (l : List Bytes) : firstOcc l = l.foldl FirstOcc.add [] := by
  refine congrArg (fun f => l.foldl f []) (funext fun acc => funext fun v => ?_)
  simp only [FirstOcc.add, List.contains_iff_mem]

theorem firstOcc_append (s t : List Bytes) : firstOcc (s ++ t) = t.foldl FirstOcc.add (firstOcc s) := by
  rw [firstOcc_eq, firstOcc_eq, List.foldl_append]

theorem firstOcc_snoc (s : List Bytes) (v : Bytes) :
    firstOcc (s ++ [v]) = if v ∈ firstOcc s then firstOcc s else firstOcc s ++ [v] :=
  firstOcc_append s [v]

theorem mem_firstOcc (s : List Bytes) (v : Bytes) : v ∈ firstOcc s ↔ v ∈ s := by
  rw [firstOcc_eq, FirstOcc.mem_foldl_add]
  simp

theorem get?_zipIdx (l : List Bytes) (k : Nat) (v : Bytes) :
    RankMap.get? (l.zipIdx k) v = if v ∈ l then some (k + l.idxOf v) else none := by
  induction l generalizing k with
  | nil => rfl
  | cons x xs ih =>
    rw [List.zipIdx_cons, get?_cons, ih, List.idxOf_cons]
    by_cases h : x = v
    · simp [h]
    · simp [h, Ne.symm h, beq_eq_false_iff_ne.2 h, Nat.add_assoc, Nat.add_comm 1]

/-- `if _, ok := order[v]; !ok { order[v] = len(order) }` on a map that numbers a duplicate-free
list of values 0,1,2,… appends `v` if it is new. -/
theorem observe_zipIdx (L : List Bytes) (v : Bytes) :
    RankMap.observe (L.zipIdx) v = (if v ∈ L then L else L ++ [v]).zipIdx := by
  unfold RankMap.observe
  rw [get?_zipIdx]
  by_cases hm : v ∈ L
  · simp [hm]
  · simp [hm, List.zipIdx_append]

theorem get_zipIdx (L : List Bytes) (v : Bytes) (hv : v ∈ L) : RankMap.get (L.zipIdx) v = L.idxOf v := by
  unfold RankMap.get
  rw [get?_zipIdx]
  simp [hv]

/-- Values of field index `idx` over the key nodes in allocation (= first observation) order. -/
def obsSeq (p : Proj) (idx : Nat) : List Bytes := p.nodes.map fun n => getVal n.vals idx

theorem get_mem_obsSeq (p : Proj) (f : Field) (k : Nat) (hk : k < p.nodes.length) :
    p.get k f ∈ obsSeq p f.idx := by
  unfold obsSeq Proj.get
  rw [C08.vals_eq_getElem p k hk]
  exact List.mem_map_of_mem (List.getElem_mem hk)

theorem idxOf_sub_spec {l : List Bytes} {a b : Bytes} (ha : a ∈ l) (hb : b ∈ l) :
    ((l.idxOf a : Int) - (l.idxOf b : Int) < 0 ↔ l.idxOf a < l.idxOf b) ∧
    ((l.idxOf a : Int) - (l.idxOf b : Int) = 0 ↔ a = b) :=
  ⟨by omega, fun e => FirstOcc.eq_of_idxOf_eq ha hb (by omega), fun e => by rw [e]; omega⟩

theorem firstOcc_obsSeq_internRow (h : List Bytes → UInt64) (p : Proj) (i : Nat) :
    firstOcc (obsSeq (p.internRow h).1 i) = firstOcc (obsSeq p i ++ [getVal p.row i]) := by
  rcases internRow_cases h p with ⟨k, hk, hv, e⟩ | ⟨_, e⟩ <;> rw [e]
  · rw [firstOcc_snoc, if_pos ((mem_firstOcc _ _).mpr ?_)]
    rw [← getVal_trim, ← hv]
    exact get_mem_obsSeq p ⟨[], i, .first, []⟩ k hk
  · simp [obsSeq, getVal_trim]

/-- Rank invariant: the order map of every `first` field numbers the field's distinct values in
order of first observation (over all keys, with "" for keys made before the field existed). -/
def RInv (p : Proj) : Prop :=
  ∀ f ∈ p.flat, f.order = .first → f.ranks = (firstOcc (obsSeq p f.idx)).zipIdx

theorem firstOcc_all_empty (n : Nat) :
    firstOcc (List.replicate n ([] : Bytes)) = if n = 0 then [] else [[]] := by
  induction n with
  | zero => rfl
  | succ k ih =>
    rw [List.replicate_succ', firstOcc_snoc, ih]
    cases k <;> simp

/-- `populateRow`: the keys made so far have "" in every field created by this call -/
theorem populateRow_RInv (h : List Bytes → UInt64) (env : Env) (p : Proj) (r : Res) (hi : Inv h p)
    (hr : RInv p) : RInv (p.populateRow env r) := by
  intro f hf ho
  have s := hi.spec env r
  have hobs : obsSeq (p.populateRow env r) f.idx = obsSeq p f.idx := by unfold obsSeq; rw [s.ext.nodes]
  obtain ⟨j, hj⟩ := (mem_flat_iff _ _).mp hf
  rcases s.origin j f hj with hp | ⟨hidx, _, _, _, hranks⟩
  · rw [hobs]; exact hr f ((mem_flat_iff _ _).mpr ⟨j, hp⟩) ho
  · rw [hobs, hranks ho]
    have hrep : obsSeq p f.idx = List.replicate p.nodes.length [] := by
      unfold obsSeq
      apply List.eq_replicate_iff.mpr
      refine ⟨by simp, ?_⟩
      intro b hb
      obtain ⟨n, hn, rfl⟩ := List.mem_map.mp hb
      exact getVal_of_le _ _ (Nat.le_trans (hi.n.len n hn) hidx)
    rw [hrep, firstOcc_all_empty]
    cases hn : p.nodes with
    | nil => simp
    | cons a b => simp

theorem internRow_RInv (h : List Bytes → UInt64) (p : Proj) (hr : RInv p) : RInv (p.internRow h).1 := by
  rcases internRow_cases h p with ⟨_, _, _, e⟩ | ⟨_, e⟩
  · rw [e]; exact hr
  · intro f' hf' ho
    rw [firstOcc_obsSeq_internRow, firstOcc_snoc, ← observe_zipIdx]
    rw [e] at hf'
    obtain ⟨f, hf, rfl⟩ := List.mem_map.mp ((flat_mapFields _ p.top).subst (motive := (f' ∈ ·)) hf')
    have hsame := observeField_same (trim p.row)
    rw [hsame.order] at ho
    rw [hsame.idx, ← hr f hf ho, ← getVal_trim]
    unfold observeField; rw [ho]

def AllEmpty (s : Proj) : Prop := ∀ f ∈ s.flat, f.ranks = []

theorem addRootField_AllEmpty (s : Proj) (name : Bytes) (o : Order) (h : AllEmpty s) :
    AllEmpty (s.addRootField name o).1 := by
  intro f hf
  simp only [Proj.addRootField, Proj.flat, flat_append, List.mem_append] at hf
  rcases hf with hf | hf
  · exact h f hf
  · simp [Top.flat] at hf; subst hf; rfl

theorem built_AllEmpty {s : Proj} (hb : Built s) : AllEmpty s := by
  induction hb with
  | new => exact fun f hf => nomatch hf
  | part s sp _ _ ih =>
    unfold partProj
    split
    · intro f hf
      simp only [Proj.flat, flat_append, List.mem_append] at hf
      exact hf.elim (ih f) fun hf => by simp [Top.flat] at hf
    · exact addRootField_AllEmpty s _ _ ih

theorem RInv_of_AllEmpty (p : Proj) (h : AllEmpty p) (hn : p.nodes = []) : RInv p := by
  intro f hf _
  rw [h f hf]
  simp [obsSeq, hn, firstOcc]

theorem reachable_RInv (h : List Bytes → UInt64) (p : Proj) (hr : Reachable h p) : RInv p :=
  (reachable_induct h (P := fun p => Inv h p ∧ RInv p)
    (fun s hb => ⟨built_inv h hb, RInv_of_AllEmpty s (built_AllEmpty hb) (built_FInv hb).2⟩)
    (fun s hb => ⟨unit_inv h hb,
      RInv_of_AllEmpty _ (addRootField_AllEmpty s _ _ (built_AllEmpty hb)) (built_FInv hb).2⟩)
    (fun env p r hp => ⟨populateRow_inv h env p r hp.1, populateRow_RInv h env p r hp.1 hp.2⟩)
    (fun p i v hp => ⟨hp.1.setRow i v, hp.2⟩)
    (fun p hp => ⟨internRow_inv h p hp.1, internRow_RInv h p hp.2⟩) p hr).2

theorem firstOcc_idxOf_lt (s : List Bytes) (v w : Bytes) (hv : v ∈ s) (hw : w ∈ s) :
    (firstOcc s).idxOf v < (firstOcc s).idxOf w ↔ s.idxOf v < s.idxOf w := by
  rw [firstOcc_eq]; exact FirstOcc.idxOf_foldl_add_lt s v w hv hw

/-- A stream of `Project` calls (each under whatever the parser state is then); returns the final
state and the populated row of every call. -/
def runProjects (h : List Bytes → UInt64) : Proj → List (Env × Res) → Proj × List (List Bytes)
  | p, [] => (p, [])
  | p, (env, r) :: rest =>
    ((runProjects h ((p.populateRow env r).internRow h).1 rest).1,
     (p.populateRow env r).row :: (runProjects h ((p.populateRow env r).internRow h).1 rest).2)

theorem runProjects_obs (h : List Bytes → UInt64) (ops : List (Env × Res)) (p : Proj) (hi : Inv h p) (i : Nat) :
    firstOcc (obsSeq p i ++ (runProjects h p ops).2.map fun row => getVal row i) =
      firstOcc (obsSeq (runProjects h p ops).1 i) := by
  induction ops generalizing p with
  | nil => simp [runProjects]
  | cons op rest ih =>
    obtain ⟨env, r⟩ := op
    have hobs : obsSeq (p.populateRow env r) i = obsSeq p i := by unfold obsSeq; rw [(hi.spec env r).ext.nodes]
    simp only [runProjects, List.map_cons]
    rw [← ih ((p.populateRow env r).internRow h).1 (project_inv h env p r hi), List.append_cons,
      firstOcc_append (obsSeq p i ++ _), firstOcc_append (obsSeq (Proj.internRow _ _).1 i), firstOcc_obsSeq_internRow, hobs]

end C09
