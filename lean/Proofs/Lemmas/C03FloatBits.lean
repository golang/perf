/-
C03 — truncating runs of the decimal slow path: `floatBits` along the true value — the two
scaling loops, the denormal shift, the 53-bit shift with `RoundedInteger`, rounding carry and
assembly — and from it `floatBits_correct` for decimals that entered untruncated.
-/
import Proofs.Lemmas.C03Follows
import Proofs.Lemmas.C03FBParts

namespace C03
open Num Spec.NumText F64

/-- the binary exponents `floatBits` can have split off: inputs below 10^310 < 2^1030 are scaled down
by less than 1030 + 27 bits, inputs above 10^-331 > 2^-1100 up by at most 1098 bits plus one step, and
an input below 1 is never scaled down. Inside these frames the side conditions of `shift_follows`
hold by themselves (`Run.shift`): a decimal that follows `V` is at least every followed power of two
below `V`, so its magnitude need not be tracked. -/
def Frame (V0 : ℚ) (e : Int) : Prop := -1130 ≤ e ∧ e ≤ 1057 ∧ (V0 < 1 → e ≤ 0)

/-- the state of `floatBits`' scaling: a well-formed non-zero decimal following `V0 · 2^-e`, inside the frames,
for an input `V0` between the two exits by the position of the point -/
structure Run (V0 : ℚ) (d : Dc) (e : Int) : Prop where
  fol : Follows d (V0 * (2 : ℚ) ^ (-e)) (-e)
  nz : NZ d
  lo : 1 / (2 : ℚ) ^ 1100 ≤ V0
  hi : V0 < (2 : ℚ) ^ (1030 : ℕ)
  fr : Frame V0 e

theorem Run.pos {V0 : ℚ} {d : Dc} {e : Int} (r : Run V0 d e) : 0 < V0 :=
  lt_of_lt_of_le (by positivity) r.lo

/-- 1 is a followed point in every frame -/
theorem Run.lt_one {V0 : ℚ} {d : Dc} {e : Int} (r : Run V0 d e) (h : dval d < 1) : V0 * (2 : ℚ) ^ (-e) < 1 :=
  r.fol.lt_of_lt 1 (bnd_one _ (by have := r.fr.1; omega)) h

theorem Run.lower {V0 : ℚ} {d : Dc} {e : Int} (r : Run V0 d e) :
    (2 : ℚ) ^ (-((1100 : ℕ) : ℤ)) ≤ V0 * (2 : ℚ) ^ (-e) := by
  have hV0 := r.lo
  have f := r.fr
  have hpos := r.pos
  by_cases h : V0 < 1
  · have := f.2.2 h
    rw [two_zpow_nat]
    exact le_trans hV0 (le_mul_of_one_le_right hpos.le (one_le_zpow₀ (by norm_num) (by omega)))
  · have := f.2.1
    exact le_trans (zpow_le_zpow_right₀ (by norm_num) (by push_cast; omega))
      (le_mul_of_one_le_left (zpow_pos (by norm_num) _).le (not_lt.mp h))

theorem big_num : (2 : ℚ) ^ (2160 : ℕ) < (10 : ℚ) ^ (700 : ℕ) := by
  have : (2 : ℕ) ^ 2160 < 10 ^ 700 := by decide +kernel
  exact_mod_cast this

/-- ONE shift of the run: all side conditions of `shift_follows` come from the frames -/
theorem Run.shift {V0 : ℚ} {d : Dc} {e : Int} (r : Run V0 d e) (k : Int) (hk : k ≠ 0)
    (hk1 : -120 ≤ k) (hk2 : k ≤ 120) (f2 : Frame V0 (e - k)) :
    Run V0 (d.shift k) (e - k) ∧ Trimmed (d.shift k) := by
  have hhi := r.hi
  have f1 := r.fr
  have hp : (0 : ℚ) < (2 : ℚ) ^ (-e) := zpow_pos (by norm_num) _
  have hle := r.fol.le
  have hV0 := r.pos
  have h1130 : (2 : ℚ) ^ (-e) ≤ (2 : ℚ) ^ ((1130 : ℕ) : ℤ) := zpow_le_zpow_right₀ (by norm_num) (by have := f1.1; push_cast; omega)
  rw [zpow_natCast] at h1130
  have hlt : dval d < (10 : ℚ) ^ (700 : ℕ) := lt_of_le_of_lt hle <| lt_trans
    (lt_of_le_of_lt (mul_le_mul_of_nonneg_left h1130 hV0.le) (mul_lt_mul_of_pos_right hhi (by positivity)))
    (by rw [← pow_add]; exact big_num)
  have hdp : d.dp ≤ 700 := (dp_le_iff d r.nz 700).mpr (by exact_mod_cast hlt)
  have hsmall : ∀ x : Int, x ≤ 1057 → 1 / (2 : ℚ) ^ 1062 ≤ (2 : ℚ) ^ (-x) := fun x hx => by
    rw [← two_zpow_nat]; exact zpow_le_zpow_right₀ (by norm_num) (by push_cast; omega)
  have hso := shift_follows d k hk hk1 hk2 r.nz _ _ r.fol hdp (by
    by_cases h1 : V0 < 1
    · exact Or.inl ⟨by have := f1.2.2 h1; omega, by have := f2.2.2 h1; omega⟩
    · have hd : (2 : ℚ) ^ (-e) ≤ dval d :=
        (r.fol.le_iff (bnd_pow2 _ _ (by omega))).mpr (le_mul_of_one_le_left hp.le (not_lt.mp h1))
      refine Or.inr ⟨le_trans (hsmall e f1.2.1) hd, le_trans (hsmall (e - k) f2.2.1) ?_⟩
      rw [show -(e - k) = -e + k by ring, zpow_add₀ (by norm_num : (2 : ℚ) ≠ 0)]
      exact mul_le_mul_of_nonneg_right hd (zpow_pos (by norm_num) _).le)
  refine ⟨⟨?_, ⟨hso.wf, hso.ne⟩, r.lo, hhi, f2⟩, hso.trimmed⟩
  have hf := hso.fol
  rwa [mul_assoc, ← zpow_add₀ (by norm_num : (2 : ℚ) ≠ 0), show -e + k = -(e - k) by ring] at hf

theorem fbDown_track {V0 : ℚ} : ∀ (fuel : Nat) (d : Dc) (e b : Int), Run V0 d e →
    0 ≤ e → V0 * (2 : ℚ) ^ (-e) < (2 : ℚ) ^ b → b ≤ fuel →
    Run V0 (fbDown fuel d e).1 (fbDown fuel d e).2 ∧ (fbDown fuel d e).1.dp ≤ 0 := by
  intro fuel
  induction fuel with
  | zero =>
    intro d e b r _ hB hBf
    exact ⟨r, (dp_nonpos_iff d r.nz).mpr (lt_of_le_of_lt r.fol.le
      (lt_of_lt_of_le hB (zpow_le_one_of_nonpos₀ (by norm_num) (by simpa using hBf))))⟩
  | succ fuel ih =>
    intro d e b r he hB hBf
    have f := r.fr
    unfold fbDown
    by_cases hdp : d.dp > 0
    · rw [if_pos hdp]
      have hn : (if d.dp ≥ 9 then 27 else powtab.getD d.dp.toNat 27) = pstep d.dp := rfl
      simp only [hn]
      obtain ⟨n1, n27, _, _⟩ := pstep_facts d.dp
      generalize pstep d.dp = n at *
      -- the value is at least 1, so is the true value: `e` stays below 1030
      have hV1 : 1 ≤ V0 * (2 : ℚ) ^ (-e) := le_trans (not_lt.mp fun h => absurd ((dp_nonpos_iff d r.nz).mpr h) (by omega)) r.fol.le
      have hpe : (0 : ℚ) < (2 : ℚ) ^ e := zpow_pos (by norm_num) _
      have hVe : (2 : ℚ) ^ e ≤ V0 := by
        rwa [zpow_neg, ← div_eq_mul_inv, le_div_iff₀ hpe, one_mul] at hV1
      have he1030 : e < 1030 := by
        have := lt_of_le_of_lt hVe r.hi
        rw [← zpow_natCast] at this
        exact_mod_cast (zpow_lt_zpow_iff_right₀ (by norm_num : (1 : ℚ) < 2)).mp this
      have hV01 : ¬ V0 < 1 := not_lt.mpr (le_trans (one_le_zpow₀ (by norm_num) he) hVe)
      have f2 : Frame V0 (e - -(n : Int)) := ⟨by omega, by omega, fun h => absurd h hV01⟩
      obtain ⟨r1, _⟩ := r.shift (-(n : Int)) (by omega) (by omega) (by omega) f2
      have he1 : e - -(n : Int) = e + n := by ring
      rw [he1] at r1
      have hB' := (scale_step (le_trans zero_le_one hV1) (show (1 : ℤ) ≤ n by exact_mod_cast n1) b).2 hB
      rw [mul_assoc, ← zpow_add₀ (by norm_num : (2 : ℚ) ≠ 0), ← neg_add] at hB'
      exact ih (d.shift (-(n : Int))) (e + n) (b - 1) r1 (by omega) hB' (by push_cast at hBf; omega)
    · rw [if_neg hdp]
      exact ⟨r, by show d.dp ≤ 0; omega⟩

theorem fbUp_track {V0 : ℚ} : ∀ (fuel : Nat) (d : Dc) (e b : Int),
    Run V0 d e → d.dp ≤ 0 → (2 : ℚ) ^ (-b) ≤ V0 * (2 : ℚ) ^ (-e) → b ≤ fuel →
    Run V0 (fbUp fuel d e).1 (fbUp fuel d e).2 ∧
    1 / 2 ≤ dval (fbUp fuel d e).1 ∧ dval (fbUp fuel d e).1 < 1 := by
  intro fuel
  induction fuel with
  | zero =>
    intro d e b r hdp hB hBf
    exfalso
    have h1 : 1 ≤ V0 * (2 : ℚ) ^ (-e) := le_trans (one_le_zpow₀ (by norm_num) (by simpa using hBf)) hB
    exact absurd h1 (not_le.mpr (r.lt_one ((dp_nonpos_iff d r.nz).mp hdp)))
  | succ fuel ih =>
    intro d e b r hdp hB hBf
    have f := r.fr
    have hlt1 := (dp_nonpos_iff d r.nz).mp hdp
    unfold fbUp
    by_cases hc : (d.dp < 0 || (d.dp == 0 && d.d.headD 0 < 53)) = true
    · rw [if_pos hc]
      have hn : (if -d.dp ≥ 9 then 27 else powtab.getD (-d.dp).toNat 27) = pstep (-d.dp) := rfl
      simp only [hn]
      obtain ⟨n1, n27, _, _⟩ := pstep_facts (-d.dp)
      have hhalf := (fbUp_cond d r.nz hdp).mp hc
      have hsmall := fbUp_small d r.nz hdp hhalf
      generalize pstep (-d.dp) = n at *
      have hpn : (0 : ℚ) < (2 : ℚ) ^ n := by positivity
      -- 1/2 and 2^-n are followed points: the true value is below them as the decimal is
      have hVhalf : V0 * (2 : ℚ) ^ (-e) < 1 / 2 := by
        have hb : Bnd (-e) ((2 : ℚ) ^ (-1 : Int)) := bnd_pow2 _ _ (by have := f.1; omega)
        rw [show (2 : ℚ) ^ (-1 : Int) = 1 / 2 by norm_num] at hb
        exact r.fol.lt_of_lt _ hb hhalf
      -- hence the total shift so far is below 1099
      have hK2 : -e ≤ 1098 := by
        have h : (2 : ℚ) ^ (-((1100 : ℕ) : ℤ) + -e) < (2 : ℚ) ^ (-((1 : ℕ) : ℤ)) := by
          rw [zpow_add₀ (by norm_num : (2 : ℚ) ≠ 0), two_zpow_nat, two_zpow_nat, pow_one]
          exact lt_of_le_of_lt (mul_le_mul_of_nonneg_right r.lo (zpow_pos (by norm_num) _).le) hVhalf
        have := (zpow_lt_zpow_iff_right₀ (by norm_num : (1 : ℚ) < 2)).mp h
        push_cast at this
        omega
      have hVn : V0 * (2 : ℚ) ^ (-e) < (2 : ℚ) ^ (-(n : Int)) := by
        refine r.fol.lt_of_lt _ (bnd_pow2 _ _ (by omega)) ?_
        rw [two_zpow_nat, lt_div_iff₀ hpn]; exact hsmall
      have f2 : Frame V0 (e - (n : Int)) := ⟨by omega, by have := f.2.1; omega, fun h => by have := f.2.2 h; omega⟩
      obtain ⟨r1, _⟩ := r.shift (n : Int) (by omega) (by omega) (by omega) f2
      have e1 : V0 * (2 : ℚ) ^ (-(e - n)) = V0 * (2 : ℚ) ^ (-e) * (2 : ℚ) ^ n := by
        rw [mul_assoc, ← zpow_natCast, ← zpow_add₀ (by norm_num : (2 : ℚ) ≠ 0)]; congr 2; ring
      have hdp1 : (d.shift (n : Int)).dp ≤ 0 := (dp_nonpos_iff _ r1.nz).mpr <| lt_of_le_of_lt r1.fol.le <| by
        rw [e1, ← lt_div_iff₀ hpn, ← two_zpow_nat]; exact hVn
      have hB1 := (scale_step (mul_nonneg r.pos.le (zpow_pos (by norm_num) _).le) (show (1 : ℤ) ≤ n by exact_mod_cast n1) (-b)).1 hB
      rw [zpow_natCast, ← e1, show -b + 1 = -(b - 1) by ring] at hB1
      exact ih (d.shift (n : Int)) (e - n) (b - 1) r1 hdp1 hB1 (by push_cast at hBf; omega)
    · rw [if_neg hc]
      exact ⟨r, not_lt.mp (mt (fbUp_cond d r.nz hdp).mpr hc), hlt1⟩

/-- **`RoundedInteger` of a decimal that follows `W`** (possibly truncated) is the round-half-even
of `W` itself: no half-integer separates the two -/
theorem roundedInteger_follow (d3 : Dc) (hwf : WF d3) (htrim : Trimmed d3) (hdp : d3.dp ≤ 19)
    (W : ℚ) (K3 : Int) (hK : K3 ≤ 1074) (hf : Follows d3 W K3) (hWlt : W < (2 : ℚ) ^ 53) :
    NearQ (roundedInteger { d := d3.d, dp := d3.dp, trunc := d3.trunc }) W := by
  have hn := ri_near { d := d3.d, dp := d3.dp, trunc := d3.trunc } hwf.dig (fun _ => htrim) hdp
  have hfr3 := dval_frac d3
  have hD3pos := decFrac_snd_pos (valOf 10 d3.d) (d3.dp - d3.d.length)
  simp only at hn
  generalize (decFrac (valOf 10 d3.d) (d3.dp - d3.d.length)).1 = N3 at *
  generalize (decFrac (valOf 10 d3.d) (d3.dp - d3.d.length)).2 = D3 at *
  generalize roundedInteger { d := d3.d, dp := d3.dp, trunc := d3.trunc } = t at *
  cases htr : d3.trunc with
  | false =>
    rw [htr] at hn
    exact hf.exact htr ▸ hfr3 ▸ (nearInt_iff_nearQ N3 D3 t hD3pos).mp hn
  | true =>
    rw [htr] at hn
    obtain ⟨q1, q2⟩ := hn.bounds_q hD3pos
    rw [hfr3] at q1 q2
    have hstrict := hf.strict htr
    have ht53 : t ≤ 2 ^ 53 := by
      have h' : (t : ℚ) < ((2 ^ 53 + 1 : Nat) : ℚ) := by push_cast; linarith
      have := (Nat.cast_lt (α := ℚ)).mp h'
      omega
    have q3 : W < ((2 * t + 1 : Nat) : ℚ) / 2 := hf.lt_of_lt _ (bnd_half K3 (2 * t + 1) (by omega) hK) q2
    exact ⟨Or.inl (lt_of_le_of_lt q1 hstrict), Or.inl (by push_cast at q3; linarith)⟩

theorem fbDenorm_track {V0 : ℚ} (d : Dc) (e : Int) (r : Run V0 d e)
    (h1 : 1 / 2 ≤ dval d) (h2 : dval d < 1) :
    ∃ (d2 : Dc) (exp2 : Int),
      (if e - 1 < -1023 + 1 then (d.shift (-(-1023 + 1 - (e - 1))), (-1023 : Int) + 1) else (d, e - 1)) = (d2, exp2) ∧
      Run V0 d2 (exp2 + 1) ∧ dval d2 < 1 ∧ -1022 ≤ exp2 ∧ (1 / 2 ≤ dval d2 ∨ exp2 = -1022) := by
  have f := r.fr
  by_cases hs : e - 1 < -1023 + 1
  · have he2 : e - -(-1023 + 1 - (e - 1)) = (-1023 : Int) + 1 + 1 := by ring
    have f2 : Frame V0 (e - -(-1023 + 1 - (e - 1))) := by rw [he2]; exact ⟨by omega, by omega, fun _ => by omega⟩
    obtain ⟨r2, _⟩ := r.shift (-(-1023 + 1 - (e - 1))) (by omega) (by have := f.1; omega) (by omega) f2
    rw [he2] at r2
    -- the true value was below 1, and has only been divided
    have hV1 := r.lt_one h2
    have hmono : V0 * (2 : ℚ) ^ (-((-1023 : Int) + 1 + 1)) ≤ V0 * (2 : ℚ) ^ (-e) :=
      mul_le_mul_of_nonneg_left (zpow_le_zpow_right₀ (by norm_num) (by omega)) r.pos.le
    exact ⟨_, _, by rw [if_pos hs], r2, lt_of_le_of_lt r2.fol.le (lt_of_le_of_lt hmono hV1), by omega, Or.inr rfl⟩
  · exact ⟨d, e - 1, by rw [if_neg hs], by rwa [sub_add_cancel], h2, by omega, Or.inl h1⟩

theorem fbMant_track {V0 : ℚ} (neg0 tr : Bool) (d2 : Dc) (exp2 : Int) (r2 : Run V0 d2 (exp2 + 1)) (lt2 : dval d2 < 1)
    (hlo2 : -1022 ≤ exp2) (hh : 1 / 2 ≤ dval d2 ∨ exp2 = -1022) (hexp2 : exp2 ≤ 1023) :
    (fbRound neg0 (roundedInteger { d := (d2.shift 53).d, dp := (d2.shift 53).dp, trunc := (d2.shift 53).trunc }) exp2 tr).toExcept =
      evalQ neg0 V0 := by
  have e53 : (2 : ℚ) ^ (53 : Int) = (2 : ℚ) ^ 53 := by norm_num
  have f3 : Frame V0 (exp2 + 1 - 53) := ⟨by omega, by omega, fun h => by have := r2.fr.2.2 h; omega⟩
  obtain ⟨r3, s4⟩ := r2.shift 53 (by decide) (by decide) (by decide) f3
  have hfol3 : Follows (d2.shift 53) (V0 * (2 : ℚ) ^ (52 - exp2)) (52 - exp2) := by
    have := r3.fol
    rwa [show -(exp2 + 1 - 53) = 52 - exp2 by ring] at this
  have hW3e : V0 * (2 : ℚ) ^ (-(exp2 + 1)) * (2 : ℚ) ^ (53 : Int) = V0 * (2 : ℚ) ^ (52 - exp2) := by
    rw [mul_assoc, ← zpow_add₀ (by norm_num : (2 : ℚ) ≠ 0)]; congr 2; ring
  have hV2 := r2.lt_one lt2
  have hW3 : V0 * (2 : ℚ) ^ (52 - exp2) < (2 : ℚ) ^ 53 := by
    rw [← hW3e, e53]; exact mul_lt_of_lt_one_left (by positivity) hV2
  have s2 := r3.nz
  generalize hd3 : d2.shift 53 = d3 at *
  have hdp3 : d3.dp ≤ 19 := (dp_le_iff d3 s2 19).mpr (lt_trans (lt_of_le_of_lt hfol3.le hW3) (by norm_num))
  have hmant := roundedInteger_follow d3 s2.toWF s4 hdp3 _ (52 - exp2) (by omega) hfol3 hW3
  generalize roundedInteger { d := d3.d, dp := d3.dp, trunc := d3.trunc } = mant at *
  have hWge : 1 / 2 ≤ dval d2 → (2 : ℚ) ^ 52 ≤ V0 * (2 : ℚ) ^ (52 - exp2) := by
    intro hhalf
    rw [← hW3e, e53]
    calc (2 : ℚ) ^ 52 = 1 / 2 * (2 : ℚ) ^ 53 := by norm_num
      _ ≤ _ := mul_le_mul_of_nonneg_right (le_trans hhalf r2.fol.le) (by positivity)
  rw [evalQ_of_near neg0 r2.pos (52 - exp2) mant ⟨by omega, hW3, fun hlt => hWge (by rcases hh with h | h; exact h; omega)⟩ hmant,
    show (1074 - (52 - exp2)).toNat = (exp2 + 1022).toNat by omega]
  exact fbRound_packed neg0 mant exp2 tr (hmant.le_of_le (by exact_mod_cast hW3.le))
    (hh.imp_left fun h => hmant.le_of_ge (by exact_mod_cast hWge h)) hlo2 hexp2

theorem fbFinish_track {V0 : ℚ} (neg0 : Bool) (d : Dc) (e : Int) (r : Run V0 d e)
    (h1 : 1 / 2 ≤ dval d) (h2 : dval d < 1) :
    (fbFinish neg0 d e).toExcept = evalQ neg0 V0 := by
  unfold fbFinish
  simp only []
  obtain ⟨d2, exp2, hpair, r2, lt2, hlo2, hh⟩ := fbDenorm_track d e r h1 h2
  rw [hpair]
  simp only []
  by_cases hov1 : exp2 - -1023 ≥ 2 ^ 11 - 1
  · rw [if_pos hov1]
    have hV2 : V0 = V0 * (2 : ℚ) ^ (-(exp2 + 1)) * (2 : ℚ) ^ (exp2 + 1) := by
      rw [mul_assoc, ← zpow_add₀ (by norm_num : (2 : ℚ) ≠ 0)]; simp
    have hhalf : 1 / 2 ≤ dval d2 := by rcases hh with h | h; exact h; omega
    rw [evalQ_big neg0 (hV2 ▸ overflow_of_exp _ _ (le_trans hhalf r2.fol.le) (by omega))]
    rfl
  · rw [if_neg hov1]
    exact fbMant_track neg0 _ d2 exp2 r2 lt2 hlo2 hh (by omega)

/-- **floatBits along a true value**: if the decimal handed to `floatBits` follows `V0` (it IS `V0`
unless `set` already had to drop digits) then the result is the correctly rounded `V0` with the
range rule — whether or not the 800-digit buffer overflows on the way. -/
theorem floatBits_follows (d0 : Dc) (hnz : NZ d0) (V0 : ℚ) (hle0 : dval d0 ≤ V0)
    (hfol : d0.dp ≤ 310 → Follows d0 V0 0) (hhi : V0 < (10 : ℚ) ^ d0.dp) :
    (floatBits d0).toExcept = evalQ d0.neg V0 := by
  rw [floatBits_eq]
  have hemp : d0.d.isEmpty = false := List.isEmpty_eq_false_iff.mpr hnz.ne
  rw [if_neg (by rw [hemp]; simp)]
  obtain ⟨hover, htiny, hV0, hhi2⟩ := dp_range V0 d0.dp (le_trans (dval_bounds d0 hnz).1 hle0) hhi
  by_cases hbig : d0.dp > 310
  · rw [if_pos hbig]
    rw [evalQ_big d0.neg (hover hbig)]
    rfl
  · rw [if_neg hbig]
    by_cases hsmall : d0.dp < -330
    · rw [if_pos hsmall]
      rw [evalQ_small d0.neg (lt_of_lt_of_le (dval_bounds d0 hnz).2.2 hle0) (htiny hsmall), ← fbAssemble_zero]
      rfl
    · rw [if_neg hsmall]
      have hfol := hfol (by omega)
      have hhi2 := hhi2 (by omega)
      have r0 : Run V0 d0 0 := ⟨by simpa using hfol, hnz, hV0 (by omega), hhi2, by omega, by omega, fun _ => le_refl _⟩
      obtain ⟨a1, a3⟩ := fbDown_track 2000 d0 0 ((1030 : ℕ) : ℤ) r0 (le_refl _)
        (by rw [neg_zero, zpow_zero, mul_one, zpow_natCast]; exact hhi2) (by norm_num)
      generalize hfd : fbDown 2000 d0 0 = fd at *
      obtain ⟨b1, b3, b4⟩ := fbUp_track 2000 fd.1 fd.2 ((1100 : ℕ) : ℤ) a1 a3 a1.lower (by norm_num)
      generalize hfu : fbUp 2000 fd.1 fd.2 = fu at *
      exact fbFinish_track _ fu.1 fu.2 b1 b3 b4

/-- **floatBits of a value cut to the buffer** (what `decimal.set` hands over): the correctly
rounded value with the range rule -/
theorem floatBits_of_cut (d0 : Dc) (hnz : NZ d0) (V0 : ℚ) (c : Cut d0 V0 false) :
    (floatBits d0).toExcept = evalQ d0.neg V0 :=
  floatBits_follows d0 hnz V0 c.le (fun hdp => follows_of_floor d0 hnz V0 c (by omega)) (floor_hi d0 hnz V0 c.lt)

theorem floatBits_correct_all (d0 : Dc) (hwf : WF d0) (ht0 : d0.trunc = false) :
    (floatBits d0).toExcept =
      if d0.d = [] then .ok (F64.zero d0.neg)
      else evalFrac d0.neg (decFrac (valOf 10 d0.d) (d0.dp - d0.d.length)).1 (decFrac (valOf 10 d0.d) (d0.dp - d0.d.length)).2 := by
  by_cases hemp : d0.d = []
  · have : d0.d.isEmpty = true := by rw [hemp]; rfl
    rw [floatBits_eq, if_pos this, if_pos hemp]
    unfold FbRes.toExcept
    simp only [Bool.false_eq_true, if_false]
    rw [fbAssemble_zero]
  · rw [if_neg hemp, evalFrac_eq_evalQ _ _ _ (decFrac_snd_pos _ _), dval_frac]
    exact floatBits_of_cut d0 ⟨hwf, hemp⟩ (dval d0) (Cut.self d0 ht0)

/-- `decimal.floatBits` returns the correctly rounded float64 of the decimal's exact value (the
specification's `evalFrac`) for every well-formed decimal that was not truncated on entry. The
hypothesis `hfin` (`trunc` still false at the end) is not used by the proof
(`floatBits_correct_all`). -/
theorem floatBits_correct (d0 : Dc) (hwf : WF d0) (ht0 : d0.trunc = false) (hfin : (floatBits d0).trunc = false) :
    (floatBits d0).toExcept =
      if d0.d = [] then .ok (F64.zero d0.neg)
      else evalFrac d0.neg (decFrac (valOf 10 d0.d) (d0.dp - d0.d.length)).1 (decFrac (valOf 10 d0.d) (d0.dp - d0.d.length)).2 :=
  floatBits_correct_all d0 hwf ht0

end C03
