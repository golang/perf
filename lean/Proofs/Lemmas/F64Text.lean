/-
Text level: `DecText.parse` of the text produced by `F64.fmtFixed` is the numeral
(sign, `fixedScaled`, −p); with `fmtFixed_reads_back_partial` the printed text reads back to the
float. Also: any text whose parsed decimal lies in the rounding interval reads back.
-/
import Proofs.Lemmas.F64Shortest
import Model.Base.DecText

namespace F64.Text
open DecText F64

theorem digitVal_of_isDigit (c : Char) (h : c.isDigit = true) : digitVal c = some (c.toNat - 48) := by
  unfold digitVal
  have : '0' ≤ c ∧ c ≤ '9' := by
    simp only [Char.isDigit, Bool.and_eq_true, decide_eq_true_eq] at h
    exact ⟨h.1, h.2⟩
  rw [if_pos this]

theorem readDigits_digits (ds : List Char) (hds : ∀ c ∈ ds, c.isDigit = true) (rest : List Char)
    (hrest : ∀ c r, rest = c :: r → digitVal c = none) (acc n : Nat) :
    readDigits digitVal 10 (ds ++ rest) acc n = (Nat.ofDigitChars 10 ds acc, n + ds.length, rest) := by
  induction ds generalizing acc n with
  | nil =>
    cases rest with
    | nil => simp [readDigits]
    | cons c r => simp [readDigits, hrest c r rfl]
  | cons d ds ih =>
    have hd := digitVal_of_isDigit d (hds d (List.mem_cons_self))
    simp only [List.cons_append, readDigits, hd]
    rw [ih (fun c hc => hds c (List.mem_cons_of_mem _ hc)), Nat.ofDigitChars_cons]
    simp only [List.length_cons]
    congr 1
    · congr 1; simp [Nat.mul_comm]
    · congr 1; omega

theorem not_sign_of_isDigit (c : Char) (h : c.isDigit = true) : c ≠ '-' ∧ c ≠ '+' ∧ c ≠ 'x' ∧ c ≠ 'X' := by
  refine ⟨?_, ?_, ?_, ?_⟩ <;> (intro e; subst e; revert h; decide)

/-- the first step of `DecText.parse`: the optional sign -/
def signSplit (cs : List Char) : Bool × List Char :=
  match cs with
  | '-' :: r => (true, r)
  | '+' :: r => (false, r)
  | _ => (false, cs)

/-- the rest of `DecText.parse`, after the sign (`parse_eq` puts the two together) -/
def parseBody (neg : Bool) (cs : List Char) : Option Num :=
  match cs with
  | '0' :: x :: r =>
    if x == 'x' || x == 'X' then
      let (ip, n1, r1) := readDigits hexVal 16 r 0 0
      let (m, n2, r2) := match r1 with
        | '.' :: r' => let (m, n2, r2) := readDigits hexVal 16 r' ip 0; (m, n2, r2)
        | _ => (ip, 0, r1)
      if n1 + n2 == 0 then none else
      match r2 with
      | p :: r3 =>
        if p == 'p' || p == 'P' then
          match readInt r3 with
          | some (e, []) => some { neg, mant := m, exp := e - 4 * (n2 : Int), hex := true }
          | _ => none
        else none
      | [] => none
    else parse.parseDec neg cs
  | _ => parse.parseDec neg cs

theorem parse_eq (s : String) : parse s = parseBody (signSplit s.toList).1 (signSplit s.toList).2 := rfl

theorem signSplit_digit (c0 : Char) (h0 : c0.isDigit = true) (tl : List Char) :
    signSplit (c0 :: tl) = (false, c0 :: tl) := by
  obtain ⟨h1, h2, _, _⟩ := not_sign_of_isDigit c0 h0
  unfold signSplit
  split
  · rename_i heq; simp at heq; exact absurd heq.1 h1
  · rename_i heq; simp at heq; exact absurd heq.1 h2
  · rfl

theorem parseBody_dec (neg : Bool) (c0 : Char) (tl : List Char)
    (h : ∀ x r, tl = x :: r → x ≠ 'x' ∧ x ≠ 'X') :
    parseBody neg (c0 :: tl) = parse.parseDec neg (c0 :: tl) := by
  unfold parseBody
  split
  · rename_i x r heq
    simp only [List.cons.injEq] at heq
    obtain ⟨h1, h2⟩ := h x r heq.2
    have : (x == 'x' || x == 'X') = false := by simp [h1, h2]
    simp only [this, Bool.false_eq_true, if_false]
  · rfl

theorem parseBody_plain (neg : Bool) (ip fp : List Char) (hne : ip ≠ [])
    (hip : ∀ c ∈ ip, c.isDigit = true) (hfp : ∀ c ∈ fp, c.isDigit = true) :
    parseBody neg (ip ++ if fp = [] then [] else '.' :: fp) =
      some { neg := neg, mant := Nat.ofDigitChars 10 (ip ++ fp) 0, exp := -(fp.length : Int), hex := false } := by
  have hlen : 0 < ip.length := List.length_pos_iff.mpr hne
  have h2 := readDigits_digits fp hfp [] (by intro c r h; cases h) (Nat.ofDigitChars 10 ip 0) 0
  rw [List.append_nil] at h2
  -- the second character is a digit or the point, so this is not a hex numeral
  have hbody : parseBody neg (ip ++ if fp = [] then [] else '.' :: fp) =
      parse.parseDec neg (ip ++ if fp = [] then [] else '.' :: fp) := by
    obtain ⟨c0, ip', rfl⟩ := List.exists_cons_of_ne_nil hne
    rw [List.cons_append]
    refine parseBody_dec neg c0 _ fun x r hx => ?_
    have hxd : x.isDigit = true ∨ x = '.' := by
      cases ip' with
      | nil =>
        by_cases hf : fp = []
        · simp [hf] at hx
        · simp only [hf, if_false, List.nil_append, List.cons.injEq] at hx
          exact Or.inr hx.1.symm
      | cons y ys =>
        simp only [List.cons_append, List.cons.injEq] at hx
        exact Or.inl (hx.1 ▸ hip y (List.mem_cons_of_mem _ List.mem_cons_self))
    rcases hxd with h | rfl
    · exact ⟨(not_sign_of_isDigit x h).2.2.1, (not_sign_of_isDigit x h).2.2.2⟩
    · exact ⟨by decide, by decide⟩
  rw [hbody]
  unfold parse.parseDec
  by_cases hf : fp = []
  · have h1 := readDigits_digits ip hip [] (by intro c r h; cases h) 0 0
    subst hf
    simp only [if_true, List.append_nil] at h1 ⊢
    simp only [h1]
    simp [hne]
  · have h1 := readDigits_digits ip hip ('.' :: fp)
      (by intro c r h; simp only [List.cons.injEq] at h; rw [← h.1]; decide) 0 0
    simp only [hf, if_false, h1, h2, Nat.ofDigitChars_append]
    simp [hne]

/-- the zero-padded digit list of `fmtFixed` -/
def padded (k p : Nat) : List Char :=
  List.replicate (p + 1 - (Nat.toDigits 10 k).length) '0' ++ Nat.toDigits 10 k

theorem padded_digits (k p : Nat) : ∀ c ∈ padded k p, c.isDigit = true := by
  intro c hc
  unfold padded at hc
  rcases List.mem_append.mp hc with h | h
  · rw [(List.mem_replicate.mp h).2]; decide
  · exact Nat.isDigit_of_mem_toDigits (by decide) (by decide) h

theorem padded_length (k p : Nat) : p + 1 ≤ (padded k p).length := by
  unfold padded; rw [List.length_append, List.length_replicate]; omega

theorem padded_value (k p : Nat) : Nat.ofDigitChars 10 (padded k p) 0 = k := by
  unfold padded
  rw [Nat.ofDigitChars_append, Nat.ofDigitChars_replicate_zero, Nat.mul_zero, Nat.ofDigitChars_ten_toDigits]

theorem fmtFixed_toList (b : Bits) (hb : isFinite b = true) (p : Nat) :
    (fmtFixed b p).toList = (if signBit b then ['-'] else []) ++
      ((padded (fixedScaled b p) p).take ((padded (fixedScaled b p) p).length - p) ++
       (if p = 0 then [] else '.' :: (padded (fixedScaled b p) p).drop ((padded (fixedScaled b p) p).length - p))) := by
  unfold fmtFixed
  simp only [isNaN_of_finite hb, isInf_of_finite hb, Bool.false_eq_true, if_false, natToDigits]
  rw [String.toList_append, String.toList_append, String.toList_ofList]
  congr 1
  · cases signBit b <;> rfl
  · congr 1
    by_cases hp : p = 0
    · subst hp; simp
    · have : (p == 0) = false := by simp [hp]
      simp only [this, hp, Bool.false_eq_true, if_false]
      rw [String.toList_append, String.toList_ofList, String.toList_ofList]; rfl

/-- the text printed by `strconv 'f'` with precision p for a finite float parses
(as a plain decimal numeral) to sign, the integer `fixedScaled b p`, exponent −p. -/
theorem parse_fmtFixed (b : Bits) (hb : isFinite b = true) (p : Nat) :
    DecText.parse (fmtFixed b p) =
      some { neg := signBit b, mant := fixedScaled b p, exp := -(p : Int), hex := false } := by
  rw [parse_eq, fmtFixed_toList b hb p]
  generalize hk : fixedScaled b p = k
  have hdig := padded_digits k p
  have hlen := padded_length k p
  have hval := padded_value k p
  generalize padded k p = L at hdig hlen hval
  have hsplit : L.take (L.length - p) ++ L.drop (L.length - p) = L := List.take_append_drop _ _
  have hipd : ∀ c ∈ L.take (L.length - p), c.isDigit = true := fun c hc => hdig c (List.mem_of_mem_take hc)
  have hfpd : ∀ c ∈ L.drop (L.length - p), c.isDigit = true := fun c hc => hdig c (List.mem_of_mem_drop hc)
  have hfplen : (L.drop (L.length - p)).length = p := by rw [List.length_drop]; omega
  have hiplen : 0 < (L.take (L.length - p)).length := by rw [List.length_take]; omega
  generalize L.take (L.length - p) = ip at *
  generalize L.drop (L.length - p) = fp at *
  have htail : (if p = 0 then [] else '.' :: fp) = if fp = [] then [] else '.' :: fp := by
    rw [← hfplen]; simp only [List.length_eq_zero_iff]
  have hipne : ip ≠ [] := List.length_pos_iff.mp hiplen
  rw [htail]
  have hsign : signSplit ((if signBit b then ['-'] else []) ++ (ip ++ if fp = [] then [] else '.' :: fp))
      = (signBit b, ip ++ if fp = [] then [] else '.' :: fp) := by
    obtain ⟨c0, ip', rfl⟩ := List.exists_cons_of_ne_nil hipne
    cases signBit b
    · simp only [Bool.false_eq_true, if_false, List.nil_append, List.cons_append]
      exact signSplit_digit c0 (hipd c0 List.mem_cons_self) _
    · rfl
  rw [hsign, parseBody_plain _ _ _ hipne hipd hfpd, hsplit, hval, hfplen]

theorem toF64_fmtFixed (b : Bits) (hb : isFinite b = true) (p : Nat) :
    DecText.toF64? (fmtFixed b p) = some (ofDecimal (signBit b) (fixedScaled b p) (-(p : Int))) := by
  unfold DecText.toF64?
  rw [parse_fmtFixed b hb p]
  simp only [Option.map_some, DecText.Num.toF64, Bool.false_eq_true, if_false]

/-- if half a unit of the last printed place is smaller than half the gap
from x to its nearer neighbour, parsing the text `fmtFixed x p` returns x. -/
theorem fmtFixed_reads_back (x : Bits) (hx : isFinite x = true) (zx : isZero x = false) (p : Nat)
    (h : (10 : ℚ) ^ (-(p : Int)) / 2 < lowGap x * (2 : ℚ) ^ (expo x)) :
    DecText.toF64? (fmtFixed x p) = some x := by
  rw [toF64_fmtFixed x hx p, fmtFixed_reads_back_partial x hx zx p h]

theorem text_reads_back (x : Bits) (hx : isFinite x = true) (zx : isZero x = false) (s : String)
    (n : DecText.Num) (hp : DecText.parse s = some n) (hdec : n.hex = false) (hsign : n.neg = signBit x)
    (hin : InRound (F64.abs x) ((n.mant : ℚ) * (10 : ℚ) ^ n.exp)) : DecText.toF64? s = some x := by
  unfold DecText.toF64?
  rw [hp]
  simp only [Option.map_some, DecText.Num.toF64, hdec, Bool.false_eq_true, if_false, hsign]
  rw [parse_of_inRound x hx zx n.mant n.exp hin]

theorem shortest_text_reads_back (x : Bits) (hx : isFinite x = true) (zx : isZero x = false) (s : String)
    (n : DecText.Num) (hp : DecText.parse s = some n) (hdec : n.hex = false) (hsign : n.neg = signBit x)
    (hsh : IsShortestDecimal x n.mant n.exp) : DecText.toF64? s = some x :=
  text_reads_back x hx zx s n hp hdec hsign hsh.2.1

/-- instance: 1.5 printed with 17 decimals reads back -/
example : DecText.toF64? (fmtFixed 0x3FF8000000000000 17) = some 0x3FF8000000000000 :=
  fmtFixed_reads_back _ (by decide) (by decide) 17 (by
    have h1 : mant 0x3FF8000000000000 = 2 ^ 52 + 2 ^ 51 := by decide
    have h2 : expo 0x3FF8000000000000 = -52 := by decide
    unfold lowGap; rw [h1, h2]; norm_num)

end F64.Text
