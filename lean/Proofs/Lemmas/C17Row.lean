/-
C17 helper lemmas: what a row shows.  The `OldNewDelta` block `deltaPart` in closed form
(`deltaPart_result`: PctDelta, Delta and Change by the gate `shown`), and which units `metricOf`
maps to the metric `speed`, the one whose direction is reversed (`metricOf_speed_iff`).
-/
import Model.Legacy.Collection
import Model.Spec.Legacy
import Proofs.Lemmas.Shared.List

namespace C17
open Legacy F64

/-- What the `OldNewDelta` block leaves in `PctDelta`, `Delta` and `Change` (its last step writes
only the note). -/
theorem deltaPart_result (t : TestRes) (alpha : Bits) (metric : Str) (old new : Metrics) (row : Row) :
    ((deltaPart t alpha metric old new row).pctDelta, (deltaPart t alpha metric old new row).delta,
      (deltaPart t alpha metric old new row).change) =
    if Spec.Legacy.shown t alpha then
      if eq new.mean old.mean then (posZero, "0.00%", row.change)
      else (Spec.Legacy.deltaValue old.mean new.mean,
        fmtF true (Spec.Legacy.deltaValue old.mean new.mean) 2 ++ "%",
        if (lt (Spec.Legacy.deltaValue old.mean new.mean) posZero) == (metric != speed) then 1 else -1)
    else (posZero, "~", row.change) := by
  unfold deltaPart Spec.Legacy.shown Spec.Legacy.deltaValue
  simp only [apply_ite Row.pctDelta, apply_ite Row.delta, apply_ite Row.change, ite_self]
  cases t with
  | p v =>
    by_cases hlt : lt v alpha = true
    · by_cases heq : eq new.mean old.mean = true
      · simp only [hlt, heq, if_true]
      · simp only [hlt, heq, if_true, Bool.false_eq_true, if_false]
    · simp only [hlt, Bool.false_eq_true, if_false]
  | errZeroVariance => rfl
  | errSampleSize => rfl
  | errSamplesEqual => rfl
  | errOther msg => rfl

theorem metricSuffix_values_long : ∀ p ∈ metricSuffix, 5 ≤ p.2.length := by decide +kernel

theorem metricOf_speed_iff (u : Str) : metricOf u = speed ↔ (u = str "MB/s" ∨ u = str "speed") := by
  unfold metricOf
  cases hl : metricSuffix.lookup u with
  | some s =>
    obtain ⟨l₁, l₂, e, _⟩ := List.lookup_eq_some_iff.1 hl
    have key : ∀ p ∈ metricSuffix, (p.2 = speed ↔ (p.1 = str "MB/s" ∨ p.1 = str "speed")) := by
      decide +kernel
    exact key (u, s) (by rw [e]; exact List.mem_append_right _ List.mem_cons_self)
  | none =>
    have h4 : u ≠ str "MB/s" := fun e => by
      have := List.lookup_eq_none_iff.1 hl (str "MB/s", speed) (by decide +kernel)
      rw [e] at this
      exact absurd this (by decide +kernel)
    simp only [h4, false_or]
    split
    · rename_i s suff hf
      have hlen := metricSuffix_values_long _ (List.mem_of_find?_eq_some hf)
      constructor
      · intro h
        have := congrArg List.length h
        have hd : (str "-").length = 1 := by decide +kernel
        have hs : speed.length = 5 := by decide +kernel
        rw [hs] at this
        simp only [List.length_append, hd] at this hlen
        omega
      · intro h
        have : metricSuffix.find? (fun x => match x with | (s, _) => hasSuffix (str "speed") (str "-" ++ s)) = none := by
          decide +kernel
        rw [h, this] at hf
        cases hf
    · exact Iff.rfl

end C17
