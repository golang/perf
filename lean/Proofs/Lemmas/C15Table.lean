/-
C15 helper lemmas: what a permutation of the input leaves alone. The measurements of a group are permuted
(`group_perm`); `toTable` depends on a Builder table only through the SETS of its rows and columns
(they are sorted by an order that separates them), the set of its cell keys, and each cell's sorted
sample and residue set (`toTable_congr`).
-/
import Proofs.Lemmas.C14Tables

namespace C15L
open Tab C14L

variable {κ : Type} [DecidableEq κ]

open Spec.Cells in
theorem measOf_perm {ζ ν : Type} {rs rs' : List (Res κ ζ ν)} (h : rs.Perm rs') : (measOf rs).Perm (measOf rs') :=
  List.Perm.flatMap_right _ h

open Spec.Cells in
theorem group_perm {ζ ν : Type} {rs rs' : List (Res κ ζ ν)} (h : rs.Perm rs') (t r c : κ) :
    (group (measOf rs) t r c).Perm (group (measOf rs') t r c) :=
  List.Perm.filter _ (measOf_perm h)

theorem mkCell_congr (cfg : Cfg κ) (a : Assump) (base : Option κ)
    (cells cells' : List ((κ × κ) × BCell (List Bytes) F64.Bits)) (k : κ × κ) (c c' : BCell (List Bytes) F64.Bits)
    (hv : sortFloats c.values = sortFloats c'.values)
    (hres : ∀ z, z ∈ c.residue ↔ z ∈ c'.residue)
    (hcells : ∀ k2, (AL.lookup k2 cells).map (fun x => sortFloats x.values) =
      (AL.lookup k2 cells').map (fun x => sortFloats x.values)) :
    mkCell cfg a base cells k c = mkCell cfg a base cells' k c' := by
  unfold mkCell
  simp only
  rw [hv, residueWarning_congr cfg.fieldNames hres]
  cases base with
  | none => rfl
  | some bcol =>
    by_cases hk : k.2 = bcol
    · simp [hk]
    · have := hcells (k.1, bcol)
      cases h1 : AL.lookup (k.1, bcol) cells <;> cases h2 : AL.lookup (k.1, bcol) cells' <;>
        simp [h1, h2] at this <;> simp [hk, h1, h2, this]

theorem tableWF_perm {ζ ν : Type} {bt bt' : BTable κ ζ ν} (w : TableWF bt) (w' : TableWF bt')
    (hkeys : ∀ k, k ∈ AL.keys bt.cells ↔ k ∈ AL.keys bt'.cells) : bt.rows.Perm bt'.rows ∧ bt.cols.Perm bt'.cols := by
  constructor
  · rw [List.perm_ext_iff_of_nodup w.rowsNodup w'.rowsNodup]
    intro r
    rw [w.rows_iff, w'.rows_iff]
    exact exists_congr fun c => hkeys (r, c)
  · rw [List.perm_ext_iff_of_nodup w.colsNodup w'.colsNodup]
    intro c
    rw [w.cols_iff, w'.cols_iff]
    exact exists_congr fun r => hkeys (r, c)

theorem toTable_congr (cfg : Cfg κ) (t : κ) (bt bt' : BTable κ (List Bytes) F64.Bits)
    (w : TableWF bt) (w' : TableWF bt')
    (hrInj : ∀ x y, x ∈ bt.rows → y ∈ bt.rows → cfg.rankR x = cfg.rankR y → x = y)
    (hcInj : ∀ x y, x ∈ bt.cols → y ∈ bt.cols → cfg.rankC x = cfg.rankC y → x = y)
    (hsome : ∀ k, (AL.lookup k bt.cells).isSome = (AL.lookup k bt'.cells).isSome)
    (hcell : ∀ k c c', AL.lookup k bt.cells = some c → AL.lookup k bt'.cells = some c' →
      sortFloats c.values = sortFloats c'.values ∧ ∀ z, z ∈ c.residue ↔ z ∈ c'.residue) :
    (toTable cfg t bt).rows = (toTable cfg t bt').rows ∧ (toTable cfg t bt).cols = (toTable cfg t bt').cols ∧
    ∀ k, AL.lookup k (toTable cfg t bt).cells = AL.lookup k (toTable cfg t bt').cells := by
  obtain ⟨hrows, hcols⟩ := tableWF_perm w w' fun k => by
    rw [← lookup_isSome_iff_mem_keys, ← lookup_isSome_iff_mem_keys, hsome]
  have ecols := sortKeys_eq_of_perm cfg.rankC hcols hcInj
  have hsorted : ∀ k, (AL.lookup k bt.cells).map (fun x => sortFloats x.values) =
      (AL.lookup k bt'.cells).map (fun x => sortFloats x.values) := by
    intro k
    have hs := hsome k
    cases h1 : AL.lookup k bt.cells <;> cases h2 : AL.lookup k bt'.cells <;> simp [h1, h2] at hs ⊢
    exact (hcell k _ _ h1 h2).1
  refine ⟨sortKeys_eq_of_perm cfg.rankR hrows hrInj, ecols, fun k => ?_⟩
  rw [toTable_cell, toTable_cell, ← ecols]
  have hs := hsome k
  cases h1 : AL.lookup k bt.cells <;> cases h2 : AL.lookup k bt'.cells <;> simp [h1, h2] at hs ⊢
  exact mkCell_congr cfg _ _ _ _ k _ _ (hcell k _ _ h1 h2).1 (hcell k _ _ h1 h2).2 hsorted

end C15L
