/-
Regular-expression values at token level: when the C07 tokenizer model's `regexpParseUntil` scan
(`reScan`: brackets, parentheses, escapes) stops exactly at the closing slash of `/src/`, and what
`next` then returns.
-/
import Proofs.Lemmas.C06Tok

namespace C06
open Proc.Tok C07

/-- the scanner state (bracket depth, paren depth) after `src`; `none` if `src` contains a `/` at
the top level (it would end the expression early) or ends in a lone backslash (it would escape the
closing slash) -/
def reState : Bytes → Nat → Int → Option (Nat × Int)
  | [], cs, cp => some (cs, cp)
  | c :: r, cs, cp =>
    if cs == 0 && cp == 0 && c == cSlash then none
    else if c == cBsl then
      match r with
      | [] => none
      | _ :: r' => reState r' cs cp
    else
      let cs' := if c == cLB then cs + 1 else if c == cRB then cs - 1 else cs
      let cp' := if cs == 0 then (if c == cLP then cp + 1 else if c == cRP then cp - 1 else cp) else cp
      reState r cs' cp'

theorem reScan_of_reState (tail src : Bytes) (cs : Nat) (cp : Int) (h : reState src cs cp = some (0, 0)) :
    reScan (src ++ cSlash :: tail) cs cp = some (src, cSlash :: tail) := by
  fun_induction reState src cs cp with
  | case1 cs cp =>
    cases h
    unfold reScan
    rfl
  | case2 c r cs cp hstop => cases h
  | case3 c cs cp hstop hbsl => cases h
  | case4 c cs cp hstop hbsl d r' ih =>
    rw [List.cons_append, List.cons_append]
    unfold reScan
    simp only [if_neg hstop, if_pos hbsl, ih h]
  | case5 c r cs cp hstop hbsl cs' cp' ih =>
    rw [List.cons_append]
    unfold reScan
    have ih := ih h
    simp only [cs', cp'] at ih
    simp only [if_neg hstop, if_neg hbsl, ih]

/-- `/src/` is a well-formed regular-expression value: the scan of `src` ends at the top level
and Go's `regexp.Compile` accepts it (oracle of the tokenizer model) -/
def RegexOK (cx : Ctx) (src : Bytes) : Prop := reState src 0 0 = some (0, 0) ∧ cx.compileOK src = true

theorem followOK_of_delim (cx : Ctx) (rest : Bytes) (h : Delim cx rest) : followOK cx rest = true := by
  rcases h with rfl | ⟨d, r, rfl, _, hs⟩
  · rfl
  · simp only [followOK, Bool.or_eq_true] at hs ⊢
    rcases hs with hs | hs
    · exact Or.inl hs
    · right; simp [isStartOpB, isStartOpR, hs]

theorem RegexOK.tk {cx : Ctx} {src : Bytes} (hok : RegexOK cx src) {rest : Bytes} (hrest : Delim cx rest) :
    Tk cx true (cSlash :: (src ++ [cSlash]) ++ rest) kR src (cSlash :: (src ++ [cSlash]) ++ rest) rest := by
  refine Tk.here (fun e => ?_) (by simp; omega)
  have hshape : cSlash :: (src ++ [cSlash]) ++ rest = cSlash :: (src ++ cSlash :: rest) := by simp
  have hscan := reScan_of_reState rest src 0 0 hok.1
  rw [hshape, next_regexp, hscan]
  simp only [List.drop_succ_cons, List.drop_zero, hok.2, Bool.not_true, Bool.false_eq_true, if_false,
    followOK_of_delim cx rest hrest, if_true]

/-- a value as written: a word (in value position) or `/src/`; `k` is the token kind, the last
argument the token's text -/
inductive Val (cx : Ctx) : UInt8 → Bytes → Bytes → Prop
  | word {k : UInt8} {txt val : Bytes} : Word cx true k txt val → Val cx k txt val
  | regex (src : Bytes) : RegexOK cx src → Val cx kR (cSlash :: (src ++ [cSlash])) src

theorem Val.tk {cx : Ctx} {k : UInt8} {txt tok : Bytes} (hv : Val cx k txt tok) {rest : Bytes}
    (hrest : Delim cx rest) : Tk cx true (txt ++ rest) k tok (txt ++ rest) rest := by
  cases hv with
  | word hw => exact hw.tk hrest
  | regex _ hok => exact hok.tk hrest

theorem Val.isValue {cx : Ctx} {k : UInt8} {txt tok : Bytes} (h : Val cx k txt tok) :
    Proc.ParseFilter.isValue k = true := by
  cases h with
  | word hw => rcases hw.kind with rfl | rfl <;> decide
  | regex => decide

theorem reState_plain (src : Bytes)
    (h : ∀ c, c ∈ src → c ≠ cSlash ∧ c ≠ cBsl ∧ c ≠ cLB ∧ c ≠ cRB ∧ c ≠ cLP ∧ c ≠ cRP) :
    reState src 0 0 = some (0, 0) := by
  induction src with
  | nil => rfl
  | cons c r ih =>
    obtain ⟨h1, h2, h3, h4, h5, h6⟩ := h c (by simp)
    unfold reState
    simp [h1, h2, h3, h4, h5, h6]
    exact ih (fun x hx => h x (by simp [hx]))

end C06
