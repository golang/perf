/-
C04 helper lemmas: pieces re-assemble to the string; rewriting is the identity when no numerator
component is `ns`/`MB`; a component is a substring (for the `strings.Contains` pre-filter).
-/
import Proofs.Lemmas.C04Tok
import Proofs.Lemmas.Shared.Bytes

namespace C04
open Shared Unit.Parse Unit.Tidy
open Spec.Tidy (runes group Piece rewrite pieces)

def Piece.bytes : Piece → Bytes
  | .sep _ enc => enc
  | .word w => w

def concatP (ps : List Piece) : Bytes := ps.flatMap Piece.bytes

theorem concatP_group : ∀ (L : List (Nat × Bytes)), concatP (group L) = L.flatMap (·.2) := by
  intro L
  induction L with
  | nil => simp [group, concatP]
  | cons x L ih =>
    obtain ⟨r, enc⟩ := x
    simp only [group, List.flatMap_cons]
    by_cases hs : Spec.Tidy.isSep r = true
    · simp only [hs, if_true]
      rw [← ih]; simp [concatP, Piece.bytes]
    · have hs' : Spec.Tidy.isSep r = false := by simpa using hs
      simp only [hs', Bool.false_eq_true, if_false]
      rw [← ih]
      generalize group L = g
      cases g with
      | nil => simp [concatP, Piece.bytes]
      | cons p ps => cases p <;> simp [concatP, Piece.bytes]

theorem concat_pieces (u : Bytes) : concatP (pieces u) = u := by
  unfold pieces
  show concatP (group (R u)) = u
  rw [concatP_group, R_flat u]

theorem concatP_cons (p : Piece) (ps : List Piece) : concatP (p :: ps) = Piece.bytes p ++ concatP ps := by
  simp [concatP]

open Spec.Tidy (ns mb numerator)

theorem wordOut_base (d : Bool) (f : F64.Bits) (w : Bytes) (h : d = false → w ≠ ns ∧ w ≠ mb) :
    wordOut d w = w ∧ wordFactor d f w = f := by
  cases d with
  | true => exact ⟨rfl, rfl⟩
  | false =>
    obtain ⟨h1, h2⟩ := h rfl
    simp [wordOut, wordFactor, h1, h2]

theorem rewrite_base : ∀ (ps : List Piece) (d : Bool) (f : F64.Bits),
    (∀ w ∈ numerator d ps, w ≠ ns ∧ w ≠ mb) → rewrite d f ps = (concatP ps, f)
  | [], _, _, _ => rfl
  | .sep r enc :: ps, d, f, h => by
    rw [rewrite_sep, rewrite_base ps (sepDenom r d) f h]; rfl
  | .word w :: ps, d, f, h => by
    have hw := wordOut_base d f w fun hd => h w (by simp [numerator, hd])
    have hps : ∀ x ∈ numerator d ps, x ≠ ns ∧ x ≠ mb := fun x hx => h x (by
      cases d <;> simp [numerator, hx])
    rw [rewrite_word, hw.1, hw.2, rewrite_base ps d f hps]; rfl

theorem spec_tidyUnit_of_isBase (u : Bytes) (h : Spec.Tidy.isBase u = true) :
    Spec.Tidy.tidyUnit u = (u, F64.one) := by
  unfold Spec.Tidy.tidyUnit
  rw [rewrite_base, concat_pieces]
  intro w hw
  simpa using List.all_eq_true.mp h w hw

theorem numerator_word : ∀ (ps : List Piece) (d : Bool) (w : Bytes), w ∈ numerator d ps → Piece.word w ∈ ps
  | [], _, _, h => by cases h
  | .sep _ _ :: ps, _, w, h => List.mem_cons_of_mem _ (numerator_word ps _ w h)
  | .word x :: ps, d, w, h => by
    cases d with
    | true => exact List.mem_cons_of_mem _ (numerator_word ps _ w h)
    | false =>
      rcases List.mem_cons.mp h with rfl | h
      · exact List.mem_cons_self
      · exact List.mem_cons_of_mem _ (numerator_word ps _ w h)

theorem word_contains (u w : Bytes) (h : Piece.word w ∈ pieces u) : Bytes.contains u w = true := by
  rw [Bytes.contains_iff, ← concat_pieces u]
  exact List.infix_of_mem_flatten (List.mem_map_of_mem (f := Piece.bytes) h)

theorem spec_noop_of_not_contains (u : Bytes) (h : mayNeedTidy u = false) :
    Spec.Tidy.tidyUnit u = (u, F64.one) := by
  apply spec_tidyUnit_of_isBase
  simp only [mayNeedTidy, Bool.or_eq_false_iff] at h
  refine List.all_eq_true.mpr fun w hw => ?_
  have hc := word_contains u w (numerator_word _ _ w hw)
  have h1 : w ≠ ns := fun e => by rw [e, show ns = sNs from rfl, h.1] at hc; cases hc
  have h2 : w ≠ mb := fun e => by rw [e, show mb = sMB from rfl, h.2] at hc; cases hc
  simp [h1, h2]

end C04
