/-
C19 helper lemmas: an invariant rule for the Reader (`ReaderRule`: what an invariant has to survive,
stated once), walked through the scan loop of `Reader.Next` and the loop over all results; used for
each of the properties the Reader keeps (the server's `upload` label, good labels, name labels).
-/
import Model.Storage.Fmt

namespace C19
open Storage.Query Storage.Fmt

theorem newResult_eq (rd : Reader) (name line : Bytes) :
    rd.newResult name line =
      (⟨rd.labels, if rd.lastName != name then some (parseNameLabels name) else rd.lastNameLabels, rd.lineNum, line⟩,
       { rd with lastName := name,
                 lastNameLabels := if rd.lastName != name then some (parseNameLabels name) else rd.lastNameLabels }) := by
  unfold Reader.newResult
  split
  · rfl
  next h =>
    obtain rfl : rd.lastName = name := by simpa using h
    rfl

/-- An invariant rule for the Reader. `I` survives everything a configuration line or a skipped line
does to the Reader (the labels change only at keys that are not permanent; the permanent labels are
set at most while there are none, so they are either always there or irrelevant to `I`); `P` is any
property of the lines; `Q` holds of every result `newResult` makes from a Reader satisfying `I`. -/
structure ReaderRule (I : Reader → Prop) (P : Bytes → Prop) (Q : Result → Prop) : Prop where
  erase : ∀ rd k, I rd → ¬ (rd.perm.getD []).has k = true → I { rd with labels := rd.labels.erase k }
  set : ∀ rd line k v, I rd → P line → parseKeyValueLine line = some (k, v) →
    ¬ (rd.perm.getD []).has k = true → v.isEmpty = false → I { rd with labels := rd.labels.set k v }
  num : ∀ rd n, I rd → I { rd with lineNum := n }
  perm : (∀ rd, I rd → rd.perm.isSome = true) ∨ ∀ rd l, I rd → I { rd with perm := some l }
  result : ∀ rd line name, I rd → P line → parseBenchmarkLine line = some name →
    Q (rd.newResult name line).1 ∧ I (rd.newResult name line).2

variable {I : Reader → Prop} {P : Bytes → Prop} {Q : Result → Prop}

theorem ReaderRule.nextGo (h : ReaderRule I P Q) (hp : Bool) (lines : List Bytes) (rd : Reader)
    (res : Result) (rd' : Reader) (rest : List Bytes)
    (hn : Reader.nextGo hp rd lines = some (res, rd', rest)) (hI : I rd)
    (hperm : hp = false → ∀ rd l, I rd → I { rd with perm := some l }) (hl : ∀ l ∈ lines, P l) :
    Q res ∧ I rd' ∧ ∀ l ∈ rest, P l := by
  -- a line that is neither a configuration nor a benchmark line
  have hskip : ∀ (r : Reader) (line : Bytes), I r → I (if (!hp) = true then
      (if line.isEmpty then { r with perm := some r.labels } else { r with perm := some [] }) else r) := by
    intro r line hr
    split
    · rename_i hh
      split <;> exact hperm (by simpa using hh) _ _ hr
    · exact hr
  fun_induction Reader.nextGo hp rd lines
  case case1 => cases hn
  case case2 ih =>
    exact ih hn (h.num _ _ hI) (fun l hl' => hl l (List.mem_cons_of_mem _ hl'))
  case case3 hhas _ ih =>
    exact ih hn (h.erase _ _ (h.num _ _ hI) hhas) (fun l hl' => hl l (List.mem_cons_of_mem _ hl'))
  case case4 hkv hhas hv ih =>
    exact ih hn (h.set _ _ _ _ (h.num _ _ hI) (hl _ List.mem_cons_self) hkv hhas (by simpa using hv))
      (fun l hl' => hl l (List.mem_cons_of_mem _ hl'))
  case case5 line ps r1 _ r2 name hb res1 r3 hres =>
    have := h.result r2 line name (hskip _ line (h.num _ _ hI)) (hl _ List.mem_cons_self) hb
    rw [hres] at this
    cases hn
    exact ⟨this.1, this.2, fun l hl' => hl l (List.mem_cons_of_mem _ hl')⟩
  case case6 line ps r1 _ r2 _ ih =>
    have hI2 : I r2 := hskip _ line (h.num _ _ hI)
    exact ih hn hI2 (fun l hl' => hl l (List.mem_cons_of_mem _ hl'))

theorem ReaderRule.allGo (h : ReaderRule I P Q) (fuel : Nat) (rd : Reader) (lines : List Bytes)
    (hI : I rd) (hl : ∀ l ∈ lines, P l) : ∀ res ∈ Reader.allGo fuel rd lines, Q res := by
  induction fuel generalizing rd lines with
  | zero => simp [Reader.allGo]
  | succ n ih =>
    unfold Reader.allGo
    cases hn : rd.next lines with
    | none => simp
    | some t =>
      obtain ⟨res, rd', rest⟩ := t
      obtain ⟨hq, hI', hrest⟩ := h.nextGo _ lines rd res rd' rest hn hI
        (fun hf => h.perm.elim (fun hs => absurd (hs rd hI) (by simp [hf])) id) hl
      intro x hx
      rcases List.mem_cons.mp hx with rfl | hx
      · exact hq
      · exact ih rd' rest hI' hrest x hx

theorem ReaderRule.all (h : ReaderRule I P Q) (rd : Reader) (data : Bytes) (hI : I rd)
    (hl : ∀ l ∈ scanLines data, P l) : ∀ res ∈ rd.all data, Q res :=
  h.allGo _ rd _ hI hl

end C19
