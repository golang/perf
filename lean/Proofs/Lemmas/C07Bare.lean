/-
Bare words followed by a delimiter.
-/
import Proofs.Lemmas.C07Tok

namespace C07
open Proc.Tok

/-- every rune of `q` (decoded as `range` does) satisfies `P` -/
def allRunes (P : Nat → Bool) : Nat → Bytes → Bool
  | 0, _ => true
  | f + 1, q =>
    match q with
    | [] => true
    | _ :: _ => P (decodeRune q).1 && allRunes P f (q.drop (decodeRune q).2)

/-- the stop test of `bareWord`: `unicode.IsSpace(r) || isOp(r)` -/
def stopRune (cx : Ctx) (r : Nat) : Bool := isSpaceRune cx r || isOpR r

/-- what may follow a bare word: nothing, or a rune on which `bareWord` stops -/
def Delim (cx : Ctx) (rest : Bytes) : Prop := rest = [] ∨ stopRune cx (decodeRune rest).1 = true

/-- a delimiter never starts with a UTF-8 continuation byte, because U+FFFD is not white space -/
theorem delim_notCont (cx : Ctx) (hFFFD : cx.isSpaceHi runeError = false) {rest : Bytes} (hd : Delim cx rest) :
    Shared.okTail rest := by
  cases rest with
  | nil => exact .inl rfl
  | cons d r =>
    by_cases hn : Shared.nonCont d
    · exact .inr ⟨d, r, rfl, hn⟩
    rcases hd with hd | hd
    · cases hd
    · rw [decodeRune_cont d r hn] at hd
      simp [stopRune, isSpaceRune, runeError, isOpR] at hd
      simp [runeError] at hFFFD
      rw [hFFFD] at hd; simp at hd

theorem bareSplit_delim (cx : Ctx) (rest : Bytes) (hd : Delim cx rest) (hc : Shared.okTail rest) :
    ∀ (f : Nat) (u : Bytes), u.length ≤ f → allRunes (fun r => !stopRune cx r) f u = true →
      ∀ g, f ≤ g → bareSplit cx g (u ++ rest) = (u, rest) := by
  have hend : ∀ g, bareSplit cx g rest = ([], rest) := by
    intro g
    match g with
    | 0 => rfl
    | g + 1 =>
      match rest, hd with
      | [], _ => rfl
      | d :: r, hd =>
        rcases hd with hd | hd
        · simp at hd
        · simp only [bareSplit]
          simp only [stopRune] at hd
          simp [hd]
  intro f
  induction f with
  | zero =>
    intro u hu _ g _
    have : u = [] := List.length_eq_zero_iff.mp (by omega)
    subst this; simpa using hend g
  | succ f ih =>
    intro u hu ha g hg
    match u with
    | [] => simpa using hend g
    | b0 :: u' =>
      match g, hg with
      | g + 1, hg =>
        have hsz := decodeRune_size b0 u'
        have hdec : decodeRune (b0 :: (u' ++ rest)) = decodeRune (b0 :: u') := by
          simpa using decodeRune_append b0 u' rest hc
        simp only [allRunes, Bool.and_eq_true, Bool.not_eq_true'] at ha
        have hns : (isSpaceRune cx (decodeRune (b0 :: u')).1 || isOpR (decodeRune (b0 :: u')).1) = false := by
          simpa [stopRune] using ha.1
        simp only [List.cons_append, bareSplit, hdec, hns]
        have hdrop : (b0 :: (u' ++ rest)).drop (decodeRune (b0 :: u')).2 =
            (b0 :: u').drop (decodeRune (b0 :: u')).2 ++ rest := by
          have : b0 :: (u' ++ rest) = (b0 :: u') ++ rest := rfl
          rw [this, List.drop_append_of_le_length hsz.2]
        have htake : (b0 :: (u' ++ rest)).take (decodeRune (b0 :: u')).2 =
            (b0 :: u').take (decodeRune (b0 :: u')).2 := by
          have : b0 :: (u' ++ rest) = (b0 :: u') ++ rest := rfl
          rw [this, List.take_append_of_le_length hsz.2]
        rw [hdrop, htake]
        have hl : ((b0 :: u').drop (decodeRune (b0 :: u')).2).length ≤ f := by
          rw [List.length_drop]; simp at hu ⊢; omega
        rw [ih _ hl ha.2 g (by omega)]
        simp

theorem bareSplit_all (cx : Ctx) : ∀ (f : Nat) (q : Bytes), q.length ≤ f →
    allRunes (fun r => !(isSpaceRune cx r || isOpR r)) f q = true → bareSplit cx f q = (q, []) := fun f q h ha => by
  simpa using bareSplit_delim cx [] (Or.inl rfl) (Or.inl rfl) f q h ha f (Nat.le_refl _)

/-- `f` is the fuel of `allRunes` (one step per rune suffices) -/
theorem next_bare (cx : Ctx) (m : Bool) (c : UInt8) (t rest : Bytes) (e : ErrSt)
    (hop : isStartOpB c = false) (hq : c ≠ cQuote) (hsl : m = true → c ≠ cSlash)
    (f : Nat) (hf : (c :: t).length ≤ f) (hf2 : f ≤ (c :: t).length + 1)
    (hr : allRunes (fun r => !stopRune cx r) f (c :: t) = true)
    (hd : Delim cx rest) (hc : Shared.okTail rest) :
    next cx m (c :: t ++ rest) e = mkTok cx (c :: t ++ rest)
      (if c :: t == wAND then kA else if c :: t == wOR then kO else kW) (c :: t) rest e := by
  have hdec : decodeRune (c :: t ++ rest) = decodeRune (c :: t) := decodeRune_append c t rest hc
  obtain ⟨f, rfl⟩ : ∃ g, f = g + 1 := ⟨f - 1, by simp at hf; omega⟩
  have hr1 : (isSpaceRune cx (decodeRune (c :: t)).1 || isOpR (decodeRune (c :: t)).1) = false := by
    have := hr
    simp only [allRunes, Bool.and_eq_true] at this
    simpa [stopRune] using this.1
  have hsp : isSpaceLen cx (c :: t ++ rest) = 0 := by
    rw [List.cons_append, isSpaceLen_eq_zero, ← List.cons_append, hdec]
    exact (Bool.or_eq_false_iff.mp hr1).1
  have hre : (m && c == cSlash) = false := by
    cases m with
    | false => rfl
    | true => simpa using hsl rfl
  have hsplit : bareSplit cx ((c :: t ++ rest).length + 1) (c :: t ++ rest) = (c :: t, rest) :=
    bareSplit_delim cx rest hd hc _ (c :: t) hf hr _ (by simp at hf2 ⊢; omega)
  have hnext : next cx m (c :: t ++ rest) e = bareWord cx (c :: t ++ rest) e := by
    rw [List.cons_append] at hsp ⊢
    rw [next_word cx m c _ e hop hsp, hre, if_neg (by decide), if_neg (by simpa using hq)]
  simp only [hnext, bareWord, hsplit]
  by_cases hA : (c :: t == wAND) = true
  · simp only [hA, if_true]
  · by_cases hO : (c :: t == wOR) = true <;> simp only [hA, hO, if_true, if_false, Bool.false_eq_true]

end C07
