/-
The filter parser model (Model/Proc/ParseFilter.lean) against its grammar (C07Gram.lean): every run moves forward
and records at most a first error inside the text, and an error-free run is a derivation (`Post`, `parser_post`,
by induction over the recursive descent); the result does not depend on the fuel; the semantic rejections of
`NewFilter`.
-/
import Proofs.Lemmas.C07Gram

namespace C07
open Proc.Tok Proc.ParseFilter

/-- `eq_of_beq` at `UInt8`: stated here because the general lemma looks for its `LawfulBEq` instance at each of the
many `kind_eq h ▸ tk` below, which is slow to check -/
theorem kind_eq {k c : UInt8} (h : (k == c) = true) : k = c := by simpa using h

theorem kind_ne_zero {k c : UInt8} (h : (k == c) = true) (hc : c ≠ 0) : k ≠ 0 := by
  rw [kind_eq h]; exact hc

/-- what a stretch of a parser run from `(q, e)` to `(q', e')` guarantees: no growth, the tracker changed only by a
first error inside `q`, and an error-free end comes from an error-free start and has `D` (a derivation) -/
structure Post (cx : Ctx) (q : Bytes) (e : ErrSt) (q' : Bytes) (e' : ErrSt) (D : Prop) : Prop where
  len : q'.length ≤ q.length
  err : ErrOK cx q e e'
  deriv : e' = none → e = none ∧ D

/-- one stretch after the other -/
theorem Post.bind {cx : Ctx} {q q1 q2 : Bytes} {e e1 e2 : ErrSt} {A B : Prop} (a : Post cx q e q1 e1 A)
    (b : Post cx q1 e1 q2 e2 B) : Post cx q e q2 e2 (A ∧ B) :=
  ⟨Nat.le_trans b.len a.len, a.err.trans (b.err.mono a.len), fun h => ⟨(a.deriv (b.deriv h).1).1, (a.deriv (b.deriv h).1).2, (b.deriv h).2⟩⟩

theorem Post.imp {cx : Ctx} {q q' : Bytes} {e e' : ErrSt} {A B : Prop} (a : Post cx q e q' e' A) (f : A → B) :
    Post cx q e q' e' B := ⟨a.len, a.err, fun h => ⟨(a.deriv h).1, f (a.deriv h).2⟩⟩

theorem Post.refl (cx : Ctx) (q : Bytes) (e : ErrSt) : Post cx q e q e True := ⟨Nat.le_refl _, ErrOK.refl _ _ _, fun h => ⟨h, trivial⟩⟩

theorem Post.sticky {cx : Ctx} {D : Prop} {q q' : Bytes} {e e' : ErrSt} {x : Err} (a : Post cx q e q' e' D)
    (h : e = some x) : e' = some x := by
  subst h; exact a.err.some

/-- `p.error` at a position `cur` inside `q`, after any stretch -/
theorem Post.fail {cx : Ctx} {A D : Prop} {q q1 cur : Bytes} {e e1 : ErrSt} (a : Post cx q e q1 e1 A) (m : Msg)
    (hl : cur.length ≤ q.length) : Post cx q e [] (recErr cx cur m e1) D :=
  ⟨Nat.zero_le _, a.err.trans (recErr_ok cx m e1 hl),
    fun h => absurd h (Option.isSome_iff_ne_none.mp (recErr_isSome cx cur m e1))⟩

/-- reading the token of a call of `next` (`rd`) or only looking at it (`pk`) is a stretch whose derivation is the
token -/
theorem TokOK.rd {cx : Ctx} {m : Bool} {q : Bytes} {e : ErrSt} {t : TokR} (T : TokOK cx m q e t) :
    Post cx q e t.rest t.err (Tk cx m q t.tok.kind t.tok.tok t.cur t.rest) :=
  ⟨Nat.le_trans T.rest_le T.cur_le, T.err, T.tk⟩

theorem TokOK.pk {cx : Ctx} {m : Bool} {q : Bytes} {e : ErrSt} {t : TokR} (T : TokOK cx m q e t) :
    Post cx q e t.cur t.err (Tk cx m q t.tok.kind t.tok.tok t.cur t.rest) :=
  ⟨T.cur_le, T.err, T.tk⟩

abbrev PostF (cx : Ctx) (D : Bytes → PR → Prop) (q : Bytes) (e : ErrSt) (r : PR) : Prop := Post cx q e r.rest r.err (D q r)

def DL (cx : Ctx) (off : Int) (key : Bytes) (acc : List Filter) (q : Bytes) (r : PR) : Prop :=
  ∃ ts, PList cx off key q ts r.rest ∧ r.f = .op .or (acc ++ ts)
def DM (cx : Ctx) (q : Bytes) (r : PR) : Prop := Parses cx .M q [r.f] r.rest
def DT (cx : Ctx) (acc : List Filter) (q : Bytes) (r : PR) : Prop :=
  ∃ ts, Parses cx .T q ts r.rest ∧ r.f = finish .and (acc ++ ts)
def DO (cx : Ctx) (acc : List Filter) (q : Bytes) (r : PR) : Prop :=
  ∃ ts, Parses cx .O q ts r.rest ∧ r.f = finish .or (acc ++ ts)
def DA (cx : Ctx) (q : Bytes) (r : PR) : Prop := Parses cx .A q [r.f] r.rest

theorem listLoop_post (cx : Ctx) (off : Int) (key : Bytes) : ∀ (f : Nat) (acc : List Filter) (q : Bytes) (e : ErrSt),
    PostF cx (DL cx off key acc) q e (listLoop cx off key f acc q e) := by
  intro f
  induction f with
  | zero => intro acc q e; exact (Post.refl cx q e).fail _ (Nat.le_refl _)
  | succ f ih =>
    intro acc q e
    have V := next_ok cx true q e
    simp only [listLoop]
    generalize next cx true q e = v at V ⊢
    split
    · exact V.pk.fail _ V.cur_le
    · rename_i hv
      replace hv : isValue v.tok.kind = true := by simpa using hv
      have S := next_ok cx true v.rest v.err
      generalize next cx true v.rest v.err = s at S ⊢
      split
      · rename_i hrp
        exact (V.rd.bind S.rd).imp fun ⟨tv, ts⟩ => ⟨_, .last hv tv (kind_eq hrp ▸ ts), rfl⟩
      · split
        · rename_i hor
          exact ((V.rd.bind S.rd).bind (ih (acc ++ [mkMatch off key v.tok]) s.rest s.err)).imp
            fun ⟨⟨tv, ts⟩, tl, dl, hf⟩ => ⟨_, .more hv tv (kind_eq hor ▸ ts) dl, by rw [hf, List.append_assoc]; rfl⟩
        · exact (V.rd.bind S.pk).fail _ (V.rd.bind S.pk).len

/-- the five mutually recursive functions of the filter parser: every error-free run is a derivation of the
grammar; `match` moreover makes progress on non-empty input -/
structure ParserPost (cx : Ctx) (f : Nat) : Prop where
  E : ∀ q e, PostF cx (DO cx []) q e (exprF cx f q e)
  EL : ∀ acc q e, PostF cx (DO cx acc) q e (exprLoop cx f acc q e)
  A : ∀ q e, PostF cx (DA cx) q e (andExprF cx f q e)
  AL : ∀ acc q e, PostF cx (DT cx acc) q e (andLoop cx f acc q e)
  M : ∀ q e, PostF cx (DM cx) q e (matchF cx f q e) ∧ (0 < q.length → (matchF cx f q e).rest.length < q.length)

theorem parser_post (cx : Ctx) (f : Nat) : ParserPost cx f := by
  induction f with
  | zero =>
    have z : ∀ {D : Prop} (q e), Post cx q e [] (recErr cx q .fuel e) D := fun q e => (Post.refl cx q e).fail _ (Nat.le_refl _)
    exact ⟨fun q e => z q e, fun _ q e => z q e, fun q e => z q e, fun _ q e => z q e,
      fun q e => ⟨z q e, id⟩⟩
  | succ f ih =>
    obtain ⟨ihE, ihEL, ihA, ihAL, ihM⟩ := ih
    refine ⟨?_, ?_, ?_, ?_, ?_⟩
    · intro q e; simp only [exprF]; exact ihEL [] q e
    · intro acc q e
      have A := ihA q e
      simp only [exprLoop]
      generalize andExprF cx f q e = a at A ⊢
      have O := next_ok cx false a.rest a.err
      generalize next cx false a.rest a.err = op at O ⊢
      split
      · rename_i hk
        exact ((A.bind O.rd).bind (ihEL (acc ++ [a.f]) op.rest op.err)).imp
          fun ⟨⟨da, tk⟩, ts, d, hf⟩ => ⟨_, .more da (kind_eq hk ▸ tk) d, by rw [hf, List.append_assoc]; rfl⟩
      · rename_i hk
        exact (A.bind O.pk).imp fun ⟨da, tk⟩ => ⟨_, .last da tk (by simpa using hk), rfl⟩
    · intro q e
      have M := (ihM q e).1
      simp only [andExprF]
      generalize matchF cx f q e = m at M ⊢
      exact (M.bind (ihAL [m.f] m.rest m.err)).imp fun ⟨dm, ts, dt, hf⟩ => show Parses cx .A q [_] _ from hf ▸ .andExpr dm dt
    · intro acc q e
      have O := next_ok cx false q e
      simp only [andLoop]
      generalize next cx false q e = op at O ⊢
      split
      · rename_i hk
        exact (O.rd.bind (ihAL acc op.rest op.err)).imp fun ⟨tk, ts, dt, hf⟩ => ⟨_, .and (kind_eq hk ▸ tk) dt, hf⟩
      · split
        · rename_i hk
          have M := (ihM op.cur op.err).1
          generalize matchF cx f op.cur op.err = m at M ⊢
          exact ((O.pk.bind M).bind (ihAL (acc ++ [m.f]) m.rest m.err)).imp
            fun ⟨⟨tk, dm⟩, ts, dt, hf⟩ => ⟨_, .item tk hk dm dt, by rw [hf, List.append_assoc]; rfl⟩
        · split
          · rename_i hk
            exact O.pk.imp fun tk => ⟨[], .stop tk hk, by rw [List.append_nil]⟩
          · exact O.pk.fail _ O.cur_le
    · -- match; its body is taken apart one test at a time (`split` on the whole body is slow)
      intro q e
      have T := next_ok cx false q e
      generalize hr : matchF cx (f + 1) q e = r
      simp only [matchF] at hr
      generalize next cx false q e = t at T hr
      have prog : ∀ {n : Nat}, t.tok.kind ≠ 0 → n ≤ t.rest.length → n < q.length := fun hk hn =>
        Nat.lt_of_le_of_lt hn (Nat.lt_of_lt_of_le (T.rest_lt hk) T.cur_le)
      by_cases hk : (t.tok.kind == cLP) = true
      · rw [if_pos hk] at hr
        have X := ihE t.rest t.err
        generalize exprF cx f t.rest t.err = x at X hr
        have O := next_ok cx false x.rest x.err
        generalize next cx false x.rest x.err = op at O hr
        split at hr
        · subst hr; exact ⟨((T.rd.bind X).bind O.pk).fail _ ((T.rd.bind X).bind O.pk).len, id⟩
        · rename_i hk2
          subst hr
          have P := (T.rd.bind X).bind O.rd
          exact ⟨P.imp fun ⟨⟨tk0, ts, dx, hf⟩, tk2⟩ => show Parses cx .M q [x.f] op.rest from
              hf ▸ .paren (kind_eq hk ▸ tk0) dx ((by simpa using hk2 : op.tok.kind = cRP) ▸ tk2),
            fun _ => prog (kind_ne_zero hk (by decide)) (Nat.le_trans O.rd.len X.len)⟩
      · rw [if_neg hk] at hr
        by_cases hk2 : (t.tok.kind == cDash) = true
        · rw [if_pos hk2] at hr
          have M := (ihM t.rest t.err).1
          generalize matchF cx f t.rest t.err = m at M hr
          subst hr
          exact ⟨(T.rd.bind M).imp fun ⟨tk, dm⟩ => .neg (kind_eq hk2 ▸ tk) dm,
            fun _ => prog (kind_ne_zero hk2 (by decide)) M.len⟩
        · rw [if_neg hk2] at hr
          by_cases hk3 : (t.tok.kind == cStar) = true
          · rw [if_pos hk3] at hr
            subst hr
            exact ⟨T.rd.imp fun tk => .star (kind_eq hk3 ▸ tk), fun _ => prog (kind_ne_zero hk3 (by decide)) (Nat.le_refl _)⟩
          · rw [if_neg hk3] at hr
            by_cases hw : isWord t.tok.kind = true
            · rw [if_pos hw] at hr
              have O := next_ok cx false t.rest t.err
              generalize next cx false t.rest t.err = op at O hr
              by_cases hc : (op.tok.kind != cColon) = true
              · rw [if_pos hc] at hr; subst hr; exact ⟨(T.rd.bind O.rd).fail _ T.cur_le, id⟩
              · rw [if_neg hc] at hr
                have hcol : op.tok.kind = cColon := by simpa using hc
                have V := next_ok cx true op.rest op.err
                generalize next cx true op.rest op.err = v at V hr
                have P := (T.rd.bind O.rd).bind V.rd
                by_cases hv : isValue v.tok.kind = true
                · rw [if_pos hv] at hr
                  subst hr
                  exact ⟨P.imp fun ⟨⟨tkk, tkc⟩, tkv⟩ => show Parses cx .M q [mkMatch t.tok.off t.tok.tok v.tok] v.rest from
                      T.off ▸ .term hw tkk (hcol ▸ tkc) hv tkv,
                    fun _ => prog (isWord_facts hw).1 (Nat.le_trans V.rd.len O.rd.len)⟩
                · rw [if_neg hv] at hr
                  by_cases hlp : (v.tok.kind == cLP) = true
                  · rw [if_pos hlp] at hr
                    have L := listLoop_post cx t.tok.off t.tok.tok (v.rest.length + 1) [] v.rest v.err
                    rw [hr] at L
                    refine ⟨(P.bind L).imp fun ⟨⟨⟨tkk, tkc⟩, tkv⟩, ts, dl, hf⟩ => ?_,
                      fun _ => prog (isWord_facts hw).1 (Nat.le_trans L.len (Nat.le_trans V.rd.len O.rd.len))⟩
                    show Parses cx .M q [r.f] r.rest
                    rw [hf, T.off] at *
                    exact .list hw tkk (hcol ▸ tkc) (kind_eq hlp ▸ tkv) dl
                  · rw [if_neg hlp] at hr; subst hr; exact ⟨P.fail _ T.cur_le, id⟩
            · rw [if_neg hw] at hr; subst hr; exact ⟨T.pk.fail _ T.cur_le, id⟩

/-- Fuel stability of the filter parser: once the fuel exceeds `5·|q| + rank`, its exact amount is
irrelevant (ranks: match 0, andLoop 1, andExpr 2, exprLoop 3, expr 4). -/
theorem parser_fuel (cx : Ctx) : ∀ (f1 : Nat),
    (∀ f2 q e, 5 * q.length + 4 < f1 → 5 * q.length + 4 < f2 → exprF cx f1 q e = exprF cx f2 q e) ∧
    (∀ f2 terms q e, 5 * q.length + 3 < f1 → 5 * q.length + 3 < f2 →
      exprLoop cx f1 terms q e = exprLoop cx f2 terms q e) ∧
    (∀ f2 q e, 5 * q.length + 2 < f1 → 5 * q.length + 2 < f2 → andExprF cx f1 q e = andExprF cx f2 q e) ∧
    (∀ f2 terms q e, 5 * q.length + 1 < f1 → 5 * q.length + 1 < f2 →
      andLoop cx f1 terms q e = andLoop cx f2 terms q e) ∧
    (∀ f2 q e, 5 * q.length < f1 → 5 * q.length < f2 → matchF cx f1 q e = matchF cx f2 q e) := by
  intro f1
  induction f1 with
  | zero => exact ⟨by intros; omega, by intros; omega, by intros; omega, by intros; omega, by intros; omega⟩
  | succ f1 ih =>
    obtain ⟨ihE, ihEL, ihA, ihAL, ihM⟩ := ih
    refine ⟨?_, ?_, ?_, ?_, ?_⟩
    · intro f2 q e h1 h2
      match f2, h2 with
      | f2 + 1, h2 =>
        simp only [exprF]; exact ihEL f2 [] q e (by omega) (by omega)
    · intro f2 terms q e h1 h2
      match f2, h2 with
      | f2 + 1, h2 =>
        simp only [exprLoop]
        rw [ihA f2 q e (by omega) (by omega)]
        have har := ((parser_post cx f2).A q e).len
        generalize andExprF cx f2 q e = a at har ⊢
        have ho := next_ok cx false a.rest a.err
        generalize next cx false a.rest a.err = op at ho ⊢
        have hoc := ho.cur_le
        by_cases hk : (op.tok.kind == kO) = true
        · have := ho.rest_lt (kind_ne_zero hk (by decide))
          rw [if_pos hk, if_pos hk]
          exact ihEL f2 _ _ _ (by omega) (by omega)
        · rw [if_neg hk, if_neg hk]
    · intro f2 q e h1 h2
      match f2, h2 with
      | f2 + 1, h2 =>
        simp only [andExprF]
        rw [ihM f2 q e (by omega) (by omega)]
        have hm := ((parser_post cx f2).M q e).1.len
        exact ihAL f2 _ _ _ (by omega) (by omega)
    · intro f2 terms q e h1 h2
      match f2, h2 with
      | f2 + 1, h2 =>
        have ho := next_ok cx false q e
        simp only [andLoop]
        generalize next cx false q e = op at ho ⊢
        have hoc := ho.cur_le
        by_cases hk : (op.tok.kind == kA) = true
        · have := ho.rest_lt (kind_ne_zero hk (by decide))
          rw [if_pos hk, if_pos hk]
          exact ihAL f2 _ _ _ (by omega) (by omega)
        · rw [if_neg hk, if_neg hk]
          by_cases hk2 : (op.tok.kind == cLP || op.tok.kind == cDash || op.tok.kind == cStar || op.tok.kind == kW ||
              op.tok.kind == kQ) = true
          · have hlt := ho.rest_lt (fun h0 => by rw [h0] at hk2; exact absurd hk2 (by decide))
            rw [if_pos hk2, if_pos hk2, ihM f2 _ _ (by omega) (by omega)]
            have hm := ((parser_post cx f2).M op.cur op.err).2 (Nat.zero_lt_of_lt hlt)
            exact ihAL f2 _ _ _ (by omega) (by omega)
          · rw [if_neg hk2, if_neg hk2]
    · intro f2 q e h1 h2
      match f2, h2 with
      | f2 + 1, h2 =>
        -- the two bodies differ in the recursive calls after "(" and "-" only
        have ht := next_ok cx false q e
        simp only [matchF]
        generalize next cx false q e = t at ht ⊢
        have htc := ht.cur_le
        by_cases hk : (t.tok.kind == cLP) = true
        · have := ht.rest_lt (kind_ne_zero hk (by decide))
          rw [if_pos hk, if_pos hk, ihE f2 _ _ (by omega) (by omega)]
        · rw [if_neg hk, if_neg hk]
          by_cases hk2 : (t.tok.kind == cDash) = true
          · have := ht.rest_lt (kind_ne_zero hk2 (by decide))
            rw [if_pos hk2, if_pos hk2, ihM f2 _ _ (by omega) (by omega)]
          · rw [if_neg hk2, if_neg hk2]

theorem listLoop_fuel (cx : Ctx) (off : Int) (key : Bytes) : ∀ (f1 f2 : Nat) (terms : List Filter) (q : Bytes) (e : ErrSt),
    q.length < f1 → q.length < f2 → listLoop cx off key f1 terms q e = listLoop cx off key f2 terms q e := by
  intro f1
  induction f1 with
  | zero => intros; omega
  | succ f1 ih =>
    intro f2 terms q e h1 h2
    match f2, h2 with
    | f2 + 1, h2 =>
      have hv := next_ok cx true q e
      simp only [listLoop]
      generalize next cx true q e = v at hv ⊢
      have hs := next_ok cx true v.rest v.err
      generalize next cx true v.rest v.err = s at hs ⊢
      have := hv.cur_le; have := hv.rest_le; have := hs.cur_le
      -- the two sides differ in the call after `OR` only
      by_cases hk : (s.tok.kind == kO) = true
      · have := hs.rest_lt (kind_ne_zero hk (by decide))
        rw [ih f2 _ s.rest s.err (by omega) (by omega)]
      · rw [if_neg hk, if_neg hk]

theorem parseFilter_ok_end (cx : Ctx) (q : Bytes) (t : Filter) :
    parseFilter cx q = .ok t ↔
      endCheck cx (exprF cx (fuelFor q) q none).rest (exprF cx (fuelFor q) q none).err = none ∧
        (exprF cx (fuelFor q) q none).f = t := by
  unfold parseFilter
  cases h : endCheck cx (exprF cx (fuelFor q) q none).rest (exprF cx (fuelFor q) q none).err <;> simp [h]

theorem parseFilter_error_end (cx : Ctx) (q : Bytes) (err : Err) :
    parseFilter cx q = .error err ↔
      endCheck cx (exprF cx (fuelFor q) q none).rest (exprF cx (fuelFor q) q none).err = some err := by
  unfold parseFilter
  cases h : endCheck cx (exprF cx (fuelFor q) q none).rest (exprF cx (fuelFor q) q none).err <;> simp [h]

theorem exprF_first_error (cx : Ctx) (q : Bytes) (x : Err)
    (he : (next cx false q none).err = some x) (hk : (next cx false q none).tok.kind = 0) (n : Nat) :
    (exprF cx (n + 4) q none).err = some x := by
  have hm : (matchF cx (n + 1) q none).err = some x := by
    simp [matchF, hk, isWord, cLP, cDash, cStar, kW, kQ, perr, he, recErr]
  have ha : (andExprF cx (n + 2) q none).err = some x := by
    simp only [andExprF]
    exact ((parser_post cx (n + 1)).AL _ _ _).sticky hm
  simp only [exprF, exprLoop]
  generalize andExprF cx (n + 2) q none = a at ha ⊢
  have hop := (next_ok cx false a.rest a.err).rd.sticky ha
  split
  · exact ((parser_post cx (n + 2)).EL _ _ _).sticky hop
  · exact hop

theorem parseFilter_ok_iff (cx : Ctx) (q : Bytes) (t : Filter) :
    parseFilter cx q = .ok t ↔ ∃ ts qend, Parses cx .O q ts qend ∧ AtEnd cx qend ∧ t = finish .or ts := by
  constructor
  · intro h
    obtain ⟨hend, rfl⟩ := (parseFilter_ok_end cx q t).mp h
    obtain ⟨he, hat⟩ := endCheck_none hend
    obtain ⟨_, ts, d, hf⟩ := ((parser_post cx (fuelFor q)).E q none).deriv he
    exact ⟨ts, _, d, hat, hf⟩
  · rintro ⟨ts, qend, d, ⟨hk, he⟩, rfl⟩
    have hE : exprF cx (fuelFor q) q none = ⟨finish .or ts, qend, none⟩ := by
      rw [show fuelFor q = (5 * q.length + 5) + 1 from rfl, exprF]
      exact d.sound _ [] none (by omega)
    rw [parseFilter_ok_end, hE]
    exact ⟨by simp only [endCheck, hk, he]; rfl, rfl⟩

theorem parseFilter_tree {cx : Ctx} {q : Bytes} {t : Filter} {P : Int → Prop} (h : parseFilter cx q = .ok t)
    (hp : ∀ c : Bytes, c.length ≤ q.length → P (offOf cx c)) : Tree P t := by
  obtain ⟨ts, _, d, _, rfl⟩ := (parseFilter_ok_iff cx q t).mp h
  exact tree_finish .or (by decide) _ (d.tree hp) (by cases d <;> simp)

theorem Post.end_inR {cx : Ctx} {D : Prop} {q q' : Bytes} {e' : ErrSt} (s : Post cx q none q' e' D) (hn : q.length ≤ cx.n) {err : Err}
    (h : endCheck cx q' e' = some err) : InR cx err.off := by
  rcases s.err.trans ((endCheck_ok cx q' e').mono s.len) with h0 | ⟨_, p, m, h2, h3⟩
  · rw [h0] at h; cases h
  · rw [h2] at h; cases h; exact inR_offOf cx (Nat.le_trans h3 hn)

theorem parseFilter_error_inR {cx : Ctx} {q : Bytes} {err : Err} (hn : q.length ≤ cx.n)
    (h : parseFilter cx q = .error err) : InR cx err.off :=
  ((parser_post cx (fuelFor q)).E q none).end_inR hn ((parseFilter_error_end cx q err).mp h)

theorem checkList_eq (es : List Filter) : checkFilter.checkList es = es.findSome? checkFilter := by
  induction es with
  | nil => rfl
  | cons g gs ih =>
    simp only [checkFilter.checkList, List.findSome?_cons]
    cases checkFilter g with
    | some y => rfl
    | none => exact ih

theorem checkKey_off {key : Bytes} {off : Int} {err : Err} (h : checkFilter.checkKey key off = some err) :
    err.off = off := by
  unfold checkFilter.checkKey at h
  split at h
  · simp at h
  · split at h
    · simp at h; rw [← h]
    · split at h
      · simp at h; rw [← h]
      · simp at h

theorem checkFilter_inR (cx : Ctx) {t : Filter} (ht : OffsIn cx t) {err : Err} (h : checkFilter t = some err) :
    InR cx err.off := by
  induction ht with
  | lit k v off ho => simp only [checkFilter] at h; rw [checkKey_off h]; exact ho
  | re k v off ho => simp only [checkFilter] at h; rw [checkKey_off h]; exact ho
  | op o es _ _ ih =>
    rw [checkFilter, checkList_eq] at h
    obtain ⟨x, hx, hc⟩ := List.exists_of_findSome?_eq_some h
    exact ih x hx hc

theorem newFilter_error_iff (cx : Ctx) (q : Bytes) (err : Err) :
    newFilter cx q = .error err ↔
      parseFilter cx q = .error err ∨ ∃ t, parseFilter cx q = .ok t ∧ checkFilter t = some err := by
  unfold newFilter
  cases parseFilter cx q with
  | error e => simp
  | ok t => cases hc : checkFilter t <;> simp [hc]

end C07
