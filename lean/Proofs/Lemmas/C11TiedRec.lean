/-
C11: the tied counting recurrence of `makeUmemo` (`Stats.UDist.A`), with its K = 2 base case and the
per-rank step of the Klotz recurrence, equals the specification-level count per tie group
(`C11.groupCount`): `groupCount` of a prefix of `T` satisfies the recursion of the model's step (peel
the LAST tie group), and the pruning of the memo table (`inRange`) and the completion rule are
justified by the least and the greatest attainable statistic.
-/
import Model.Stats.UDist
import Model.Spec.UExact
import Proofs.Lemmas.C11Basic
import Proofs.Lemmas.C11GroupsEnum
import Mathlib.Algebra.BigOperators.Intervals
import Mathlib.Algebra.BigOperators.Ring.List
import Mathlib.Data.Nat.Choose.Vandermonde
import Mathlib.Tactic.Ring
import Mathlib.Tactic.Linarith

namespace C11
open Stats.UDist

theorem sumRange_eq_Ico (L : Nat) (hi : Int) (f : Int → Nat) :
    sumRange (L : Int) hi f = ∑ r ∈ Finset.Ico L (hi + 1).toNat, f (r : Int) := by
  unfold sumRange
  rw [foldl_add_eq_sum (fun i => f ((L : Int) + ((i : Nat) : Int)))]
  rw [Finset.sum_Ico_eq_sum_range]
  have : (hi - (L : Int) + 1).toNat = (hi + 1).toNat - L := by omega
  rw [this]
  apply Finset.sum_congr rfl
  intro i _
  push_cast
  rfl

/-- algebra of the K = 2 case: with r1 + r2 = n1 the doubled statistic is n1(t0−n1) + r2(t0+t1) -/
theorem k2_twoU (t0 t1 r1 r2 : Int) :
    2 * r2 * (t0 - r1) + r1 * (t0 - r1) + r2 * (t1 - r2)
      = (r1 + r2) * (t0 - (r1 + r2)) + r2 * (t0 + t1) := by ring

/-- the upper limit `r2High` of the K = 2 loop: the guard `num ≥ 0` makes Go's truncating division a
    floor, so `r2 ≤ r2High` says exactly `r2·N ≤ num` -/
theorem lt_r2High_iff (num N : Int) (hN : 0 < N) (r : Nat) :
    r < ((if num ≥ 0 then Int.tdiv num N else -1) + 1).toNat ↔ (r : Int) * N ≤ num := by
  rw [Int.lt_toNat, Int.lt_add_one_iff]
  split
  · rename_i h
    rw [Int.tdiv_eq_ediv_of_nonneg h]
    exact Int.le_ediv_iff_mul_le hN
  · have := mul_nonneg (Int.natCast_nonneg r) hN.le
    constructor <;> intro h <;> omega

/-- the summand of the K = 2 loop: `mathChoose` with a negative lower index is 0 -/
theorem chooseI_mul_chooseI (t0 t1 n1 r : Nat) :
    chooseI (t0 : Int) ((n1 : Int) - (r : Int)) * chooseI (t1 : Int) (r : Int)
      = if r ≤ n1 then Nat.choose t0 (n1 - r) * Nat.choose t1 r else 0 := by
  split
  · rename_i h
    rw [← Nat.cast_sub h, chooseI_eq, chooseI_eq]
  · have : chooseI (t0 : Int) ((n1 : Int) - (r : Int)) = 0 := by
      unfold chooseI
      rw [if_pos (Or.inl (by omega))]
    rw [this, Nat.zero_mul]

theorem k2_closed_form (t0 t1 n1 : Nat) (hpos : 0 < t0 + t1) (twoU : Int) :
    base2 [t0, t1] (n1 : Int) twoU
      = ∑ r2 ∈ Finset.range (n1 + 1),
          if (n1 : Int) * ((t0 : Int) - n1) + (r2 : Int) * ((t0 : Int) + t1) ≤ twoU
          then Nat.choose t0 (n1 - r2) * Nat.choose t1 r2 else 0 := by
  unfold base2
  simp only [List.getD_cons_zero, List.getD_cons_succ]
  have hL : max (0 : Int) ((n1 : Int) - (t0 : Int)) = ((n1 - t0 : Nat) : Int) := by omega
  have hN : (0 : Int) < (t0 : Int) + t1 := by exact_mod_cast hpos
  rw [hL, sumRange_eq_Ico]
  -- the loop runs over r2 ∈ [n1 − t0, r2High]; outside [0, n1] its summand is 0, and below n1 − t0
  -- the summand of the right-hand side is 0
  apply Finset.sum_congr_of_eq_on_inter
  · intro r _ h2
    rw [chooseI_mul_chooseI, if_neg (fun h => h2 (Finset.mem_range.mpr (Nat.lt_succ_of_le h)))]
  · intro r _ h1
    rw [Finset.mem_Ico, lt_r2High_iff _ _ hN, le_sub_iff_add_le'] at h1
    by_cases hlo : n1 - t0 ≤ r
    · rw [if_neg]
      intro hc
      exact h1 ⟨hlo, hc⟩
    · rw [Nat.choose_eq_zero_of_lt (by omega), Nat.zero_mul, ite_self]
  · intro r h1 h2
    rw [Finset.mem_Ico, lt_r2High_iff _ _ hN, le_sub_iff_add_le'] at h1
    rw [chooseI_mul_chooseI, if_pos (Nat.le_of_lt_succ (Finset.mem_range.mp h2)), if_pos h1.2]

/-- the code before f31837d: the numerator is divided even when negative -/
def base2Old (t : List Nat) (n1 : Int) (twoU : Int) : Nat :=
  let t0 : Int := (t.getD 0 0 : Nat)
  let t1 : Int := (t.getD 1 0 : Nat)
  let r2Low : Int := max 0 (n1 - t0)
  let num : Int := twoU - n1 * (t0 - n1)
  let r2High : Int := Int.tdiv num (t0 + t1)
  sumRange r2Low r2High fun r2 => chooseI t0 (n1 - r2) * chooseI t1 r2

theorem sumTo_eq_sum (T : List Nat) (k : Nat) : sumTo T k = (T.take k).sum := by
  unfold sumTo
  rw [List.sum_eq_foldl_nat]

theorem sumTo_succ (t : List Nat) (k : Nat) : sumTo t (k + 1) = sumTo t k + t.getD k 0 := by
  rw [sumTo_eq_sum, sumTo_eq_sum, List.take_add_one, List.sum_append, List.getD_eq_getElem?_getD]
  cases t[k]? <;> rfl

theorem aCoef_eq (t : List Nat) (k : Nat) :
    aCoef t (k + 1) = 2 * (sumTo t k : Int) + (t.getD k 0 : Nat) := by
  induction k with
  | zero => simp [aCoef, sumTo]
  | succ k ih =>
    rw [aCoef, ih, sumTo_succ]
    push_cast; ring

/-- **Klotz step**: taking `r` members of rank k (size t[k−1]) into the first sample, which then
    has n1 members among the first k ranks, lowers n1 by r and the doubled statistic by the pairs
    this rank wins against second-sample members below it (2 each) plus its internal ties:
    2·r·(S − (n1 − r)) + r·(t[k−1] − r), S = t[0]+…+t[k−2]. This is `r·(a[k] − 2·n1 + r)`. -/
theorem klotz_step (t : List Nat) (k : Nat) (n1 twoU r : Int) :
    (subKey t (k + 1) n1 twoU r).1 = n1 - r ∧
    (subKey t (k + 1) n1 twoU r).2
      = twoU - (2 * r * ((sumTo t k : Int) - (n1 - r)) + r * (((t.getD k 0 : Nat) : Int) - r)) := by
  constructor
  · rfl
  · show twoU - r * (aCoef t (k + 1) - 2 * n1 + r) = _
    rw [aCoef_eq]; ring

theorem sumTo_zero (T : List Nat) : sumTo T 0 = 0 := by simp [sumTo]

open Spec.UExact in
theorem groupCount_eq_countP (T : List Nat) (n : Nat) (u : Int) :
    groupCount T n u = (splits n (poolFrom 0 T)).countP
      fun p => decide ((twoUPairs p.1 p.2 : Int) ≤ u) := by
  rw [groups_count_labelings, ← List.countP_eq_length_filter, countP_nullDistOf, poolOf_eq]

theorem groupCount_nil (n : Nat) (u : Int) : groupCount [] n u = if n = 0 ∧ 0 ≤ u then 1 else 0 := by
  rw [groupCount_eq_countP]
  cases n <;> simp [poolFrom, Spec.UExact.splits, twoUPairs_nil_left]

theorem groupCount_of_lt (T : List Nat) (n : Nat) (u : Int) (h : T.sum < n) : groupCount T n u = 0 := by
  rw [groupCount_eq_countP, splits_gt _ _ (by rwa [poolFrom_length])]
  rfl

/-- the count satisfies the recurrence that peels the LAST (largest) tie group: the shape of the
    model's step -/
theorem groupCount_snoc (T' : List Nat) (t n : Nat) (u : Int) :
    groupCount (T' ++ [t]) n u = ∑ r ∈ Finset.range (min t n + 1),
      Nat.choose t r * groupCount T' (n - r)
        (u - (2 * (r : Int) * ((T'.sum : Int) - ((n - r : Nat) : Int))
              + (r : Int) * ((t : Int) - (r : Int)))) := by
  simp only [groupCount_eq_countP]
  rw [poolFrom_snoc, countP_splits_top _ _ (fun x hx => (mem_poolFrom _ 0 x hx).2) _ n
    (fun d => decide ((d : Int) ≤ u)), sum_range_min_choose, poolFrom_length]
  refine Finset.sum_congr rfl fun r hr => ?_
  have hr' : r ≤ n := Nat.le_of_lt_succ (Finset.mem_range.mp hr)
  by_cases hrt : r ≤ t
  swap
  · rw [Nat.choose_eq_zero_of_lt (by omega), Nat.zero_mul, Nat.zero_mul]
  congr 1
  apply List.countP_congr
  intro p hp
  obtain ⟨h3, h4⟩ := splits_mem_length hp
  rw [poolFrom_length] at h4
  simp only [decide_eq_true_eq]
  rw [le_sub_iff_add_le]
  push_cast [Nat.cast_sub hrt, Nat.cast_sub (by omega : n - r ≤ T'.sum)]
  rw [add_assoc]

/-- the model's step (`stepA` with `subKey`) without its table and its pruning: the count for the
    first `k + 1` groups from the counts for the first `k`, by peeling group `k + 1` (a group of size
    0 beyond the end of `T`) -/
theorem groupCount_take_succ (T : List Nat) (k n : Nat) (u : Int) :
    groupCount (T.take (k + 1)) n u = ∑ r ∈ Finset.range (min (T.getD k 0) n + 1),
      Nat.choose (T.getD k 0) r * groupCount (T.take k) (n - r)
        (u - (r : Int) * (aCoef T (k + 1) - 2 * (n : Int) + (r : Int))) := by
  rw [List.take_add_one, List.getD_eq_getElem?_getD]
  cases h : T[k]? with
  | none => simp
  | some t =>
    rw [Option.toList_some, groupCount_snoc, Option.getD_some]
    refine Finset.sum_congr rfl fun r hr => ?_
    have hrn : r ≤ n := by
      have := Finset.mem_range.mp hr
      omega
    have ht : (t : Int) = ((T.getD k 0 : Nat) : Int) := by
      rw [List.getD_eq_getElem?_getD, h, Option.getD_some]
    -- `groupCount_snoc` lowers the threshold by the Klotz form of the model's decrement
    rw [Nat.cast_sub hrn, ← sumTo_eq_sum, ht, ← (klotz_step T k n u r).2]
    rfl

theorem groupCount_take_big (T : List Nat) (k n : Nat) (u : Int) (h : sumTo T k < n) :
    groupCount (T.take k) n u = 0 :=
  groupCount_of_lt _ _ _ (by rwa [← sumTo_eq_sum])

/-- a greedy filling that peels the top group: of `m` first-sample members `x k m` go to group k+1
    and the rest to the groups below; its value is Σ x_j·a_j. `twoUmax` puts into the top group as
    many as fit (`fillTop`), `twoUmin` only those that do not fit below (`fillBot`). -/
def Gr (T : List Nat) (x : Nat → Int → Int) : Nat → Int → Int
  | 0, _ => 0
  | k + 1, m => x k m * aCoef T (k + 1) + Gr T x k (m - x k m)

def fillTop (T : List Nat) (k : Nat) (m : Int) : Int := min m ((T.getD k 0 : Nat) : Int)
def fillBot (T : List Nat) (k : Nat) (m : Int) : Int := max 0 (m - (sumTo T k : Int))

/-- the choice takes no more than there is and grows by at most one with `m` -/
def Fill (x : Nat → Int → Int) : Prop :=
  ∀ k m, 0 ≤ m → x k m ≤ m ∧ (x k (m + 1) = x k m ∨ x k (m + 1) = x k m + 1)

theorem fill_top (T : List Nat) : Fill (fillTop T) := by
  intro k m hm; unfold fillTop; omega

theorem fill_bot (T : List Nat) : Fill (fillBot T) := by
  intro k m hm; unfold fillBot; omega

theorem twoUstep_succ (T : List Nat) (k : Nat) (s m : Int) :
    twoUstep T (k + 1) (s, m) = (s + fillTop T k m * aCoef T (k + 1), m - fillTop T k m) := by
  simp [twoUstep, fillTop]

theorem twoUmax_fold (T : List Nat) : ∀ (k : Nat) (s m : Int),
    ((List.range k).foldl (fun st i => twoUstep T (k - i) st) (s, m)).1
      = s + Gr T (fillTop T) k m := by
  intro k
  induction k with
  | zero => intro s m; simp [Gr]
  | succ k ih =>
    intro s m
    rw [List.range_succ_eq_map, List.foldl_cons, List.foldl_map]
    simp only [Nat.sub_zero, Nat.succ_eq_add_one, Nat.add_sub_add_right]
    rw [twoUstep_succ, ih, Gr]
    ring

theorem twoUmax_eq (T : List Nat) (k : Nat) (m : Int) :
    twoUmax T k m = -(m * m) + Gr T (fillTop T) k m := by
  unfold twoUmax
  rw [twoUmax_fold]

/-- the loop of `twoUmin` runs from the lowest group: after k groups it has placed `min m s_k`
    members, and what it has summed is the filling of these that peels the top group -/
theorem twoUmin_fold (T : List Nat) (m : Int) (hm : 0 ≤ m) : ∀ (k : Nat),
    (List.range k).foldl (fun st i => twoUstep T (i + 1) st) (-(m * m), m)
      = (-(m * m) + Gr T (fillBot T) k (min m (sumTo T k : Int)), fillBot T k m) := by
  intro k
  induction k with
  | zero => simp [Gr, fillBot, sumTo_zero]; omega
  | succ k ih =>
    rw [List.range_succ, List.foldl_append, ih]
    simp only [List.foldl_cons, List.foldl_nil]
    rw [twoUstep_succ, Gr]
    unfold fillTop fillBot
    rw [sumTo_succ, Nat.cast_add]
    have ht : (0 : Int) ≤ ((T.getD k 0 : Nat) : Int) := Int.natCast_nonneg _
    have hs : (0 : Int) ≤ ((sumTo T k : Nat) : Int) := Int.natCast_nonneg _
    generalize ((T.getD k 0 : Nat) : Int) = t at *
    generalize ((sumTo T k : Nat) : Int) = s at *
    rw [show max 0 (min m (s + t) - s) = min (max 0 (m - s)) t by omega,
      show min m (s + t) - min (max 0 (m - s)) t = min m s by omega]
    exact Prod.ext (by simp only; ring) (by simp only; omega)

theorem twoUmin_eq (T : List Nat) (k : Nat) (m : Int) (hm : 0 ≤ m) (hms : m ≤ (sumTo T k : Int)) :
    twoUmin T k m = -(m * m) + Gr T (fillBot T) k m := by
  unfold twoUmin
  rw [twoUmin_fold T m hm, min_eq_left hms]

theorem aCoef_mono (T : List Nat) (k : Nat) : aCoef T k ≤ aCoef T (k + 1) := by
  cases k with
  | zero => exact Int.natCast_nonneg (T.getD 0 0)
  | succ k =>
    rw [aCoef]
    have h1 : (0 : Int) ≤ ((T.getD k 0 : Nat) : Int) := Int.natCast_nonneg _
    have h2 : (0 : Int) ≤ ((T.getD (k + 1) 0 : Nat) : Int) := Int.natCast_nonneg _
    linarith

theorem le_add_mul_of_step {f : Int → Int} {a : Int} (h : ∀ m, 0 ≤ m → f (m + 1) ≤ f m + a)
    {m m' : Int} (hm : 0 ≤ m) (hmm : m ≤ m') : f m' ≤ f m + (m' - m) * a := by
  induction m', hmm using Int.leInduction with
  | base => simp
  | succ j hj ih =>
    have := h j (hm.trans hj)
    linarith

/-- one member more gains at most the coefficient of the top group: either the top group takes
    it, or the filling below does -/
theorem Gr_step (T : List Nat) {x : Nat → Int → Int} (hx : Fill x) : ∀ (k : Nat) (m : Int), 0 ≤ m →
    Gr T x k (m + 1) ≤ Gr T x k m + aCoef T k := by
  intro k
  induction k with
  | zero => intro m _; simp [Gr, aCoef]
  | succ k ih =>
    intro m hm
    rw [Gr, Gr]
    obtain ⟨hle, h | h⟩ := hx k m hm
    · rw [h, show m + 1 - x k m = m - x k m + 1 by ring]
      have := ih (m - x k m) (by linarith)
      have := aCoef_mono T k
      linarith
    · rw [h, show m + 1 - (x k m + 1) = m - x k m by ring]
      linarith

/-- taking `r` members out of group k+1 instead of the filling's choice: fewer than the choice
    loses, more gains, at most `a[k]` each -/
theorem Gr_key (T : List Nat) {x : Nat → Int → Int} (hx : Fill x) (k : Nat) (n r : Int)
    (hn : 0 ≤ n) (hrn : r ≤ n) :
    (r ≤ x k n → Gr T x k (n - r) + r * aCoef T (k + 1) ≤ Gr T x (k + 1) n) ∧
    (x k n ≤ r → Gr T x (k + 1) n ≤ Gr T x k (n - r) + r * aCoef T (k + 1)) := by
  rw [Gr]
  have hX := (hx k n hn).1
  have hmono := aCoef_mono T k
  constructor <;> intro h
  · have h1 := le_add_mul_of_step (Gr_step T hx k) (m := n - x k n) (m' := n - r)
      (by linarith) (by linarith)
    have h2 := mul_le_mul_of_nonneg_left hmono (sub_nonneg.mpr h)
    linarith
  · have h1 := le_add_mul_of_step (Gr_step T hx k) (m := n - r) (m' := n - x k n)
      (by linarith) (by linarith)
    have h2 := mul_le_mul_of_nonneg_left hmono (sub_nonneg.mpr h)
    linarith

theorem max_key (T : List Nat) (k n r : Nat) (u : Int) (hrn : r ≤ n) (hrt : r ≤ T.getD k 0)
    (h : twoUmax T (k + 1) (n : Int) ≤ u) :
    twoUmax T k ((n - r : Nat) : Int) ≤ u - (r : Int) * (aCoef T (k + 1) - 2 * (n : Int) + (r : Int)) := by
  rw [twoUmax_eq, Nat.cast_sub hrn]
  rw [twoUmax_eq] at h
  have := (Gr_key T (fill_top T) k n r (by omega) (by omega)).1
    (by unfold fillTop; omega)
  linarith

theorem min_key (T : List Nat) (k n r : Nat) (u : Int) (hrn : r ≤ n) (hrt : r ≤ T.getD k 0)
    (hs : n - r ≤ sumTo T k) (h : u < twoUmin T (k + 1) (n : Int)) :
    u - (r : Int) * (aCoef T (k + 1) - 2 * (n : Int) + (r : Int)) < twoUmin T k ((n - r : Nat) : Int) := by
  rw [twoUmin_eq T _ _ (by omega) (by rw [sumTo_succ]; omega)] at h
  rw [twoUmin_eq T _ _ (by omega) (by omega), Nat.cast_sub hrn]
  have := (Gr_key T (fill_bot T) k n r (by omega) (by omega)).2
    (by unfold fillBot; omega)
  linarith

theorem groupCount_below_min (T : List Nat) : ∀ (k n : Nat) (u : Int),
    u < twoUmin T k (n : Int) → groupCount (T.take k) n u = 0 := by
  intro k
  induction k with
  | zero =>
    intro n u h
    rw [List.take_zero, groupCount_nil, if_neg]
    rintro ⟨rfl, h0⟩
    rw [Nat.cast_zero, twoUmin_eq T 0 0 (le_refl _) (by simp), Gr] at h
    simp at h
    omega
  | succ k ih =>
    intro n u h
    rw [groupCount_take_succ]
    apply Finset.sum_eq_zero
    intro r hr
    have hr' := Finset.mem_range.mp hr
    by_cases hs : n - r ≤ sumTo T k
    · rw [ih _ _ (min_key T k n r u (by omega) (by omega) hs h), Nat.mul_zero]
    · rw [groupCount_take_big T k _ _ (by omega), Nat.mul_zero]

theorem vandermonde_range (s t n : Nat) :
    ∑ r ∈ Finset.range (min t n + 1), Nat.choose t r * Nat.choose s (n - r) = Nat.choose (s + t) n := by
  rw [sum_range_min_choose, Nat.add_comm s t, Nat.add_choose_eq,
    Finset.Nat.sum_antidiagonal_eq_sum_range_succ_mk]

theorem groupCount_above_max (T : List Nat) : ∀ (k n : Nat) (u : Int),
    twoUmax T k (n : Int) ≤ u → groupCount (T.take k) n u = Nat.choose (sumTo T k) n := by
  intro k
  induction k with
  | zero =>
    intro n u h
    rw [twoUmax_eq, Gr] at h
    rw [List.take_zero, groupCount_nil, sumTo_zero]
    cases n with
    | zero => simp at h; simp [h]
    | succ n => simp
  | succ k ih =>
    intro n u h
    rw [groupCount_take_succ, sumTo_succ, ← vandermonde_range]
    apply Finset.sum_congr rfl
    intro r hr
    have hr' := Finset.mem_range.mp hr
    rw [ih _ _ (max_key T k n r u (by omega) (by omega) h)]

theorem groupCount_total (T : List Nat) (n : Nat) (u : Int) (h : twoUmax T T.length (n : Int) ≤ u) :
    groupCount T n u = Nat.choose T.sum n := by
  have := groupCount_above_max T _ _ _ h
  rwa [sumTo_eq_sum, List.take_length] at this

theorem groupCount_take_one (T : List Nat) (m : Nat) (u : Int) :
    groupCount (T.take 1) m u = if (m : Int) * (((T.getD 0 0 : Nat) : Int) - (m : Int)) ≤ u
      then Nat.choose (T.getD 0 0) m else 0 := by
  have e : (m : Int) * (aCoef T 1 - 2 * (m : Int) + (m : Int))
      = (m : Int) * (((T.getD 0 0 : Nat) : Int) - (m : Int)) := by
    rw [aCoef]; ring
  rw [groupCount_take_succ, sum_range_min_choose]
  simp only [List.take_zero, groupCount_nil]
  -- only r = m leaves nothing for the (empty) groups below
  rw [Finset.sum_eq_single m]
  · rw [e]; simp
  · intro r hr hne
    have := Finset.mem_range.mp hr
    rw [if_neg, Nat.mul_zero]
    omega
  · intro h; exact absurd (Finset.mem_range.mpr (Nat.lt_succ_self m)) h

theorem base2_eq_groupCount (T : List Nat) (hpos : 0 < T.getD 0 0 + T.getD 1 0) (n : Nat) (u : Int) :
    base2 T (n : Int) u = groupCount (T.take 2) n u := by
  have hb : base2 T (n : Int) u = base2 [T.getD 0 0, T.getD 1 0] (n : Int) u := rfl
  rw [hb, k2_closed_form _ _ _ hpos, groupCount_take_succ, sum_range_min_choose]
  apply Finset.sum_congr rfl
  intro r hr
  have hrn : r ≤ n := Nat.le_of_lt_succ (Finset.mem_range.mp hr)
  rw [groupCount_take_one, mul_ite, Nat.mul_zero, Nat.mul_comm, Nat.cast_sub hrn]
  refine if_congr ?_ rfl rfl
  -- a[2] = 2·t0 + t1: the two forms of the doubled statistic with r of group 2 and n − r of group 1
  have e : ((n : Int) - r) * (((T.getD 0 0 : Nat) : Int) - ((n : Int) - r))
        + (r : Int) * (aCoef T (1 + 1) - 2 * (n : Int) + r)
      = (n : Int) * (((T.getD 0 0 : Nat) : Int) - n)
        + (r : Int) * (((T.getD 0 0 : Nat) : Int) + ((T.getD 1 0 : Nat) : Int)) := by
    rw [aCoef, aCoef]; ring
  rw [le_sub_iff_add_le, e]

/-- outside the range that the memo table keeps the count needs no table: nothing lies below the
    least attainable statistic, every choice above the greatest (the completion rule of `stepA`) -/
theorem groupCount_of_not_inRange (T : List Nat) (k m : Nat) (u : Int)
    (h : inRange T k ((m : Int), u) = false) :
    groupCount (T.take k) m u = if twoUmax T k (m : Int) < u then Nat.choose (sumTo T k) m else 0 := by
  simp only [inRange, Bool.and_eq_false_iff, decide_eq_false_iff_not, not_le] at h
  split
  · rename_i hmax
    exact groupCount_above_max T k m u hmax.le
  · rename_i hmax
    exact groupCount_below_min T k m u (h.resolve_right hmax)

theorem A_eq_groupCount (T : List Nat) (hpos : 0 < T.getD 0 0 + T.getD 1 0) : ∀ (j n : Nat) (u : Int),
    A T (j + 2) (n : Int) u = groupCount (T.take (j + 2)) n u := by
  intro j
  induction j with
  | zero => intro n u; exact base2_eq_groupCount T hpos n u
  | succ j ih =>
    intro n u
    show stepA T (j + 3)
        (fun key => if inRange T (j + 2) key then some (A T (j + 2) key.1 key.2) else none) (n : Int) u
      = groupCount (T.take (j + 3)) n u
    unfold stepA rkLow rkHigh
    simp only [show j + 3 - 1 = j + 2 from rfl]
    have hL : max (0 : Int) ((n : Int) - ((sumTo T (j + 2) : Nat) : Int))
        = ((n - sumTo T (j + 2) : Nat) : Int) := by omega
    rw [hL, sumRange_eq_Ico]
    have hH : (min (n : Int) ((T.getD (j + 2) 0 : Nat) : Int) + 1).toNat = min (T.getD (j + 2) 0) n + 1 := by
      omega
    rw [hH, groupCount_take_succ, Finset.range_eq_Ico]
    have hsub : Finset.Ico (n - sumTo T (j + 2)) (min (T.getD (j + 2) 0) n + 1)
        ⊆ Finset.Ico 0 (min (T.getD (j + 2) 0) n + 1) := by
      intro r hr
      have := Finset.mem_Ico.mp hr
      exact Finset.mem_Ico.mpr ⟨Nat.zero_le _, this.2⟩
    symm
    rw [← Finset.sum_subset hsub]
    · apply Finset.sum_congr rfl
      intro r hr
      have hr' := Finset.mem_Ico.mp hr
      -- the sub-key of the model's step is the argument of the count one level down
      have hk : subKey T (j + 3) n u r
          = (((n - r : Nat) : Int), u - (r : Int) * (aCoef T (j + 2 + 1) - 2 * (n : Int) + (r : Int))) := by
        rw [Nat.cast_sub (by omega : r ≤ n)]
        rfl
      rw [hk]
      generalize u - (r : Int) * (aCoef T (j + 2 + 1) - 2 * (n : Int) + (r : Int)) = u'
      refine (Nat.mul_comm _ _).trans (congrArg₂ (· * ·) ?_ (chooseI_eq _ _).symm)
      by_cases hin : inRange T (j + 2) (((n - r : Nat) : Int), u') = true
      · rw [if_pos hin]
        exact (ih _ _).symm
      · rw [if_neg hin, groupCount_of_not_inRange T _ _ _ (Bool.not_eq_true _ ▸ hin), ← chooseI_eq]
    · intro r hr hnr
      have h1 := Finset.mem_Ico.mp hr
      have h2 : r < n - sumTo T (j + 2) := by
        by_contra h
        exact hnr (Finset.mem_Ico.mpr ⟨by omega, h1.2⟩)
      rw [groupCount_take_big T _ _ _ (by omega), Nat.mul_zero]

/-- every level k ≥ 2 of the recurrence counts the assignments of the first k groups -/
theorem tied_recurrence_prefix (T : List Nat) (hpos : 0 < T.getD 0 0 + T.getD 1 0) (k : Nat)
    (hk2 : 2 ≤ k) (hk : k ≤ T.length) (n1 : Nat) (twoU : Int) :
    Stats.UDist.A T k (n1 : Int) twoU = groupCount (T.take k) n1 twoU := by
  obtain ⟨j, rfl⟩ : ∃ j, k = j + 2 := ⟨k - 2, by omega⟩
  exact A_eq_groupCount T hpos j n1 twoU

set_option linter.unusedVariables false in
theorem tied_recurrence_exact (T : List Nat) (hT : ∀ t ∈ T, 0 < t) (hK : 2 ≤ T.length) (n1 : Nat)
    (hn : n1 ≤ T.sum) (twoU : Int) :
    Stats.UDist.A T T.length (n1 : Int) twoU = groupCount T n1 twoU := by
  have h0 : 0 < T.getD 0 0 := by
    have : 0 < T.length := by omega
    have hg : T.getD 0 0 = T[0] := by
      simp [List.getD_eq_getElem?_getD, List.getElem?_eq_getElem this]
    rw [hg]
    exact hT _ (List.getElem_mem _)
  obtain ⟨j, hj⟩ : ∃ j, T.length = j + 2 := ⟨T.length - 2, by omega⟩
  have := A_eq_groupCount T (by omega) j n1 twoU
  rwa [← hj, List.take_length] at this

end C11
