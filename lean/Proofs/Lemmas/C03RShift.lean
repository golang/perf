/-
C03 — the mirrored decimal slow path: the three loops of `rightShift`, a long division by 2^k whose quotient
digits have no leading zero.
-/
import Proofs.Lemmas.C03Dec
import Proofs.Lemmas.F64Bits

namespace C03
open Num Spec.NumText

theorem outDigit (dig : Nat) (h : dig < 10) :
    isDec (UInt8.ofNat (dig + 48)) = true ∧ digVal (UInt8.ofNat (dig + 48)) = dig := by
  have : ∀ d, d < 10 → isDec (UInt8.ofNat (d + 48)) = true ∧ digVal (UInt8.ofNat (d + 48)) = d := by decide
  exact this dig h

theorem digit_toNat (c : UInt8) (h : isDec c = true) : c.toNat - 48 = digVal c := by
  rw [digVal_toNat h, Nat.add_sub_cancel]

theorem shr_bne (n k : Nat) : ((n >>> k != 0) = true) ↔ 2 ^ k ≤ n := by
  rw [bne_iff_ne, Ne, F64.shr_eq_zero_iff]; omega

theorem shr_beq (n k : Nat) : ((n >>> k == 0) = true) ↔ n < 2 ^ k := by
  rw [beq_iff_eq, F64.shr_eq_zero_iff]

theorem rsPad_spec (k : Nat) : ∀ (fuel n r : Nat), 0 < n → n < 2 ^ k → 2 ^ k ≤ n * 10 ^ fuel →
    ∃ p, rsPad k fuel n r = (n * 10 ^ p, r + p) ∧ 2 ^ k ≤ n * 10 ^ p ∧ n * 10 ^ p < 10 * 2 ^ k := by
  intro fuel
  induction fuel with
  | zero => intro n r _ h1 h2; simp at h2; omega
  | succ fuel ih =>
    intro n r hn hlt hf
    unfold rsPad
    rw [if_pos ((shr_beq n k).mpr hlt)]
    by_cases h10 : n * 10 < 2 ^ k
    · obtain ⟨p, e, a, b⟩ := ih (n * 10) (r + 1) (by omega) h10 (by
        rw [Nat.pow_succ] at hf
        calc 2 ^ k ≤ n * (10 ^ fuel * 10) := hf
          _ = n * 10 * 10 ^ fuel := by ring)
      refine ⟨p + 1, ?_, ?_, ?_⟩
      · rw [e, Nat.pow_succ]; congr 1
        · ring
        · omega
      · rw [Nat.pow_succ]; calc 2 ^ k ≤ n * 10 * 10 ^ p := a
          _ = n * (10 ^ p * 10) := by ring
      · rw [Nat.pow_succ]; calc n * (10 ^ p * 10) = n * 10 * 10 ^ p := by ring
          _ < 10 * 2 ^ k := b
    · refine ⟨1, ?_, by simpa using Nat.le_of_not_lt h10, by simp; omega⟩
      cases fuel with
      | zero => simp [rsPad]
      | succ f =>
        unfold rsPad
        have : ¬ ((n * 10) >>> k == 0) = true := fun h => h10 ((shr_beq _ k).mp h)
        rw [if_neg this]; simp

theorem rsPick_spec (k : Nat) (hk : k ≤ 60) : ∀ (ds : Bytes) (n r : Nat), ds.all isDec = true →
    0 < n * 10 ^ ds.length + valOf 10 ds →
    ∃ n' r' rest pad, rsPick k ds n r = some (n', r', rest) ∧
      n' * 10 ^ rest.length + valOf 10 rest = (n * 10 ^ ds.length + valOf 10 ds) * 10 ^ pad ∧
      r' + rest.length = r + ds.length + pad ∧ (0 < pad → rest = []) ∧
      2 ^ k ≤ n' ∧ (n < 10 * 2 ^ k → n' < 10 * 2 ^ k) ∧ rest.all isDec = true := by
  intro ds
  induction ds with
  | nil =>
    intro n r _ hpos
    have hn : 0 < n := by simpa [valOf] using hpos
    unfold rsPick
    by_cases hge : 2 ^ k ≤ n
    · rw [if_pos ((shr_bne n k).mpr hge)]
      exact ⟨n, r, [], 0, rfl, by simp, by simp, fun h => rfl, hge, fun h => h, rfl⟩
    · have hlt : n < 2 ^ k := by omega
      have : ¬ ((n >>> k != 0) = true) := fun h => hge ((shr_bne n k).mp h)
      rw [if_neg this]
      have hz : (n == 0) = false := by simp; omega
      simp only [hz, Bool.false_eq_true, if_false]
      have hf : 2 ^ k ≤ n * 10 ^ 64 := by
        have h1 : 2 ^ k ≤ 2 ^ 60 := Nat.pow_le_pow_right (by decide) hk
        have h2 : (2 : Nat) ^ 60 ≤ 10 ^ 64 := by decide
        calc 2 ^ k ≤ 10 ^ 64 := Nat.le_trans h1 h2
          _ ≤ n * 10 ^ 64 := Nat.le_mul_of_pos_left _ hn
      obtain ⟨p, e, a, b⟩ := rsPad_spec k 64 n r hn hlt hf
      rw [e]
      exact ⟨n * 10 ^ p, r + p, [], p, rfl, by simp [valOf], by simp, fun _ => rfl, a, fun _ => b, rfl⟩
  | cons c cs ih =>
    intro n r hd hpos
    rw [List.all_cons, Bool.and_eq_true] at hd
    unfold rsPick
    by_cases hge : 2 ^ k ≤ n
    · rw [if_pos ((shr_bne n k).mpr hge)]
      exact ⟨n, r, c :: cs, 0, rfl, by simp, by simp, fun h => by omega, hge, fun h => h,
        by rw [List.all_cons, hd.1, hd.2]; rfl⟩
    · have hlt : n < 2 ^ k := by omega
      have : ¬ ((n >>> k != 0) = true) := fun h => hge ((shr_bne n k).mp h)
      rw [if_neg this, digit_toNat c hd.1]
      have hval : (n * 10 + digVal c) * 10 ^ cs.length + valOf 10 cs = n * 10 ^ (c :: cs).length + valOf 10 (c :: cs) := by
        rw [valOf_cons, List.length_cons, Nat.pow_succ]; ring
      obtain ⟨n', r', rest, pad, e, v, rr, hp, g, b, hr⟩ := ih (n * 10 + digVal c) (r + 1) hd.2 (hval ▸ hpos)
      refine ⟨n', r', rest, pad, e, by rw [v, hval], by simp only [List.length_cons]; omega, hp, g, fun _ => ?_, hr⟩
      · have h9 := digVal_le9 hd.1
        exact b (by omega)

/-- one step of the long division, on the number `10·2^k·(digits put down) + accumulator`: the quotient
digit is put down and the next digit `c` picked up -/
theorem div_put (k n c : Nat) (out : Bytes) (hn : n < 10 * 2 ^ k) (hc : c ≤ 9) (ho : out.all isDec = true) :
    (UInt8.ofNat (n / 2 ^ k + 48) :: out).all isDec = true ∧ n % 2 ^ k * 10 + c < 10 * 2 ^ k ∧
    10 * 2 ^ k * valOf 10 (UInt8.ofNat (n / 2 ^ k + 48) :: out).reverse + (n % 2 ^ k * 10 + c) =
      10 * (10 * 2 ^ k * valOf 10 out.reverse + n) + c := by
  have hp : 0 < 2 ^ k := Nat.pow_pos (by decide)
  have h1 := Nat.div_add_mod n (2 ^ k)
  have h2 := Nat.mod_lt n hp
  have hq : n / 2 ^ k < 10 := (Nat.div_lt_iff_lt_mul hp).mpr (by omega)
  obtain ⟨o1, o2⟩ := outDigit (n / 2 ^ k) hq
  refine ⟨by rw [List.all_cons, o1, ho]; rfl, by omega, ?_⟩
  rw [List.reverse_cons, valOf_push, o2]
  calc _ = 10 * (10 * 2 ^ k * valOf 10 out.reverse) + 10 * (2 ^ k * (n / 2 ^ k) + n % 2 ^ k) + c := by ring
    _ = _ := by rw [h1]; ring

theorem rsMain_spec (k : Nat) : ∀ (rest : Bytes) (n : Nat) (out : Bytes), rest.all isDec = true →
    n < 10 * 2 ^ k → out.all isDec = true →
    10 * 2 ^ k * valOf 10 (rsMain k rest n out).2.reverse + (rsMain k rest n out).1 =
      (10 * 2 ^ k * valOf 10 out.reverse + n) * 10 ^ rest.length + valOf 10 rest ∧
    (rsMain k rest n out).1 < 10 * 2 ^ k ∧ (rsMain k rest n out).2.length = out.length + rest.length ∧
    (rsMain k rest n out).2.all isDec = true := by
  intro rest
  induction rest with
  | nil =>
    intro n out _ hn ho
    simp only [rsMain, List.length_nil, Nat.pow_zero, Nat.mul_one, valOf, List.foldl_nil, Nat.add_zero]
    exact ⟨trivial, hn, trivial, ho⟩
  | cons c cs ih =>
    intro n out hd hn ho
    rw [List.all_cons, Bool.and_eq_true] at hd
    have h9 := digVal_le9 hd.1
    obtain ⟨ho', a2, e⟩ := div_put k n (digVal c) out hn h9 ho
    unfold rsMain
    simp only [Nat.shiftRight_eq_div_pow, Nat.and_two_pow_sub_one_eq_mod, digit_toNat c hd.1]
    obtain ⟨b1, b2, b3, b4⟩ := ih (n % 2 ^ k * 10 + digVal c) (UInt8.ofNat (n / 2 ^ k + 48) :: out) hd.2 a2 ho'
    refine ⟨?_, b2, by rw [b3]; simp only [List.length_cons]; omega, b4⟩
    rw [b1, e, valOf_cons, List.length_cons, Nat.pow_succ]; ring

/-- fuel condition of the third loop: the accumulator is 0, or divisible by 2^j with enough fuel -/
def TailOK (k fuel n : Nat) : Prop := n = 0 ∨ ∃ j, j ≤ k ∧ 2 ^ j ∣ n ∧ k + 2 ≤ fuel + j

theorem tailOK_step (k fuel n : Nat) (h : TailOK k (fuel + 1) n) (hn : 0 < n) : TailOK k fuel (n % 2 ^ k * 10) := by
  rcases h with h | ⟨j, hj, hd, hf⟩
  · omega
  · by_cases h0 : n % 2 ^ k * 10 = 0
    · exact Or.inl h0
    · right
      have hdm : 2 ^ j ∣ n % 2 ^ k := (Nat.dvd_mod_iff (Nat.pow_dvd_pow 2 hj)).mpr hd
      by_cases hjk : j = k
      · subst hjk
        have hlt := Nat.mod_lt n (Nat.pow_pos (n := j) (by decide : 0 < 2))
        have := Nat.eq_zero_of_dvd_of_lt hdm hlt
        rw [this] at h0; simp at h0
      · refine ⟨j + 1, by omega, ?_, by omega⟩
        rw [Nat.pow_succ]
        obtain ⟨q, hq⟩ := hdm
        exact ⟨q * 5, by rw [hq]; ring⟩

theorem rsTail_sticky (k : Nat) : ∀ (fuel n w : Nat) (out : Bytes), bufLen ≤ w →
    rsTail k fuel n w out true = (out, true) := by
  intro fuel
  induction fuel with
  | zero => intro n w out _; rfl
  | succ fuel ih =>
    intro n w out hw
    unfold rsTail
    split
    · rw [if_neg (by omega), ite_self]; exact ih _ _ _ hw
    · rfl

theorem rsTail_cap (k : Nat) : ∀ (fuel n w : Nat) (out : Bytes) (tr : Bool), TailOK k fuel n → 0 < n →
    n < 10 * 2 ^ k → bufLen ≤ w → rsTail k fuel n w out tr = (out, true) := by
  intro fuel
  induction fuel with
  | zero =>
    intro n w out tr h hn _ _
    rcases h with h | ⟨j, hj, _, hf⟩ <;> omega
  | succ fuel ih =>
    intro n w out tr h hn hlt hw
    unfold rsTail
    rw [if_pos hn, if_neg (by omega), Nat.and_two_pow_sub_one_eq_mod, Nat.shiftRight_eq_div_pow]
    by_cases hd : n / 2 ^ k > 0
    · rw [if_pos hd]; exact rsTail_sticky k _ _ _ _ hw
    · rw [if_neg hd]
      have hq : n / 2 ^ k = 0 := Nat.eq_zero_of_not_pos hd
      have hn2 : n < 2 ^ k := (Nat.div_eq_zero_iff_lt (Nat.pow_pos (by decide))).mp hq
      have hm : n % 2 ^ k = n := Nat.mod_eq_of_lt hn2
      have := tailOK_step k fuel n h hn
      rw [hm] at this ⊢
      have p1 : 0 < n * 10 := Nat.mul_pos hn (by decide)
      have p2 : n * 10 < 10 * 2 ^ k := by
        clear hd hq hm this ih h
        omega
      exact ih _ _ _ _ this p1 p2 hw

/-- third loop of `rightShift`, with the buffer limit: the digits written complete the quotient
as far as the buffer allows; `R` is what remains of the division -/
theorem rsTail_gen (k : Nat) : ∀ (fuel n : Nat) (out : Bytes) (tr : Bool), TailOK k fuel n → n < 10 * 2 ^ k →
    out.all isDec = true → out.length ≤ bufLen →
    ∃ p R, 10 * 2 ^ k * valOf 10 (rsTail k fuel n out.length out tr).1.reverse + R =
        (10 * 2 ^ k * valOf 10 out.reverse + n) * 10 ^ p ∧ R < 10 * 2 ^ k ∧
      (rsTail k fuel n out.length out tr).1.length = out.length + p ∧
      (rsTail k fuel n out.length out tr).1.length ≤ bufLen ∧
      (rsTail k fuel n out.length out tr).1.all isDec = true ∧
      (R = 0 → (rsTail k fuel n out.length out tr).2 = tr) ∧
      (R ≠ 0 → (rsTail k fuel n out.length out tr).2 = true ∧ (rsTail k fuel n out.length out tr).1.length = bufLen) ∧
      (0 < n → out.length < bufLen → 0 < p) := by
  intro fuel
  induction fuel with
  | zero =>
    intro n out tr h _ ho hl
    have hn : n = 0 := by rcases h with h | ⟨j, hj, _, hf⟩ <;> omega
    subst hn
    exact ⟨0, 0, by simp [rsTail], by have := Nat.pow_pos (n := k) (by decide : 0 < 2); omega, by simp [rsTail],
      by simpa [rsTail] using hl, by simpa [rsTail] using ho, fun _ => rfl, fun h => absurd rfl h, fun h => by omega⟩
  | succ fuel ih =>
    intro n out tr h hlt ho hl
    by_cases hn : 0 < n
    · by_cases hw : out.length < bufLen
      ·
        obtain ⟨ho', a2, e⟩ := div_put k n 0 out hlt (by omega) ho
        simp only [Nat.add_zero] at a2 e
        have hlen : (UInt8.ofNat (n / 2 ^ k + 48) :: out).length = out.length + 1 := rfl
        have hun : rsTail k (fuel + 1) n out.length out tr =
            rsTail k fuel (n % 2 ^ k * 10) (UInt8.ofNat (n / 2 ^ k + 48) :: out).length (UInt8.ofNat (n / 2 ^ k + 48) :: out) tr := by
          conv => lhs; unfold rsTail
          rw [if_pos hn, if_pos hw]
          simp only [Nat.and_two_pow_sub_one_eq_mod, Nat.shiftRight_eq_div_pow, hlen]
        rw [hun]
        obtain ⟨p, R, b1, b2, b3, b4, b5, b6, b7, _⟩ :=
          ih (n % 2 ^ k * 10) _ tr (tailOK_step k fuel n h hn) a2 ho' (by rw [hlen]; omega)
        refine ⟨p + 1, R, ?_, b2, by rw [b3, hlen]; omega, b4, b5, b6, b7, fun _ _ => Nat.succ_pos p⟩
        rw [b1, e, Nat.pow_succ]; ring
      ·
        rw [rsTail_cap k (fuel + 1) n out.length out tr h hn hlt (by omega)]
        dsimp only
        refine ⟨0, n, by simp, hlt, by simp, hl, ho, fun h0 => by omega, fun _ => ⟨rfl, by omega⟩, fun _ h => absurd h hw⟩
    · have hn0 : n = 0 := by omega
      subst hn0
      have : rsTail k (fuel + 1) 0 out.length out tr = (out, tr) := by
        conv => lhs; unfold rsTail
        simp
      rw [this]
      exact ⟨0, 0, by simp, by have := Nat.pow_pos (n := k) (by decide : 0 < 2); omega, by simp, hl, ho,
        fun _ => rfl, fun h => absurd rfl h, fun h => by omega⟩

/-- the quotient digits of a long division that started from an accumulator `≥ 2^k` have no leading
zero, as a fact about the number `V` they denote (`L` of them) -/
theorem quot_lo (k V R n1 x L : Nat) (hL : 1 ≤ L) (h : 10 * 2 ^ k * V + R = (n1 * 10 ^ L + x)) (hR : R < 10 * 2 ^ k)
    (hn1 : 2 ^ k ≤ n1) : 10 ^ (L - 1) ≤ V := by
  obtain ⟨m, rfl⟩ : ∃ m, L = m + 1 := ⟨L - 1, by omega⟩
  rw [Nat.add_sub_cancel]
  have h1 : 2 ^ k * (10 ^ m * 10) ≤ n1 * 10 ^ (m + 1) := by rw [Nat.pow_succ]; exact Nat.mul_le_mul_right _ hn1
  apply Nat.le_of_lt_succ
  apply Nat.lt_of_mul_lt_mul_left (a := 10 * 2 ^ k)
  calc 10 * 2 ^ k * 10 ^ m = 2 ^ k * (10 ^ m * 10) := by ring
    _ ≤ n1 * 10 ^ (m + 1) := h1
    _ < 10 * 2 ^ k * (V + 1) := by rw [Nat.mul_add, Nat.mul_one]; omega

end C03
