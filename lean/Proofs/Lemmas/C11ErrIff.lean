/-
C11: the model of `MannWhitneyUTest` returns an error ONLY for an empty sample or for samples whose
pooled values are all equal — on both branches (exact, normal approximation), for any CDF and limits;
all-equal samples do give the error (first part, for any irreflexive `<`).
-/
import Model.Stats.UStat
import Model.Spec.UExact
import Model.Stats.UDist
import Proofs.Lemmas.C11Rank
import Proofs.Lemmas.C11Approx
import Proofs.Lemmas.C11Relabel
import Mathlib.Data.List.Dedup
import Mathlib.Data.List.Count
import Mathlib.Algebra.Order.Field.Rat
import Mathlib.Tactic.Ring
import Mathlib.Tactic.Linarith
import Mathlib.Tactic.FieldSimp

namespace C11

section AllEqual
open Stats Stats.UStat Stats.UDist
variable {α : Type} [LT α] [DecidableLT α] [DecidableEq α]

omit [DecidableEq α] in
theorem insertSorted_replicate (v : α) (hirr : ¬ v < v) (n : Nat) :
    insertSorted v (List.replicate n v) = List.replicate (n + 1) v := by
  cases n with
  | zero => rfl
  | succ n => simp [List.replicate_succ, insertSorted, hirr]

omit [DecidableEq α] in
theorem sortF_replicate (v : α) (hirr : ¬ v < v) (n : Nat) :
    sortF (List.replicate n v) = List.replicate n v := by
  induction n with
  | zero => rfl
  | succ n ih =>
    show insertSorted v (sortF (List.replicate n v)) = _
    rw [ih, insertSorted_replicate v hirr]

omit [LT α] [DecidableLT α] in
theorem rankLoop_single_run (fuel i : Nat) (v : α) (l : Bool) (rest : List (α × Bool))
    (s : RankState) (r c : Nat) (h : takeRun v ((v, l) :: rest) = (r, c, [])) :
    rankLoop (fuel + 1) i ((v, l) :: rest) s
      = { twoR1 := if c ≠ 0 then s.twoR1 + (i + r + (i + 1)) * c else s.twoR1
          T := s.T ++ [i + r - (i + 1) + 1]
          hasTies := s.hasTies || decide (i + r > i + 1) } := by
  rw [rankLoop, h]
  cases fuel <;> rfl

theorem ranks_all_equal (v : α) (hirr : ¬ v < v) (a b : Nat) (hab : 0 < a + b) :
    ranks (labeledMerge (sortF (List.replicate a v)) (sortF (List.replicate b v)))
      = { twoR1 := (a + b + 1) * a, T := [a + b], hasTies := decide (a + b > 1) } := by
  rw [sortF_replicate v hirr, sortF_replicate v hirr]
  have htf := labeledMerge_trues_falses (List.replicate a v) (List.replicate b v)
  have hall : ∀ p ∈ labeledMerge (List.replicate a v) (List.replicate b v), p.1 = v := fun p hp => by
    rcases labeledMerge_mem hp with h | h <;> exact List.eq_of_mem_replicate h
  generalize labeledMerge (List.replicate a v) (List.replicate b v) = L at htf hall
  have hlen : L.length = a + b := by
    rw [← trues_falses_length, htf.1, htf.2, List.length_replicate, List.length_replicate]
  -- the merged list is one run: the inner loop consumes it entirely
  have hrun := takeRun_run v L [] hall (by simp)
  rw [List.append_nil, hlen, htf.1, List.length_replicate] at hrun
  match L, hlen, hall, hrun with
  | [], hlen, _, _ => exact absurd hlen (by simp; omega)
  | (w, l) :: rest, hlen, hall, hrun =>
    obtain rfl : w = v := hall (w, l) List.mem_cons_self
    unfold ranks
    rw [List.length_cons, rankLoop_single_run _ _ _ _ _ _ _ _ hrun]
    have e : (if a ≠ 0 then 0 + (0 + (a + b) + (0 + 1)) * a else 0) = (a + b + 1) * a := by
      split
      · rw [Nat.zero_add, Nat.zero_add]
      · rename_i h; rw [not_not.mp h, Nat.mul_zero]
    rw [e]
    simp
    omega

theorem le_cube (t : Nat) : t ≤ t * t * t := by
  rcases Nat.eq_zero_or_pos t with h | h
  · subst h; rfl
  · exact Nat.le_mul_of_pos_left t (Nat.mul_pos h h)

theorem sigma2_eq_zero_iff (n1 n2 : Nat) (T : List Nat) (h1 : 0 < n1) (h2 : 0 < n2) :
    sigma2 n1 n2 T = 0
      ↔ tieCorrection T + (n1 + n2) = (n1 + n2) * (n1 + n2) * (n1 + n2) := by
  unfold sigma2
  simp only
  have hN : ((n1 + n2 : Nat) : Rat) ≠ 0 := Nat.cast_ne_zero.mpr (by omega)
  have hN1 : ((n1 + n2 : Nat) : Rat) - 1 ≠ 0 := by
    have : (2 : Rat) ≤ ((n1 + n2 : Nat) : Rat) := by exact_mod_cast (by omega : 2 ≤ n1 + n2)
    intro h; linarith
  have hP : ((n1 * n2 : Nat) : Rat) ≠ 0 :=
    Nat.cast_ne_zero.mpr (Nat.mul_ne_zero (by omega) (by omega))
  rw [div_eq_zero_iff, or_iff_left (by norm_num), mul_eq_zero, or_iff_right hP, sub_eq_zero,
    eq_div_iff (mul_ne_zero hN hN1), ← Nat.cast_inj (R := Rat)]
  push_cast
  generalize ((n1 : Rat) + (n2 : Rat)) = N
  rw [show (N + 1) * (N * (N - 1)) = N * N * N - N by ring, sub_eq_iff_eq_add]
  exact eq_comm

theorem sigma2_all_equal (a b : Nat) (ha : 0 < a) (hb : 0 < b) : sigma2 a b [a + b] = 0 := by
  rw [sigma2_eq_zero_iff a b _ ha hb]
  show 0 + ((a + b) * (a + b) * (a + b) - (a + b)) + (a + b) = _
  rw [Nat.zero_add, Nat.sub_add_cancel (le_cube _)]

variable {cdf : Nat → Nat → List Nat → Int → Rat} {lim limT : Nat} {x1 x2 : List α} {alt : Alt}

theorem mannWhitney_of_empty (h : x1 = [] ∨ x2 = []) :
    mannWhitney cdf lim limT x1 x2 alt = .error .sampleSize := by
  unfold mannWhitney
  rcases h with h | h <;> simp [h]

theorem mannWhitney_of_ne_nil (h1 : x1 ≠ []) (h2 : x2 ≠ []) :
    mannWhitney cdf lim limT x1 x2 alt
      = decide' cdf lim limT alt x1.length x2.length (ranks (labeledMerge (sortF x1) (sortF x2))) := by
  unfold mannWhitney
  exact if_neg (by simp [h1, h2])

/-- all values equal (and both samples non-empty): the all-equal error on either branch -/
theorem errors_spec_all_equal (cdf : Nat → Nat → List Nat → Int → Rat) (lim limT : Nat) (alt : Alt)
    (v : α) (hirr : ¬ v < v) (x1 x2 : List α) (h1 : x1 ≠ []) (h2 : x2 ≠ [])
    (e1 : ∀ a ∈ x1, a = v) (e2 : ∀ b ∈ x2, b = v) :
    mannWhitney cdf lim limT x1 x2 alt = .error .samplesEqual := by
  have r1 : x1 = List.replicate x1.length v := List.eq_replicate_iff.mpr ⟨rfl, e1⟩
  have r2 : x2 = List.replicate x2.length v := List.eq_replicate_iff.mpr ⟨rfl, e2⟩
  have l1 : 0 < x1.length := List.length_pos_iff.mpr h1
  have l2 : 0 < x2.length := List.length_pos_iff.mpr h2
  have hr := ranks_all_equal v hirr x1.length x2.length (by omega)
  rw [← r1, ← r2] at hr
  rw [mannWhitney_of_ne_nil h1 h2, hr]
  unfold decide'
  simp only
  split
  · simp
  · rw [sigma2_all_equal _ _ l1 l2]; simp

end AllEqual

open Stats.UStat

theorem tc_add_sum (T : List Nat) :
    (T.map fun t => t * t * t - t).sum + T.sum = (T.map fun t => t * t * t).sum := by
  induction T with
  | nil => rfl
  | cons t T ih =>
    simp only [List.map_cons, List.sum_cons]
    have := le_cube t
    omega

theorem sum_pos_of_pos (T : List Nat) (hpos : ∀ t ∈ T, 0 < t) (hne : T ≠ []) : 0 < T.sum := by
  cases T with
  | nil => exact absurd rfl hne
  | cons t T =>
    have := hpos t List.mem_cons_self
    simp only [List.sum_cons]
    omega

theorem cubes_le (T : List Nat) (hpos : ∀ t ∈ T, 0 < t) :
    (T.map fun t => t * t * t).sum ≤ T.sum * T.sum * T.sum ∧
    (2 ≤ T.length → (T.map fun t => t * t * t).sum < T.sum * T.sum * T.sum) := by
  induction T with
  | nil => simp
  | cons t T ih =>
    have ht : 0 < t := hpos t List.mem_cons_self
    have hpos' : ∀ t ∈ T, 0 < t := fun a ha => hpos a (List.mem_cons_of_mem _ ha)
    obtain ⟨ih1, _⟩ := ih hpos'
    simp only [List.map_cons, List.sum_cons, List.length_cons]
    generalize (T.map fun t => t * t * t).sum = c at ih1 ⊢
    have hs : T ≠ [] → 0 < T.sum := sum_pos_of_pos T hpos'
    generalize T.sum = s at ih1 hs ⊢
    have e : (t + s) * (t + s) * (t + s) = t * t * t + s * s * s + 3 * t * s * (t + s) := by ring
    rw [e]
    refine ⟨by omega, ?_⟩
    intro hl
    have hT : T ≠ [] := by
      rintro rfl
      simp at hl
    have hs' := hs hT
    have : 0 < 3 * t * s * (t + s) :=
      Nat.mul_pos (Nat.mul_pos (Nat.mul_pos (by omega) ht) hs') (by omega)
    omega

section Lists
variable {α : Type} [LinearOrder α]

theorem allEqual_iff (x1 x2 : List α) :
    Spec.UExact.allEqual x1 x2 = true ↔ ∀ a ∈ x1 ++ x2, ∀ b ∈ x1 ++ x2, a = b := by
  unfold Spec.UExact.allEqual
  generalize x1 ++ x2 = P
  cases P with
  | nil => simp
  | cons v l =>
    simp only [List.all_eq_true, decide_eq_true_eq]
    constructor
    · intro h a ha b hb
      have e : ∀ c ∈ v :: l, c = v := by
        intro c hc
        rcases List.mem_cons.mp hc with rfl | hc
        · rfl
        · exact h c hc
      rw [e a ha, e b hb]
    · intro h c hc
      exact h c (List.mem_cons_of_mem _ hc) v List.mem_cons_self

theorem allEqual_of_length_one (x1 x2 : List α) (h : (tieVector x1 x2).length = 1) :
    Spec.UExact.allEqual x1 x2 = true := by
  rw [tieVector_length] at h
  obtain ⟨v, hv⟩ := List.length_eq_one_iff.mp h
  have e : ∀ c ∈ x1 ++ x2, c = v := by
    intro c hc
    have h1 : c ∈ sortF (x1 ++ x2) := (sortF_perm _).mem_iff.mpr hc
    have h2 : c ∈ (sortF (x1 ++ x2)).dedup := List.mem_dedup.mpr h1
    rw [hv] at h2
    simpa using h2
  rw [allEqual_iff]
  intro a ha b hb
  rw [e a ha, e b hb]

theorem length_one_of_sigma2_zero (x1 x2 : List α) (h1 : x1 ≠ []) (h2 : x2 ≠ [])
    (h : sigma2 x1.length x2.length (tieVector x1 x2) = 0) : (tieVector x1 x2).length = 1 := by
  have l1 : 0 < x1.length := List.length_pos_iff.mpr h1
  have l2 : 0 < x2.length := List.length_pos_iff.mpr h2
  have htc := (sigma2_eq_zero_iff _ _ _ l1 l2).mp h
  rw [tieCorrection_eq] at htc
  have hsum := tieVector_sum x1 x2
  have hpos := tieVector_pos x1 x2
  generalize tieVector x1 x2 = T at htc hsum hpos ⊢
  rw [← hsum, tc_add_sum] at htc
  have hc := (cubes_le T hpos).2
  have hne : T ≠ [] := by
    rintro rfl
    simp at hsum
    omega
  have : 0 < T.length := List.length_pos_iff.mpr hne
  by_contra hlen
  have := hc (by omega)
  omega

end Lists

theorem decide'_error (cdf : Nat → Nat → List Nat → Int → Rat) (lim limT : Nat) (alt : Alt)
    (n1 n2 : Nat) (rs : RankState) (e : Err)
    (h : decide' cdf lim limT alt n1 n2 rs = .error e) :
    e = .samplesEqual ∧ (rs.T.length = 1 ∨ sigma2 n1 n2 rs.T = 0) := by
  unfold decide' at h
  simp only at h
  split at h
  · split at h
    · rename_i hT
      injection h with h
      exact ⟨h.symm, Or.inl hT⟩
    · cases h
  · split at h
    · rename_i hs
      injection h with h
      exact ⟨h.symm, Or.inr hs⟩
    · cases h

/-- **errors_spec (iff).** The model of `MannWhitneyUTest` returns an error exactly for an empty sample
    (`sampleSize`) or, both samples being non-empty, for pooled values that are all equal
    (`samplesEqual`) — on the exact and on the normal-approximation branch alike, whatever CDF and
    limits are plugged in. -/
theorem errors_spec_iff {α : Type} [LinearOrder α] (cdf : Nat → Nat → List Nat → Int → Rat)
    (lim limT : Nat) (x1 x2 : List α) (alt : Stats.UStat.Alt) (e : Stats.UStat.Err) :
    Stats.UStat.mannWhitney cdf lim limT x1 x2 alt = .error e ↔
      (e = .sampleSize ∧ (x1 = [] ∨ x2 = [])) ∨
      (e = .samplesEqual ∧ x1 ≠ [] ∧ x2 ≠ [] ∧ Spec.UExact.allEqual x1 x2 = true) := by
  constructor
  · intro h
    by_cases hE : x1 = [] ∨ x2 = []
    · left
      rw [mannWhitney_of_empty hE] at h
      injection h with h
      exact ⟨h.symm, hE⟩
    · right
      have h1 : x1 ≠ [] := fun h => hE (Or.inl h)
      have h2 : x2 ≠ [] := fun h => hE (Or.inr h)
      rw [mannWhitney_of_ne_nil h1 h2] at h
      obtain ⟨he, hT⟩ := decide'_error _ _ _ _ _ _ _ _ h
      refine ⟨he, h1, h2, ?_⟩
      apply allEqual_of_length_one
      change (tieVector x1 x2).length = 1 ∨ sigma2 x1.length x2.length (tieVector x1 x2) = 0 at hT
      rcases hT with hT | hT
      · exact hT
      · exact length_one_of_sigma2_zero x1 x2 h1 h2 hT
  · rintro (⟨rfl, hE⟩ | ⟨rfl, h1, h2, hall⟩)
    · exact mannWhitney_of_empty hE
    · obtain ⟨v, x1', rfl⟩ := List.exists_cons_of_ne_nil h1
      have hv := (allEqual_iff _ _).mp hall
      have hvm : v ∈ (v :: x1') ++ x2 := by simp
      exact errors_spec_all_equal cdf lim limT alt v (lt_irrefl v) _ _ h1 h2
        (fun a ha => hv a (List.mem_append_left _ ha) v hvm)
        (fun b hb => hv b (List.mem_append_right _ hb) v hvm)

end C11
