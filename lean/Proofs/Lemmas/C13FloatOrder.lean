/-
C13: on finite values the float64 comparisons `F64.lt` / `F64.eq` are the order of the exact rational
value `C13.sval` defined here (the same function as `F64.sval`, `sval_eq`); `math.Min` is symmetric.
-/
import Proofs.Lemmas.F64Arith
import Model.Math.Nothing

namespace C13
open F64

/-- the exact rational value of a finite float (both zeros have value 0) -/
def sval (b : Bits) : ℚ := if signBit b then -val b else val b

theorem sval_eq : sval = F64.sval := rfl

theorem lt_iff_sval (a b : Bits) (ha : isFinite a = true) (hb : isFinite b = true) :
    F64.lt a b = true ↔ sval a < sval b :=
  sval_eq ▸ F64.lt_iff_sval a b (isNaN_of_finite ha) (isNaN_of_finite hb)

theorem eq_iff_sval (a b : Bits) (ha : isFinite a = true) (hb : isFinite b = true) :
    F64.eq a b = true ↔ sval a = sval b :=
  sval_eq ▸ F64.eq_iff_sval a b (isNaN_of_finite ha) (isNaN_of_finite hb)

/-- **fmin_comm** — the model of `math.Min` is symmetric on ALL bit patterns (NaN, ±Inf, ±0 included) -/
theorem fmin_comm (x y : Bits) : Math.fmin x y = Math.fmin y x := by
  unfold Math.fmin
  rw [Bool.or_comm (x == negInf) (y == negInf), Bool.or_comm (isNaN x) (isNaN y),
    Bool.and_comm (isZero x) (isZero y)]
  by_cases h1 : (y == negInf || x == negInf) = true
  · simp only [h1, if_true]
  simp only [h1]
  by_cases h2 : (isNaN y || isNaN x) = true
  · simp only [h2, if_true]
  simp only [h2]
  have hx : isNaN x = false := by
    cases h : isNaN x
    · rfl
    · exact absurd (by simp [h]) h2
  have hy : isNaN y = false := by
    cases h : isNaN y
    · rfl
    · exact absurd (by simp [h]) h2
  by_cases h3 : (isZero y && isZero x) = true
  · simp only [h3, if_true]
    rw [Bool.and_eq_true] at h3
    have zx := (isZero_iff x).mp h3.2
    have zy := (isZero_iff y).mp h3.1
    have dx := toNat_decomp_full x; have dy := toNat_decomp_full y
    cases hsx : signBit x <;> cases hsy : signBit y <;>
      simp only [hsx, hsy, if_true, if_false, Bool.false_eq_true] at dx dy ⊢ <;>
      first | rfl | (rw [← UInt64.toNat_inj]; omega)
  · simp only [h3]
    have kxy := lt_iff_okey x y hx hy
    have kyx := lt_iff_okey y x hy hx
    cases hlt : F64.lt x y <;> cases hgt : F64.lt y x <;> simp only [if_true, if_false, Bool.false_eq_true]
    · -- neither is smaller: the keys agree, and they are not both zero, so the patterns agree
      have hk : okey x = okey y := by
        have a1 : ¬ okey x < okey y := fun h => by rw [kxy.mpr h] at hlt; cases hlt
        have a2 : ¬ okey y < okey x := fun h => by rw [kyx.mpr h] at hgt; cases hgt
        omega
      have he := (eq_iff_okey x y hx hy).mpr hk
      unfold F64.eq at he
      have h3' : (isZero x && isZero y) = false := by
        rw [Bool.and_comm]; simpa using h3
      simp only [hx, hy, Bool.or_self, Bool.false_eq_true, if_false, h3', beq_iff_eq] at he
      exact he.symm
    · have a := kxy.mp hlt; have b := kyx.mp hgt; omega

/-- **combine_symmetric** — the two-sided p-value `AssumeNothing.Compare` forms,
`math.Min(1, 2*math.Min(l1.P, l2.P))` in float64, does not depend on which one-sided result is
which (any bit patterns; an error in either call falls back to the two-sided call both ways). -/
theorem combine_symmetric (d a b : Math.TestResult) (pd : Bits) :
    Math.Nothing.combine ⟨d, a, b⟩ pd = Math.Nothing.combine ⟨d, b, a⟩ pd := by
  unfold Math.Nothing.combine
  cases a <;> cases b <;> simp only [fmin_comm]

end C13
