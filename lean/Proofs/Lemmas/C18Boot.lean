/-
Helper lemmas for C18 (bootstrap), over ℚ.  `percentile` and `median` both read the sorted sample
at a real-valued rank by linear interpolation (`Lerp.lerp`): the percentile at rank N·p, the median at
rank (N−1)/2.  `lerp` is monotone in the rank on a sorted sample, which is all the order theorem needs.
-/
import Model.Series.Bootstrap
import Proofs.Lemmas.Shared.Lerp
import Mathlib.Data.Rat.Floor
import Mathlib.Tactic.Linarith

namespace C18
open Series.Boot Lerp

@[simp] theorem rat_add (a b : Rat) : rat.add a b = a + b := rfl
@[simp] theorem rat_sub (a b : Rat) : rat.sub a b = a - b := rfl
@[simp] theorem rat_mul (a b : Rat) : rat.mul a b = a * b := rfl
@[simp] theorem rat_div (a b : Rat) : rat.div a b = a / b := rfl
@[simp] theorem rat_ofNat (n : Nat) : rat.ofNat n = (n : Rat) := rfl
@[simp] theorem rat_trunc (q : Rat) : rat.trunc q = q.floor.toNat := rfl
@[simp] theorem rat_lt (a b : Rat) : rat.lt a b = decide (a < b) := rfl
@[simp] theorem rat_eq (a b : Rat) : rat.eq a b = decide (a = b) := rfl
@[simp] theorem rat_isNaN (a : Rat) : rat.isNaN a = false := rfl
@[simp] theorem rat_nan : rat.nan = 0 := rfl

theorem trunc_eq (q : Rat) : q.floor.toNat = ⌊q⌋₊ := Int.floor_toNat q

theorem percentile_eq_lerp {a : List Rat} {p : Rat} (hne : a ≠ []) (hp0 : 0 ≤ p) (hp1 : p ≤ 1) :
    percentile rat a p = lerp a ((a.length : Rat) * p) := by
  have hn : 0 < a.length := List.length_pos_iff.mpr hne
  obtain ⟨a0, r, rfl⟩ := List.exists_cons_of_ne_nil hne
  -- the `decide` that coerces `i + 1 < n` goes first, while the term under it is untouched
  simp only [percentile, Bool.and_eq_true, decide_eq_true_eq]
  simp only [rat_eq, rat_ofNat, rat_mul, rat_trunc, rat_sub, rat_lt, rat_nan, rat_add, trunc_eq,
    Nat.cast_zero, Nat.cast_one, decide_eq_true_eq]
  generalize ha : a0 :: r = a at hn ⊢
  split
  · subst p
    rw [mul_zero, lerp_of_nonpos a le_rfl, at'_of_lt hn, ← ha, List.getD_cons_zero]
  split
  · subst p
    rw [mul_one, lerp_of_ge a (Nat.cast_le.mpr (Nat.sub_le _ _)), at'_of_lt (Nat.sub_lt hn Nat.one_pos)]
  rename_i hne0 hne1
  have hf0 : 0 ≤ (a.length : Rat) * p := mul_nonneg (Nat.cast_nonneg _) hp0
  have hfn : (a.length : Rat) * p < a.length :=
    mul_lt_of_lt_one_right (Nat.cast_pos.mpr hn) (lt_of_le_of_ne hp1 hne1)
  have hi : ⌊(a.length : Rat) * p⌋₊ < a.length := (Nat.floor_lt hf0).mpr hfn
  have hx0 : 0 ≤ (a.length : Rat) * p - ⌊(a.length : Rat) * p⌋₊ := sub_nonneg.mpr (Nat.floor_le hf0)
  rw [lerp_of_nonneg a hf0]
  generalize ⌊(a.length : Rat) * p⌋₊ = i at hi hx0 ⊢
  generalize (a.length : Rat) * p - i = x at hx0 ⊢
  by_cases h1 : i + 1 < a.length
  · rw [seg_eq_convex, at'_of_lt hi, at'_of_lt h1]
    split
    · rfl
    · rename_i hx
      obtain rfl : x = 0 := le_antisymm (not_lt.mp fun h => hx ⟨h, h1⟩) hx0
      rw [sub_zero, mul_one, mul_zero, add_zero]
  · rw [if_neg fun h => h1 h.2, seg_of_ge a (by omega), at'_of_lt hi]

theorem median_eq_lerp {a : List Rat} (hne : a ≠ []) : median rat a = lerp a (((a.length : Rat) - 1) / 2) := by
  have hn : 0 < a.length := List.length_pos_iff.mpr hne
  simp only [median, rat_nan, rat_div, rat_add, rat_ofNat]
  split
  · have h2 : (a.length : Rat) = 2 * ((a.length / 2 : Nat) : Rat) + 1 := by
      exact_mod_cast (show a.length = 2 * (a.length / 2) + 1 by omega)
    rw [show ((a.length : Rat) - 1) / 2 = ((a.length / 2 : Nat) : Rat) by rw [h2]; ring, lerp_natCast,
      at'_of_lt (by omega)]
  · have h2 : (a.length : Rat) = 2 * ((a.length / 2 - 1 : Nat) : Rat) + 2 := by
      exact_mod_cast (show a.length = 2 * (a.length / 2 - 1) + 2 by omega)
    rw [show ((a.length : Rat) - 1) / 2 = ((a.length / 2 - 1 : Nat) : Rat) + 1 / 2 by rw [h2]; ring,
      lerp_add a _ (by norm_num) (by norm_num), seg_eq_convex, at'_of_lt (by omega), at'_of_lt (by omega),
      show a.length / 2 - 1 + 1 = a.length / 2 by omega]
    push_cast
    ring

/-- low ≤ centre ≤ high on a sorted sample: the ranks are N·p ≤ (N−1)/2 ≤ N·(1−p) -/
theorem percentile_le_median_le {a : List Rat} {p : Rat} (hs : C12.SortedL a) (hne : a ≠ []) (hp0 : 0 ≤ p)
    (hp : 2 * ((a.length : Rat) * p) ≤ (a.length : Rat) - 1) :
    percentile rat a p ≤ median rat a ∧ median rat a ≤ percentile rat a (1 - p) := by
  have hn : (1 : Rat) ≤ a.length := by exact_mod_cast List.length_pos_iff.mpr hne
  have hp1 : p ≤ 1 := le_of_mul_le_mul_left (by linarith : (a.length : Rat) * p ≤ a.length * 1) (zero_lt_one.trans_le hn)
  rw [percentile_eq_lerp hne hp0 hp1, percentile_eq_lerp hne (sub_nonneg.mpr hp1) (sub_le_self _ hp0),
    median_eq_lerp hne]
  exact ⟨hs.lerp_mono (by linarith), hs.lerp_mono (by linarith)⟩

theorem summarize_rat (a : List Rat) (conf : Rat) :
    summarize rat a conf =
      { low := percentile rat a ((1 - conf) / 2), center := median rat a,
        high := percentile rat a (1 - (1 - conf) / 2) } := by
  simp [summarize]

end C18
