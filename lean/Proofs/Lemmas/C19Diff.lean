/-
C19 helper lemmas: what the Printer writes for a stream of results, the Reader reads back.
Part 1: the label difference the Printer writes, applied the way the Reader applies it, turns the
previous label set into the new one.
-/
import Model.Storage.Fmt
import Proofs.Lemmas.C19Assoc

namespace C19
open Storage.Query Storage.Fmt

/-- keys the Printer unsets / pairs it (re)writes -/
def removed (prev : Labels) (r : Result) : Labels := prev.filter fun kv => (r.labels.get kv.1).isEmpty
def changed (prev : Labels) (r : Result) : Labels :=
  r.labels.filter fun kv => !kv.2.isEmpty && prev.get kv.1 != kv.2

theorem mem_removed (prev : Labels) (r : Result) (x : Bytes × Bytes) :
    x ∈ removed prev r ↔ x ∈ prev ∧ (r.labels.get x.1).isEmpty = true := List.mem_filter
theorem mem_changed (prev : Labels) (r : Result) (x : Bytes × Bytes) :
    x ∈ changed prev r ↔ x ∈ r.labels ∧ (!x.2.isEmpty && prev.get x.1 != x.2) = true := List.mem_filter

theorem apply_diff (prev : Labels) (r : Result) (hp : StrictSorted prev) (hr : StrictSorted r.labels)
    (np : ∀ x ∈ prev, x.2 ≠ []) (nr : ∀ x ∈ r.labels, x.2 ≠ []) :
    setAll (eraseAll prev (removed prev r)) (changed prev r) = r.labels := by
  have hch : StrictSorted (changed prev r) := List.Pairwise.filter _ hr
  apply labels_ext _ _ (sorted_setAll _ _ (sorted_eraseAll _ _ hp)) hr
  · intro x hx
    rcases mem_setAll _ _ _ hx with h | h
    · exact np x (mem_eraseAll _ _ _ h)
    · exact nr x ((mem_changed _ _ _).mp h).1
  · exact nr
  · intro k
    by_cases hv : Labels.get r.labels k = []
    · -- k is not a key of the result
      have hnk : ∀ x ∈ r.labels, x.1 ≠ k := by
        intro x hx e
        have := get_of_mem _ hr x.1 x.2 hx
        rw [e, hv] at this
        exact nr x hx this.symm
      rw [get_setAll_not_mem (changed prev r) _ k (fun x hx => hnk x ((mem_changed _ _ _).mp hx).1), hv,
        get_eraseAll]
      split
      · rfl
      · -- no pair with key k was removed, so `prev` has none
        rename_i hno
        exact get_not_key _ _ fun x hx e => hno (List.any_eq_true.mpr
          ⟨x, (mem_removed _ _ _).mpr ⟨hx, by rw [e, hv]; rfl⟩, by simp [e]⟩)
    · -- k carries the value v in the result
      have hmem := get_mem _ _ hv
      by_cases hsame : Labels.get prev k = Labels.get r.labels k
      · have hnc : ∀ x ∈ changed prev r, x.1 ≠ k := by
          intro x hx e
          have hx' := (mem_changed _ _ _).mp hx
          have hxv : x.2 = Labels.get r.labels k := by
            have := get_of_mem _ hr x.1 x.2 hx'.1
            rw [e] at this; exact this.symm
          have := hx'.2
          simp only [Bool.and_eq_true, Bool.not_eq_true', bne_iff_ne, ne_eq] at this
          exact this.2 (by rw [e, hsame, hxv])
        rw [get_setAll_not_mem (changed prev r) _ k hnc]
        have hnr : ∀ x ∈ removed prev r, x.1 ≠ k := by
          intro x hx e
          have := ((mem_removed _ _ _).mp hx).2
          rw [e] at this
          exact hv (by simpa using this)
        rw [get_eraseAll, if_neg (fun h => by
          obtain ⟨x, hx, e⟩ := List.any_eq_true.mp h
          exact hnr x hx (beq_iff_eq.mp e)), hsame]
      · apply get_setAll_mem _ _ hch
        refine (mem_changed _ _ _).mpr ⟨hmem, ?_⟩
        simp only [Bool.and_eq_true, Bool.not_eq_true', bne_iff_ne, ne_eq]
        exact ⟨by simpa using hv, hsame⟩

end C19
