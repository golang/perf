/-
`readFloat` after sign and prefix against `parseBody`; what `underscoreOK`, `readFloat`/`decimal.set` and the recogniser
make of the text after the sign; `underscoreOK` + `readFloat` on a whole text against `Spec.NumText.recognise`.
-/
import Proofs.Lemmas.C03Body

namespace C03
open Num Spec.NumText

/-- the specification's recogniser, decimal and hex at once (`h`); for the underscore rule the prefix counts as a digit -/
theorem recognise_eq (s : Bytes) :
    recognise s =
      let h := isHexPrefix (splitSign s).2
      let b := if h then (splitSign s).2.drop 2 else (splitSign s).2
      if !underscoresOK (digS h) h b then none
      else (specBody h (strip b)).map
        fun (m, e) => { neg := (splitSign s).1, hex := h, mant := m, exp := e } := by
  unfold recognise
  generalize splitSign s = sb
  obtain ⟨neg, body⟩ := sb
  simp only []
  cases h : isHexPrefix body <;> simp only [Bool.false_eq_true, if_false, if_true] <;> rfl

theorem recognise_nil : recognise [] = none := by decide

/-- the underscore-free body of the mantissa-and-exponent part -/
def bodyU (s : Bytes) (hex : Bool) : Bytes :=
  if hex then strip ((splitSign s).2.drop 2) else strip (splitSign s).2

theorem recog_facts (s : Bytes) (p : Parsed) (hrec : recognise s = some p) :
    p.hex = isHexPrefix (splitSign s).2 ∧
    ∃ x, spTail p.hex (spR2 (digS p.hex) (bodyU s p.hex)) = some x ∧
      p.mant = valOf (baseOf p.hex) ((bodyU s p.hex).takeWhile (digS p.hex) ++ spFP (digS p.hex) (bodyU s p.hex)) ∧
      p.exp = x + -(((if p.hex then 4 else 1) * (spFP (digS p.hex) (bodyU s p.hex)).length : Nat) : Int) := by
  rw [recognise_eq] at hrec
  simp only [] at hrec
  generalize isHexPrefix (splitSign s).2 = hx at hrec ⊢
  by_cases h1 : (!underscoresOK (digS hx) hx (if hx then (splitSign s).2.drop 2 else (splitSign s).2)) = true
  · rw [if_pos h1] at hrec; cases hrec
  rw [if_neg h1, Option.map_eq_some_iff] at hrec
  obtain ⟨q, hpb, hp⟩ := hrec
  subst hp
  dsimp only
  rw [show strip (if hx then (splitSign s).2.drop 2 else (splitSign s).2) = bodyU s hx by cases hx <;> rfl,
    specBody_eq] at hpb
  by_cases h2 : (((bodyU s hx).takeWhile (digS hx)).isEmpty && (spFP (digS hx) (bodyU s hx)).isEmpty) = true
  · rw [if_pos h2] at hpb; cases hpb
  rw [if_neg h2, Option.map_eq_some_iff] at hpb
  obtain ⟨x, hsp, hq⟩ := hpb
  exact ⟨rfl, x, hsp, by rw [← hq], by rw [← hq]⟩

/-- `readFloat` from the mantissa on (`hex`, `neg` already decided) -/
def rfTail (hex neg : Bool) (s2 : Bytes) : RF :=
  match frame hex MS.sawdigits (mantLoop hex s2 {}) with
  | none => { hex }
  | some (st, x) =>
    let dp0 : Int := if !st.sawdot then st.nd else st.dp
    let dp1 : Int := if hex then dp0 * 4 else dp0
    let ndMant : Nat := if hex then st.ndMant * 4 else st.ndMant
    { mant := st.mant, exp := if st.mant != 0 then dp1 + x - ndMant else 0, neg, trunc := st.trunc, hex, ok := true }

theorem readFloat_cons (c0 : UInt8) (tl : Bytes) :
    readFloat (c0 :: tl) =
      rfTail (isHexStart (bodyOf c0 tl)) (c0 == 45)
        (if isHexStart (bodyOf c0 tl) then (bodyOf c0 tl).drop 2 else bodyOf c0 tl) := by
  unfold readFloat rfTail frame bodyOf
  simp only []
  generalize (if (c0 == 43 || c0 == 45) = true then tl else c0 :: tl) = B
  generalize isHexStart B = hex
  generalize (if hex = true then List.drop 2 B else B) = s2
  generalize (c0 == 45) = neg
  cases hm : mantLoop hex s2 {} with
  | none => rfl
  | some p =>
    obtain ⟨st, rest⟩ := p
    simp only []
    by_cases hsd : st.sawdigits = true
    · simp only [hsd, Bool.not_true, Bool.false_eq_true, if_false]
      cases rest with
      | nil => unfold tailAdj; cases hex <;> simp
      | cons c r1 =>
        rw [tailAdj_cons]
        by_cases hc : (lower c == if hex = true then 112 else 101) = true
        · simp only [hc, if_true]
          refine (expFrag (fail := { hex }) (ok := fun x => ({ mant := st.mant, exp := if (st.mant != 0) = true then _ + x - _ else 0, neg, trunc := st.trunc, hex, ok := true } : RF)) r1).trans ?_
          cases okPart r1 <;> rfl
        · simp only [hc, Bool.false_eq_true, if_false]
          cases hex <;> simp
    · simp [hsd]

/-- agreement of `readFloat`'s results with a specification parse -/
def Agrees (r : RF) (p : Parsed) (gap : Int) : Prop :=
  r.ok = true ∧ r.neg = p.neg ∧ r.hex = p.hex ∧ r.mant < 2 ^ 64 ∧
  (r.trunc = false → ∃ j : Nat, p.mant = r.mant * baseOf p.hex ^ j ∧
    (r.mant ≠ 0 → r.exp = p.exp + (((if p.hex then 4 else 1) * j : Nat) : Int) + gap)) ∧
  (r.trunc = true → ∃ j : Nat, r.mant * baseOf p.hex ^ j < p.mant ∧ p.mant < (r.mant + 1) * baseOf p.hex ^ j ∧
    baseOf p.hex ^ (maxDOf p.hex - 1) ≤ r.mant ∧
    r.exp = p.exp + (((if p.hex then 4 else 1) * j : Nat) : Int) + gap)

theorem agrees_map (pb : Option (Nat × Int)) (f : Nat × Int → Parsed) (r : RF) (g : Int)
    (k1 : pb = none → r.ok = false) (k2 : ∀ M E, pb = some (M, E) → Agrees r (f (M, E)) g) :
    (pb.map f = none → r.ok = false) ∧ ∀ p, pb.map f = some p → Agrees r p g := by
  cases pb with
  | none => exact ⟨fun _ => k1 rfl, fun p h => (by cases h)⟩
  | some q =>
    refine ⟨fun h => (by cases h), fun p h => ?_⟩
    cases h
    exact k2 q.1 q.2 rfl

/-- **CORE: `readFloat` after sign and base prefix = the specification's `parseBody`** on every
text that obeys the underscore rule: the same accepted language, and results that agree (`Agrees`)
up to the gap `expGap` the clamp of the exponent digit loop opens for exponent literals of 100000
and more. -/
theorem rfTail_spec (hex neg : Bool) (t : Bytes) (prev : Bool)
    (hu : underscoresOK (digS hex) prev t = true) :
    (specBody hex (strip t) = none →
      (rfTail hex neg t).ok = false) ∧
    (∀ M E, specBody hex (strip t) = some (M, E) →
      Agrees (rfTail hex neg t) { neg := neg, hex := hex, mant := M, exp := E } (expGap (digS hex) (strip t))) := by
  obtain ⟨k1, k2⟩ := frame_spec (RM_sim hex) MS.sawdigits (fun _ _ h => h.2.2) {} (RM_init hex) t prev hu
  rw [← mantLoop_eq_scan] at k1 k2
  refine ⟨fun h => by unfold rfTail; rw [k1 h], fun M E h => ?_⟩
  obtain ⟨st, x, L, hf, ⟨⟨D, hinv⟩, _, _⟩, hip, hfp, hM, hx⟩ := k2 M E h
  rw [hip, hfp] at hinv
  obtain ⟨v1, v2, vt, v3⟩ := hinv.value
  unfold rfTail Agrees
  rw [hf]
  dsimp only
  have hexp : ∀ (hm0 : st.mant ≠ 0),
      (if (st.mant != 0) = true then
        (if hex = true then (if (!st.sawdot) = true then (st.nd : Int) else st.dp) * 4
          else if (!st.sawdot) = true then (st.nd : Int) else st.dp) + x
          - ((if hex = true then st.ndMant * 4 else st.ndMant : Nat) : Int)
      else 0) = E + (((if hex then 4 else 1) * (st.nd - st.ndMant) : Nat) : Int) + expGap (digS hex) (strip t) := by
    intro hm0
    have hne : (st.mant != 0) = true := by simpa using hm0
    simp only [hne, if_true]
    rw [hx]
    cases hex
    · simp only [Bool.false_eq_true, if_false] at v3 ⊢
      push_cast; omega
    · simp only [if_true] at v3 ⊢
      push_cast; omega
  refine ⟨rfl, rfl, rfl, v1, fun htr => ⟨st.nd - st.ndMant, ?_, fun hm0 => hexp hm0⟩, fun htr => ?_⟩
  · rw [hM]; exact v2 htr
  · obtain ⟨b1, b2, b3⟩ := vt htr
    have hmpos : st.mant ≠ 0 := by
      have : 0 < baseOf hex ^ (maxDOf hex - 1) := Nat.pow_pos (by have := base_ge hex; omega)
      omega
    exact ⟨st.nd - st.ndMant, by rw [hM]; exact b1, by rw [hM]; exact b2, b3, hexp hmpos⟩

/-- value of the exponent literal of a text (0 if it has none) -/
def expLit (s : Bytes) : Nat :=
  if isHexPrefix (splitSign s).2 then valOf 10 (expLitDigits isHexDig (strip ((splitSign s).2.drop 2)))
  else valOf 10 (expLitDigits isDec (strip (splitSign s).2))

theorem rfTail_zero_letter (neg : Bool) (x : UInt8) (r : Bytes) (hl : lowerLetter x = true) (he : lower x ≠ 101) :
    (rfTail false neg (48 :: x :: r)).ok = false := by
  unfold rfTail
  rw [mantLoop_eq_scan, show digS false = isDec from rfl, frame_zero_letter _ _ _ _ x r hl he]

theorem parseBody_zero_letter (x : UInt8) (r : Bytes) (hl : lowerLetter x = true) (he : lower x ≠ 101) :
    specBody false (strip (48 :: x :: r)) = none := by
  have h46 : x ≠ 46 := ne_of_class hl rfl
  have hd := not_dec_of_letter hl
  rw [strip_cons 48 _ (by decide), strip_cons x r (ne_of_class hl rfl)]
  have := specBody_eq false (48 :: x :: strip r)
  simp only [Bool.false_eq_true, if_false] at this
  rw [this]
  have hdw : (48 :: x :: strip r : Bytes).dropWhile (digS false) = x :: strip r := by
    rw [List.dropWhile_cons]; simp only [show digS false 48 = true by decide, if_true]
    rw [List.dropWhile_cons]; simp [show digS false x = false from hd]
  obtain ⟨_, e2⟩ := sp_nodot (digS false) (48 :: x :: strip r) (fun r' h => by rw [hdw] at h; injection h with h1 _; exact h46 h1)
  rw [e2, hdw]
  have : spTail false (x :: strip r) = none := by
    unfold spTail
    have : (lowerc x == 101) = false := by rw [← lower_beq x 101 rfl]; simpa using he
    simp [this]
  rw [this]
  split <;> rfl

/-- what the clamp of the exponent digit loop adds to the exponent the specification reads
(0 for every exponent literal below 100000, see `expGapS_zero`) -/
def expGapS (s : Bytes) : Int :=
  if isHexPrefix (splitSign s).2 then expGap isHexDig (strip ((splitSign s).2.drop 2))
  else expGap isDec (strip (splitSign s).2)

/-- **what everybody makes of the text after the sign** (`underscoreOK`, `readFloat` and `decimal.set` through `isHexStart`,
the recogniser): a hex literal `0x` + at least one byte, with the underscore rule and `parseBody` in base 16; `0` + a letter
after which nobody reads a number (`0b…`, `0o…`, a bare `0x`); anything else is a decimal literal for all -/
theorem prefix_cases (c0 : UInt8) (tl : Bytes) :
    (∃ x b, bodyOf c0 tl = 48 :: x :: b ∧ lower x = 120 ∧ isHexStart (bodyOf c0 tl) = true ∧ isHexPrefix (bodyOf c0 tl) = true ∧
      underscoreOK (c0 :: tl) = underscoresOK (digS true) true b ∧
      recognise (c0 :: tl) = if !underscoresOK (digS true) true b then none
        else (specBody true (strip b)).map
          fun (m, e) => { neg := c0 == 45, hex := true, mant := m, exp := e }) ∨
    (∃ x r, bodyOf c0 tl = 48 :: x :: r ∧ lowerLetter x = true ∧ lower x ≠ 101 ∧ isHexStart (bodyOf c0 tl) = false ∧
      recognise (c0 :: tl) = none) ∨
    (isHexStart (bodyOf c0 tl) = false ∧ isHexPrefix (bodyOf c0 tl) = false ∧
      underscoreOK (c0 :: tl) = underscoresOK (digS false) false (bodyOf c0 tl) ∧
      recognise (c0 :: tl) = if !underscoresOK (digS false) false (bodyOf c0 tl) then none
        else (specBody false (strip (bodyOf c0 tl))).map
          fun (m, e) => { neg := c0 == 45, hex := false, mant := m, exp := e }) := by
  have hu : underscoreOK (c0 :: tl) = usBody (bodyOf c0 tl) := by
    rw [underscoreOK_cons, Bool.or_comm]; rfl
  have us : ∀ t, underscoreLoop false t .start = underscoresOK (digS false) false t := fun t => by
    rw [underscoreLoop_eq]; simp [saw_beq]
  rw [hu, recognise_eq, splitSign_cons]
  unfold usBody
  simp only []
  generalize bodyOf c0 tl = body
  cases body with
  | nil => exact Or.inr (Or.inr ⟨rfl, rfl, us _, rfl⟩)
  | cons a r =>
    by_cases ha : a = 48
    rotate_left
    · -- no `0` in front: a decimal literal for all
      have hp : isHexPrefix (a :: r) = false := by
        unfold isHexPrefix; split
        · rename_i heq; injection heq with h1 _; exact absurd h1 ha
        · rfl
      have hs : isHexStart (a :: r) = false := by
        unfold isHexStart; split
        · rename_i heq; injection heq with h1 _; exact absurd h1 ha
        · rfl
      refine Or.inr (Or.inr ⟨hs, hp, ?_, by simp only [hp, Bool.false_eq_true, if_false]⟩)
      split
      · rename_i heq; injection heq with h1 _; exact absurd h1 ha
      · exact us _
    subst ha
    cases r with
    | nil => exact Or.inr (Or.inr ⟨rfl, rfl, us _, rfl⟩)
    | cons x r =>
      have e2 : (lowerc x == 120) = (lower x == 120) := (lower_beq x 120 rfl).symm
      by_cases hx : lower x = 120
      · have e1 : (lower x == 120) = true := by simp [hx]
        have hp : isHexPrefix (48 :: x :: r) = true := by simp [isHexPrefix, e2, e1]
        cases r with
        | nil =>
          -- a bare `0x`
          refine Or.inr (Or.inl ⟨x, [], rfl, lowerLetter_of_eq hx rfl, by rw [hx]; decide, by simp [isHexStart], ?_⟩)
          simp only [hp, if_true, List.drop_succ_cons, List.drop_nil]
          cases (c0 == 45) <;> decide
        | cons y b =>
          refine Or.inl ⟨x, y :: b, rfl, hx, by simp [isHexStart, e1], hp, ?_, by simp only [hp, if_true]; rfl⟩
          simp only [e1, Bool.or_true, if_true]
          rw [underscoreLoop_eq]; simp [saw_beq]
      · have e1 : (lower x == 120) = false := by simpa using hx
        have hp : isHexPrefix (48 :: x :: r) = false := by simp [isHexPrefix, e2, e1]
        have hs : isHexStart (48 :: x :: r) = false := by cases r <;> simp [isHexStart, e1]
        by_cases hb : lower x = 98 ∨ lower x = 111
        · -- `0b…`, `0o…`
          obtain ⟨hl, he⟩ : lowerLetter x = true ∧ lower x ≠ 101 := by
            rcases hb with h | h <;> exact ⟨lowerLetter_of_eq h rfl, by rw [h]; decide⟩
          refine Or.inr (Or.inl ⟨x, r, rfl, hl, he, hs, ?_⟩)
          simp only [hp, Bool.false_eq_true, if_false]
          rw [parseBody_zero_letter x r hl he]
          split <;> rfl
        · simp only [not_or] at hb
          refine Or.inr (Or.inr ⟨hs, hp, ?_, by simp only [hp, Bool.false_eq_true, if_false]⟩)
          simp only [e1, show (lower x == 98) = false by simpa using hb.1, show (lower x == 111) = false by simpa using hb.2,
            Bool.or_self, Bool.false_eq_true, if_false]
          exact us _

/-- **`underscoreOK` + `readFloat` against the specification's recogniser**: a text that fails
`underscoreOK` (so that `ParseFloat` never calls `readFloat`) is not in the specification's
language; on every other text `readFloat` accepts exactly when the recogniser does, with agreeing results. -/
theorem readFloat_recognise (s : Bytes) :
    (underscoreOK s = false → recognise s = none) ∧
    (underscoreOK s = true → (recognise s = none → (readFloat s).ok = false) ∧
      (∀ p, recognise s = some p → Agrees (readFloat s) p (expGapS s))) := by
  cases s with
  | nil => exact ⟨fun h => by simp [underscoreOK, underscoreLoop] at h, fun _ => ⟨fun _ => rfl, fun p h => by
      rw [recognise_nil] at h; cases h⟩⟩
  | cons c0 tl =>
    rw [readFloat_cons]
    unfold expGapS
    rw [splitSign_cons]
    simp only []
    rcases prefix_cases c0 tl with ⟨x, b, hb, _, hs, hp, hu, hrec⟩ | ⟨x, r, hb, hl, he, hs, hrec⟩ | ⟨hs, hp, hu, hrec⟩
    · -- a hex literal on both sides
      rw [hu, hrec, hs, hp, hb]
      simp only [if_true, List.drop_succ_cons, List.drop_zero]
      refine ⟨fun hu => by rw [hu]; rfl, fun hu => ?_⟩
      simp only [hu, Bool.not_true, Bool.false_eq_true, if_false]
      obtain ⟨k1, k2⟩ := rfTail_spec true (c0 == 45) b true hu
      exact agrees_map _ _ _ _ k1 k2
    · -- `readFloat` reads the `0` and fails at the letter
      rw [hrec, hs, hb]
      exact ⟨fun _ => rfl, fun _ => ⟨fun _ => rfTail_zero_letter _ x r hl he, fun p h => by cases h⟩⟩
    · -- a decimal literal on both sides
      rw [hu, hrec, hs, hp]
      simp only [Bool.false_eq_true, if_false]
      refine ⟨fun hu => by rw [hu]; rfl, fun hu => ?_⟩
      simp only [hu, Bool.not_true, Bool.false_eq_true, if_false]
      obtain ⟨k1, k2⟩ := rfTail_spec false (c0 == 45) (bodyOf c0 tl) false hu
      exact agrees_map _ _ _ _ k1 k2

end C03
