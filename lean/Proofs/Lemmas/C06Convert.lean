/-
A tree with C07's `WF` (no nil node, every NOT has one operand — what `accepted_tree_wellformed`
gives for an accepted text) always converts (`toTree_of_WF`); and on a converted tree the evaluator's
`walk` succeeds exactly when C07's key check `checkFilter` passes (`walk_ok_iff`).
-/
import Proofs.Lemmas.C07Parse
import Model.Proc.FilterText

namespace C06
open Proc.Tok Proc.ParseFilter Proc.FilterText
open Proc.FilterEval (walk walkList ReOracle)

theorem toTrees_cons_some {t : Filter} {ts : List Filter} {us : List Proc.FilterEval.Filter}
    (h : toTrees (t :: ts) = some us) : ∃ t' ts', toTree t = some t' ∧ toTrees ts = some ts' ∧ us = t' :: ts' := by
  rw [toTrees] at h
  cases ht : toTree t with
  | none => simp [ht] at h
  | some t' =>
    cases hr : toTrees ts with
    | none => simp [ht, hr] at h
    | some ts' => exact ⟨t', ts', rfl, rfl, by simpa [ht, hr] using h.symm⟩

theorem toTrees_of_all (es : List Filter) (h : ∀ x, x ∈ es → ∃ t', toTree x = some t') :
    ∃ ts', toTrees es = some ts' ∧ ts'.length = es.length := by
  induction es with
  | nil => exact ⟨[], by simp [toTrees], rfl⟩
  | cons e r ih =>
    obtain ⟨t', ht⟩ := h e (by simp)
    obtain ⟨ts', hts, hl⟩ := ih (fun x hx => h x (by simp [hx]))
    exact ⟨t' :: ts', by simp [toTrees, ht, hts], by simp [hl]⟩

theorem toTree_of_WF {t : Filter} (h : C07.WF t) : ∃ t', toTree t = some t' := by
  induction h with
  | lit k v off _ => exact ⟨.mtch k off.toNat (.lit v), by simp [toTree]⟩
  | re k v off _ => exact ⟨.mtch k off.toNat (.re (reId v)), by simp [toTree]⟩
  | op o es _ hnot ih =>
    obtain ⟨ts', hts, hl⟩ := toTrees_of_all es ih
    cases o with
    | and => exact ⟨.and ts', by simp [toTree, hts]⟩
    | or => exact ⟨.or ts', by simp [toTree, hts]⟩
    | not =>
      have h1 : es.length = 1 := hnot rfl
      match ts', hl with
      | [e], _ => exact ⟨.not e, by simp [toTree, hts]⟩
      | [], hl => rw [h1] at hl; simp at hl
      | _ :: _ :: _, hl => rw [h1] at hl; simp at hl

def isOk {ε α : Type} : Except ε α → Bool
  | .ok _ => true
  | .error _ => false

theorem kUnit_eq : Proc.Extract.dotUnit = kUnit := by decide +kernel
theorem kConfig_eq : Proc.Extract.dotConfig = kConfig := by decide +kernel

theorem walk_leaf_ok (re : ReOracle) (key : Bytes) (off : Nat) (offI : Int) (m : Proc.FilterEval.Matcher) :
    isOk (walk re (.mtch key off m)) = (checkFilter.checkKey key offI).isNone := by
  unfold walk checkFilter.checkKey
  rw [kUnit_eq, kConfig_eq]
  by_cases h1 : key == kUnit
  · simp [h1, isOk]
  · by_cases h2 : key == kConfig
    · simp [h1, h2, isOk]
    · by_cases h3 : key.isEmpty <;> simp [h1, h2, h3, isOk]

theorem isOk_walkList_cons (re : ReOracle) (t : Proc.FilterEval.Filter) (r : List Proc.FilterEval.Filter) :
    isOk (walkList re (t :: r)) = (isOk (walk re t) && isOk (walkList re r)) := by
  rw [walkList]
  cases walk re t with
  | error e => rfl
  | ok f => cases walkList re r <;> rfl

theorem isNone_checkList_cons (t : Filter) (r : List Filter) :
    (checkFilter.checkList (t :: r)).isNone = ((checkFilter t).isNone && (checkFilter.checkList r).isNone) := by
  rw [checkFilter.checkList]
  cases checkFilter t <;> rfl

mutual
theorem walk_ok_iff (re : ReOracle) : ∀ (t : Filter) (t' : Proc.FilterEval.Filter), toTree t = some t' →
    isOk (walk re t') = (checkFilter t).isNone
  | .nil, t', h => by simp [toTree] at h
  | .lit key val off, t', h => by
    simp [toTree] at h; subst h
    rw [checkFilter]; exact walk_leaf_ok re key _ off _
  | .re key ex off, t', h => by
    simp [toTree] at h; subst h
    rw [checkFilter]; exact walk_leaf_ok re key _ off _
  | .op .and es, t', h => by
    rw [toTree, Option.map_eq_some_iff] at h
    obtain ⟨ts', hts, rfl⟩ := h
    rw [checkFilter, ← walkList_ok_iff re es ts' hts, walk]
    cases walkList re ts' <;> rfl
  | .op .or es, t', h => by
    rw [toTree, Option.map_eq_some_iff] at h
    obtain ⟨ts', hts, rfl⟩ := h
    rw [checkFilter, ← walkList_ok_iff re es ts' hts, walk]
    cases walkList re ts' <;> rfl
  | .op .not es, t', h => by
    rw [toTree] at h
    cases hts : toTrees es with
    | none => simp [hts] at h
    | some ts' =>
      match ts', hts with
      | [e'], hts =>
        simp [hts] at h; subst h
        rw [checkFilter, ← walkList_ok_iff re es [e'] hts, isOk_walkList_cons, walk]
        cases walk re e' <;> rfl
      | [], hts => simp [hts] at h
      | _ :: _ :: _, hts => simp [hts] at h
theorem walkList_ok_iff (re : ReOracle) : ∀ (ts : List Filter) (ts' : List Proc.FilterEval.Filter),
    toTrees ts = some ts' → isOk (walkList re ts') = (checkFilter.checkList ts).isNone
  | [], ts', h => by
    simp [toTrees] at h; subst h
    simp [walkList, checkFilter.checkList, isOk]
  | t :: r, ts', h => by
    obtain ⟨t', r', ht, hr, rfl⟩ := toTrees_cons_some h
    rw [isOk_walkList_cons, isNone_checkList_cons, walk_ok_iff re t t' ht, walkList_ok_iff re r r' hr]
end

end C06
