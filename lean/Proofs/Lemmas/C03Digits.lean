/-
The byte classes (digits, hex letters, `lower` against `lowerc`), digit strings in any base, the digit loop of the
reader's `atof`.
-/
import Model.Num.Atof

namespace C03
open Num Spec.NumText

theorem byte_forall {P : UInt8 → Prop} (h : ∀ n : Fin 256, P (UInt8.ofNat n.val)) (c : UInt8) : P c := by
  have := h ⟨c.toNat, c.toNat_lt⟩
  simpa using this

theorem ne_of_class {p : UInt8 → Bool} {c k : UInt8} (hc : p c = true) (hk : p k = false) : c ≠ k :=
  fun e => by rw [e, hk] at hc; cases hc

theorem isDec_range {c : UInt8} (h : isDec c = true) : 48 ≤ c.toNat ∧ c.toNat ≤ 57 := by
  simpa [isDec, UInt8.le_iff_toNat_le] using h

theorem digVal_toNat {c : UInt8} (h : isDec c = true) : c.toNat = digVal c + 48 := by
  have := isDec_range h
  unfold digVal; rw [if_pos h]; omega

theorem digVal_le9 {c : UInt8} (h : isDec c = true) : digVal c ≤ 9 := by
  have := isDec_range h
  unfold digVal; rw [if_pos h]; omega

theorem lowerc_dec {c : UInt8} (h : isDec c = true) : lowerc c = c := by
  have := isDec_range h
  unfold lowerc
  rw [if_neg]
  rw [Bool.and_eq_true, decide_eq_true_eq, decide_eq_true_eq, UInt8.le_iff_toNat_le, UInt8.le_iff_toNat_le]
  have e65 : (65 : UInt8).toNat = 65 := rfl
  omega

theorem sub48 {c : UInt8} (h : isDec c = true) : (c - 48).toNat = digVal c := by
  have h48 : (48 : UInt8) ≤ c := by rw [UInt8.le_iff_toNat_le]; exact (isDec_range h).1
  unfold digVal
  rw [if_pos h, UInt8.toNat_sub_of_le _ _ h48]
  rfl

theorem digVal_eq_zero {c : UInt8} (h : isDec c = true) : (c == 48) = true ↔ digVal c = 0 := by
  have := isDec_range h
  unfold digVal
  rw [if_pos h, beq_iff_eq, ← UInt8.toNat_inj]
  have : (48 : UInt8).toNat = 48 := rfl
  omega

theorem isHexDig_of_isDec {c : UInt8} (h : isDec c = true) : isHexDig c = true := by simp [isHexDig, h]

/-- Go's digit test in byte arithmetic (`ch - '0'` wraps; `> 9` is the same proposition): "not a decimal digit" -/
theorem sub48_ge (c : UInt8) : c - 48 ≥ 10 ↔ isDec c = false := by
  revert c; apply byte_forall; decide +kernel

theorem sub48_lt {c : UInt8} (h : isDec c = true) : ¬ c - 48 ≥ 10 :=
  fun hge => by rw [(sub48_ge c).mp hge] at h; cases h

/-- the bytes that Go's `lower(c) = c | 0x20` maps to a letter -/
def lowerLetter (x : UInt8) : Bool := 97 ≤ lower x && lower x ≤ 122

theorem lowerLetter_of_eq {x k : UInt8} (hx : lower x = k) (hk : (97 ≤ k && k ≤ 122) = true) : lowerLetter x = true := by
  unfold lowerLetter; rw [hx]; exact hk

theorem lower_letter (c : UInt8) : lowerLetter c = true ∨ (97 ≤ lowerc c && lowerc c ≤ 122) = true → lower c = lowerc c := by
  revert c; apply byte_forall; decide +kernel

theorem lower_beq (c k : UInt8) (hk : (97 ≤ k && k ≤ 122) = true) : (lower c == k) = (lowerc c == k) := by
  rw [Bool.eq_iff_iff, beq_iff_eq, beq_iff_eq]
  constructor
  · intro h; rw [← lower_letter c (Or.inl (lowerLetter_of_eq h hk))]; exact h
  · intro h; rw [lower_letter c (Or.inr (h ▸ hk))]; exact h

theorem not_dec_of_letter {x : UInt8} (h : lowerLetter x = true) : isDec x = false := by
  cases hd : isDec x
  · rfl
  · have e := lower_letter x (Or.inl h)
    rw [lowerc_dec hd] at e
    have := (isDec_range hd).2
    rw [lowerLetter, e, Bool.and_eq_true, decide_eq_true_eq, UInt8.le_iff_toNat_le] at h
    have : (97 : UInt8).toNat = 97 := rfl
    omega

/-- `lower(c) - 'a' + 10` does not wrap on a letter -/
theorem letter_val_ge (c : UInt8) : lowerLetter c = true → lower c - 97 + 10 ≥ 10 := by
  revert c; apply byte_forall; decide +kernel

theorem hexLetter_test (c : UInt8) : isDec c = false → (97 ≤ lower c && lower c ≤ 102) = isHexDig c := by
  revert c; apply byte_forall; decide +kernel

theorem hexLetter_val (c : UInt8) : isDec c = false → isHexDig c = true → (lower c - 97 + 10).toNat = digVal c := by
  revert c; apply byte_forall; decide +kernel

theorem hexLetter_range {c : UInt8} (hd : isDec c = false) (hx : isHexDig c = true) : 10 ≤ digVal c ∧ digVal c ≤ 15 := by
  unfold isHexDig at hx
  rw [hd, Bool.false_or, Bool.and_eq_true, decide_eq_true_eq, decide_eq_true_eq, UInt8.le_iff_toNat_le,
    UInt8.le_iff_toNat_le] at hx
  unfold digVal
  rw [hd, if_neg Bool.false_ne_true]
  have e1 : (97 : UInt8).toNat = 97 := rfl
  have e2 : (102 : UInt8).toNat = 102 := rfl
  omega

/-- value of a digit string continuing from accumulator `n` -/
def valFrom (n : Nat) (x : Bytes) : Nat := x.foldl (fun a c => a * 10 + digVal c) n

theorem valOf_eq (x : Bytes) : valOf 10 x = valFrom 0 x := rfl

theorem valFrom_cons (n : Nat) (c : UInt8) (x : Bytes) : valFrom n (c :: x) = valFrom (n * 10 + digVal c) x := rfl

theorem foldl_base (B : Nat) (ds : Bytes) : ∀ n : Nat,
    ds.foldl (fun a c => a * B + digVal c) n = n * B ^ ds.length + valOf B ds := by
  induction ds with
  | nil => intro n; simp [valOf]
  | cons c cs ih =>
    intro n
    unfold valOf
    rw [List.foldl_cons, List.foldl_cons, ih (n * B + digVal c), ih (0 * B + digVal c), List.length_cons, Nat.pow_succ,
      Nat.add_mul, Nat.add_mul, Nat.zero_mul, Nat.zero_mul, Nat.zero_add, Nat.mul_assoc, Nat.mul_comm B, Nat.add_assoc]

theorem valOf_append (B : Nat) (a b : Bytes) : valOf B (a ++ b) = valOf B a * B ^ b.length + valOf B b := by
  unfold valOf
  rw [List.foldl_append, foldl_base B b]
  rfl

theorem valOf_cons (B : Nat) (c : UInt8) (cs : Bytes) : valOf B (c :: cs) = digVal c * B ^ cs.length + valOf B cs := by
  have := valOf_append B [c] cs
  rw [show valOf B [c] = digVal c by simp [valOf]] at this
  exact this

theorem valOf_push (B : Nat) (l : Bytes) (c : UInt8) : valOf B (l ++ [c]) = valOf B l * B + digVal c := by
  unfold valOf; rw [List.foldl_append]; rfl

theorem valOf_lt_pow (B : Nat) (l : Bytes) (h : ∀ c ∈ l, digVal c < B) : valOf B l < B ^ l.length := by
  induction l with
  | nil => simp [valOf]
  | cons c cs ih =>
    have h1 := ih fun x hx => h x (List.mem_cons_of_mem _ hx)
    have h2 : (digVal c + 1) * B ^ cs.length ≤ B * B ^ cs.length := Nat.mul_le_mul_right _ (h c List.mem_cons_self)
    rw [valOf_cons, List.length_cons, Nat.pow_succ, Nat.mul_comm _ B]
    rw [Nat.add_mul, Nat.one_mul] at h2
    omega

theorem valOf_sig (B : Nat) (l : Bytes) : valOf B (l.dropWhile (· == 48)) = valOf B l := by
  induction l with
  | nil => rfl
  | cons c cs ih =>
    rw [List.dropWhile_cons]
    by_cases hc : (c == 48) = true
    · rw [if_pos hc, ih, valOf_cons, show c = 48 by simpa using hc, show digVal 48 = 0 by decide,
        Nat.zero_mul, Nat.zero_add]
    · rw [if_neg hc]

theorem valFrom_eq (n : Nat) (x : Bytes) : valFrom n x = n * 10 ^ x.length + valOf 10 x := foldl_base 10 x n

theorem valFrom_mono (x : Bytes) : ∀ n m, n ≤ m → valFrom n x ≤ valFrom m x := by
  intro n m h
  rw [valFrom_eq, valFrom_eq]
  exact Nat.add_le_add_right (Nat.mul_le_mul_right _ h) _

theorem valFrom_ge_mul (ds : Bytes) (e : Nat) : e * 10 ^ ds.length ≤ valFrom e ds := by
  rw [valFrom_eq]; exact Nat.le_add_right _ _

theorem valFrom_ge (x : Bytes) (n : Nat) : n ≤ valFrom n x :=
  Nat.le_trans (Nat.le_mul_of_pos_right _ (Nat.pow_pos (by decide))) (valFrom_ge_mul x n)

theorem valOf_lt (b : Bytes) (h : b.all isDec = true) : valOf 10 b < 10 ^ b.length :=
  valOf_lt_pow 10 b fun c hc => Nat.lt_succ_of_le (digVal_le9 (List.all_eq_true.mp h c hc))

theorem valFrom_lt_pow (x : Bytes) (hx : x.all isDec = true) (n k : Nat) (h : n < 10 ^ k) :
    valFrom n x < 10 ^ (k + x.length) := by
  have := valOf_lt x hx
  have h2 : (n + 1) * 10 ^ x.length ≤ 10 ^ k * 10 ^ x.length := Nat.mul_le_mul_right _ h
  rw [valFrom_eq, Nat.pow_add]
  rw [Nat.add_mul, Nat.one_mul] at h2
  omega

theorem wrap64_id (i : Int) (h1 : -(2 ^ 63 : Int) ≤ i) (h2 : i < 2 ^ 63) : wrap64 i = i := by
  unfold wrap64
  rw [Int.emod_eq_of_lt (by omega) (by omega)]; omega

/-- one round of reader.go `atof`'s loop on a digit, below the guard: the `int64` sum does not wrap -/
theorem atof_step (n : Nat) (c : UInt8) (hd : ¬ c - 48 ≥ 10) (hg : ¬ (n : Int) > atofGuard) :
    isDec c = true ∧ (n : Int) * 10 + ((c - 48).toNat : Int) = ((n * 10 + digVal c : Nat) : Int) ∧
    wrap64 ((n * 10 + digVal c : Nat) : Int) = ((n * 10 + digVal c : Nat) : Int) ∧
    ((n * 10 + digVal c : Nat) : Int) ≤ maxInt64 := by
  have hdec : isDec c = true := by
    cases h : isDec c
    · exact absurd ((sub48_ge c).mpr h) hd
    · rfl
  have hv := sub48 hdec
  have h9 := digVal_le9 hdec
  unfold atofGuard maxInt64 at hg
  unfold maxInt64
  exact ⟨hdec, by rw [hv]; push_cast; rfl, wrap64_id _ (by omega) (by omega), by omega⟩

theorem atofLoop_spec (x : Bytes) : ∀ (n : Nat) (r : Int), (n : Int) ≤ maxInt64 →
    atofLoop x n = some r →
    x.all isDec = true ∧ r = (valFrom n x : Nat) ∧ r ≤ maxInt64 := by
  induction x with
  | nil =>
    intro n r hn h
    simp only [atofLoop, Option.some.injEq] at h
    subst h; simp [valFrom, hn]
  | cons c x ih =>
    intro n r hn h
    unfold atofLoop at h
    simp only [] at h
    split at h
    · cases h
    · rename_i hd
      split at h
      · cases h
      · rename_i hg
        obtain ⟨hdec, hv, hw, hle⟩ := atof_step n c hd hg
        rw [hv, hw] at h
        have := ih _ r hle h
        exact ⟨by simp [hdec, this.1], by rw [valFrom_cons]; exact this.2.1, this.2.2⟩

end C03
