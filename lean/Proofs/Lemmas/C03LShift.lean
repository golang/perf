/-
C03 — the mirrored decimal slow path: `leftShift`. Ken's cheat table (`leftShift` knows in
advance how many digits a multiplication by 2^k adds: `leftcheats[k].delta`, one fewer when the digits
are lexicographically below `leftcheats[k].cutoff` = the digits of 5^k), the two loops of the
multiplication from the least significant digit, and the number of digits they produce.
-/
import Proofs.Lemmas.C03RShift

namespace C03
open Num Spec.NumText

/-- what the table must say for shift count k ≥ 1: delta = number of digits of 2^k, cutoff = the
decimal digits of 5^k (which end in 5), and the two lengths add up to k + 1 -/
def cheatOK (k : Nat) : Bool :=
  let e := leftcheats.getD k (0, [])
  decide (10 ^ (e.1 - 1) ≤ 2 ^ k) && decide (2 ^ k < 10 ^ e.1) && decide (1 ≤ e.1) &&
  decide (valOf 10 e.2 = 5 ^ k) && decide (e.2.length + e.1 = k + 1) && e.2.all isDec &&
  decide (e.2.getLast? ≠ some 48)

theorem cheats_ok : ∀ k, k < 61 → 1 ≤ k → cheatOK k = true := by decide +kernel

theorem dec_lt_iff (x y : UInt8) (hx : isDec x = true) (hy : isDec y = true) :
    (x < y ↔ digVal x < digVal y) ∧ (x = y ↔ digVal x = digVal y) := by
  rw [UInt8.lt_iff_toNat_lt, ← UInt8.toNat_inj, digVal_toNat hx, digVal_toNat hy]
  omega

theorem lex_lt_iff {P u w : Nat} (hu : u < P) (hw : w < P) (y x : Nat) :
    y * P + u < x * P + w ↔ y < x ∨ (y = x ∧ u < w) := by
  rcases Nat.lt_trichotomy y x with h | h | h
  · have := Nat.mul_le_mul_right P (show y + 1 ≤ x from h)
    rw [Nat.add_mul, Nat.one_mul] at this
    exact ⟨fun _ => Or.inl h, fun _ => by omega⟩
  · subst h
    exact ⟨fun h' => Or.inr ⟨rfl, by omega⟩, fun h' => by omega⟩
  · have := Nat.mul_le_mul_right P (show x + 1 ≤ y from h)
    rw [Nat.add_mul, Nat.one_mul] at this
    exact ⟨fun _ => by omega, fun h' => by omega⟩

/-- **lexicographic prefix comparison = comparison of the decimal fractions 0.b and 0.s**, for
digit strings, when `s` does not end in `0` -/
theorem prefixIsLessThan_iff (s : Bytes) : ∀ (b : Bytes), b.all isDec = true → s.all isDec = true →
    s.getLast? ≠ some 48 →
    (prefixIsLessThan b s = true ↔ valOf 10 b * 10 ^ s.length < valOf 10 s * 10 ^ b.length) := by
  -- by induction on `s`, comparing leading digits: if they differ, the leading digit decides both
  -- sides (the tails are worth less than one unit of it, `valOf_lt`); if they agree, both sides
  -- reduce to the tails; a `b` that ends first is smaller because `s`, not ending in 0, is not 0
  induction s with
  | nil =>
    intro b _ _ _
    cases b <;> simp [prefixIsLessThan, valOf]
  | cons x ss ih =>
    intro b hb hs hl
    rw [List.all_cons, Bool.and_eq_true] at hs
    have hspos : 0 < valOf 10 (x :: ss) := valOf_pos_of_last _ (by rw [List.all_cons, hs.1, hs.2]; rfl) (by simp) hl
    cases b with
    | nil =>
      simp only [prefixIsLessThan, List.length_nil, Nat.pow_zero, Nat.mul_one, true_iff]
      have : valOf 10 ([] : Bytes) = 0 := rfl
      rw [this, Nat.zero_mul]; exact hspos
    | cons y bs =>
      rw [List.all_cons, Bool.and_eq_true] at hb
      obtain ⟨lt_iff, eq_iff⟩ := dec_lt_iff y x hb.1 hs.1
      have hvb := valOf_lt bs hb.2
      have hvs := valOf_lt ss hs.2
      have hl' : ss.getLast? ≠ some 48 := by
        cases ss with
        | nil => simp
        | cons a t => simpa using hl
      have hih := ih bs hb.2 hs.2 hl'
      clear ih
      rw [valOf_cons, valOf_cons, List.length_cons, List.length_cons]
      generalize hA : 10 ^ bs.length = A at *
      generalize hB : 10 ^ ss.length = B at *
      have hApos : 0 < A := by rw [← hA]; exact Nat.pow_pos (by decide)
      have hBpos : 0 < B := by rw [← hB]; exact Nat.pow_pos (by decide)
      have eA : 10 ^ (bs.length + 1) = 10 * A := by rw [Nat.pow_succ, hA]; ring
      have eB : 10 ^ (ss.length + 1) = 10 * B := by rw [Nat.pow_succ, hB]; ring
      rw [eA, eB]
      generalize valOf 10 bs = vb at *
      generalize valOf 10 ss = vs at *
      generalize digVal y = dy at *
      generalize digVal x = dx at *
      have hvbB : vb * B < A * B := Nat.mul_lt_mul_of_pos_right hvb hBpos
      have hvsA : vs * A < A * B := by rw [Nat.mul_comm A B]; exact Nat.mul_lt_mul_of_pos_right hvs hApos
      unfold prefixIsLessThan
      rw [show (dy * A + vb) * (10 * B) = 10 * (dy * (A * B) + vb * B) by ring,
        show (dx * B + vs) * (10 * A) = 10 * (dx * (A * B) + vs * A) by ring,
        Nat.mul_lt_mul_left (by decide : 0 < 10), lex_lt_iff hvbB hvsA, ← hih, ← lt_iff, ← eq_iff]
      by_cases hxy : y = x
      · simp [hxy]
      · simp [hxy]

/-- the number of digits `leftShift` plans for -/
def cheatDelta (k : Nat) (ds : Bytes) : Nat :=
  if prefixIsLessThan ds (leftcheats.getD k (0, [])).2 then (leftcheats.getD k (0, [])).1 - 1
  else (leftcheats.getD k (0, [])).1

/-- **the cheat table is right**: for an n-digit number N (no leading zero) and 1 ≤ k ≤ 60, N·2^k
has exactly n + cheatDelta digits. -/
theorem cheat_digits (k : Nat) (hk1 : 1 ≤ k) (hk : k ≤ 60) (ds : Bytes) (hd : ds.all isDec = true)
    (hlo : 10 ^ (ds.length - 1) ≤ valOf 10 ds) (hne : ds ≠ []) :
    10 ^ (ds.length + cheatDelta k ds - 1) ≤ valOf 10 ds * 2 ^ k ∧
    valOf 10 ds * 2 ^ k < 10 ^ (ds.length + cheatDelta k ds) := by
  have hok := cheats_ok k (by omega) hk1
  unfold cheatOK at hok
  simp only [Bool.and_eq_true, decide_eq_true_eq] at hok
  obtain ⟨⟨⟨⟨⟨⟨f1, f2⟩, f0⟩, f3⟩, f4⟩, f5⟩, f6⟩ := hok
  unfold cheatDelta
  generalize (leftcheats.getD k (0, [])).1 = δ at *
  generalize (leftcheats.getD k (0, [])).2 = cut at *
  have hhi := valOf_lt ds hd
  have hnd : 1 ≤ ds.length := List.length_pos_iff.mpr hne
  generalize hN : valOf 10 ds = N at *
  generalize hn : ds.length = nd at *
  have h25 : 2 ^ k * 5 ^ k = 10 ^ k := by rw [← Nat.mul_pow]
  have hlex := prefixIsLessThan_iff cut ds hd f5 f6
  rw [f3, hN, hn] at hlex
  generalize hm : cut.length = m at *
  have hmk : m + δ = k + 1 := f4
  -- times 2^k · 10^m, the comparison with the cutoff is that of N·2^k with 10^(nd+δ-1)
  have hcmp : prefixIsLessThan ds cut = true ↔ N * 2 ^ k < 10 ^ (nd + δ - 1) := by
    have eA : N * 10 ^ m * 2 ^ k = N * 2 ^ k * 10 ^ m := by ring
    have eB : 5 ^ k * 10 ^ nd * 2 ^ k = 10 ^ (nd + δ - 1) * 10 ^ m := by
      rw [← Nat.pow_add, show nd + δ - 1 + m = k + nd by omega, Nat.pow_add, ← h25]; ring
    rw [hlex, ← Nat.mul_lt_mul_right (a := 2 ^ k) (Nat.pow_pos (by decide)), eA, eB,
      Nat.mul_lt_mul_right (Nat.pow_pos (by decide))]
  by_cases hp : prefixIsLessThan ds cut = true
  · rw [if_pos hp]
    refine ⟨?_, by rw [show nd + (δ - 1) = nd + δ - 1 by omega]; exact hcmp.mp hp⟩
    calc 10 ^ (nd + (δ - 1) - 1) = 10 ^ (nd - 1) * 10 ^ (δ - 1) := by rw [← Nat.pow_add]; congr 1; omega
      _ ≤ N * 2 ^ k := Nat.mul_le_mul hlo f1
  · rw [if_neg hp]
    refine ⟨Nat.le_of_not_lt (mt hcmp.mpr hp), ?_⟩
    calc N * 2 ^ k < 10 ^ nd * 10 ^ δ := Nat.mul_lt_mul'' hhi f2
      _ = 10 ^ (nd + δ) := by rw [Nat.pow_add]

/-- one step of both loops of `leftShift`, on the number `out + carry·10^|out|`: the last digit of the carry
is put down in front of `out` -/
theorem mul_put (n : Nat) (out : Bytes) (ho : out.all isDec = true) :
    n - 10 * (n / 10) = n % 10 ∧ (UInt8.ofNat (n % 10 + 48) :: out).all isDec = true ∧
    valOf 10 (UInt8.ofNat (n % 10 + 48) :: out) + n / 10 * 10 ^ (UInt8.ofNat (n % 10 + 48) :: out).length =
      valOf 10 out + n * 10 ^ out.length := by
  have h1 := Nat.div_add_mod n 10
  obtain ⟨o1, o2⟩ := outDigit (n % 10) (Nat.mod_lt n (by decide))
  refine ⟨by omega, by rw [List.all_cons, o1, ho]; rfl, ?_⟩
  rw [valOf_cons, o2, List.length_cons, Nat.pow_succ]
  calc _ = valOf 10 out + (10 * (n / 10) + n % 10) * 10 ^ out.length := by ring
    _ = _ := by rw [h1]

theorem lsMain_spec (k : Nat) : ∀ (rds : Bytes) (n : Nat) (out : Bytes), rds.all isDec = true → out.all isDec = true →
    valOf 10 (lsMain k rds n out).2 + (lsMain k rds n out).1 * 10 ^ (lsMain k rds n out).2.length =
      valOf 10 out + (n + valOf 10 rds.reverse * 2 ^ k) * 10 ^ out.length ∧
    (lsMain k rds n out).2.length = out.length + rds.length ∧ (lsMain k rds n out).2.all isDec = true ∧
    (n < 2 ^ k → (lsMain k rds n out).1 < 2 ^ k) := by
  intro rds
  induction rds with
  | nil =>
    intro n out _ ho
    have v0 : valOf 10 ([] : Bytes) = 0 := rfl
    simp only [lsMain, List.reverse_nil, v0, Nat.zero_mul, Nat.add_zero, List.length_nil]
    exact ⟨trivial, trivial, ho, fun h => h⟩
  | cons c cs ih =>
    intro n out hd ho
    rw [List.all_cons, Bool.and_eq_true] at hd
    have h9 := digVal_le9 hd.1
    unfold lsMain
    simp only [digit_toNat c hd.1, Nat.shiftLeft_eq]
    obtain ⟨s2, ho', e⟩ := mul_put (n + digVal c * 2 ^ k) out ho
    rw [s2]
    obtain ⟨a1, a2, a3, a4⟩ := ih ((n + digVal c * 2 ^ k) / 10) _ hd.2 ho'
    refine ⟨?_, by rw [a2]; simp only [List.length_cons]; omega, a3, fun hn => a4 ?_⟩
    · rw [a1, Nat.add_mul, ← Nat.add_assoc, e, List.length_cons, List.reverse_cons, valOf_push, Nat.pow_succ]; ring
    · have hp : 0 < 2 ^ k := Nat.pow_pos (by decide)
      have : n + digVal c * 2 ^ k < 10 * 2 ^ k := by
        have := Nat.mul_le_mul_right (2 ^ k) h9
        omega
      omega

theorem lsTail_spec : ∀ (fuel n : Nat) (out : Bytes), n < 10 ^ fuel → out.all isDec = true →
    valOf 10 (lsTail fuel n out) = valOf 10 out + n * 10 ^ out.length ∧ (lsTail fuel n out).all isDec = true ∧
    out.length ≤ (lsTail fuel n out).length ∧
    ((n = 0 → 10 ^ (out.length - 1) ≤ valOf 10 out) →
      10 ^ ((lsTail fuel n out).length - 1) ≤ valOf 10 (lsTail fuel n out)) := by
  intro fuel
  induction fuel with
  | zero =>
    intro n out hn ho
    have : n = 0 := by simpa using hn
    subst this
    exact ⟨by simp [lsTail], by simpa [lsTail] using ho, by simp [lsTail], fun h => h rfl⟩
  | succ fuel ih =>
    intro n out hn ho
    unfold lsTail
    by_cases hpos : n > 0
    · rw [if_pos hpos]
      obtain ⟨s2, ho', e⟩ := mul_put n out ho
      simp only [s2]
      have hq : n / 10 < 10 ^ fuel := by
        rw [Nat.pow_succ] at hn
        exact (Nat.div_lt_iff_lt_mul (by decide)).mpr hn
      obtain ⟨a1, a2, a3, a4⟩ := ih (n / 10) _ hq ho'
      refine ⟨by rw [a1, e], a2, by rw [List.length_cons] at a3; omega, fun _ => a4 fun hq0 => ?_⟩
      -- the last digit put down is the leading one, and not 0
      rw [hq0, Nat.zero_mul, Nat.add_zero] at e
      rw [e, List.length_cons, Nat.add_sub_cancel]
      exact Nat.le_trans (Nat.le_mul_of_pos_left _ hpos) (Nat.le_add_left _ _)
    · rw [if_neg hpos]
      have : n = 0 := by omega
      subst this
      exact ⟨by simp, ho, Nat.le_refl _, fun h => h rfl⟩

end C03
