/-
C02 helper lemmas: `splitField` on bytes. What the reader's proofs use of `Fmt.decodeRune`, which is
`Utf8.decodeRune` (`Shared.fmt_decodeRune_eq`); the ASCII fast paths of `splitField` are its rune path; the
loops consume their input, so the fuel of `fields` is never exhausted; `List.span`, by which a unit-line field
is cut at `=`, is `takeWhile` and `dropWhile`.
-/
import Model.Fmt.Reader
import Proofs.Lemmas.Shared.Utf8Copies
import Proofs.Lemmas.Shared.List

namespace Fmt

theorem decodeRune_ascii (c : UInt8) (rest : Bytes) (h : c < 0x80) :
    decodeRune (c :: rest) = (c.toNat, 1) :=
  if_pos h

theorem isCont_ascii {d : UInt8} (h : d < 0x80) : isCont d = false := by
  have : ¬ 0x80 ≤ d := UInt8.not_le.2 h
  simp [isCont, this]

theorem decodeRune_width_pos (c : UInt8) (rest : Bytes) : 1 ≤ (decodeRune (c :: rest)).2 := by
  rw [Shared.fmt_decodeRune_eq]
  exact (Shared.decodeRune_width c rest).1

theorem decodeRune_nonascii (c : UInt8) (rest : Bytes) (h : ¬ c < 0x80) :
    0x80 ≤ (decodeRune (c :: rest)).1 := by
  rw [Shared.fmt_decodeRune_eq]
  exact Shared.decodeRune_hi c rest (Nat.le_of_not_lt (mt (UInt8.lt_iff_toNat_lt (b := 0x80)).mpr h))

theorem decodeRune_tail (c : UInt8) (rest : Bytes) :
    ∀ b ∈ rest.take ((decodeRune (c :: rest)).2 - 1), isCont b = true := by
  rw [Shared.fmt_decodeRune_eq]
  exact fun b hb => (Shared.fmt_isCont b).2 ((Shared.not_nonCont_iff b).1 (Shared.decodeRune_tail c rest b hb))

theorem mask_spec : ∀ n, n < 128 →
    ((asciiSpaceMask >>> n) &&& 1 != 0) = (n == 9 || n == 10 || n == 11 || n == 12 || n == 13 || n == 32) := by
  decide

theorem asciiSpace_eq (uc : UC) (c : UInt8) (h : c < 0x80) : asciiSpace c = uc.space c.toNat := by
  have hn : c.toNat < 128 := by
    have := UInt8.lt_iff_toNat_lt.mp h; simpa using this
  unfold asciiSpace UC.space
  rw [mask_spec _ hn]
  simp [hn]

/-- The ASCII fast paths of `splitField` are the rune path: on a byte below `0x80` the bit mask
is `unicode.IsSpace` and the decode is that byte, one wide. -/
theorem takeField_zero (uc : UC) (c : UInt8) (rest : Bytes) :
    takeField uc 0 (c :: rest) =
      if uc.space (decodeRune (c :: rest)).1 then ([], rest.drop ((decodeRune (c :: rest)).2 - 1))
      else (c :: (takeField uc ((decodeRune (c :: rest)).2 - 1) rest).1,
            (takeField uc ((decodeRune (c :: rest)).2 - 1) rest).2) := by
  conv => lhs; unfold takeField
  split
  · rename_i hc
    rw [asciiSpace_eq uc c hc, decodeRune_ascii c rest hc]
    rfl
  · rfl

theorem skipSpaces_zero (uc : UC) (c : UInt8) (rest : Bytes) :
    skipSpaces uc 0 (c :: rest) =
      if uc.space (decodeRune (c :: rest)).1 then skipSpaces uc ((decodeRune (c :: rest)).2 - 1) rest
      else c :: rest := by
  conv => lhs; unfold skipSpaces
  split
  · rename_i hc
    rw [asciiSpace_eq uc c hc, decodeRune_ascii c rest hc]
    rfl
  · rfl

theorem skipSpaces_length (uc : UC) (x : Bytes) : ∀ k, (skipSpaces uc k x).length ≤ x.length := by
  induction x with
  | nil => intro k; simp [skipSpaces]
  | cons c rest ih =>
    intro k
    cases k with
    | succ k => simp only [skipSpaces, List.length_cons]; have := ih k; omega
    | zero =>
      rw [skipSpaces_zero]
      split
      · have := ih ((decodeRune (c :: rest)).2 - 1); simp only [List.length_cons]; omega
      · exact Nat.le_refl _

theorem takeField_length (uc : UC) (x : Bytes) :
    ∀ k, (takeField uc k x).1.length + (takeField uc k x).2.length ≤ x.length := by
  induction x with
  | nil => intro k; simp [takeField]
  | cons c rest ih =>
    intro k
    cases k with
    | succ k => simp only [takeField, List.length_cons]; have := ih k; omega
    | zero =>
      rw [takeField_zero]
      split
      · simp only [List.length_nil, List.length_drop, List.length_cons]; omega
      · have := ih ((decodeRune (c :: rest)).2 - 1); simp only [List.length_cons]; omega

theorem splitField_length (uc : UC) (x : Bytes) :
    (splitField uc x).1.length + (splitField uc x).2.length ≤ x.length := by
  unfold splitField
  have h1 := takeField_length uc x 0
  have h2 := skipSpaces_length uc (takeField uc 0 x).2 0
  simp only; omega

theorem fieldsN_fuel (uc : UC) : ∀ (n m : Nat) (x : Bytes), x.length < n → x.length < m →
    fieldsN uc n x = fieldsN uc m x := by
  intro n
  induction n with
  | zero => intro m x h; omega
  | succ n ih =>
    intro m x hn hm
    cases m with
    | zero => omega
    | succ m =>
      simp only [fieldsN]
      have hl := splitField_length uc x
      cases hf : (splitField uc x).1 with
      | nil => simp
      | cons c f =>
        simp only [List.isEmpty_cons, Bool.false_eq_true, ↓reduceIte]
        rw [hf] at hl
        simp only [List.length_cons] at hl
        rw [ih m (splitField uc x).2 (by omega) (by omega)]

theorem span_spec (p : UInt8 → Bool) (l : Bytes) :
    l = (l.span p).1 ++ (l.span p).2 ∧ (∀ x ∈ (l.span p).1, p x = true) ∧
      ∀ c, (l.span p).2.head? = some c → p c = false := by
  rw [Shared.span_eq]
  refine ⟨List.takeWhile_append_dropWhile.symm, List.all_eq_true.1 List.all_takeWhile, fun c hc => ?_⟩
  have := List.head?_dropWhile_not p l
  rw [hc] at this
  exact this

end Fmt
