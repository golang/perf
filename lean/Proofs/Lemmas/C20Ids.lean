/-
C20 helper lemmas: id allocation (`db.NewUpload`). The last row is a maximum, the new key is fresh, of the
request's day, and numbered after every row of its day when the rows of a day are numbered 1..n (`Contig`).
-/
import Model.Storage.Upload

namespace C20
open Storage.Upload

theorem keyLe_total (a b : UKey) : keyLe a b = true ∨ keyLe b a = true := by
  simp only [keyLe, Bool.or_eq_true, Bool.and_eq_true, decide_eq_true_eq, beq_iff_eq]
  omega

theorem keyLe_trans {a b c : UKey} (h1 : keyLe a b = true) (h2 : keyLe b c = true) : keyLe a c = true := by
  simp only [keyLe, Bool.or_eq_true, Bool.and_eq_true, decide_eq_true_eq, beq_iff_eq] at *
  omega

theorem lastUpload_none {l : List UKey} (h : lastUpload l = none) : l = [] := by
  cases l with
  | nil => rfl
  | cons k ks =>
    rw [lastUpload] at h
    split at h
    · cases h
    · split at h <;> cases h

theorem lastUpload_some {l : List UKey} {m : UKey} (h : lastUpload l = some m) :
    m ∈ l ∧ ∀ k ∈ l, keyLe k m = true := by
  induction l generalizing m with
  | nil => cases h
  | cons k ks ih =>
    have hkk : keyLe k k = true := by simp [keyLe]
    rw [lastUpload] at h
    split at h
    · rename_i hn
      cases h
      cases lastUpload_none hn
      exact ⟨List.mem_cons_self, List.forall_mem_cons.mpr ⟨hkk, nofun⟩⟩
    · rename_i m' hm'
      obtain ⟨hmem, hmax⟩ := ih hm'
      split at h
      · rename_i hle
        cases h
        exact ⟨List.mem_cons_self, List.forall_mem_cons.mpr ⟨hkk, fun k' hk' => keyLe_trans (hmax k' hk') hle⟩⟩
      · rename_i hle
        cases h
        exact ⟨List.mem_cons_of_mem _ hmem, List.forall_mem_cons.mpr ⟨(keyLe_total m k).resolve_left hle, hmax⟩⟩

theorem nextKey_cases (day : Nat) (last : Option UKey) :
    nextKey day last = ⟨day, 1⟩ ∨ ∃ l, last = some l ∧ l.day = day ∧ nextKey day last = ⟨day, l.seq + 1⟩ := by
  unfold nextKey
  split
  · exact Or.inl rfl
  · split
    · exact Or.inr ⟨_, rfl, ‹_›, rfl⟩
    · exact Or.inl rfl

theorem allocId_eq_some {day : Nat} {rows : List UKey} {k : UKey} :
    allocId day rows = some k ↔ k = nextKey day (lastUpload rows) ∧ k ∉ rows := by
  unfold allocId
  dsimp only
  split
  · exact ⟨nofun, fun h => absurd (h.1 ▸ ‹_›) h.2⟩
  · exact ⟨fun h => Option.some.inj h ▸ ⟨rfl, ‹_›⟩, fun h => h.1 ▸ rfl⟩

theorem allocId_fresh {day : Nat} {rows : List UKey} {k : UKey} (h : allocId day rows = some k) : k ∉ rows :=
  (allocId_eq_some.mp h).2

theorem allocId_day {day : Nat} {rows : List UKey} {k : UKey} (h : allocId day rows = some k) : k.day = day := by
  rw [(allocId_eq_some.mp h).1]
  rcases nextKey_cases day (lastUpload rows) with e | ⟨_, _, _, e⟩ <;> rw [e]

/-- rows of one day are numbered 1..n without gaps -/
def Contig (rows : List UKey) : Prop :=
  ∀ k ∈ rows, 1 ≤ k.seq ∧ ∀ m, 1 ≤ m → m ≤ k.seq → (⟨k.day, m⟩ : UKey) ∈ rows

theorem allocId_gt {day : Nat} {rows : List UKey} {k : UKey} (hc : Contig rows) (h : allocId day rows = some k) :
    1 ≤ k.seq ∧ (∀ k' ∈ rows, k'.day = k.day → k'.seq < k.seq) ∧
      ∀ m, 1 ≤ m → m < k.seq → (⟨k.day, m⟩ : UKey) ∈ rows := by
  obtain ⟨rfl, hfresh⟩ := allocId_eq_some.mp h
  rcases nextKey_cases day (lastUpload rows) with e | ⟨l, hl, hd, e⟩ <;> rw [e] at hfresh ⊢
  · -- no row of that day: one would bring `day.1` with it
    refine ⟨Nat.le_refl 1, fun k' hk' hday => absurd ?_ hfresh, fun m h1 h2 => absurd h2 (Nat.not_lt.mpr h1)⟩
    have := (hc k' hk').2 1 (Nat.le_refl 1) (hc k' hk').1
    rwa [show k'.day = day from hday] at this
  · obtain ⟨hmem, hmax⟩ := lastUpload_some hl
    refine ⟨Nat.le_add_left 1 _, fun k' hk' hday => ?_, fun m h1 h2 => hd ▸ (hc l hmem).2 m h1 (Nat.le_of_lt_succ h2)⟩
    have := hmax k' hk'
    simp only [keyLe, Bool.or_eq_true, Bool.and_eq_true, decide_eq_true_eq, beq_iff_eq] at this
    dsimp only at hday ⊢
    omega

theorem allocId_contig {day : Nat} {rows : List UKey} {k : UKey} (hc : Contig rows)
    (h : allocId day rows = some k) : Contig (rows ++ [k]) := by
  obtain ⟨h1, _, hbelow⟩ := allocId_gt hc h
  intro k' hk'
  rcases List.mem_append.mp hk' with hk' | hk'
  · exact ⟨(hc k' hk').1, fun m h1 h2 => List.mem_append_left _ ((hc k' hk').2 m h1 h2)⟩
  · obtain rfl := List.mem_singleton.mp hk'
    refine ⟨h1, fun m h1 h2 => ?_⟩
    rcases Nat.lt_or_eq_of_le h2 with hlt | rfl
    · exact List.mem_append_left _ (hbelow m h1 hlt)
    · exact List.mem_append_right _ (List.mem_singleton.mpr rfl)

end C20
