/-
C16 — `toCsv` as a whole (records, warning lines, row count) in one equation: the record of a row is
`csvWrite` of its cells' strings, the warnings stream one `warnLine` per (field, row, message) triple of
the present cells (`cellPairs` … `sumsPairs`).
-/
import Proofs.Lemmas.C16RenderCsv

namespace C16
open Tab.TextTab Tab.Render

/-- (field index of the cell in its record, CSV row number, message) for one present cell: the
centre's warnings refer to field `csvStartCol exp`, the comparison's to `csvStartCol exp + 2` -/
def cellPairs (rowNo exp : Nat) (c : DataCell) : List (Nat × Nat × Bytes) :=
  c.warns.map (fun m => (csvStartCol exp, rowNo, m)) ++
  match (if exp > 0 then c.delta else none) with
    | some d => d.warns.map (fun m => (csvStartCol exp + 2, rowNo, m))
    | none => []

def colsPairs (rowNo : Nat) : Nat → List (Option DataCell) → List (Nat × Nat × Bytes)
  | _, [] => []
  | exp, none :: rest => colsPairs rowNo (exp + 1) rest
  | exp, some c :: rest => cellPairs rowNo exp c ++ colsPairs rowNo (exp + 1) rest

def rowsPairs : Nat → List (Bytes × List (Option DataCell)) → List (Nat × Nat × Bytes)
  | _, [] => []
  | n, r :: rest => colsPairs n 0 r.2 ++ rowsPairs (n + 1) rest

def sumsPairs (rowNo : Nat) : Nat → List (Option SumCell) → List (Nat × Nat × Bytes)
  | _, [] => []
  | exp, none :: rest => sumsPairs rowNo (exp + 1) rest
  | exp, some s :: rest => s.warns.map (fun m => (csvStartCol exp, rowNo, m)) ++ sumsPairs rowNo (exp + 1) rest

theorem csvWarn_eq (a b : Nat) (msgs : List Bytes) :
    csvWarn a b msgs = (msgs.map fun m => (a, b, m)).map warnLine := by
  simp [csvWarn, List.map_map, Function.comp_def]

theorem csvDataCols_some (n : Nat) (row w : List Bytes) (e : Nat) (c : DataCell) (rest : List (Option DataCell))
    (h : row.length ≤ csvStartCol e) :
    csvDataCols n row w e (some c :: rest) =
      csvDataCols n (clearTo row (csvStartCol e) ++ csvStrings e c) (w ++ (cellPairs n e c).map warnLine)
        (e + 1) rest := by
  have hl := clearTo_length row (csvStartCol e) h
  unfold csvStrings cellPairs
  simp only [csvDataCols, csvWarn_eq, List.length_append, hl]
  cases (if e > 0 then c.delta else none) <;> simp

theorem csvDataCols_eq (n : Nat) : ∀ (cells : List (Option DataCell)) (row w : List Bytes) (e : Nat),
    row.length ≤ csvStartCol e →
    csvDataCols n row w e cells = (csvWrite csvStrings row e cells, w ++ (colsPairs n e cells).map warnLine) := by
  intro cells
  induction cells with
  | nil => intro row w e _; simp [csvDataCols, csvWrite, colsPairs]
  | cons oc rest ih =>
    intro row w e h
    cases oc with
    | none => exact ih row w (e + 1) (Nat.le_trans h (csvStartCol_mono (Nat.le_succ _)))
    | some c =>
      have hl : (clearTo row (csvStartCol e) ++ csvStrings e c).length ≤ csvStartCol (e + 1) := by
        have := csvStrings_length e c
        rw [List.length_append, clearTo_length row _ h, csvStartCol_succ]
        omega
      rw [csvDataCols_some n row w e c rest h, ih _ _ _ hl]
      simp [csvWrite, colsPairs]

theorem sum_fields (row : List Bytes) (s : SumCell) (e col : Nat) (hl : row.length = col) :
    (if e > 0 then
        clearTo (if s.hasSummary then row ++ [s.sumCsv] else row) (col + 2) ++ [if s.hasRatio then s.ratio else [0x3F]]
      else if s.hasSummary then row ++ [s.sumCsv] else row) = row ++ sumTail e s := by
  unfold sumTail ratioStr clearTo
  by_cases he : e > 0 <;> cases s.hasSummary <;> simp [he, hl, List.replicate_succ]

theorem csvSumCols_some (n : Nat) (row w : List Bytes) (e : Nat) (s : SumCell) (rest : List (Option SumCell))
    (h : row.length ≤ csvStartCol e) :
    csvSumCols n row w e (some s :: rest) =
      csvSumCols n (clearTo row (csvStartCol e) ++ sumTail e s)
        (w ++ (s.warns.map fun m => (csvStartCol e, n, m)).map warnLine) (e + 1) rest := by
  have hl := clearTo_length row (csvStartCol e) h
  simp only [csvSumCols, csvWarn_eq, hl]
  rw [sum_fields _ s e _ hl]

theorem csvSumCols_eq (n : Nat) : ∀ (sums : List (Option SumCell)) (row w : List Bytes) (e : Nat),
    row.length ≤ csvStartCol e →
    csvSumCols n row w e sums = (csvWrite sumTail row e sums, w ++ (sumsPairs n e sums).map warnLine) := by
  intro sums
  induction sums with
  | nil => intro row w e _; simp [csvSumCols, csvWrite, sumsPairs]
  | cons oc rest ih =>
    intro row w e h
    cases oc with
    | none => exact ih row w (e + 1) (Nat.le_trans h (csvStartCol_mono (Nat.le_succ _)))
    | some s =>
      have hl : (clearTo row (csvStartCol e) ++ sumTail e s).length ≤ csvStartCol (e + 1) := by
        have := sumTail_length e s
        rw [List.length_append, clearTo_length row _ h, csvStartCol_succ]
        omega
      rw [csvSumCols_some n row w e s rest h, ih _ _ _ hl]
      simp [csvWrite, sumsPairs]

def csvRowRec (r : Bytes × List (Option DataCell)) : List Bytes := csvWrite csvStrings [r.1] 0 r.2

theorem emit_fold (g : Nat → List Bytes) : ∀ (l : List Nat) (st : CsvSt),
    l.foldl (fun st k => st.emit (g k)) st =
      { recs := st.recs ++ l.map g, warn := st.warn, rowCount := st.rowCount + l.length } := by
  intro l
  induction l with
  | nil => intro st; simp
  | cons k rest ih => intro st; rw [List.foldl_cons, ih]; simp [CsvSt.emit, Nat.add_assoc, Nat.add_comm 1]

theorem rows_fold (startRow : Nat) : ∀ (rows : List (Bytes × List (Option DataCell))) (st : CsvSt),
    rows.foldl (fun (st : CsvSt) r =>
      let (row, w) := csvDataCols (startRow + st.rowCount) [r.1] [] 0 r.2
      { (st.emit row) with warn := st.warn ++ w }) st =
    { recs := st.recs ++ rows.map csvRowRec,
      warn := st.warn ++ (rowsPairs (startRow + st.rowCount) rows).map warnLine,
      rowCount := st.rowCount + rows.length } := by
  intro rows
  induction rows with
  | nil => intro st; simp [rowsPairs]
  | cons r rest ih =>
    intro st
    rw [List.foldl_cons, csvDataCols_eq _ r.2 [r.1] [] 0 (Nat.le_refl 1), ih]
    simp [rowsPairs, csvRowRec, CsvSt.emit, Nat.add_assoc, Nat.add_comm 1]

theorem toCsv_eq (v : View) (startRow : Nat) :
    toCsv v startRow =
      { recs := (List.range v.nfields).map (csvHeaderRow v.colKeys) ++ [csvUnitRow v.ncols v.unit] ++
          v.rows.map csvRowRec ++ [csvWrite sumTail [v.summaryLabel] 0 v.summary],
        warn := (rowsPairs (startRow + (v.nfields + 1)) v.rows ++
          sumsPairs (startRow + (v.nfields + 1 + v.rows.length)) 0 v.summary).map warnLine,
        rowCount := v.nfields + 1 + v.rows.length + 1 } := by
  unfold toCsv
  simp only
  rw [emit_fold, rows_fold, csvSumCols_eq _ v.summary [v.summaryLabel] [] 0 (Nat.le_refl 1)]
  simp [CsvSt.emit, Nat.add_assoc]

end C16
