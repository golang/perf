/-
C11, tied Mann–Whitney distribution: the tied branch of the model's CDF/PMF wrappers against the
enumeration of assignments of the canonical pool (the counterpart of C11UntiedCdf).
-/
import Model.Stats.UDist
import Model.Spec.UExact
import Proofs.Lemmas.C11PFormulas
import Proofs.Lemmas.C11TiedRec

namespace C11
open Stats Stats.UStat Stats.UDist

theorem pmfPure_tied (n1 n2 : Nat) (T : List Nat) (hT : UDist.hasTies T = true) (v : Nat)
    (hv : v ≤ 2 * (n1 * n2)) :
    pmfPure n1 n2 T (v : Int)
      = (((A T T.length n1 v : Nat) : Rat) - ((A T T.length n1 ((v : Int) - 1) : Nat) : Rat))
          / ((choose (n1 + n2) n1 : Nat) : Rat) := by
  unfold pmfPure pmfWith
  have h1 : ¬ ((v : Int) < 0 ∨ (v : Int) ≥ 1 + 2 * ((n1 * n2 : Nat) : Int)) := by push_cast; omega
  rw [if_neg h1, if_pos hT]
  push_cast
  rfl

theorem pmf_prefix_sum_tied (n1 n2 : Nat) (T : List Nat) (hT : UDist.hasTies T = true) (u : Nat)
    (hu : u ≤ 2 * (n1 * n2)) :
    ∑ v ∈ Finset.range (u + 1), pmfPure n1 n2 T (v : Int)
      = (((A T T.length n1 u : Nat) : Rat) - ((A T T.length n1 (-1) : Nat) : Rat))
          / ((choose (n1 + n2) n1 : Nat) : Rat) := by
  induction u with
  | zero =>
    rw [Finset.sum_range_one, pmfPure_tied n1 n2 T hT 0 (by omega)]
    simp
  | succ u ih =>
    rw [Finset.sum_range_succ, ih (by omega), pmfPure_tied n1 n2 T hT (u + 1) hu]
    have : ((u + 1 : Nat) : Int) - 1 = (u : Int) := by push_cast; ring
    rw [this]
    ring

theorem nullDistOf_poolOf_length (T : List Nat) (n1 n2 : Nat) (hN : T.sum = n1 + n2) :
    (Spec.UExact.nullDistOf n1 (poolOf T)).length = Nat.choose (n1 + n2) n1 := by
  rw [nullDistOf_length, poolOf_length, hN]

theorem nullDistOf_poolOf_le (T : List Nat) (n1 n2 : Nat) (hN : T.sum = n1 + n2) :
    ∀ d ∈ Spec.UExact.nullDistOf n1 (poolOf T), d ≤ 2 * (n1 * n2) := by
  have := nullDistOf_le n1 (poolOf T)
  rwa [poolOf_length, hN, Nat.add_sub_cancel_left] at this

/-- **the tied CDF wrapper is the distribution function of the enumeration of assignments** -/
theorem tied_cdf_is_cdf (T : List Nat) (hpos : ∀ t ∈ T, 0 < t) (hK : 2 ≤ T.length) (n1 n2 : Nat)
    (hT : UDist.hasTies T = true) (hN : T.sum = n1 + n2) :
    IsCDFOf (cdfPure n1 n2 T) (Spec.UExact.nullDistOf n1 (poolOf T)) := by
  refine isCDFOf_cdfPure n1 n2 T _ (nullDistOf_ne_nil n1 n2 _ ((poolOf_length T).trans hN))
    (nullDistOf_poolOf_le T n1 n2 hN) fun v h0 h1 => ?_
  rw [cdfPure_tied n1 n2 hT h0 h1, tied_recurrence_exact T hpos hK n1 (by omega), groups_count_labelings,
    nullDistOf_poolOf_length T n1 n2 hN, choose_eq]

end C11
