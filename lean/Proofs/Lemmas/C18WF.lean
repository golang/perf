/-
C18: the well-formedness of a result set as propositions over the measurements: `WFp`, which follows from the
specification's Boolean check `Spec.Series.WF` (`WFp_of_WF`); its clause W1 alone is `W1p`.
-/
import Model.Spec.Series

namespace C18
open Series

/-- W1: a numerator hash has one normalised series stamp -/
def W1p (env : Env) (o : Opts) (evs : List Ev) : Prop :=
  ∀ x ∈ evs, ∀ y ∈ evs, x.isNum o = true → y.isNum o = true → x.nh = y.nh → env.norm x.ser = env.norm y.ser

theorem W1p.perm {env : Env} {o : Opts} {evs1 evs2 : List Ev} (h : W1p env o evs1) (hp : evs1.Perm evs2) :
    W1p env o evs2 :=
  fun x hx y hy => h x (hp.mem_iff.mpr hx) y (hp.mem_iff.mpr hy)

/-- the baseline hash of the measurement's trial (`[]` if the trial has no baseline) -/
abbrev bh (o : Opts) (evs : List Ev) (e : Ev) : Bytes := Spec.Series.bhash o evs e.trial

/-- the specification's well-formedness check `Spec.Series.WF` (W1–W5, W3c) as propositions over
the measurements (`WFp_of_WF`) -/
structure WFp (env : Env) (o : Opts) (pol : Policy) (evs : List Ev) : Prop where
  w1 : W1p env o evs
  w2 : ∀ x ∈ evs, ∀ y ∈ evs, x.isDen o = true → y.isDen o = true → x.trial = y.trial → x.dh = y.dh
  w3 : ∀ x ∈ evs, ∀ y ∈ evs, x.isNum o = true → y.isNum o = true → x.tkey = y.tkey →
    normD env x.ser = normD env y.ser →
    x.nh = y.nh ∧ (bh o evs x = bh o evs y ∨ bh o evs x = [] ∨ bh o evs y = [])
  w4 : pol = .replace → ∀ x ∈ evs, ∀ y ∈ evs, x.isNum o = true → y.isNum o = true → x.tkey = y.tkey →
    x.bench = y.bench → normD env x.ser = normD env y.ser → normD env x.exp = normD env y.exp → x.exp = y.exp
  w3c : pol = .combine → ∀ x ∈ evs, x.isNum o = true → bh o evs x ≠ [] →
    ∃ c ∈ evs, c.isNum o = true ∧ c.tkey = x.tkey ∧ normD env c.ser = normD env x.ser ∧
      ∀ d ∈ evs, d.isNum o = true → d.tkey = c.tkey → normD env d.ser = normD env c.ser → d.bench = c.bench →
        bh o evs d ≠ []
  w5 : ∀ x ∈ evs, ∀ y ∈ evs, uString x.tkey = uString y.tkey → x.tkey = y.tkey

theorem allPairs_iff {α} (l : List α) (p : α → α → Bool) :
    Spec.Series.allPairs l p = true ↔ ∀ x ∈ l, ∀ y ∈ l, p x y = true := by
  simp [Spec.Series.allPairs, List.all_eq_true]

theorem mem_numsBh (o : Opts) (evs : List Ev) (p : Ev × Bytes) :
    p ∈ Spec.Series.numsBh o evs ↔ p.1 ∈ evs ∧ p.1.isNum o = true ∧ p.2 = Spec.Series.bhash o evs p.1.trial := by
  unfold Spec.Series.numsBh
  rw [List.mem_map]
  constructor
  · rintro ⟨e, he, rfl⟩
    obtain ⟨h1, h2⟩ := List.mem_filter.mp he
    exact ⟨h1, h2, rfl⟩
  · rintro ⟨h1, h2, h3⟩
    refine ⟨p.1, List.mem_filter.mpr ⟨h1, h2⟩, ?_⟩
    rw [← h3]

theorem WFp_of_WF {env : Env} {o : Opts} {pol : Policy} {evs : List Ev}
    (h : Spec.Series.WF env o pol evs = true) : WFp env o pol evs := by
  unfold Spec.Series.WF at h
  simp only [Bool.and_eq_true] at h
  obtain ⟨⟨⟨⟨⟨h1, h2⟩, h3⟩, h4⟩, h3c⟩, h5⟩ := h
  unfold Spec.Series.W1 at h1
  unfold Spec.Series.W2 at h2
  unfold Spec.Series.W3 at h3
  unfold Spec.Series.W5 at h5
  rw [allPairs_iff] at h1 h2 h3 h5
  have num : ∀ {x}, x ∈ evs → x.isNum o = true → x ∈ evs.filter (·.isNum o) :=
    fun hx nx => List.mem_filter.mpr ⟨hx, nx⟩
  have nb : ∀ {x}, x ∈ evs → x.isNum o = true → (x, bh o evs x) ∈ Spec.Series.numsBh o evs :=
    fun hx nx => (mem_numsBh o evs _).mpr ⟨hx, nx, rfl⟩
  refine ⟨?_, ?_, ?_, ?_, ?_, ?_⟩
  · intro x hx y hy nx ny e
    simpa [e] using h1 x (num hx nx) y (num hy ny)
  · intro x hx y hy nx ny e
    simpa [e] using h2 x (List.mem_filter.mpr ⟨hx, nx⟩) y (List.mem_filter.mpr ⟨hy, ny⟩)
  · intro x hx y hy nx ny e1 e2
    have := h3 _ (nb hx nx) _ (nb hy ny)
    simp only [e1, e2, ne_eq, not_true_eq_false, decide_false, Bool.false_or, Bool.and_eq_true,
      decide_eq_true_eq, Bool.or_eq_true] at this
    exact ⟨this.1, or_assoc.mp this.2⟩
  · intro hpol x hx y hy nx ny e1 e2 e3 e4
    subst hpol
    simp only [ne_eq, not_true_eq_false, decide_false, Bool.false_or, Spec.Series.W4, allPairs_iff] at h4
    simpa [e1, e2, e3, e4] using h4 x (num hx nx) y (num hy ny)
  · intro hpol x hx nx hb
    subst hpol
    simp only [ne_eq, not_true_eq_false, decide_false, Bool.false_or, Spec.Series.W3c, List.all_eq_true,
      List.any_eq_true, Bool.or_eq_true, Bool.and_eq_true, decide_eq_true_eq] at h3c
    rcases h3c _ (nb hx nx) with h | ⟨c, hcm, ⟨⟨e1, e2⟩, hall⟩⟩
    · exact absurd h hb
    · obtain ⟨hc, nc, -⟩ := (mem_numsBh o evs c).mp hcm
      refine ⟨c.1, hc, nc, e1, e2, ?_⟩
      intro d hd nd e3 e4 e5
      simpa [e3, e4, e5] using hall _ (nb hd nd)
  · intro x hx y hy e
    simpa [e] using h5 x hx y hy

end C18
