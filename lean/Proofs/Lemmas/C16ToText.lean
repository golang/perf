/-
C16 — the unit (column labels) row of ToText, shrink marks, and the whole call sequence.
-/
import Proofs.Lemmas.C16HeaderOps

namespace C16
open Tab.TextTab Tab.Render Tab.KeyHeader

theorem growShrink_getD (l : List Bool) (n j : Nat) : (growShrink l n).getD j false = l.getD j false := by
  unfold growShrink
  simp only [List.getD_eq_getElem?_getD, List.getElem?_append, List.getElem?_replicate]
  split
  · rfl
  · rename_i h
    rw [List.getElem?_eq_none (by omega)]
    split <;> rfl

theorem growShrink_length (l : List Bool) (n : Nat) : n ≤ (growShrink l n).length := by
  unfold growShrink; simp; omega

theorem isShrink_setShrink (t : Table) (c : Nat) (b : Bool) (j : Nat) :
    (t.setShrink c b).isShrink j = if j = c then b else t.isShrink j := by
  unfold Table.setShrink Table.isShrink
  simp only
  have hlen := growShrink_length t.shrink (c + 1)
  rw [List.getD_eq_getElem?_getD, List.getElem?_set]
  by_cases hj : j = c
  · subst hj
    have : j < (growShrink t.shrink (j + 1)).length := by omega
    simp [this]
  · have : ¬ c = j := fun h => hj h.symm
    simp only [this, if_false, hj]
    rw [← List.getD_eq_getElem?_getD, growShrink_getD]

theorem run_setShrinks (a : Nat) : ∀ (n : Nat) (t : Table),
    ∃ t', Adds t ((List.range n).map fun k => Op.setShrink (a + k) true) [] t' ∧ t'.curCol = t.curCol ∧
      ∀ j, t'.isShrink j = if a ≤ j ∧ j < a + n then true else t.isShrink j := by
  intro n
  induction n with
  | zero =>
    intro t
    refine ⟨t, Adds.nil t, rfl, fun j => ?_⟩
    have : ¬ (a ≤ j ∧ j < a + 0) := by omega
    rw [if_neg this]
  | succ n ih =>
    intro t
    obtain ⟨t1, h, h4, h5⟩ := ih t
    refine ⟨t1.setShrink (a + n) true, ?_, h4, fun j => ?_⟩
    · rw [List.range_succ, List.map_append]
      exact h.append ⟨rfl, (List.append_nil _).symm, rfl⟩
    · rw [isShrink_setShrink, h5]
      by_cases hj : j = a + n
      · rw [if_pos hj, if_pos (by omega)]
      · rw [if_neg hj]
        by_cases h : a ≤ j ∧ j < a + n
        · rw [if_pos h, if_pos (by omega)]
        · rw [if_neg h, if_neg (by omega)]

def unitCell (r i : Nat) (unit : Bytes) : Cell :=
  { row := r, col := textStartCol i, span := 3, value := unit, margin := barMargin, align := .center }

def vsCell (r i : Nat) : Cell :=
  { row := r, col := textStartCol i + 3, span := 3, value := vsBase, margin := [0x20, 0x20], align := .left }

def unitCellsOf (r : Nat) (unit : Bytes) (i : Nat) : List Cell :=
  unitCell r i unit :: (if i > 0 then [vsCell r i] else [])

/-- the calls of the unit row for logical column `i` -/
def unitBlock (unit : Bytes) (i : Nat) : List Op :=
  [Op.col (textStartCol i), Op.span 3 unit [.center, .margin barMargin]] ++
  (if i > 0 then [Op.span 3 vsBase [.left, .margin [0x20, 0x20]]] else []) ++
  shrinkOps (textStartCol i + 1) (if i > 0 then textStartCol i + 6 else textStartCol i + 3)

theorem unitRowOps_eq (rEdge ncols : Nat) (unit : Bytes) :
    unitRowOps rEdge ncols unit =
      Op.row :: ((List.range ncols).flatMap (unitBlock unit) ++ [Op.col rEdge, Op.span 1 [] [.margin edgeMargin]]) := by
  have h : unitRowOps rEdge ncols unit =
      [Op.row] ++ (List.range ncols).flatMap (unitBlock unit) ++ [Op.col rEdge, Op.span 1 [] [.margin edgeMargin]] := rfl
  rw [h]; simp

theorem unit_block (unit : Bytes) (i : Nat) (t : Table) (h : t.curCol ≤ textStartCol i) :
    ∃ t', Adds t (unitBlock unit i) (unitCellsOf t.curRow unit i) t' ∧ t'.curCol = textStartCol (i + 1) ∧
      ∀ j, t'.isShrink j = if textStartCol i + 1 ≤ j ∧ j < textStartCol (i + 1) then true else t.isShrink j := by
  have hsucc := textStartCol_succ i
  have a := Adds.col_span h 3 unit [.center, .margin barMargin]
  unfold unitBlock shrinkOps unitCellsOf
  by_cases hi : i > 0
  · rw [textGroupWidth_pos hi] at hsucc
    rw [if_pos hi, if_pos hi, if_pos hi]
    have b := a.append (Adds.span _ 3 vsBase [.left, .margin [0x20, 0x20]])
    obtain ⟨t3, s, s4, s5⟩ := run_setShrinks (textStartCol i + 1) (textStartCol i + 6 - (textStartCol i + 1)) _
    rw [Nat.add_sub_cancel' (by omega), ← hsucc] at s5
    exact ⟨t3, b.append s, by rw [s4, hsucc]; rfl, s5⟩
  · obtain rfl : i = 0 := by omega
    rw [if_neg hi, if_neg hi, if_neg hi]
    obtain ⟨t3, s, s4, s5⟩ := run_setShrinks (textStartCol 0 + 1) (textStartCol 0 + 3 - (textStartCol 0 + 1)) _
    exact ⟨t3, a.append s, s4, s5⟩

/-- the unit cells of logical columns 0..n-1 -/
def unitCells (r : Nat) (unit : Bytes) (n : Nat) : List Cell := (List.range n).flatMap (unitCellsOf r unit)

/-- is physical column `j` an interior/rightmost column of one of the groups 0..n-1? -/
def InGroupTail (n j : Nat) : Prop := ∃ i, i < n ∧ textStartCol i + 1 ≤ j ∧ j < textStartCol (i + 1)

theorem unit_blocks (unit : Bytes) : ∀ (n : Nat) (t : Table), t.curCol ≤ textStartCol 0 →
    ∃ t', Adds t ((List.range n).flatMap (unitBlock unit)) (unitCells t.curRow unit n) t' ∧
      t'.curCol ≤ textStartCol n ∧
      (∀ j, InGroupTail n j → t'.isShrink j = true) ∧
      (∀ j, ¬ InGroupTail n j → t'.isShrink j = t.isShrink j) := by
  intro n
  induction n with
  | zero =>
    intro t h
    exact ⟨t, Adds.nil t, h, fun j ⟨i, hi, _⟩ => by omega, fun _ _ => rfl⟩
  | succ n ih =>
    intro t h
    obtain ⟨t1, a, a4, a5, a6⟩ := ih t h
    obtain ⟨t2, b, b4, b5⟩ := unit_block unit n t1 a4
    refine ⟨t2, ?_, by rw [b4]; exact Nat.le_refl _, ?_, ?_⟩
    · have := a.append b
      rw [a.row] at this
      simpa [unitCells, List.range_succ, List.flatMap_append] using this
    · intro j ⟨i, hi, h1, h2⟩
      rw [b5 j]
      split
      · rfl
      · apply a5
        have : i ≠ n := by intro hh; subst hh; rename_i hn; exact hn ⟨h1, h2⟩
        exact ⟨i, by omega, h1, h2⟩
    · intro j hj
      rw [b5 j]
      have hn : ¬ (textStartCol n + 1 ≤ j ∧ j < textStartCol (n + 1)) := fun hh => hj ⟨n, by omega, hh.1, hh.2⟩
      rw [if_neg hn]
      apply a6
      intro ⟨i, hi, h1, h2⟩
      exact hj ⟨i, by omega, h1, h2⟩

def rowsPlaced : Nat → List Bytes → List (Bytes × List (Option DataCell)) → List Cell
  | _, _, [] => []
  | r, wl, row :: rest =>
    (mkCell r 0 row.1 [] :: placedRow r wl 0 row.2) ++ rowsPlaced (r + 1) (dataRowOps wl row).1 rest

theorem data_rows_run : ∀ (rows : List (Bytes × List (Option DataCell))) (wl : List Bytes) (t : Table),
    ∃ t', Rows t (dataRowsOps wl rows).2 (rowsPlaced t.row.curRow wl rows) rows.length t' := by
  intro rows
  induction rows with
  | nil => intro wl t; exact ⟨t, Rows.nil t⟩
  | cons row rest ih =>
    intro wl t
    obtain ⟨t1, a⟩ := row_run dataCell_runs wl row.1 row.2 t
    obtain ⟨t2, b⟩ := ih (dataRowOps wl row).1 t1
    rw [a.next] at b
    rw [← dataColsOps_eq] at a
    have ab := a.append b
    rw [Nat.add_comm 1] at ab
    exact ⟨t2, ab⟩

theorem dataRowsOps_fst_snd (wl : List Bytes) (rows : List (Bytes × List (Option DataCell))) :
    dataRowsOps wl rows = ((dataRowsOps wl rows).1, (dataRowsOps wl rows).2) := rfl

theorem toTextOps_fst (v : View) :
    (toTextOps v).1 =
      headerOps (textStartCol (v.ncols + 1)) (v.nfields + 1) (newKeyHeader v.colKeys v.nfields) ++
      unitRowOps (textStartCol (v.ncols + 1)) v.ncols v.unit ++
      (dataRowsOps [] v.rows).2 ++
      (if v.rows.length > 1 then
        [Op.row, Op.span 1 v.summaryLabel []] ++ (sumColsOps (dataRowsOps [] v.rows).1 0 v.summary).2
       else []) := by
  unfold toTextOps
  simp only
  split <;> simp

/-- all texttab cells of ToText, in the order they are added; `R` = number of header rows -/
def textCells (v : View) : List Cell :=
  let rEdge := textStartCol (v.ncols + 1)
  let top := newKeyHeader v.colKeys v.nfields
  let R := levelCount (v.nfields + 1) top
  hdrCells rEdge (v.nfields + 1) 0 top ++
  (unitCells R v.unit v.ncols ++ [edgeCell R rEdge]) ++
  rowsPlaced (R + 1) [] v.rows ++
  (if v.rows.length > 1 then
    mkCell (R + 1 + v.rows.length) 0 v.summaryLabel [] ::
      sumPlacedRow (R + 1 + v.rows.length) (dataRowsOps [] v.rows).1 0 v.summary
   else [])

end C16
