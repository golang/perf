/-
C19 helper lemmas: what an upload request does to the database, in closed form. An upload in progress
denotes a list of runs (`Rep`): the results read from the files, in order, cut where `InsertRecord`
starts a new record; the rows it has queued are exactly the rows of these runs. `Inv` and `DBStands` (the index
RecordLabels agrees with what a query reads back from Records.Content) are read off that form.
-/
import Model.Storage.Fmt
import Proofs.Lemmas.C19Wf
import Proofs.Lemmas.C19Coalesce
import Proofs.Lemmas.C19ReadBack

namespace C19
open Storage.Query Storage.Fmt

theorem filter_rowsFor_self (id : Bytes) (rid : Nat) (h : Result) :
    (rowsFor id rid h).filter (fun l => l.rid == rid) = rowsFor id rid h := by
  apply List.filter_eq_self.mpr
  intro l hl
  obtain ⟨kv, _, rfl⟩ := List.mem_map.mp hl
  simp

theorem groupContent_snoc (h : Result) (t : List Result) (r : Result) :
    groupContent (h :: (t ++ [r])) = groupContent (h :: t) ++ (r.content ++ [nl]) := by
  simp [groupContent, List.append_assoc]

theorem groupContent_printAll (h : Result) (t : List Result) (hh : GoodLabels h.labels) :
    groupContent (h :: t) = printAll [] (h :: t.map fun r => { r with labels := h.labels }) := by
  have : ∀ t : List Result, (t.flatMap fun r => r.content ++ [nl]) =
      printAll h.labels (t.map fun r => { r with labels := h.labels }) := by
    intro t
    induction t with
    | nil => rfl
    | cons r t ih =>
      rw [List.map_cons, printAll_cons, blockLines_same h.labels hh { r with labels := h.labels } rfl,
        List.flatMap_cons, ih]
      simp [terminated]
  simp only [groupContent, printAll, this t]
  rfl

/-- the content `InsertRecord` stores for a run of results (first one
printed by a fresh Printer, bare lines after it) is decoded by `db.Query`'s fresh Reader into one
result per line, each with the labels of the first result and its own line -/
theorem stored_record_roundtrip (h : Result) (t : List Result) (hh : CleanResult h)
    (ht : ∀ r ∈ t, CleanResult r) :
    (readAll (groupContent (h :: t))).map (fun r => (r.labels, r.content)) =
      (h :: t).map fun r => (h.labels, r.content) := by
  have hc : ∀ r ∈ h :: t.map fun r => { r with labels := h.labels }, CleanResult r := by
    intro r hr
    rcases List.mem_cons.mp hr with rfl | hr
    · exact hh
    · obtain ⟨x, hx, rfl⟩ := List.mem_map.mp hr
      exact ⟨hh.labels, (ht x hx).bench, (ht x hx).noNl, (ht x hx).noCr⟩
  rw [groupContent_printAll h t hh.labels, readAll_printAll _ hc]
  simp [List.map_map, Function.comp_def]

/-- the results the server reads from the files of one upload request all satisfy `P` -/
def UploadP (P : Result → Prop) (id user : Bytes) (files : List FileIn) : Prop :=
  ∀ (i : Nat) (f : FileIn), f ∈ files →
    ∀ r ∈ (Reader.addLabels {} (metaLabels id i user f.name)).all f.content, P r

/-- every record of the database stands for a run; its label rows are the labels of the run's head -/
def DBStands (P : Result → Prop) (db : DB) : Prop :=
  ∀ rec ∈ db.records, ∃ h t, P h ∧ (∀ r ∈ t, P r ∧ h.sameLabels r = true) ∧
    rec.content = groupContent (h :: t) ∧
    db.labels.filter (fun l => l.rkey == rec.rkey) = rowsFor rec.upload rec.rid h

/-- a run: the result that opened the record and the results coalesced into it -/
abbrev Run := Result × List Result

/-- the runs as lists of results, the form in which `runs` gives them and `rowsOf` takes them -/
abbrev lists (gs : List Run) : List (List Result) := gs.map fun g => g.1 :: g.2

/-- label rows of the runs `gs`: those of each run's first result -/
def labsOf (id : Bytes) (k : Nat) (gs : List Run) : List LabelRow :=
  (gs.zipIdx k).flatMap fun p => rowsFor id p.2 p.1.1

def flat (gs : List Run) : List Result := gs.flatMap fun g => g.1 :: g.2

theorem labsOf_cons (id : Bytes) (k : Nat) (g : Run) (gs : List Run) :
    labsOf id k (g :: gs) = rowsFor id k g.1 ++ labsOf id (k + 1) gs := by
  unfold labsOf
  rw [List.zipIdx_cons, List.flatMap_cons]

theorem labsOf_append (id : Bytes) (k : Nat) (a b : List Run) :
    labsOf id k (a ++ b) = labsOf id k a ++ labsOf id (k + a.length) b := by
  unfold labsOf
  rw [List.zipIdx_append, List.flatMap_append]

theorem rowsOf_snoc (id : Bytes) (k : Nat) (gs : List Run) (g : Run) :
    rowsOf id k (lists (gs ++ [g])) =
      rowsOf id k (lists gs) ++ [⟨id, k + gs.length, groupContent (g.1 :: g.2)⟩] := by
  rw [rowsOf_eq, rowsOf_eq, lists, List.map_append, List.zipIdx_append, List.map_append, List.length_map]
  rfl

theorem labsOf_snoc (id : Bytes) (k : Nat) (gs : List Run) (g : Run) :
    labsOf id k (gs ++ [g]) = labsOf id k gs ++ rowsFor id (k + gs.length) g.1 := by
  rw [labsOf_append, labsOf_cons]; exact congrArg _ (List.append_nil _)

theorem flat_snoc (gs : List Run) (g : Run) : flat (gs ++ [g]) = flat gs ++ g.1 :: g.2 := by
  unfold flat
  rw [List.flatMap_append, List.flatMap_cons, List.flatMap_nil, List.append_nil]

theorem mem_flat {gs : List Run} {r : Result} : r ∈ flat gs ↔ ∃ g ∈ gs, r = g.1 ∨ r ∈ g.2 := by
  unfold flat
  simp only [List.mem_flatMap, List.mem_cons]

/-- the rows queued by `u` are those of the runs `gs`; the run `lastResult` refers to is the last -/
structure Rep (gs : List Run) (u : Upload) : Prop where
  records : u.records = rowsOf u.id 0 (lists gs)
  labels : u.labels = labsOf u.id 0 gs
  recordid : u.recordid = gs.length
  same : ∀ g ∈ gs, ∀ r ∈ g.2, g.1.sameLabels r = true
  open_ : ∀ h, u.lastResult = some h → ∃ gs' t, gs = gs' ++ [(h, t)]

theorem rep_init (id : Bytes) : Rep [] { id := id } := ⟨rfl, rfl, rfl, nofun, nofun⟩

theorem Rep.insertNew {gs : List Run} {u : Upload} (h : Rep gs u) (r : Result) :
    Rep (gs ++ [(r, [])]) (u.insertNew r) := by
  refine ⟨?_, ?_, ?_, ?_, fun x hx => ⟨gs, [], ?_⟩⟩
  · rw [insertNew_records, insertNew_id, rowsOf_snoc, h.records, h.recordid, Nat.zero_add]
    exact congrArg (fun c => _ ++ [(⟨u.id, gs.length, c⟩ : RecordRow)]) (List.append_nil _).symm
  · rw [insertNew_labels, insertNew_id, labsOf_snoc, h.labels, h.recordid, Nat.zero_add]
  · rw [insertNew_recordid, List.length_append, h.recordid]
    rfl
  · intro g hg
    rcases List.mem_append.mp hg with hg | hg
    · exact h.same g hg
    · rw [List.mem_singleton.mp hg]; nofun
  · rw [insertNew_eq] at hx
    rw [Option.some.inj (Option.ite_none_left_eq_some.mp hx).2]

theorem Rep.join {gs : List Run} {u : Upload} {last : Result} {t : List Result}
    (h : Rep (gs ++ [(last, t)]) u) (r : Result) (hsame : last.sameLabels r = true) :
    Rep (gs ++ [(last, t ++ [r])]) { u with records := appendToLast u.records (r.content ++ [nl]) } := by
  refine ⟨?_, ?_, ?_, ?_, fun x hx => ?_⟩
  · show appendToLast u.records _ = _
    rw [h.records, rowsOf_snoc, rowsOf_snoc, appendToLast_snoc, groupContent_snoc]
  · show u.labels = _
    rw [h.labels, labsOf_snoc, labsOf_snoc]
  · show u.recordid = _
    rw [h.recordid, List.length_append, List.length_append]
    rfl
  · intro g hg
    rcases List.mem_append.mp hg with hg | hg
    · exact h.same g (List.mem_append_left _ hg)
    · rw [List.mem_singleton.mp hg]
      intro x hx
      rcases List.mem_append.mp hx with hx | hx
      · exact h.same (last, t) (List.mem_append_right _ (List.mem_singleton.mpr rfl)) x hx
      · rw [List.mem_singleton.mp hx]; exact hsame
  · obtain ⟨gs', t', e⟩ := h.open_ x hx
    obtain ⟨rfl, e'⟩ := List.append_inj' e rfl
    cases e'
    exact ⟨gs, _, rfl⟩

theorem Rep.insertRecord {gs : List Run} {u : Upload} (h : Rep gs u) (r : Result) :
    ∃ gs', Rep gs' (u.insertRecord r) ∧ flat gs' = flat gs ++ [r] := by
  rcases insertRecord_cases u r with ⟨last, hlast, hsame, e⟩ | e <;> rw [e]
  · obtain ⟨gs', t, rfl⟩ := h.open_ last hlast
    exact ⟨_, h.join r hsame, by rw [flat_snoc, flat_snoc, List.append_assoc, List.cons_append]⟩
  · exact ⟨_, h.insertNew r, flat_snoc gs (r, [])⟩

theorem Rep.foldl {gs : List Run} {u : Upload} (h : Rep gs u) (rs : List Result) :
    ∃ gs', Rep gs' (rs.foldl Upload.insertRecord u) ∧ flat gs' = flat gs ++ rs := by
  induction rs generalizing gs u with
  | nil => exact ⟨gs, h, (List.append_nil _).symm⟩
  | cons r rs ih =>
    obtain ⟨g1, h1, e1⟩ := h.insertRecord r
    obtain ⟨g2, h2, e2⟩ := ih h1
    exact ⟨g2, h2, by rw [e2, e1, List.append_assoc, List.singleton_append]⟩

theorem mem_rowsOf {id : Bytes} {k : Nat} {gs : List Run} {rec : RecordRow} (h : rec ∈ rowsOf id k (lists gs)) :
    ∃ a g b, gs = a ++ g :: b ∧ rec = ⟨id, k + a.length, groupContent (g.1 :: g.2)⟩ := by
  induction gs generalizing k with
  | nil => cases h
  | cons g gs ih =>
    rcases List.mem_cons.mp h with rfl | h
    · exact ⟨[], g, gs, rfl, rfl⟩
    · obtain ⟨a, g', b, rfl, rfl⟩ := ih h
      exact ⟨g :: a, g', b, rfl, by rw [List.length_cons, Nat.add_assoc k 1, Nat.add_comm 1]⟩

theorem labsOf_rid {id : Bytes} {k : Nat} {gs : List Run} {l : LabelRow} (h : l ∈ labsOf id k gs) :
    l.upload = id ∧ k ≤ l.rid ∧ l.rid < k + gs.length := by
  obtain ⟨p, hp, hl⟩ := List.mem_flatMap.mp h
  obtain ⟨kv, _, rfl⟩ := List.mem_map.mp hl
  exact ⟨rfl, List.le_snd_of_mem_zipIdx hp, List.snd_lt_add_of_mem_zipIdx hp⟩

theorem filter_labsOf (id : Bytes) (k : Nat) (a b : List Run) (g : Run) :
    (labsOf id k (a ++ g :: b)).filter (fun l => l.rid == k + a.length) = rowsFor id (k + a.length) g.1 := by
  have none : ∀ k' gs', (k + a.length < k' ∨ k' + gs'.length ≤ k + a.length) →
      (labsOf id k' gs').filter (fun l => l.rid == k + a.length) = [] := fun k' gs' hk =>
    List.filter_eq_nil_iff.mpr fun l hl e => by have := labsOf_rid hl; have := beq_iff_eq.mp e; omega
  rw [labsOf_append, labsOf_cons, List.filter_append, List.filter_append, filter_rowsFor_self,
    none k a (Or.inr (Nat.le_refl _)), none _ b (Or.inl (Nat.lt_succ_self _)), List.nil_append, List.append_nil]

theorem filter_labsOf_rkey (id : Bytes) (k : Nat) (gs : List Run) (j : Nat) :
    (labsOf id k gs).filter (fun l => l.rkey == (id, j)) = (labsOf id k gs).filter (fun l => l.rid == j) :=
  List.filter_congr fun l hl => by
    rw [LabelRow.rkey, (labsOf_rid hl).1, Bool.eq_iff_iff, beq_iff_eq, beq_iff_eq, Prod.mk.injEq]
    exact and_iff_right rfl

/-- the results the server reads from the files of an upload request, file after file -/
def resultsOf (id user : Bytes) : Nat → List FileIn → List Result
  | _, [] => []
  | i, f :: fs => (Reader.addLabels {} (metaLabels id i user f.name)).all f.content ++ resultsOf id user (i + 1) fs

theorem indexFiles_eq (user : Bytes) (files : List FileIn) (i : Nat) (u u' : Upload)
    (h : indexFiles u user i files = some u') :
    u' = (resultsOf u.id user i files).foldl Upload.insertRecord u := by
  induction files generalizing u i with
  | nil => cases h; rfl
  | cons f fs ih =>
    rw [indexFiles] at h
    cases hf : indexFile u i user f with
    | none => rw [hf] at h; cases h
    | some u1 =>
      rw [hf] at h
      have e : u1 = ((Reader.addLabels {} (metaLabels u.id i user f.name)).all f.content).foldl
          Upload.insertRecord u := by
        unfold indexFile at hf
        by_cases h1 : tooLong f.content = true
        · rw [if_pos h1] at hf; cases hf
        rw [if_neg h1] at hf
        by_cases h2 : ((Reader.addLabels {} (metaLabels u.id i user f.name)).all f.content).isEmpty = true
        · rw [if_pos h2] at hf; cases hf
        rw [if_neg h2] at hf
        exact (Option.some.inj hf).symm
      rw [resultsOf, List.foldl_append, ← e, ih _ _ h, e, foldl_insertRecord_id]

theorem mem_resultsOf {id user : Bytes} {i : Nat} {files : List FileIn} {r : Result}
    (h : r ∈ resultsOf id user i files) :
    ∃ j f, f ∈ files ∧ r ∈ (Reader.addLabels {} (metaLabels id j user f.name)).all f.content := by
  induction files generalizing i with
  | nil => cases h
  | cons f fs ih =>
    rcases List.mem_append.mp h with h | h
    · exact ⟨i, f, List.mem_cons_self, h⟩
    · obtain ⟨j, f', hf, hr⟩ := ih h
      exact ⟨j, f', List.mem_cons_of_mem _ hf, hr⟩

theorem resultsOf_upload {id user : Bytes} {i : Nat} {files : List FileIn} {r : Result}
    (h : r ∈ resultsOf id user i files) : (uploadKey, id) ∈ r.labels := by
  obtain ⟨j, f, -, hr⟩ := mem_resultsOf h
  exact all_upload id _ (metaLabels_upload id j user f.name) f.content r hr

theorem upload_of_rkey_beq {l : LabelRow} {k : RKey} (h : (l.rkey == k) = true) : l.upload = k.1 :=
  congrArg Prod.fst (beq_iff_eq.mp h)

theorem old_labels (db : DB) (h : Inv db) (id : Bytes) (hfresh : id ∉ db.records.map (·.upload)) :
    ∀ l ∈ db.labels, l.upload ≠ id := by
  intro l hl e
  obtain ⟨r, hr, hk⟩ := List.mem_map.mp (h.wf.fk l hl)
  exact hfresh (List.mem_map.mpr ⟨r, hr, (congrArg Prod.fst hk).trans e⟩)

theorem inv_add_runs (db : DB) (h : Inv db) (id : Bytes) (gs : List Run)
    (hup : ∀ r ∈ flat gs, (uploadKey, id) ∈ r.labels)
    (hfresh : id ∉ db.records.map (·.upload)) (hreg : id ∈ db.uploads.map (·.id))
    (hpk : pkClash (labsOf id 0 gs) = false) :
    Inv { db with records := db.records ++ rowsOf id 0 (lists gs), labels := db.labels ++ labsOf id 0 gs } := by
  have oldLab := old_labels db h id hfresh
  have newRec : ∀ r ∈ rowsOf id 0 (lists gs), r.upload = id := fun r hr => by
    obtain ⟨a, g, b, -, rfl⟩ := mem_rowsOf hr; rfl
  refine ⟨⟨?_, ?_, ?_, ?_⟩, h.upNodup, ?_⟩
  · show ((db.records ++ rowsOf id 0 (lists gs)).map RecordRow.rkey).Nodup
    rw [List.map_append]
    refine List.nodup_append.mpr ⟨h.wf.recNodup, ?_, ?_⟩
    · rw [rowsOf_rkey, List.length_map]
      exact (List.nodup_range' (step := 1)).map fun a b e => (Prod.mk.inj e).2
    · intro x hx y hy e
      subst e
      obtain ⟨r, hr, rfl⟩ := List.mem_map.mp hx
      obtain ⟨r', hr', e⟩ := List.mem_map.mp hy
      exact hfresh (List.mem_map.mpr ⟨r, hr, ((Prod.mk.inj e).1 ▸ newRec r' hr' :)⟩)
  · show ((db.labels ++ labsOf id 0 gs).map fun l => (l.upload, l.rid, l.name)).Nodup
    rw [List.map_append]
    refine List.nodup_append.mpr ⟨h.wf.labelPK, ?_, ?_⟩
    · have h1 := pkClash_nodup _ hpk
      rw [show ((labsOf id 0 gs).map fun l => (l.rid, l.name)) =
        ((labsOf id 0 gs).map fun l => (l.upload, l.rid, l.name)).map (fun t => t.2) by
          rw [List.map_map]; rfl] at h1
      exact List.Nodup.of_map _ h1
    · intro x hx y hy e
      subst e
      obtain ⟨l, hl, rfl⟩ := List.mem_map.mp hx
      obtain ⟨m, hm, hme⟩ := List.mem_map.mp hy
      exact oldLab l hl ((Prod.mk.inj hme).1.symm.trans (labsOf_rid hm).1)
  · intro l hl
    show l.rkey ∈ (db.records ++ rowsOf id 0 (lists gs)).map RecordRow.rkey
    rw [List.map_append]
    rcases List.mem_append.mp hl with hl | hl
    · exact List.mem_append_left _ (h.wf.fk l hl)
    · have := labsOf_rid hl
      rw [rowsOf_rkey, List.length_map]
      exact List.mem_append_right _ (List.mem_map.mpr
        ⟨l.rid, List.mem_range'_1.mpr ⟨this.2.1, this.2.2⟩, by rw [LabelRow.rkey, this.1]⟩)
  · intro r hr
    rcases List.mem_append.mp hr with hr | hr
    · exact List.mem_append_left _ (h.wf.uploadLabel r hr)
    · -- the `upload` label is among the label rows of the run's first result
      obtain ⟨a, g, b, e, rfl⟩ := mem_rowsOf hr
      have hg : g.1 ∈ flat gs := mem_flat.mpr ⟨g, e ▸ List.mem_append_right a List.mem_cons_self, Or.inl rfl⟩
      have : (⟨id, 0 + a.length, uploadKey, id⟩ : LabelRow) ∈
          (labsOf id 0 gs).filter (fun l => l.rid == 0 + a.length) := by
        rw [e, filter_labsOf]
        exact List.mem_map.mpr ⟨_, List.mem_append_left _ (hup _ hg), rfl⟩
      exact List.mem_append_right _ (List.mem_filter.mp this).1
  · intro r hr
    rcases List.mem_append.mp hr with hr | hr
    · exact h.recUp r hr
    · rw [newRec r hr]; exact hreg

theorem stands_add_runs (P : Result → Prop) (db : DB) (hinv : Inv db) (hst : DBStands P db) (id : Bytes)
    (gs : List Run) (hall : ∀ r ∈ flat gs, P r) (hsame : ∀ g ∈ gs, ∀ r ∈ g.2, g.1.sameLabels r = true)
    (hfresh : id ∉ db.uploads.map (·.id)) (ups : List UploadRow) :
    DBStands P { uploads := ups, records := db.records ++ rowsOf id 0 (lists gs),
                 labels := db.labels ++ labsOf id 0 gs } := by
  have oldLab := old_labels db hinv id fun hm => by
    obtain ⟨r, hr, he⟩ := List.mem_map.mp hm
    exact hfresh (he ▸ hinv.recUp r hr)
  intro rec hrec
  show ∃ h t, _ ∧ _ ∧ _ ∧ (db.labels ++ labsOf id 0 gs).filter _ = _
  rw [List.filter_append]
  rcases List.mem_append.mp hrec with hrec | hrec
  · -- an old record: none of the new label rows has its upload id
    obtain ⟨h, t, a, b, c, d⟩ := hst rec hrec
    refine ⟨h, t, a, b, c, ?_⟩
    rw [d, List.filter_eq_nil_iff.mpr, List.append_nil]
    intro l hl hk
    exact hfresh ((labsOf_rid hl).1 ▸ upload_of_rkey_beq hk ▸ hinv.recUp rec hrec)
  · -- a new record: the rows of its run, by `filter_labsOf`
    obtain ⟨a, g, b, e, rfl⟩ := mem_rowsOf hrec
    have hg : g ∈ gs := e ▸ List.mem_append_right a List.mem_cons_self
    refine ⟨g.1, g.2, hall _ (mem_flat.mpr ⟨g, hg, Or.inl rfl⟩),
      fun r hr => ⟨hall r (mem_flat.mpr ⟨g, hg, Or.inr hr⟩), hsame g hg r hr⟩, rfl, ?_⟩
    rw [List.filter_eq_nil_iff.mpr, List.nil_append]
    · exact (filter_labsOf_rkey id 0 gs _).trans (e ▸ filter_labsOf id 0 a b g)
    · exact fun l hl hk => oldLab l hl (upload_of_rkey_beq hk)

/-- the id `NewUpload` gives out -/
abbrev newId (db : DB) (day : Bytes) : Bytes := day ++ [46] ++ natToDec (nextSeq db day)

/-- **an upload request in closed form**: nothing changes (the id is taken); only the Uploads row is added;
or the results read from the files are cut into runs (in order, nothing lost) and the rows of the
runs are added -/
theorem processUpload_runs (db : DB) (day user : Bytes) (files : List FileIn) :
    (processUpload db day user files).1 = db ∨
    newId db day ∉ db.uploads.map (·.id) ∧
      ((processUpload db day user files).1 =
          { db with uploads := db.uploads ++ [⟨newId db day, day, nextSeq db day⟩] } ∨
        ∃ gs, flat gs = resultsOf (newId db day) user 0 files ∧
          (∀ g ∈ gs, ∀ r ∈ g.2, g.1.sameLabels r = true) ∧ pkClash (labsOf (newId db day) 0 gs) = false ∧
          (processUpload db day user files).1 =
            { uploads := db.uploads ++ [⟨newId db day, day, nextSeq db day⟩],
              records := db.records ++ rowsOf (newId db day) 0 (lists gs),
              labels := db.labels ++ labsOf (newId db day) 0 gs }) := by
  unfold processUpload
  dsimp only [newId]
  generalize day ++ [46] ++ natToDec (nextSeq db day) = id
  by_cases hany : (db.uploads.any fun x => x.id == id) = true
  · rw [if_pos hany]; exact Or.inl rfl
  rw [if_neg hany]
  refine Or.inr ⟨fun hm => ?_, ?_⟩
  · obtain ⟨x, hx, he⟩ := List.mem_map.mp hm
    exact hany (List.any_eq_true.mpr ⟨x, hx, he ▸ beq_self_eq_true x.id⟩)
  cases hu : indexFiles { id := id } user 0 files with
  | none => exact Or.inl rfl
  | some u =>
    dsimp only
    by_cases hpk : pkClash u.labels = true
    · rw [if_pos hpk]; exact Or.inl rfl
    rw [if_neg hpk]
    -- the queued rows are those of the runs of the results read from the files
    have hu' := indexFiles_eq user files 0 _ u hu
    obtain ⟨gs, hrep, hflat⟩ := (rep_init id).foldl (resultsOf id user 0 files)
    rw [← hu'] at hrep
    have hid : u.id = id := hu' ▸ foldl_insertRecord_id _ _
    exact Or.inr ⟨gs, hflat.trans (List.nil_append _), hrep.same,
      hid ▸ hrep.labels ▸ Bool.eq_false_iff.mpr hpk, by rw [hrep.records, hrep.labels, hid]⟩

theorem processUpload_inv (db : DB) (h : Inv db) (day user : Bytes) (files : List FileIn) :
    Inv (processUpload db day user files).1 := by
  rcases processUpload_runs db day user files with e | ⟨hfresh, e | ⟨gs, hflat, -, hpk, e⟩⟩
  · rw [e]; exact h
  · rw [e]; exact inv_add_upload db h _ hfresh
  · rw [e]
    refine inv_add_runs _ (inv_add_upload db h ⟨_, day, nextSeq db day⟩ hfresh) _ gs
      (fun r hr => resultsOf_upload (hflat ▸ hr)) ?_ (List.mem_map.mpr ⟨_, List.mem_append_right _
        (List.mem_singleton.mpr rfl), rfl⟩) hpk
    intro hm
    obtain ⟨r, hr, he⟩ := List.mem_map.mp hm
    exact hfresh (he ▸ h.recUp r hr)

theorem processUpload_stands (P : Result → Prop) (db : DB) (hinv : Inv db) (hst : DBStands P db)
    (day user : Bytes) (files : List FileIn) (hP : UploadP P (newId db day) user files) :
    DBStands P (processUpload db day user files).1 := by
  rcases processUpload_runs db day user files with e | ⟨hfresh, e | ⟨gs, hflat, hsame, -, e⟩⟩
  · rw [e]; exact hst
  · rw [e]; exact hst
  · rw [e]
    refine stands_add_runs P db hinv hst _ gs (fun r hr => ?_) hsame hfresh _
    obtain ⟨j, f, hf, hr⟩ := mem_resultsOf (hflat ▸ hr)
    exact hP j f hf r hr

end C19
