/-
C02 helper lemmas: the 64 KiB line limit (`Model/Fmt/ReaderLimit.lean`) against
`Spec.Format.linesLimited`.
-/
import Model.Fmt.ReaderLimit
import Proofs.Lemmas.Shared.ScanLines

namespace Spec.Format
open Fmt

/-- lines up to the first over-long raw piece, and whether there is one -/
def limited (raws : List Bytes) : List Bytes × Bool :=
  ((raws.takeWhile (fun p => p.length < lineLimit)).map dropCR, raws.any (fun p => lineLimit ≤ p.length))

theorem limited_cons_short (x : Bytes) (l : List Bytes) (h : ¬ lineLimit ≤ x.length) :
    limited (x :: l) = (dropCR x :: (limited l).1, (limited l).2) := by
  have h1 : x.length < lineLimit := by omega
  simp [limited, h1, h]

theorem limited_cons_long (x : Bytes) (l : List Bytes) (h : lineLimit ≤ x.length) :
    limited (x :: l) = ([], true) := by
  have h1 : ¬ x.length < lineLimit := by omega
  simp [limited, h1, h]

theorem splitLinesLimAux_eq (cur rest : Bytes) : splitLinesLimAux cur rest = limited (rawFrom cur rest) := by
  have hl : cur.reverse.length = cur.length := List.length_reverse
  induction rest generalizing cur with
  | nil =>
    rw [rawFrom_nil]
    unfold splitLinesLimAux
    cases hc : cur.isEmpty
    · simp only [Bool.false_eq_true, ↓reduceIte]
      by_cases hlong : maxToken ≤ cur.length
      · rw [limited_cons_long _ _ (hl ▸ hlong)]; simp [hlong]
      · rw [limited_cons_short _ _ (hl ▸ hlong)]; simp [hlong, limited]
    · rfl
  | cons c rest ih =>
    cases hc : c == 10
    · rw [rawFrom_cons _ _ _ hc, ← ih _ List.length_reverse]
      simp only [splitLinesLimAux, hc, Bool.false_eq_true, ↓reduceIte]
    · rw [beq_iff_eq.1 hc, rawFrom_lf]
      unfold splitLinesLimAux
      by_cases hlong : maxToken ≤ cur.length
      · rw [limited_cons_long _ _ (hl ▸ hlong)]; simp [hlong]
      · rw [limited_cons_short _ _ (hl ▸ hlong), ← ih _ List.length_reverse]; simp [hlong]

theorem splitLinesLim_eq (text : Bytes) : splitLinesLim text = linesLimited text := by
  unfold splitLinesLim
  rw [splitLinesLimAux_eq, rawFrom_text]
  rfl

theorem limited_short : ∀ raws : List Bytes, (∀ p ∈ raws, p.length < lineLimit) →
    limited raws = (raws.map dropCR, false)
  | [], _ => rfl
  | x :: l, h => by
    rw [limited_cons_short x l (Nat.not_le.2 (h x List.mem_cons_self)),
      limited_short l fun p hp => h p (List.mem_cons_of_mem _ hp)]
    rfl

theorem splitLinesLim_short (text : Bytes)
    (h : ∀ p ∈ rawPieces text, p.length < lineLimit) :
    splitLinesLim text = (splitLines text, false) := by
  rw [splitLinesLim, splitLinesLimAux_eq, limited_short _ (by rwa [rawFrom_text]), splitLines, splitLinesAux_eq]

end Spec.Format
