/-
C11: the memo-table evaluator `makeUmemo` (downward key generation with pruning, upward fill
through `Std.HashMap`) computes the pure counting recurrence `A`; hence `cdf` agrees with `cdfPure` given the
agreement of the untied tables (`cdf_eq_cdfPure_of`; the `pmf` half is `pmf_eq_pmfPure` in Proofs/C11.lean).  Core Lean + Std.Data.HashMap only.
-/
import Std.Data.HashMap
import Std.Data.HashMap.Lemmas
import Model.Stats.UDist

open Std

namespace C11.Memo

open Stats.UDist

abbrev Key := Int × Int

theorem get?_fill (f : Key → Nat) (ks : List Key) (init : Memo) (x : Key) :
    (ks.foldl (fun (m : Memo) key => m.insert key (f key)) init).get? x
      = if x ∈ ks then some (f x) else init.get? x := by
  induction ks generalizing init with
  | nil => simp
  | cons a ks ih =>
    rw [List.foldl_cons, ih, HashMap.get?_insert]
    by_cases hx : x ∈ ks
    · simp [hx]
    · by_cases hax : a = x
      · subst hax; simp
      · have hxa : ¬ x = a := fun h => hax h.symm
        simp [hx, hax, hxa]

theorem get?_fill_empty (f : Key → Nat) (ks : List Key) (x : Key) :
    (ks.foldl (fun (m : Memo) key => m.insert key (f key)) ({} : Memo)).get? x
      = if x ∈ ks then some (f x) else none := by
  rw [get?_fill]
  have : ({} : Memo).get? x = none := HashMap.getElem?_empty
  rw [this]

/-- the in-range sub-keys, one level down (level `k`), of the keys `above` -/
def subKeys (T : List Nat) (k : Nat) (above : List Key) : List Key :=
  above.flatMap fun key =>
    ((List.range (rkHigh T (k + 1) key.1 - rkLow T (k + 1) key.1 + 1).toNat).map fun i =>
      subKey T (k + 1) key.1 key.2 (rkLow T (k + 1) key.1 + (i : Nat))).filter (inRange T k)

/-- the downward pass is a fill over `subKeys`, like the upward pass -/
theorem keysBelow_eq (T : List Nat) (k : Nat) (above : List Key) :
    keysBelow T k above = (subKeys T k above).foldl (fun (m : Memo) x => m.insert x 0) {} := by
  unfold keysBelow subKeys
  rw [List.foldl_flatMap]
  congr
  funext m key
  rw [List.foldl_filter, List.foldl_map]

theorem mem_keysBelow_keys (T : List Nat) (k : Nat) (above : List Key) (x : Key) :
    x ∈ (keysBelow T k above).keys ↔ x ∈ subKeys T k above := by
  rw [HashMap.mem_keys, keysBelow_eq, HashMap.mem_iff_isSome_getElem?]
  have := get?_fill_empty (fun _ => 0) (subKeys T k above) x
  rw [HashMap.get?_eq_getElem?] at this
  rw [this]
  split <;> simp [*]

theorem subKey_mem_subKeys (T : List Nat) (k : Nat) {above : List Key} {key : Key} (hkey : key ∈ above)
    {i : Nat} (hi : i < (rkHigh T (k + 1) key.1 - rkLow T (k + 1) key.1 + 1).toNat) :
    subKey T (k + 1) key.1 key.2 (rkLow T (k + 1) key.1 + (i : Nat)) ∈ subKeys T k above
      ↔ inRange T k (subKey T (k + 1) key.1 key.2 (rkLow T (k + 1) key.1 + (i : Nat))) = true := by
  rw [subKeys, List.mem_flatMap]
  constructor
  · rintro ⟨_, _, h⟩
    exact (List.mem_filter.mp h).2
  · intro hin
    exact ⟨key, hkey, List.mem_filter.mpr ⟨List.mem_map.mpr ⟨i, List.mem_range.mpr hi, rfl⟩, hin⟩⟩

/-- the key list `ks` of level `k` holds exactly the in-range sub-keys of the key list `ks'` of level
    `k + 1` -/
def Link (T : List Nat) (k : Nat) (ks ks' : List Key) : Prop := ∀ x, x ∈ ks ↔ x ∈ subKeys T k ks'

/-- consecutive levels, each linked to the next -/
def Chain (T : List Nat) : List (Nat × List Key) → Prop
  | [] => True
  | [_] => True
  | (k, ks) :: (k', ks') :: rest => k' = k + 1 ∧ Link T k ks ks' ∧ Chain T ((k', ks') :: rest)

theorem keyLevelsAux_spec (T : List Nat) (fuel : Nat) :
    ∀ (k : Nat) (above : List Key) (rest : List (Nat × List Key)),
      Chain T ((k + 1, above) :: rest) → k ≤ fuel + 1 → 1 ≤ k →
      ∃ ks0 rest', keyLevelsAux T fuel k above ((k + 1, above) :: rest) = (2, ks0) :: rest' ∧
        Chain T ((2, ks0) :: rest') ∧
        ((2, ks0) :: rest').getLast? = ((k + 1, above) :: rest).getLast? := by
  induction fuel with
  | zero =>
    intro k above rest h h1 h2
    obtain rfl : k = 1 := by omega
    exact ⟨above, rest, rfl, h, rfl⟩
  | succ fuel ih =>
    intro k above rest h h1 h2
    rw [keyLevelsAux]
    by_cases hk : k < 2
    · obtain rfl : k = 1 := by omega
      exact ⟨above, rest, rfl, h, rfl⟩
    · rw [if_neg hk]
      obtain ⟨j, rfl⟩ : ∃ j, k = j + 1 := ⟨k - 1, by omega⟩
      obtain ⟨ks0, rest', e, hc, hl⟩ := ih j (keysBelow T (j + 1) above).keys
        ((j + 1 + 1, above) :: rest) ⟨rfl, mem_keysBelow_keys T (j + 1) above, h⟩ (by omega) (by omega)
      exact ⟨ks0, rest', e, hc, hl.trans List.getLast?_cons_cons⟩

theorem foldl_add_congr (F G : Nat → Nat) (l : List Nat) (acc : Nat)
    (h : ∀ i, i ∈ l → F i = G i) :
    l.foldl (fun acc i => acc + F i) acc = l.foldl (fun acc i => acc + G i) acc := by
  induction l generalizing acc with
  | nil => rfl
  | cons a l ih =>
    rw [List.foldl_cons, List.foldl_cons, h a List.mem_cons_self]
    exact ih _ (fun i hi => h i (List.mem_cons_of_mem _ hi))

theorem sumRange_congr (lo hi : Int) (f g : Int → Nat)
    (h : ∀ i : Nat, i < (hi - lo + 1).toNat → f (lo + (i : Nat)) = g (lo + (i : Nat))) :
    sumRange lo hi f = sumRange lo hi g := by
  unfold sumRange
  exact foldl_add_congr (fun i => f (lo + (i : Nat))) (fun i => g (lo + (i : Nat))) _ _
    (fun i hi => h i (List.mem_range.mp hi))

theorem stepA_congr (T : List Nat) (k : Nat) (look look' : Key → Option Nat) (n1 twoU : Int)
    (h : ∀ i : Nat, i < (rkHigh T k n1 - rkLow T k n1 + 1).toNat →
      look (subKey T k n1 twoU (rkLow T k n1 + (i : Nat)))
        = look' (subKey T k n1 twoU (rkLow T k n1 + (i : Nat)))) :
    stepA T k look n1 twoU = stepA T k look' n1 twoU := by
  unfold stepA
  apply sumRange_congr
  intro i hi
  simp only [h i hi]

/-- table `m` holds exactly the keys `ks`, each with its `A T k` value -/
def InvTab (T : List Nat) (k : Nat) (m : Memo) (ks : List Key) : Prop :=
  ∀ x : Key, m.get? x = if x ∈ ks then some (A T k x.1 x.2) else none

/-- one step of the upward fold in `makeUmemo` -/
def upStep (T : List Nat) (prev : Memo) (lv : Nat × List Key) : Memo :=
  if lv.1 ≤ 2 then
    lv.2.foldl (fun (m : Memo) key => m.insert key (base2 T key.1 key.2)) {}
  else
    lv.2.foldl (fun (m : Memo) key =>
      m.insert key (stepA T lv.1 (fun sk => prev.get? sk) key.1 key.2)) {}

theorem A_le_two (T : List Nat) (k : Nat) (hk : k ≤ 2) (n1 twoU : Int) :
    A T k n1 twoU = base2 T n1 twoU := by
  match k, hk with
  | 0, _ => rfl
  | 1, _ => rfl
  | 2, _ => rfl

theorem invTab_upStep (T : List Nat) (prev : Memo) (k : Nat) (ks : List Key)
    (h : k ≤ 2 ∨ ∃ j ksp, k = j + 1 ∧ InvTab T j prev ksp ∧ Link T j ksp ks) :
    InvTab T k (upStep T prev (k, ks)) ks := by
  intro x
  unfold upStep
  by_cases hk : k ≤ 2
  · rw [if_pos hk, get?_fill_empty]
    by_cases hx : x ∈ ks
    · rw [if_pos hx, if_pos hx, A_le_two T k hk]
    · rw [if_neg hx, if_neg hx]
  · rw [if_neg hk, get?_fill_empty]
    by_cases hx : x ∈ ks
    · rw [if_pos hx, if_pos hx]
      rcases h with h | ⟨j, ksp, hj, hinv, hlink⟩
      · exact absurd h hk
      · subst hj
        obtain ⟨j', rfl⟩ : ∃ j', j = j' + 2 := ⟨j - 2, by omega⟩
        congr 1
        rw [A]
        apply stepA_congr
        intro i hi
        show prev.get? _ = _
        rw [hinv]
        show (if _ ∈ ksp then some (A T (j' + 2) _ _) else none)
          = if inRange T (j' + 2) _ = true then some (A T (j' + 2) _ _) else none
        exact ite_congr (propext ((hlink _).trans (subKey_mem_subKeys T (j' + 2) hx hi))) (fun _ => rfl)
          (fun _ => rfl)
    · rw [if_neg hx, if_neg hx]

theorem invTab_foldl (T : List Nat) :
    ∀ (levels : List (Nat × List Key)) (prev : Memo) (k : Nat) (ks : List Key),
      Chain T ((k, ks) :: levels) →
      (k ≤ 2 ∨ ∃ j ksp, k = j + 1 ∧ InvTab T j prev ksp ∧ Link T j ksp ks) →
      ∀ K ksK, ((k, ks) :: levels).getLast? = some (K, ksK) →
      InvTab T K (((k, ks) :: levels).foldl (upStep T) prev) ksK := by
  intro levels
  induction levels with
  | nil =>
    intro prev k ks _ h K ksK hlast
    simp only [List.getLast?_singleton, Option.some.injEq, Prod.mk.injEq] at hlast
    obtain ⟨rfl, rfl⟩ := hlast
    exact invTab_upStep T prev k ks h
  | cons lv levels ih =>
    intro prev k ks hchain h K ksK hlast
    obtain ⟨k', ks'⟩ := lv
    obtain ⟨hk', hlink, hchain'⟩ := hchain
    rw [List.getLast?_cons_cons] at hlast
    rw [List.foldl_cons]
    apply ih (upStep T prev (k, ks)) k' ks' hchain' _ K ksK hlast
    exact Or.inr ⟨k, ks, hk', invTab_upStep T prev k ks h, hlink⟩

theorem makeUmemo_unfold (T : List Nat) (n1 twoU : Int) (hK : ¬ T.length ≤ 2) :
    makeUmemo T n1 twoU
      = (((keyLevels T T.length n1 twoU).foldl (upStep T) {}).get? (n1, twoU)).getD 0 := by
  unfold makeUmemo
  simp only [if_neg hK]
  rfl

end C11.Memo

namespace C11

open Stats.UDist C11.Memo

theorem makeUmemo_eq_A (T : List Nat) (n1 twoU : Int) :
    Stats.UDist.makeUmemo T n1 twoU = Stats.UDist.A T T.length n1 twoU := by
  by_cases hK : T.length ≤ 2
  · rw [A_le_two T T.length hK]
    unfold makeUmemo
    simp only [if_pos hK]
  · rw [makeUmemo_unfold T n1 twoU hK]
    obtain ⟨j, hj⟩ : ∃ j, T.length = j + 1 + 1 := ⟨T.length - 2, by omega⟩
    have hjpos : 1 ≤ j := by omega
    unfold keyLevels
    rw [hj]
    show (((keyLevelsAux T (j + 1 + 1) (j + 1) [(n1, twoU)]
      [(j + 1 + 1, [(n1, twoU)])]).foldl (upStep T) {}).get? (n1, twoU)).getD 0 = _
    obtain ⟨ks0, rest', hhead, hchain, hlast⟩ := keyLevelsAux_spec T (j + 1 + 1) (j + 1)
      [(n1, twoU)] [] trivial (by omega) (by omega)
    rw [hhead]
    have hinv := invTab_foldl T rest' {} 2 ks0 hchain (Or.inl (Nat.le_refl 2))
      (j + 1 + 1) [(n1, twoU)] (by rw [hlast]; rfl)
    rw [hinv (n1, twoU)]
    simp

theorem cdf_eq_cdfPure_of
    (hU : ∀ n1 n2 u, (Stats.UDist.pUntied n1 n2).getD u 0
      = (Stats.UDist.pUntiedRec n1 n2).getD u 0)
    (n1 n2 : Nat) (T : List Nat) (twoU : Int) :
    Stats.UDist.cdf n1 n2 T twoU = Stats.UDist.cdfPure n1 n2 T twoU := by
  unfold Stats.UDist.cdf Stats.UDist.cdfPure Stats.UDist.cdfWith
  simp only [makeUmemo_eq_A, hU]

end C11

