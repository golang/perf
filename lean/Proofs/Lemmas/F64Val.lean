/-
The rational magnitude `val` of a float64 pattern, strictly monotone in the magnitude bits; the
fraction `powFrac b m e` of `m·b^e`, split at `e ≥ 0` as the model's `toFrac` and `ofDecimal` and the specification's
`overflows` split it; the value order `vle` on the model's own vocabulary; `lt`/`le` on finite positive patterns.
-/
import Proofs.Lemmas.F64Mono
import Proofs.Lemmas.F64Bits

namespace F64

/-- finite, positive, non-zero: the patterns `0x0000000000000001 … 0x7FEFFFFFFFFFFFFF` -/
def PosFin (b : Bits) : Prop := 0 < b.toNat ∧ b.toNat < 0x7FF0000000000000

instance (b : Bits) : Decidable (PosFin b) := by unfold PosFin; infer_instance

theorem PosFin.lt63 {b : Bits} (h : PosFin b) : b.toNat < 2 ^ 63 := by
  have := h.2; omega

theorem PosFin.signBit {b : Bits} (h : PosFin b) : signBit b = false :=
  (signBit_false_iff b).mpr h.lt63

theorem magOf_posFin {x : Bits} (hx : PosFin x) : magOf x = x.toNat := by
  rw [magOf_eq_mod]; exact Nat.mod_eq_of_lt hx.lt63

theorem PosFin.isFinite {b : Bits} (h : PosFin b) : isFinite b = true := isFinite_of_toNat_lt b h.2

theorem PosFin.isNaN {b : Bits} (h : PosFin b) : isNaN b = false := isNaN_of_finite h.isFinite

theorem PosFin.isInf {b : Bits} (h : PosFin b) : isInf b = false := isInf_of_finite h.isFinite

theorem PosFin.isZero {b : Bits} (h : PosFin b) : isZero b = false := by
  rw [isZero_false_iff, magOf_posFin h]; exact h.1

theorem PosFin.expField_lt {b : Bits} (h : PosFin b) : expField b < 2047 := by
  have := h.2; rw [expField_eq]; omega

theorem mant_eq (x : Bits) : mant x = if expField x = 0 then fracField x else fracField x + 2 ^ 52 := by
  unfold mant; by_cases h : expField x = 0 <;> simp [h]

theorem expo_eq (x : Bits) : expo x = if expField x = 0 then -1074 else (expField x : Int) - 1075 := by
  unfold expo; by_cases h : expField x = 0 <;> simp [h]

theorem mant_lt (x : Bits) : mant x < 2 ^ 53 := by
  have := fracField_lt x; rw [mant_eq]; split <;> omega
theorem expo_ge (x : Bits) : -1074 ≤ expo x := by
  rw [expo_eq]; split <;> omega
theorem mant_ge_of_expo (x : Bits) (h : -1074 < expo x) : 2 ^ 52 ≤ mant x := by
  rw [expo_eq] at h; rw [mant_eq]
  split
  · rename_i hE; rw [if_pos hE] at h; omega
  · omega

theorem mant_pos_of_nonzero {b : Bits} (hz : isZero b = false) : 0 < mant b := by
  have := (isZero_false_iff b).mp hz
  unfold magOf at this
  rw [mant_eq]; split
  · rename_i h; rw [h] at this; omega
  · omega

theorem PosFin.mant_pos {b : Bits} (h : PosFin b) : 0 < mant b := mant_pos_of_nonzero h.isZero

/-- the magnitude bits in terms of mantissa and exponent: the hidden bit of a normal mantissa
supplies the +1 of the biased exponent -/
theorem bits_of_mant_expo (x : Bits) : (1074 + expo x).toNat * 2 ^ 52 + mant x = magOf x := by
  unfold magOf
  rw [mant_eq, expo_eq]
  by_cases hE : expField x = 0
  · simp [hE]
  · simp only [hE, if_false]
    have : (1074 + ((expField x : Int) - 1075)).toNat = expField x - 1 := by omega
    rw [this]
    obtain ⟨k, hk⟩ : ∃ k, expField x = k + 1 := ⟨expField x - 1, by omega⟩
    rw [hk]; simp only [Nat.add_sub_cancel]; ring

theorem expo_mant_of_magOf_lt (a b : Bits) (h : magOf a < magOf b) :
    expo a < expo b ∨ (expo a = expo b ∧ mant a < mant b) := by
  have := fracField_lt a
  have := fracField_lt b
  unfold magOf at h
  rw [mant_eq, mant_eq, expo_eq, expo_eq]
  split <;> split <;> omega

/-- `mant · 2^expo` (the magnitude of a finite float; for exponent field 2047 the formula continues
to 2^1024·(1+frac/2^52), which keeps it monotone in the pattern) -/
def val (b : Bits) : ℚ := (mant b : ℚ) * (2 : ℚ) ^ (expo b)

theorem val_nonneg (b : Bits) : 0 ≤ val b :=
  mul_nonneg (Nat.cast_nonneg _) (two_zpow_pos _).le

theorem val_pos_of_nonzero {b : Bits} (hz : isZero b = false) : 0 < val b :=
  mul_pos (Nat.cast_pos.mpr (mant_pos_of_nonzero hz)) (two_zpow_pos _)

theorem val_lt_of_magOf_lt (a b : Bits) (h : magOf a < magOf b) : val a < val b := by
  rcases expo_mant_of_magOf_lt a b h with he | ⟨he, hm⟩
  · have hb : 2 ^ 52 ≤ mant b := mant_ge_of_expo b (lt_of_le_of_lt (expo_ge a) he)
    calc val a < 2 ^ 53 * (2 : ℚ) ^ expo a :=
          mul_lt_mul_of_pos_right (by exact_mod_cast mant_lt a) (two_zpow_pos _)
      _ = 2 ^ 52 * (2 : ℚ) ^ (expo a + 1) := by rw [ratio_succ, pow_succ' 2 52, mul_assoc]
      _ ≤ 2 ^ 52 * (2 : ℚ) ^ expo b :=
          mul_le_mul_of_nonneg_left (zpow_le_zpow_right₀ one_le_two he) (by positivity)
      _ ≤ val b := mul_le_mul_of_nonneg_right (by exact_mod_cast hb) (two_zpow_pos _).le
  · unfold val; rw [he]
    exact mul_lt_mul_of_pos_right (Nat.cast_lt.mpr hm) (two_zpow_pos _)

theorem val_eq_of_magOf_eq (a b : Bits) (h : magOf a = magOf b) : val a = val b := by
  have a3 := fracField_lt a
  have b3 := fracField_lt b
  unfold magOf at h
  have h1 : expField a = expField b := by omega
  have h2 : fracField a = fracField b := by omega
  unfold val; rw [mant_eq, mant_eq, expo_eq, expo_eq, h1, h2]

theorem le_iff_le_of_lt_of_eq {α β γ : Type} [LinearOrder β] [LinearOrder γ] {f : α → β} {g : α → γ}
    (hlt : ∀ a b, g a < g b → f a < f b) (heq : ∀ a b, g a = g b → f a = f b) (a b : α) :
    f a ≤ f b ↔ g a ≤ g b :=
  ⟨fun h => not_lt.1 fun h' => not_lt.2 h (hlt b a h'),
    fun h => h.lt_or_eq.elim (fun h' => (hlt a b h').le) fun h' => (heq a b h').le⟩

theorem val_le_iff (a b : Bits) : val a ≤ val b ↔ magOf a ≤ magOf b :=
  le_iff_le_of_lt_of_eq val_lt_of_magOf_lt val_eq_of_magOf_eq a b

theorem val_lt_iff (a b : Bits) : val a < val b ↔ magOf a < magOf b :=
  lt_iff_lt_of_le_iff_le (val_le_iff b a)

theorem val_eq_iff (a b : Bits) : val a = val b ↔ magOf a = magOf b := by
  rw [le_antisymm_iff, val_le_iff, val_le_iff]; omega

theorem val_eq_zero_iff (b : Bits) : val b = 0 ↔ magOf b = 0 := by
  have h0 : val (0 : Bits) = 0 := by
    have : mant (0 : Bits) = 0 := by decide
    unfold val; rw [this, Nat.cast_zero, zero_mul]
  have m0 : magOf (0 : Bits) = 0 := by decide
  rw [← h0, val_eq_iff, m0]

theorem val_mul_zpow_neg (x : Bits) : val x * (2 : ℚ) ^ (-expo x) = mant x := by
  unfold val; rw [mul_assoc, zpow_mul_neg, _root_.mul_one]

/-- the value from the magnitude `k·2^52 + R`; `R = 2^53` is allowed: a rounding carry lands in the
next exponent by itself -/
theorem val_of_magOf (x : Bits) (k R : Nat) (h : magOf x = k * 2 ^ 52 + R) (hR : R ≤ 2 ^ 53)
    (hlo : 0 < k → 2 ^ 52 ≤ R) : val x = (R : ℚ) * (2 : ℚ) ^ ((k : Int) - 1074) := by
  have aux : ∀ k R : Nat, magOf x = k * 2 ^ 52 + R → R < 2 ^ 53 → (0 < k → 2 ^ 52 ≤ R) →
      val x = (R : ℚ) * (2 : ℚ) ^ ((k : Int) - 1074) := by
    intro k R h hR hlo
    have h1 := bits_of_mant_expo x
    have h2 := mant_lt x
    have h3 := expo_ge x
    have h4 : -1074 < expo x → 2 ^ 52 ≤ mant x := mant_ge_of_expo x
    have : expo x = k - 1074 ∧ mant x = R := by omega
    unfold val; rw [this.1, this.2]
  rcases Nat.lt_or_eq_of_le hR with hR | rfl
  · exact aux k R h hR hlo
  · have h' : magOf x = (k + 1) * 2 ^ 52 + 2 ^ 52 := by
      rw [Nat.add_one_mul, Nat.add_assoc, ← Nat.two_mul, ← Nat.pow_succ']; exact h
    have e : ((k + 1 : ℕ) : Int) - 1074 = (k : Int) - 1074 + 1 := by omega
    rw [aux (k + 1) (2 ^ 52) h' (Nat.pow_lt_pow_right (by decide) (by decide)) (fun _ => le_rfl), e,
      ratio_succ]
    push_cast; ring

/-- on sign-free patterns the magnitude is monotone in the pattern. -/
theorem val_mono (a b : Bits) (hb : b.toNat < 2 ^ 63) (h : a.toNat ≤ b.toNat) : val a ≤ val b := by
  rw [val_le_iff, magOf_eq_mod, magOf_eq_mod, Nat.mod_eq_of_lt hb, Nat.mod_eq_of_lt (lt_of_le_of_lt h hb)]
  exact h

/-- `m · b^e` as a fraction of naturals, split at `e ≥ 0` the way the model (`toFrac`, `ofDecimal`) and the
specification of `ParseFloat` (`overflows`) split it -/
def powFrac (b m : Nat) (e : Int) : Nat × Nat :=
  if e ≥ 0 then (m * b ^ e.toNat, 1) else (m, b ^ (-e).toNat)

theorem powFrac_fst_pos {b m : Nat} (e : Int) (hb : 0 < b) (hm : 0 < m) : 0 < (powFrac b m e).1 := by
  unfold powFrac; split
  · exact Nat.mul_pos hm (Nat.pow_pos hb)
  · exact hm

theorem powFrac_snd_pos {b : Nat} (m : Nat) (e : Int) (hb : 0 < b) : 0 < (powFrac b m e).2 := by
  unfold powFrac; split
  · exact Nat.one_pos
  · exact Nat.pow_pos hb

theorem powFrac_ratio (b m : Nat) (e : Int) (hb : 0 < b) :
    ((powFrac b m e).1 : ℚ) / ((powFrac b m e).2 : ℚ) = (m : ℚ) * (b : ℚ) ^ e := by
  have hbq : (b : ℚ) ≠ 0 := Nat.cast_ne_zero.2 hb.ne'
  unfold powFrac
  split
  · rename_i h
    obtain ⟨k, rfl⟩ := Int.eq_ofNat_of_zero_le h
    simp [zpow_natCast]
  · rename_i h
    obtain ⟨k, hk⟩ := Int.eq_ofNat_of_zero_le (show 0 ≤ -e by omega)
    obtain rfl : e = -(k : Int) := by omega
    simp [zpow_neg, zpow_natCast, div_eq_mul_inv]

theorem toFrac_eq_powFrac (m : Nat) (e : Int) : toFrac m e = powFrac 2 m e := rfl

theorem ofDecimal_eq_roundRat (neg : Bool) (m : Nat) (e : Int) (hm : 0 < m) :
    ofDecimal neg m e = roundRat neg (powFrac 10 m e).1 (powFrac 10 m e).2 := by
  have hb : (m == 0) = false := by simp; omega
  unfold ofDecimal powFrac
  rw [hb, if_neg Bool.false_ne_true]
  split <;> rfl

theorem toFrac_fst_pos {m : Nat} (e : Int) (h : 0 < m) : 0 < (toFrac m e).1 :=
  powFrac_fst_pos e (by decide) h

theorem toFrac_ratio (m : Nat) (e : Int) :
    ((toFrac m e).1 : ℚ) / ((toFrac m e).2 : ℚ) = (m : ℚ) * (2 : ℚ) ^ e := by
  rw [toFrac_eq_powFrac, powFrac_ratio 2 m e (by decide), Nat.cast_ofNat]

/-- value order of magnitudes on the model's vocabulary (the hypothesis of `C10.fmtFixed_mono`) -/
def vle (a b : Bits) : Prop :=
  (toFrac (mant a) (expo a)).1 * (toFrac (mant b) (expo b)).2
    ≤ (toFrac (mant b) (expo b)).1 * (toFrac (mant a) (expo a)).2

theorem vle_iff (a b : Bits) : vle a b ↔ val a ≤ val b := by
  unfold vle val
  rw [frac_le_iff _ _ _ _ (toFrac_snd_pos _ _) (toFrac_snd_pos _ _), toFrac_ratio, toFrac_ratio]

theorem vle_of_toNat_le (a b : Bits) (hb : b.toNat < 2 ^ 63) (h : a.toNat ≤ b.toNat) : vle a b :=
  (vle_iff a b).mpr (val_mono a b hb h)

theorem lt_false_of_toNat_le (x y : Bits) (hx : x.toNat < 2 ^ 63) (hy : y.toNat < 2 ^ 63)
    (h : y.toNat ≤ x.toNat) : lt x y = false := by
  unfold lt
  rw [(signBit_false_iff x).mpr hx, (signBit_false_iff y).mpr hy]
  have : ¬ x < y := by rw [UInt64.lt_iff_toNat_lt]; omega
  simp [this]

/-- on finite positive floats `F64.lt` / `F64.le` are the order of the patterns (the step from the
comparisons of `Unit.Scale.commonScale` to the hypotheses of C10's `row_lift_signed`; no theorem takes it yet) -/
theorem lt_posFin (a b : Bits) (ha : PosFin a) (hb : PosFin b) : lt a b = true ↔ a.toNat < b.toNat := by
  unfold lt
  simp only [ha.isNaN, hb.isNaN, ha.isZero, hb.isZero, ha.signBit, hb.signBit, Bool.or_self,
    Bool.and_self, Bool.false_eq_true, if_false, decide_eq_true_eq, UInt64.lt_iff_toNat_lt]

theorem le_posFin (a b : Bits) (ha : PosFin a) (hb : PosFin b) : le a b = true ↔ a.toNat ≤ b.toNat := by
  unfold le eq
  simp only [Bool.or_eq_true, lt_posFin a b ha hb, ha.isNaN, hb.isNaN, ha.isZero, hb.isZero,
    Bool.or_self, Bool.and_self, Bool.false_eq_true, if_false, beq_iff_eq, ← UInt64.toNat_inj]
  omega

end F64
