/-
C11: the null distribution counted per tie group (specification-level definitions used by the
theorems about the tied recurrence). An assignment class is an r-vector: r_k of the t_k members of
tie group k go to the first sample; it stands for ∏ C(t_k, r_k) assignments, all with the same
doubled statistic `twoUofR`.
-/
import Model.Stats.UDist
import Model.Spec.UExact
import Mathlib.Data.Nat.Choose.Basic

namespace C11

/-- all r-vectors for tie vector `T` with Σ r = n1 and r_k ≤ t_k -/
def rvecs : List Nat → Nat → List (List Nat)
  | [], 0 => [[]]
  | [], _ + 1 => []
  | t :: ts, n1 => (List.range (min t n1 + 1)).flatMap fun r => (rvecs ts (n1 - r)).map (r :: ·)

/-- number of assignments in the class: ∏ C(t_k, r_k) -/
def weight : List Nat → List Nat → Nat
  | t :: ts, r :: rs => Nat.choose t r * weight ts rs
  | _, _ => 1

/-- doubled statistic of the class; `below` = second-sample values in lower groups:
    group k contributes 2·r_k·below + r_k·(t_k − r_k) -/
def twoUofRAux : Nat → List Nat → List Nat → Nat
  | below, t :: ts, r :: rs => 2 * r * below + r * (t - r) + twoUofRAux (below + (t - r)) ts rs
  | _, _, _ => 0

/-- doubled statistic 2U of the assignment class `r` for tie vector `T` -/
def twoUofR (T r : List Nat) : Nat := twoUofRAux 0 T r

/-- number of assignments of the pooled sample with tie vector `T` whose first sample has n1
    members and whose doubled statistic is ≤ twoU -/
def groupCount (T : List Nat) (n1 : Nat) (twoU : Int) : Nat :=
  (((rvecs T n1).filter fun r => decide ((twoUofR T r : Int) ≤ twoU)).map (weight T)).sum

/-- the pooled sample with tie vector `T`: value k repeated T[k] times, ascending -/
def poolOf (T : List Nat) : List Nat :=
  ((List.range T.length).map fun k => List.replicate (T.getD k 0) k).flatten

end C11
