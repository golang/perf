/-
One step of a float64 interpolation, `a + t` with `t` the rounding of `frac*(b-a)`, signs mixed, in pure float64 arithmetic:
the rounded term does not exceed the rounded difference (`round_mul_le`, `R_mul_R_le`, `interp_term`), so the sum stays between
`a` and `b` (`add_between`, `interp_bounded`). C12's percentile, C13's midpoint and C17's mean step are instances.
-/
import Proofs.Lemmas.F64Arith

namespace F64

/-- a mantissa above 2^52 times a factor ≤ 1 − 2^-53 loses more than ½ -/
theorem scaled_below {M f : ℚ} (hM52 : 2 ^ 52 < M) (hf1 : f ≤ 1 - 1 / 2 ^ 53) :
    f * M < M - 1 / 2 := by
  have hM : (0 : ℚ) < M := lt_trans (by positivity) hM52
  have h2 : (1 : ℚ) / 2 < 1 / 2 ^ 53 * M := by
    rw [show (1 : ℚ) / 2 = 1 / 2 ^ 53 * 2 ^ 52 by norm_num]
    exact mul_lt_mul_of_pos_left hM52 (by positivity)
  calc f * M ≤ (1 - 1 / 2 ^ 53) * M := mul_le_mul_of_nonneg_right hf1 hM.le
    _ = M - 1 / 2 ^ 53 * M := by rw [sub_mul, one_mul]
    _ < M - 1 / 2 := sub_lt_sub_left h2 M

/-- δ > 0 on the grid 2^-1074 whose rounding D = R δ is finite and went UP, a factor
f ≤ 1 − 2^-53: the rounded product R(f·D) is at most δ (it falls on the float below D, which is ≤ δ). -/
theorem round_mul_le (δ f : ℚ) (hδ : 0 < δ) (hfin : isFinite (roundQ δ) = true)
    (hgrid : ∃ K : ℤ, δ * (2 : ℚ) ^ (1074 : Int) = K) (hup : δ < R δ) (hf1 : f ≤ 1 - 1 / 2 ^ 53) :
    R (f * R δ) ≤ δ := by
  obtain ⟨s, M, ⟨s1, s2, s3⟩, hM, hR⟩ := R_form δ hδ hfin
  have hp := two_zpow_pos s
  have hpn := two_zpow_pos (-s)
  -- scaled by 2^s: δ = m·2^-s, D = M·2^-s with m < M ≤ m + ½
  obtain ⟨m, hm⟩ : ∃ m : ℚ, m = δ * (2 : ℚ) ^ s := ⟨_, rfl⟩
  rw [← hm] at s2 s3 hM
  have hδm : δ = m * (2 : ℚ) ^ (-s) := by rw [hm, mul_assoc, zpow_mul_neg, _root_.mul_one]
  have hMm : m < M := lt_of_mul_lt_mul_right (by rw [← hδm, ← hR]; exact hup) hpn.le
  have hMle : (M : ℚ) - 1 / 2 ≤ m := sub_le_comm.mp ((le_abs_self _).trans hM)
  -- on the grid the cap s = 1074 does not round, so δ is in a full binade: 2^52 ≤ m
  have hs' : s < 1074 := by
    by_contra hc
    obtain rfl : s = 1074 := le_antisymm s1 (not_lt.mp hc)
    obtain ⟨K, hK⟩ := hgrid
    rw [hm.trans hK] at hMm hMle
    have h1 : (K : ℚ) + 1 ≤ (M : ℚ) := by exact_mod_cast hMm
    linarith only [h1, hMle]
  have hm52 := s3 hs'
  -- y = f·D scaled is f·M < M − ½ ≤ m: y < δ
  have hyub : f * R δ * (2 : ℚ) ^ s < M - 1 / 2 := by
    rw [hR, mul_assoc, mul_assoc, _root_.mul_comm ((2 : ℚ) ^ (-s)), zpow_mul_neg, _root_.mul_one]
    exact scaled_below (hm52.trans_lt hMm) hf1
  generalize f * R δ = y at hyub ⊢
  have hym := hyub.trans_le hMle
  have hyδ : y < δ := lt_of_mul_lt_mul_right (hym.trans_eq hm) hp.le
  rcases le_or_gt y 0 with hy0 | hy0
  · exact (R_mono hy0).trans (R_zero.trans_le hδ.le)
  have hyfin : isFinite (roundQ y) = true :=
    isFinite_roundQ_of_abs_le hfin (by
      rw [abs_of_pos hy0]; exact (hyδ.le.trans hup.le).trans (le_abs_self _))
  rcases lt_or_ge (y * (2 : ℚ) ^ s) (2 ^ 52) with hlow | hlow
  · -- below the binade of δ: bounded by the power of two 2^52·2^-s ≤ δ, which is a float
    have hPδ : (2 : ℚ) ^ 52 * (2 : ℚ) ^ (-s) ≤ δ := hδm ▸ mul_le_mul_of_nonneg_right hm52 hpn.le
    have hyP : y ≤ (2 : ℚ) ^ 52 * (2 : ℚ) ^ (-s) := by
      have := mul_le_mul_of_nonneg_right hlow.le hpn.le
      rwa [mul_assoc, zpow_mul_neg, _root_.mul_one] at this
    have hP0 : (0 : ℚ) < (2 : ℚ) ^ 52 * (2 : ℚ) ^ (-s) := mul_pos (by positivity) hpn
    have hPfix : R ((2 : ℚ) ^ 52 * (2 : ℚ) ^ (-s)) = (2 : ℚ) ^ 52 * (2 : ℚ) ^ (-s) :=
      R_dyadic _ (2 ^ 52) (-s) (by norm_num) (by omega) (by rw [abs_of_pos hP0]; push_cast; ring)
        (by rw [abs_of_pos hP0]
            exact (hPδ.trans_lt hup).trans_le ((le_abs_self _).trans ((isFinite_iff_sval _).1 hfin).le))
    exact (R_mono hyP).trans (hPfix.trans_le hPδ)
  · -- same binade: R y = M_y·2^-s with M_y < M, i.e. M_y ≤ M − 1 < m
    obtain ⟨sy, My, hsy, hMy, hRy⟩ := R_form y hy0 hyfin
    obtain rfl : sy = s := hsy.unique ⟨s1, hym.trans s2, fun _ => hlow⟩ hy0.le
    have h1 : (My : ℚ) < M := by linarith only [(abs_le.mp hMy).2, hyub]
    have h2 : (My : ℚ) + 1 ≤ M := by exact_mod_cast h1
    rw [hRy, hδm]
    exact mul_le_mul_of_nonneg_right (by linarith only [h2, hMle]) hpn.le

theorem sval_grid (x : Bits) : ∃ k : ℤ, sval x * (2 : ℚ) ^ (1074 : Int) = k :=
  ⟨_, by rw [← sval_aligned x (-1074) (expo_ge x), mul_assoc, ← zpow_add₀ two_ne_zero, neg_add_cancel, zpow_zero,
    _root_.mul_one]⟩

/-- the convex-step inequality: δ ≥ 0 on the grid 2^-1074 (a difference of two floats) whose
rounding is finite, and a factor f ≤ 1 − 2^-53: the rounded product of f with the ROUNDED δ does
not exceed the exact δ.  When δ was rounded up this is `round_mul_le`; otherwise monotonicity. -/
theorem R_mul_R_le (δ f : ℚ) (hδ : 0 ≤ δ) (hgrid : ∃ K : ℤ, δ * (2 : ℚ) ^ (1074 : Int) = K)
    (hfin : isFinite (roundQ δ) = true) (hf1 : f ≤ 1 - 1 / 2 ^ 53) : R (f * R δ) ≤ δ := by
  rcases lt_or_ge δ (R δ) with hup | hle
  · have hpos : 0 < δ := lt_of_le_of_ne hδ fun h => by
      rw [← h, R_zero] at hup; exact lt_irrefl _ hup
    exact round_mul_le δ f hpos hfin hgrid hup hf1
  · calc R (f * R δ) ≤ R (R δ) :=
          R_mono (mul_le_of_le_one_left (R_nonneg hδ) (hf1.trans (sub_le_self _ (by positivity))))
      _ = R δ := R_sval _ hfin
      _ ≤ δ := hle

theorem sval_le_pred_one (f : Bits) (h0 : 0 ≤ sval f) (h1 : sval f < 1) :
    sval f ≤ 1 - 1 / 2 ^ 53 := by
  have hv : val f = sval f := by rw [← abs_sval, abs_of_nonneg h0]
  have hone : val one = 1 := by decide +kernel
  have hp : val (0x3FEFFFFFFFFFFFFF : Bits) = 1 - 1 / 2 ^ 53 := by decide +kernel
  -- below 1 in value is below the pattern of 1, hence at most its predecessor 0x3FEF…F
  have hlt : magOf f < magOf one := (val_lt_iff _ _).mp (by rw [hv, hone]; exact h1)
  have m1 : magOf one = 0x3FF0000000000000 := by decide
  have m2 : magOf (0x3FEFFFFFFFFFFFFF : Bits) = 0x3FEFFFFFFFFFFFFF := by decide
  rw [← hv, ← hp, val_le_iff]
  omega

theorem sub_grid (a b : Bits) : ∃ K : ℤ, (sval b - sval a) * (2 : ℚ) ^ (1074 : Int) = K := by
  obtain ⟨ka, hka⟩ := sval_grid a
  obtain ⟨kb, hkb⟩ := sval_grid b
  exact ⟨kb - ka, by rw [sub_mul, hka, hkb, Int.cast_sub]⟩

/-- the interpolation term: a float `t` whose value is the rounding of `f·d`, for the float `d = b − a` (finite) and
a factor `0 ≤ f ≤ 1 − 2⁻⁵³` (the product `frac * d`; the quotient `d / K` with `f = 1/k`), is finite and lies between 0
and the EXACT difference, whatever the order of a and b -/
theorem interp_term (a b t : Bits) (f : ℚ) (ha : isFinite a = true) (hb : isFinite b = true)
    (hd : isFinite (sub b a) = true) (ht : sval t = R (f * sval (sub b a))) (hf0 : 0 ≤ f)
    (hf1 : f ≤ 1 - 1 / 2 ^ 53) :
    isFinite t = true ∧ min 0 (sval b - sval a) ≤ sval t ∧ sval t ≤ max 0 (sval b - sval a) := by
  have hD : sval (sub b a) = R (sval b - sval a) := sval_sub b a hb ha
  refine ⟨isFinite_of_sval_eq_R ht hd (by
    rw [abs_mul, abs_of_nonneg hf0]
    exact mul_le_of_le_one_left (abs_nonneg _) (hf1.trans (sub_le_self _ (by positivity)))), ?_⟩
  rw [ht, hD]
  rcases le_total 0 (sval b - sval a) with h | h
  · rw [min_eq_left h, max_eq_right h]
    exact ⟨R_nonneg (mul_nonneg hf0 (R_nonneg h)),
      R_mul_R_le _ f h (sub_grid a b) (isFinite_of_sval_eq hD.symm hd) hf1⟩
  · -- the mirror image: `b − a = −(a − b)` and `R` is odd
    have h' : 0 ≤ sval a - sval b := by linarith only [h]
    have hfin : isFinite (roundQ (sval a - sval b)) = true :=
      isFinite_of_sval_eq (b := neg (sub b a)) (by change R _ = _; rw [sval_neg, hD, ← R_neg, neg_sub])
        (by rw [isFinite_neg]; exact hd)
    have := R_mul_R_le _ f h' (sub_grid b a) hfin hf1
    rw [min_eq_right h, max_eq_left h, ← neg_sub (sval a), R_neg, mul_neg, R_neg]
    exact ⟨by linarith only [this], neg_nonpos.2 (R_nonneg (mul_nonneg hf0 (R_nonneg h')))⟩

/-- adding to `a` a finite float between 0 and the exact `b − a` stays between a and b, and finite -/
theorem add_between (a b t : Bits) (ha : isFinite a = true) (hb : isFinite b = true) (ht : isFinite t = true)
    (lo : min 0 (sval b - sval a) ≤ sval t) (hi : sval t ≤ max 0 (sval b - sval a)) :
    min (sval a) (sval b) ≤ sval (add a t) ∧ sval (add a t) ≤ max (sval a) (sval b) ∧
    isFinite (add a t) = true := by
  have e1 : min (sval a) (sval b) = sval a + min 0 (sval b - sval a) := by
    rw [← min_add_add_left, add_zero, add_sub_cancel]
  have e2 : max (sval a) (sval b) = sval a + max 0 (sval b - sval a) := by
    rw [← max_add_add_left, add_zero, add_sub_cancel]
  have key := R_between a b ha hb (q := sval a + sval t) (by rw [e1]; exact add_le_add_right lo _)
    (by rw [e2]; exact add_le_add_right hi _)
  rw [← sval_add a t ha ht] at key
  have hmf := abs_lt.1 ((isFinite_iff_sval _).mp ha)
  have hxf := abs_lt.1 ((isFinite_iff_sval _).mp hb)
  rw [isFinite_iff_sval, abs_lt]
  exact ⟨key.1, key.2, lt_of_lt_of_le (lt_min hmf.1 hxf.1) key.1, lt_of_le_of_lt key.2 (max_lt hmf.2 hxf.2)⟩

/-- for finite floats a ≤ b of ANY signs whose difference does not overflow,
and a finite fraction 0 ≤ frac < 1, the float64 value of `a + frac*(b - a)` lies in [a, b] (and so is finite). -/
theorem interp_bounded (a b frac : Bits) (ha : isFinite a = true) (hb : isFinite b = true)
    (hab : sval a ≤ sval b) (hd : isFinite (sub b a) = true) (hfr : isFinite frac = true)
    (hf0 : 0 ≤ sval frac) (hf1 : sval frac < 1) :
    sval a ≤ sval (add a (mul frac (sub b a))) ∧ sval (add a (mul frac (sub b a))) ≤ sval b ∧
    isFinite (add a (mul frac (sub b a))) = true := by
  obtain ⟨tf, t0, t1⟩ := interp_term a b _ _ ha hb hd (sval_mul frac _ hfr hd) hf0 (sval_le_pred_one frac hf0 hf1)
  have := add_between a b _ ha hb tf t0 t1
  rwa [min_eq_left hab, max_eq_right hab] at this

end F64
