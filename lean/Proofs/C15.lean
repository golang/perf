/-
C15 — benchstat output depends only on its inputs, under every schedule.

What is proved here is the LOGIC: map iteration orders and goroutine completion orders cannot
influence the tables, because every traversal is sorted by a total order and every goroutine
writes a slot of its own from data nobody writes concurrently. That the goroutines really are
atomic tasks in this sense is data-race freedom — checked at run time by the harness under the
race detector (labelled "runtime part" in notes/C15.md), not a theorem.
-/
import Proofs.Lemmas.C15Sched
import Proofs.Lemmas.C15Floats
import Proofs.Lemmas.C15Table

namespace C15
open Tab C14L C15L Spec.Cells

variable {κ : Type} [DecidableEq κ]

/-- `Key.Less` is a total order on the keys present: distinct keys have distinct positions -/
structure RankOK (cfg : Cfg κ) (b : Builder κ (List Bytes) F64.Bits) : Prop where
  tInj : ∀ x y, x ∈ AL.keys b → y ∈ AL.keys b → cfg.rankT x = cfg.rankT y → x = y
  rInj : ∀ t bt, (t, bt) ∈ b → ∀ x y, x ∈ bt.rows → y ∈ bt.rows → cfg.rankR x = cfg.rankR y → x = y
  cInj : ∀ t bt, (t, bt) ∈ b → ∀ x y, x ∈ bt.cols → y ∈ bt.cols → cfg.rankC x = cfg.rankC y → x = y

/-- positions in a sorted list of distinct keys — what the harness passes — are injective -/
theorem rankOK_of_injective (cfg : Cfg κ) (b : Builder κ (List Bytes) F64.Bits)
    (hT : ∀ x y, cfg.rankT x = cfg.rankT y → x = y) (hR : ∀ x y, cfg.rankR x = cfg.rankR y → x = y)
    (hC : ∀ x y, cfg.rankC x = cfg.rankC y → x = y) : RankOK cfg b :=
  ⟨fun x y _ _ h => hT x y h, fun _ _ _ x y _ _ h => hR x y h, fun _ _ _ x y _ _ h => hC x y h⟩

example (orc : Oracles) (b : Builder Nat (List Bytes) F64.Bits) :
    RankOK ({ rankT := id, rankR := id, rankC := fun n => n + 1, unitOf := fun _ => [], assume := fun _ => .nothing,
              fieldNames := [], orc := orc } : Cfg Nat) b :=
  rankOK_of_injective _ _ (fun _ _ h => h) (fun _ _ h => h) (fun _ _ h => Nat.succ.inj h)

theorem validSched_default : ValidSched Sched.default :=
  ⟨fun _ l => List.Perm.refl l, fun _ l => List.Perm.refl l⟩

/-- a non-trivial valid schedule: every map is walked backwards, goroutines finish in reverse -/
example : ValidSched { iter := fun _ l => l.reverse, taskOrder := fun _ l => l.reverse } :=
  ⟨fun _ l => List.reverse_perm l, fun _ l => List.reverse_perm l⟩

/-- **toTablesSched_eq_toTables**: for every valid schedule — every iteration order of the
table, row, column, cell and residue maps and every completion order of the goroutines of both
fan-outs — `ToTables` produces the tables of the sequential reading (hence any two schedules produce the
same tables: `toTables_order_independent`). Hypotheses: the Builder is one that `Add` can produce (`WF`; see
`C14.cells_are_groupBy`) and `Key.Less` orders the keys present totally (`RankOK`; C09). -/
theorem toTablesSched_eq_toTables (cfg : Cfg κ) (s : Sched) (hs : ValidSched s)
    (b : Builder κ (List Bytes) F64.Bits) (hwf : WF b) (hr : RankOK cfg b) :
    toTablesSched cfg s b = toTables cfg b := by
  have hkeys : sortKeys cfg.rankT (s.iter κ (AL.keys b)) = sortKeys cfg.rankT (AL.keys b) :=
    (sortKeys_eq_of_perm cfg.rankT (hs.iter_perm _ _).symm hr.tInj).symm
  unfold toTablesSched toTables
  simp only [hkeys]
  rw [List.map_filterMap]
  apply Shared.filterMap_congr
  intro k hk
  cases hl : AL.lookup k b with
  | none => rfl
  | some bt =>
    simp only [Option.map_some]
    congr 1
    exact schedTable_eq cfg s hs hwf _ k hk bt hl (hr.rInj k bt (lookup_mem hl)) (hr.cInj k bt (lookup_mem hl))

/-- **toTables_order_independent**: any two valid schedules give the same tables. -/
theorem toTables_order_independent (cfg : Cfg κ) (s s' : Sched) (hs : ValidSched s) (hs' : ValidSched s')
    (b : Builder κ (List Bytes) F64.Bits) (hwf : WF b) (hr : RankOK cfg b) :
    toTablesSched cfg s b = toTablesSched cfg s' b := by
  rw [toTablesSched_eq_toTables cfg s hs b hwf hr, toTablesSched_eq_toTables cfg s' hs' b hwf hr]

/-- the same for the Builder of any input stream (`WF` is an invariant of `Add`) -/
theorem toTables_order_independent_stream (cfg : Cfg κ) (s s' : Sched) (hs : ValidSched s) (hs' : ValidSched s')
    (rs : List (Res κ (List Bytes) F64.Bits)) (hr : RankOK cfg (build rs)) :
    toTablesSched cfg s (build rs) = toTablesSched cfg s' (build rs) :=
  toTables_order_independent cfg s s' hs hs' _ (WF_build rs) hr

/-- **render_function_of_tables**: CSV records, CSV warnings and the numbered text footnotes are
functions of the tables value (and of the key tuples) alone, so they too are the same under every
schedule. -/
theorem render_function_of_tables (cfg : Cfg κ) (s s' : Sched) (hs : ValidSched s) (hs' : ValidSched s')
    (b : Builder κ (List Bytes) F64.Bits) (hwf : WF b) (hr : RankOK cfg b)
    (tableFields : List Bytes) (colFields : Nat) (tupleT tupleR tupleC : κ → List Bytes) :
    tablesCSV tableFields colFields tupleT tupleR tupleC (toTablesSched cfg s b) =
      tablesCSV tableFields colFields tupleT tupleR tupleC (toTablesSched cfg s' b) ∧
    (toTablesSched cfg s b).map textFootnotes = (toTablesSched cfg s' b).map textFootnotes := by
  rw [toTables_order_independent cfg s s' hs hs' b hwf hr]
  exact ⟨rfl, rfl⟩

/-- **line_permutation_cells**: permuting the results of the input (in particular the result
lines inside a configuration block) leaves the set of cells and every cell's sample MULTISET
unchanged. Statistics are functions of the sorted sample, so they are unchanged as long as
sorting identifies the multiset (with the sort of commit 803247b: no two NaN payloads of one sign
in one cell); first-observation
orders — hence row order, and which column is the baseline when columns are ordered by first
observation — may change. -/
theorem line_permutation_cells {ζ ν : Type} [DecidableEq ζ] (rs rs' : List (Res κ ζ ν)) (h : rs.Perm rs') :
    ∀ t r c, (cellValues (build rs) t r c).Perm (cellValues (build rs') t r c) ∧
      hasCell (build rs) t r c = hasCell (build rs') t r c := by
  intro t r c
  rw [cellValues_build, cellValues_build, hasCell_build, hasCell_build, (group_perm h t r c).isEmpty_eq]
  exact ⟨(group_perm h t r c).map _, rfl⟩

/-- the set of residue keys of a cell is permutation invariant -/
theorem cellResidue_perm {ν : Type} (rs rs' : List (Res κ (List Bytes) ν)) (h : rs.Perm rs') (t r c : κ)
    (z : List Bytes) : z ∈ cellResidue (build rs) t r c ↔ z ∈ cellResidue (build rs') t r c := by
  rw [mem_cellResidue_build, mem_cellResidue_build]
  exact ((group_perm h t r c).map _).mem_iff

/-- **line_permutation_statistics**: for a cell whose sample is CLEAN (the sort key separates its
bit patterns; as the sort of commit 803247b orders −0 before +0 this only excludes two NaNs of one sign with
different payloads: `clean_of_one_nan_pattern`, `clean_of_no_nan`) the
SORTED sample is the same after any permutation of the input results, hence so is every statistic
that is a function of the sorted sample. ASSUMPTION ABOUT benchmath, explicit here: `Summary` and
`Compare` read nothing but `Sample.Values` (sorted), the constant thresholds/confidence and the
memo caches (`caches_are_memo`) — that is what the type of `Oracles.summary/compare` says. -/
theorem line_permutation_statistics (orc : Oracles) (a : Assump)
    {ζ : Type} [DecidableEq ζ] (rs rs' : List (Res κ ζ F64.Bits)) (h : rs.Perm rs') (t r c : κ)
    (hc : Clean (cellValues (build rs) t r c)) :
    sortFloats (cellValues (build rs) t r c) = sortFloats (cellValues (build rs') t r c) ∧
    orc.summary a (sortFloats (cellValues (build rs) t r c)) =
      orc.summary a (sortFloats (cellValues (build rs') t r c)) := by
  have := sortFloats_eq_of_perm (line_permutation_cells rs rs' h t r c).1 hc
  exact ⟨this, by rw [this]⟩

/-- and the comparison of two clean cells (e.g. a cell and its baseline) -/
theorem line_permutation_comparison (orc : Oracles) (a : Assump)
    {ζ : Type} [DecidableEq ζ] (rs rs' : List (Res κ ζ F64.Bits)) (h : rs.Perm rs') (t r c c0 : κ)
    (hc : Clean (cellValues (build rs) t r c)) (hc0 : Clean (cellValues (build rs) t r c0)) :
    orc.compare a (sortFloats (cellValues (build rs) t r c0)) (sortFloats (cellValues (build rs) t r c)) =
      orc.compare a (sortFloats (cellValues (build rs') t r c0)) (sortFloats (cellValues (build rs') t r c)) := by
  rw [(line_permutation_statistics orc a rs rs' h t r c hc).1,
    (line_permutation_statistics orc a rs rs' h t r c0 hc0).1]

/-- **line_permutation_table**: if the requested orders rank the keys the same way for both
inputs (`cfg` is shared: orders that do not depend on observation — alpha, num, fixed — or whose
first observations the permutation does not change, e.g. `.file` columns under a permutation
inside files) and samples are clean, then a permutation of the input results leaves the set of
tables, each table's rows and columns, and EVERY CELL — sample, summary, baseline, comparison,
warnings — unchanged. -/
theorem line_permutation_table (cfg : Cfg κ) (rs rs' : List (Res κ (List Bytes) F64.Bits)) (h : rs.Perm rs')
    (hr : RankOK cfg (build rs)) (hclean : ∀ t r c, Clean (cellValues (build rs) t r c)) (t : κ) :
    match AL.lookup t (build rs), AL.lookup t (build rs') with
    | some bt, some bt' =>
      (toTable cfg t bt).rows = (toTable cfg t bt').rows ∧ (toTable cfg t bt).cols = (toTable cfg t bt').cols ∧
      ∀ k, AL.lookup k (toTable cfg t bt).cells = AL.lookup k (toTable cfg t bt').cells
    | none, none => True
    | _, _ => False := by
  have lp := line_permutation_cells rs rs' h t
  -- the table exists for both inputs or for neither: some measurement has it
  have hsome : (AL.lookup t (build rs)).isSome = (AL.lookup t (build rs')).isSome := by
    rw [Bool.eq_iff_iff, lookup_build_isSome, lookup_build_isSome]
    exact exists_congr fun m => and_congr_left fun _ => (measOf_perm h).mem_iff
  cases hl : AL.lookup t (build rs) <;> cases hl' : AL.lookup t (build rs') <;> rw [hl, hl'] at hsome <;>
    try cases hsome
  · trivial
  rename_i bt bt'
  refine toTable_congr cfg t bt bt' ((WF_build rs).2 t bt (lookup_mem hl)) ((WF_build rs').2 t bt' (lookup_mem hl'))
    (hr.rInj t bt (lookup_mem hl)) (hr.cInj t bt (lookup_mem hl)) (fun k => ?_) fun k bc bc' h1 h2 => ⟨?_, fun z => ?_⟩
  · rw [← cellAt_of_lookup hl, ← cellAt_of_lookup hl', ← hasCell_eq, ← hasCell_eq]; exact (lp k.1 k.2).2
  · have hv := sortFloats_eq_of_perm (lp k.1 k.2).1 (hclean t k.1 k.2)
    rwa [cellValues_eq, cellValues_eq, cellAt_of_lookup hl, cellAt_of_lookup hl', h1, h2] at hv
  · have hz := cellResidue_perm rs rs' h t k.1 k.2 z
    rwa [cellResidue_eq, cellResidue_eq, cellAt_of_lookup hl, cellAt_of_lookup hl', h1, h2] at hz

/-- rank of a key under the default order: position of its first observation -/
def firstObsRank (obs : List Nat) (k : Nat) : Nat := (obs.eraseDups).idxOf k

def dummyOracles : Oracles :=
  { summary := fun _ s => { center := s.headD 0, centerStr := [], pct := [], warnings := [] },
    compare := fun _ _ _ => { delta := [], str := [], warnings := [] },
    geomean := fun _ => { val := 0, str := [], pct := [] } }

/-- `-col /format` style: columns ranked by first observation in the stream -/
def cfgFirstObs (rs : List (Res Nat (List Bytes) F64.Bits)) : Cfg Nat :=
  { rankT := id, rankR := id, rankC := firstObsRank (rs.map (·.col)), unitOf := fun _ => [],
    assume := fun _ => .nothing, fieldNames := [], orc := dummyOracles }

/-- two result lines of one benchmark (row 0), formats json (column 1) and gob (column 2) -/
def cexLines : List (Res Nat (List Bytes) F64.Bits) :=
  [ { row := 0, col := 1, residue := [], vals := [(0, 0x4014000000000000)] },
    { row := 0, col := 2, residue := [], vals := [(0, 0x401C000000000000)] } ]

/-- **baseline_depends_on_first_observation** (counter-example to "no cell content changes"):
swapping the two lines keeps every cell's sample (`line_permutation_cells`) but, under a
by-first-observation column order, swaps the column order; the cell (row 0, gob) is compared
against json before and is itself the baseline after. So Δ and p of a cell are NOT invariant
under line permutation in general — they are when the column ranks are (`line_permutation_table`). -/
theorem baseline_depends_on_first_observation :
    cexLines.Perm cexLines.reverse ∧
    ((toTables (cfgFirstObs cexLines) (build cexLines)).map (·.cols)) = [[1, 2]] ∧
    ((toTables (cfgFirstObs cexLines.reverse) (build cexLines.reverse)).map (·.cols)) = [[2, 1]] ∧
    ((toTables (cfgFirstObs cexLines) (build cexLines)).map
      fun t => (AL.lookup (0, 2) t.cells).map (·.baseline)) = [some (some (0, 1))] ∧
    ((toTables (cfgFirstObs cexLines.reverse) (build cexLines.reverse)).map
      fun t => (AL.lookup (0, 2) t.cells).map (·.baseline)) = [some none] ∧
    ((toTables (cfgFirstObs cexLines) (build cexLines)).map
      fun t => (AL.lookup (0, 2) t.cells).map (·.sample)) =
    ((toTables (cfgFirstObs cexLines.reverse) (build cexLines.reverse)).map
      fun t => (AL.lookup (0, 2) t.cells).map (·.sample)) := by
  refine ⟨(List.reverse_perm _).symm, ?_, ?_, ?_, ?_, ?_⟩ <;> decide +kernel

/-- a cache is sound for `f` when every entry it holds is a value of `f` -/
def CacheSound {K V : Type} [DecidableEq K] (f : K → V) (cache : List (K × V)) : Prop :=
  ∀ k v, AL.lookup k cache = some v → v = f k

/-- **caches_are_memo** (`medianCI`, `tidyUnit`): with ANY sound cache state — in particular any
state reachable from the empty cache by earlier calls, in any order, from any goroutine — a lookup
returns exactly the value of the function, and leaves the cache sound. -/
theorem caches_are_memo {K V : Type} [DecidableEq K] (f : K → V) (cache : List (K × V)) (k : K)
    (h : CacheSound f cache) : (memoGet f cache k).1 = f k ∧ CacheSound f (memoGet f cache k).2 := by
  unfold memoGet
  cases hl : AL.lookup k cache with
  | some v => exact ⟨h k v hl, h⟩
  | none =>
    refine ⟨rfl, ?_⟩
    intro k' v' hl'
    rw [lookup_upsert] at hl'
    by_cases hk : k' = k
    · subst hk; simp at hl'; exact hl'.symm
    · simp [hk] at hl'; exact h k' v' hl'

theorem cacheSound_empty {K V : Type} [DecidableEq K] (f : K → V) : CacheSound f [] := by
  intro k v h; simp [AL.lookup] at h

/-- every sequence of calls starting from a sound cache (`cacheSound_empty`: e.g. the empty one) returns
the function's values -/
theorem caches_are_memo_seq {K V : Type} [DecidableEq K] (f : K → V) (calls : List K) (cache : List (K × V))
    (h : CacheSound f cache) :
    (calls.foldl (fun (acc : List V × List (K × V)) k =>
        let r := memoGet f acc.2 k; (acc.1 ++ [r.1], r.2)) ([], cache)).1 = calls.map f := by
  have : ∀ (pre : List V) (cache : List (K × V)), CacheSound f cache →
      (calls.foldl (fun (acc : List V × List (K × V)) k =>
        let r := memoGet f acc.2 k; (acc.1 ++ [r.1], r.2)) (pre, cache)).1 = pre ++ calls.map f := by
    induction calls with
    | nil => intro pre cache _; simp
    | cons k rest ih =>
      intro pre cache hc
      obtain ⟨h1, h2⟩ := caches_are_memo f cache k hc
      simp only [List.foldl_cons, List.map_cons]
      rw [ih _ _ h2, h1]
      simp
  simpa using this [] cache h

end C15
