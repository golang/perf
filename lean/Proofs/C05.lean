/-
C05 — name decomposition and key extraction. The property theorems, each preceded by the lemmas
about `splitSlash`, `parts`, `extractNamePart` and `takeWhile` that only it needs.
-/
import Model.Fmt.Name
import Model.Proc.Extract
import Model.Spec.Name
import Proofs.Lemmas.C05Name
import Proofs.Lemmas.Shared.Bytes
import Proofs.Lemmas.Shared.List

namespace C05
open Bytes Fmt.Name

theorem splitGomaxprocs_concat (n : Bytes) :
    (splitGomaxprocs n).1 ++ ((splitGomaxprocs n).2.getD []) = n := by
  rw [splitGomaxprocs_eq_spec]
  unfold Spec.Name.gmpSplit
  have h := List.takeWhile_append_dropWhile (p := isDigit) (l := n.reverse)
  cases hr : n.reverse.dropWhile isDigit with
  | nil => simp
  | cons c r =>
    rw [hr] at h
    simp only
    split
    · simpa using congrArg List.reverse h
    · simp

theorem splitSlash_flatten (b : Bytes) : (splitSlash b).flatten = b := by
  induction b with
  | nil => simp [splitSlash]
  | cons c r ih =>
    unfold splitSlash
    rw [splitSlash_head r] at ih ⊢
    simp only
    split <;> simp_all

/-- **parts_concat**: base followed by the parts reproduces the name byte for byte. -/
theorem parts_concat (n : Bytes) : (parts n).1 ++ (parts n).2.flatten = n := by
  have h1 := splitGomaxprocs_concat n
  have hfl := splitSlash_flatten (splitGomaxprocs n).1
  rw [splitSlash_head, List.flatten_cons] at hfl
  rw [parts_eq, List.flatten_append, ← List.append_assoc, hfl]
  cases hg : (splitGomaxprocs n).2 <;> simpa [hg] using h1

/-- **parts_eq_spec** — the algorithm of `Name.Parts` (backwards scan for `-N`, forward split at
'/') computes exactly the specified decomposition, for every byte string. -/
theorem parts_eq_spec (n : Bytes) : parts n = Spec.Name.decomp n := by
  unfold parts Spec.Name.decomp
  rw [splitGomaxprocs_eq_spec]
  generalize Spec.Name.gmpSplit n = sg
  obtain ⟨buf, g⟩ := sg
  simp only
  rw [splitSlash_eq_spec]
  cases g <;> simp

theorem takeWhile_no_slash (b : Bytes) : hasByte (b.takeWhile (· != slash)) slash = false :=
  Bool.eq_false_iff.mpr fun h =>
    absurd (List.all_eq_true.mp List.all_takeWhile _ ((Bytes.hasByte_iff _ _).mp h)) (by simp)

theorem T_all_slashSeg (b : Bytes) : (T b).all Spec.Name.isSlashSeg = true := by
  induction b with
  | nil => simp [T, splitSlash]
  | cons c r ih =>
    rw [T_cons]
    by_cases hc : c = slash
    · subst hc
      simp only [beq_self_eq_true, if_true, List.all_cons, ih, Bool.and_true]
      simp only [Spec.Name.isSlashSeg, beq_self_eq_true, Bool.true_and, Bool.not_eq_true']
      exact takeWhile_no_slash r
    · have : (c == slash) = false := by simpa using hc
      simp [this, ih]

theorem splitGomaxprocs_gmp {n g : Bytes} (h : (splitGomaxprocs n).2 = some g) :
    Spec.Name.isGmpPart g = true := by
  rw [splitGomaxprocs_eq_spec] at h
  unfold Spec.Name.gmpSplit at h
  simp only at h
  split at h
  · rename_i c r hr
    split at h
    · rename_i hc
      cases h
      simp only [Bool.and_eq_true, Bool.not_eq_true', beq_iff_eq] at hc
      simp only [Spec.Name.isGmpPart, hc.1, beq_self_eq_true, Bool.true_and, Bool.and_eq_true,
        Bool.not_eq_true', List.all_reverse]
      exact ⟨by simpa using hc.2, List.all_takeWhile⟩
    · cases h
  · cases h

/-- **parts_shape** — the base contains no '/', every part but an optional last one is a
'/'-introduced segment without further '/', and the optional last one is `-` followed by one or
more digits. -/
theorem parts_shape (n : Bytes) : Spec.Name.shapeOK (parts n).1 (parts n).2 = true := by
  rw [parts_eq]
  unfold Spec.Name.shapeOK
  rw [takeWhile_no_slash]
  have hall := T_all_slashSeg (splitGomaxprocs n).1
  cases hg : (splitGomaxprocs n).2 with
  | none =>
    simp only [Option.toList_none, List.append_nil, Bool.not_false, Bool.true_and]
    cases hl : (T (splitGomaxprocs n).1).getLast? with
    | none => rfl
    | some l =>
      simp only
      rw [List.all_eq_true] at hall
      have h1 : Spec.Name.isSlashSeg l = true := hall l (List.mem_of_getLast? hl)
      have h2 : (T (splitGomaxprocs n).1).dropLast.all Spec.Name.isSlashSeg = true :=
        List.all_eq_true.2 fun x hx => hall x (List.dropLast_subset _ hx)
      simp [h1, h2]
  | some g => simp [hall, splitGomaxprocs_gmp hg]

end C05

namespace C05
open Bytes Fmt.Name Proc.Extract

/-- **fullname_key** — `.fullname` is the whole name. -/
theorem fullname_key (r : ResView) : extract dotFullname r = .ok r.name := by
  simp [extract, dotFullname, dotConfig, dotUnit, dotName]

theorem extract_slash (k : Bytes) (r : ResView) :
    extract (slash :: k) r =
      .ok (extractNamePart r.name (slash :: k ++ [eqc]) (slash :: k == gomaxprocsKey)) := by
  simp [extract, slash, dotConfig, dotUnit, dotName, dotFullname]

theorem extractNamePart_plain (n k : Bytes) :
    extractNamePart n (k ++ [eqc]) false = Spec.Name.subname k (parts n).2 := by
  simp only [extractNamePart, Bool.false_eq_true, if_false, Spec.Name.subname]
  cases (parts n).2.find? (hasPrefix · (k ++ [eqc])) <;> simp

/-- **subname_key** — `/k` (any key starting with '/', other than `/gomaxprocs`) is the text after
`/k=` in the first part carrying that prefix, and empty when there is none. -/
theorem subname_key (k : Bytes) (r : ResView) (hk : (slash :: k) ≠ gomaxprocsKey) :
    extract (slash :: k) r = .ok (Spec.Name.subname (slash :: k) (parts r.name).2) := by
  rw [extract_slash, beq_eq_false_iff_ne.mpr hk, extractNamePart_plain]

theorem extract_plain (key : Bytes) (r : ResView) (hne : key ≠ []) (hs : key.head? ≠ some slash)
    (h1 : key ≠ dotConfig) (h2 : key ≠ dotUnit) (h3 : key ≠ dotName) (h4 : key ≠ dotFullname) :
    extract key r = .ok (extractConfig r key) := by
  simp [extract, hne, hs, h1, h2, h3, h4]

/-- **config_key** — a plain key (not starting with '/' and none of the reserved dotted names)
is the configured value of that key, and empty when the key is absent. -/
theorem config_key (key : Bytes) (r : ResView) (hne : key ≠ []) (hs : key.head? ≠ some slash)
    (h1 : key ≠ dotConfig) (h2 : key ≠ dotUnit) (h3 : key ≠ dotName) (h4 : key ≠ dotFullname) :
    extract key r = .ok (match r.config.find? (·.1 == key) with
                          | some kv => kv.2
                          | none => []) :=
  extract_plain key r hne hs h1 h2 h3 h4

example : extract [107] { name := [70], config := [([97], [49]), ([107], [120])] } = .ok [120] := by rfl
example : extract [109] { name := [70], config := [([97], [49])] } = .ok [] := by rfl

theorem takeUntilSlash_eq (n : Bytes) : takeUntilSlash n = n.takeWhile (· != slash) := by
  induction n with
  | nil => rfl
  | cons c r ih =>
    unfold takeUntilSlash
    by_cases hc : c = slash
    · subst hc; simp
    · have : (c == slash) = false := by simpa using hc
      simp [this, hc, ih]

theorem takeWhile_ne_append_of_mem {c : UInt8} {l r : Bytes} (h : c ∈ l) :
    (l ++ r).takeWhile (· != c) = l.takeWhile (· != c) := by
  induction l with
  | nil => cases h
  | cons a l ih =>
    rw [List.cons_append, List.takeWhile_cons, List.takeWhile_cons]
    split
    · rename_i ha
      rw [ih ((List.mem_cons.mp h).resolve_left fun e => bne_iff_ne.mp ha e.symm)]
    · rfl

theorem gmpPart_no_slash (g : Bytes) (h : Spec.Name.isGmpPart g = true) : slash ∉ g := by
  cases g with
  | nil => exact List.not_mem_nil
  | cons c r =>
    simp only [Spec.Name.isGmpPart, Bool.and_eq_true, beq_iff_eq] at h
    intro hm
    rcases List.mem_cons.mp hm with e | hr
    · exact absurd (e.trans h.1.1) (by decide)
    · exact absurd (List.all_eq_true.mp h.2 _ hr) (by decide)

/-- **base_eq_parts_fst** — `Name.Base` reported on its own is the base that `Name.Parts` returns. -/
theorem base_eq_parts_fst (n : Bytes) : base n = (parts n).1 := by
  have hcat := splitGomaxprocs_concat n
  rw [parts_eq]
  unfold base
  have hg : slash ∉ (splitGomaxprocs n).2.getD [] := by
    cases hg : (splitGomaxprocs n).2 with
    | none => exact List.not_mem_nil
    | some g => exact gmpPart_no_slash g (splitGomaxprocs_gmp hg)
  generalize (splitGomaxprocs n).2.getD [] = g at hcat hg
  generalize (splitGomaxprocs n).1 = buf at hcat ⊢
  by_cases hb : slash ∈ buf
  · have hn : hasByte n slash = true := (Bytes.hasByte_iff _ _).mpr (hcat ▸ List.mem_append_left _ hb)
    rw [hn, if_pos rfl, takeUntilSlash_eq, ← hcat, takeWhile_ne_append_of_mem hb]
  · have hn : ¬ hasByte n slash = true := fun h => by
      rw [Bytes.hasByte_iff, ← hcat, List.mem_append] at h
      exact h.elim hb hg
    have hbuf : buf.takeWhile (· != slash) = buf :=
      Shared.takeWhile_of_all buf (List.all_eq_true.mpr fun a ha => bne_iff_ne.mpr fun e => hb (e ▸ ha))
    rw [if_neg hn, hbuf]

/-- **name_key** — `.name` is the base of the decomposition. -/
theorem name_key (r : ResView) : extract dotName r = .ok (parts r.name).1 := by
  rw [← base_eq_parts_fst]
  simp [extract, dotConfig, dotUnit, dotName]

theorem head_dash_iff_gmp (l : Bytes) (h : Spec.Name.isSlashSeg l = true ∨ Spec.Name.isGmpPart l = true) :
    (l.head? == some dash) = Spec.Name.isGmpPart l := by
  cases l with
  | nil => simp [Spec.Name.isGmpPart]
  | cons c t =>
    rcases h with h | h
    · simp only [Spec.Name.isSlashSeg, Bool.and_eq_true, beq_iff_eq] at h
      have hc := h.1; subst hc
      have e1 : (Spec.Name.slash == dash) = false := by decide
      simp [Spec.Name.isGmpPart, e1]
    · simp only [Spec.Name.isGmpPart, Bool.and_eq_true, beq_iff_eq] at h
      have hc := h.1.1; subst hc
      simp [Spec.Name.isGmpPart, h.1.2, h.2]

theorem extractNamePart_gmp (n k : Bytes) :
    extractNamePart n (k ++ [eqc]) true =
      match (parts n).2.getLast? with
      | some l => if l.head? == some dash then l.drop 1 else Spec.Name.subname k (parts n).2
      | none => Spec.Name.subname k (parts n).2 := by
  rw [← extractNamePart_plain]
  unfold extractNamePart
  simp only [if_true, Bool.false_eq_true, if_false]
  cases (parts n).2.getLast? with
  | none => rfl
  | some l =>
    simp only
    cases l.head? == some dash <;> rfl

/-- **gomaxprocs_key** — `/gomaxprocs` is the trailing N of a `-N` part, or else the value of an
explicit `/gomaxprocs=` segment, or empty. -/
theorem gomaxprocs_key (r : ResView) :
    extract gomaxprocsKey r = .ok (Spec.Name.gomaxprocs (parts r.name).2) := by
  have hshape := parts_shape r.name
  have e : extract gomaxprocsKey r = .ok (extractNamePart r.name (gomaxprocsKey ++ [eqc]) true) :=
    extract_slash _ r
  rw [e, extractNamePart_gmp]
  unfold Spec.Name.gomaxprocs
  unfold Spec.Name.shapeOK at hshape
  cases hl : (parts r.name).2.getLast? with
  | none => rw [List.getLast?_eq_none_iff.mp hl]; rfl
  | some l =>
    rw [hl] at hshape
    simp only [Bool.and_eq_true, Bool.or_eq_true] at hshape
    simp only [head_dash_iff_gmp l hshape.2.2]
    rfl

/-- non-vacuity: an irregular name (`a-b/c=1-4`) decomposes as specified -/
example : parts [97, 45, 98, 47, 99, 61, 49, 45, 52] = ([97, 45, 98], [[47, 99, 61, 49], [45, 52]]) := by decide

theorem keep_all (n : Bytes) (subs : List Bytes) (excG : Bool)
    (hc : ∀ k ∈ subs, contains n (k ++ [eqc]) = false) (hg : excG = true → hasByte n dash = false) :
    ∀ p ∈ (parts n).2,
      (!(subs.any fun k => hasPrefix p (k ++ [eqc])) && !(excG && p.head? == some dash)) = true := by
  intro p hp
  have hcat := parts_concat n
  have hin : p <:+: n := hcat ▸ List.infix_append_of_infix_right (List.infix_of_mem_flatten hp)
  simp only [Bool.and_eq_true, Bool.not_eq_true', List.any_eq_false, Bool.and_eq_false_imp]
  refine ⟨fun k hk hpre => ?_, fun hG => Bool.eq_false_iff.mpr fun hh => ?_⟩
  · have := ((Bytes.hasPrefix_iff _ _).mp hpre).isInfix.trans hin
    rw [← Bytes.contains_iff, hc k hk] at this; cases this
  · have hd : dash ∈ p := List.mem_of_mem_head? (by simpa using hh)
    have := (Bytes.hasByte_iff n dash).mpr (hin.subset hd)
    rw [hg hG] at this; cases this

/-- **fullname_excluding_spec** — the `.fullname` extractor with excluded keys (fast path "nothing
to delete" included) equals the specification computed from the decomposition, for every name
and every exclusion list. -/
theorem fullname_excluding_spec (exclude : List Bytes) (n : Bytes) :
    Proc.Extract.fullNameExcluding exclude n
      = Spec.Name.fullNameExcluding exclude (parts n).1 (parts n).2 := by
  unfold Proc.Extract.fullNameExcluding Spec.Name.fullNameExcluding extractFullExcluded
  simp only [List.any_map, Function.comp_def, List.isEmpty_map]
  generalize exclude.filter (·.head? == some slash) = subs
  generalize hG : subs.any (· == gomaxprocsKey) = excG
  have hG' : subs.any (· == Spec.Name.gomaxprocsKey) = excG := hG
  rw [hG']
  generalize hN : exclude.any (· == dotName) = excName
  have hN' : exclude.any (· == [46, 110, 97, 109, 101]) = excName := hN
  rw [hN']
  -- when nothing excluded occurs in the name every part is kept (`keep_all`)
  split
  · next h =>
    simp only [Bool.and_eq_true, Bool.not_eq_true', List.isEmpty_iff] at h
    obtain ⟨⟨rfl, hn⟩, hg⟩ := h
    rw [hn, if_neg Bool.false_ne_true, List.filter_eq_self.mpr
      (keep_all n [] excG (fun k hk => by cases hk) (fun e => by rw [hg] at e; cases e))]
    exact (parts_concat n).symm
  · split
    · next h =>
      simp only [Bool.not_eq_true', Bool.or_eq_false_iff, List.any_eq_false, Bool.and_eq_false_imp] at h
      rw [h.1.1, if_neg Bool.false_ne_true, List.filter_eq_self.mpr
        (keep_all n subs excG (fun k hk => Bool.eq_false_iff.mpr (h.1.2 k hk)) h.2)]
      exact (parts_concat n).symm
    · rfl

end C05
