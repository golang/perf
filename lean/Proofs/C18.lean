/-
C18 — comparison series depend only on the result set; bootstrap summaries are sane.
The property theorems, the two predicates `InRange` and `FieldsLt` their date statement needs, and
evaluated examples (helpers: Proofs/Lemmas/C18*.lean).
-/
import Proofs.Lemmas.C18Range
import Proofs.Lemmas.C18Date
import Proofs.Lemmas.C18Series
import Proofs.Lemmas.C18Build
import Proofs.Lemmas.C18Assemble
import Proofs.Lemmas.Shared.Bytes

namespace C18
open Series.Boot Series Series.Date

/-! The bootstrap theorems are about the exact arithmetic instance `rat` of the algorithm; the
correspondence run ties the algorithm to the real code through its float64 instance. -/

/-- **bootstrap_ordered** — low ≤ centre ≤ high for every sample, resample count N ≥ 1, PRNG
stream and confidence in [0,1] with N·p ≤ (N−1)/2, p = (1−confidence)/2, i.e. confidence ≥ 1/N.
The hypothesis is forced: outside it the property fails (next theorems; recorded defect N3). -/
theorem bootstrap_ordered (nu de : List Rat) (conf : Rat) (n : Nat) (stream : List Nat)
    (hn : 0 < n) (h1 : conf ≤ 1)
    (hN3 : 2 * ((n : Rat) * ((1 - conf) / 2)) ≤ (n : Rat) - 1) :
    (ratio rat nu de conf n stream).low ≤ (ratio rat nu de conf n stream).center ∧
    (ratio rat nu de conf n stream).center ≤ (ratio rat nu de conf n stream).high := by
  have hlen : (sort rat (ratios rat nu de n stream)).length = n := by
    rw [(sort_perm _).length_eq, ratios_length]
  have hne : sort rat (ratios rat nu de n stream) ≠ [] := List.ne_nil_of_length_pos (by rw [hlen]; exact hn)
  have hm := Lerp.sorted_of_pairwise (sort_sorted (ratios rat nu de n stream))
  simp only [ratio, summarize_rat]
  exact percentile_le_median_le hm hne (by linarith) (by rw [hlen]; exact hN3)

/-- **bootstrap_unordered_witness** — outside the hypothesis of `bootstrap_ordered` the order
fails: two resamples with ratios 0 and 1 at confidence 1/10 give low = 9/10 > centre = 1/2. -/
theorem bootstrap_unordered_witness :
    (summarize rat [0, 1] (1 / 10)).center < (summarize rat [0, 1] (1 / 10)).low := by
  decide +kernel

/-- the same witness in float64, as the real code computes it (ratios 3/7 and 2.5, confidence 0.1:
Low = 2.29… > Center = 1.46…) -/
theorem bootstrap_unordered_witness_f64 :
    F64.lt (summarize f64 [0x3FDB6DB6DB6DB6DB, 0x4004000000000000] 0x3FB999999999999A).center
           (summarize f64 [0x3FDB6DB6DB6DB6DB, 0x4004000000000000] 0x3FB999999999999A).low = true := by
  decide +kernel

/-- in float64 the interpolation between two *equal* neighbours can round one ulp away: three
resamples all equal to c = 0x3FEC609F22374D71 at confidence 0.8 give Low = c − 1ulp, below every
attainable ratio (recorded defect N3R) -/
theorem bootstrap_rounding_witness_f64 :
    (summarize f64 [0x3FEC609F22374D71, 0x3FEC609F22374D71, 0x3FEC609F22374D71] 0x3FE999999999999A).low
      = 0x3FEC609F22374D70 := by
  decide +kernel

/-- **bootstrap_within_ratio_range** — for positive measurements (numerators in [nl, nh],
denominators in [dl, dh], 0 < nl, 0 < dl) the three summary values lie between the smallest and the
largest attainable ratio nl/dh and nh/dl, for every N ≥ 1, confidence in [0,1] and PRNG stream
(long enough for the N resamples). -/
theorem bootstrap_within_ratio_range (nu de : List Rat) (conf : Rat) (n : Nat) (stream : List Nat)
    (nl nh dl dh : Rat) (hnu : Within nl nh nu) (hde : Within dl dh de) (hnu0 : nu ≠ []) (hde0 : de ≠ [])
    (hnl : 0 < nl) (hdl : 0 < dl) (hn : 0 < n) (hs : n * (nu.length + de.length) ≤ stream.length)
    (h0 : 0 ≤ conf) (h1 : conf ≤ 1) :
    (nl / dh ≤ (ratio rat nu de conf n stream).low ∧ (ratio rat nu de conf n stream).low ≤ nh / dl) ∧
    (nl / dh ≤ (ratio rat nu de conf n stream).center ∧ (ratio rat nu de conf n stream).center ≤ nh / dl) ∧
    (nl / dh ≤ (ratio rat nu de conf n stream).high ∧ (ratio rat nu de conf n stream).high ≤ nh / dl) := by
  have hw : Within (nl / dh) (nh / dl) (sort rat (ratios rat nu de n stream)) :=
    within_of_perm (sort_perm _) (ratios_within hnu hde hnu0 hde0 hnl hdl n stream hs)
  have hne : sort rat (ratios rat nu de n stream) ≠ [] :=
    List.ne_nil_of_length_pos (by rw [(sort_perm _).length_eq, ratios_length]; exact hn)
  simp only [ratio, summarize_rat]
  exact ⟨percentile_within hw hne (by linarith) (by linarith), median_within hw hne,
    percentile_within hw hne (by linarith) (by linarith)⟩

/-- the range hypothesis `Within` of `bootstrap_within_ratio_range` on a concrete sample -/
example : Within 1 3 [1, 2, 3] := by intro v hv; simp at hv; rcases hv with rfl | rfl | rfl <;> norm_num

/-- **seed_function_of_samples** — reproducibility: the bootstrap of a comparison is a function of
the two samples, the confidence and N alone: the PRNG is seeded with `seed nu de`, which reads
nothing but the value bits, so equal samples give equal summaries for any generator `rng`
(math/rand, a deterministic function of its seed, is the parameter). -/
theorem seed_function_of_samples (rng : UInt64 → List Nat) (nu de nu' de' : List F64.Bits) (conf : F64.Bits) (n : Nat)
    (hnu : nu = nu') (hde : de = de') :
    seed nu de = seed nu' de' ∧
    ratio f64 nu de conf n (rng (seed nu de)) = ratio f64 nu' de' conf n (rng (seed nu' de')) := by
  subst hnu; subst hde; exact ⟨rfl, rfl⟩

/-- the seed is symmetric in the two samples (a product of the two hashes): a point whose samples
mirror another point's draws from the *same* generator stream — harmless as long as every point is
bootstrapped from its own samples, which is what the search layer checks per point -/
theorem seed_mirror (nu de : List F64.Bits) : seed nu de = seed de nu := by
  unfold seed; exact UInt64.mul_comm _ _

/-- **date_same_instant_same_string** — the normalised string is a function of the instant
(seconds since the epoch, nanoseconds) alone: two inputs, in either accepted format and with any
zone offsets or fraction spellings, that denote the same instant normalise to the same string. -/
theorem date_same_instant_same_string (s1 s2 : Bytes) (p1 p2 : Parsed)
    (h1 : parse s1 = some p1) (h2 : parse s2 = some p2) (hi : instant p1 = instant p2) :
    normalize s1 = normalize s2 := by
  simp [normalize, h1, h2, hi]

/-- the compact form, the Z form and an offset form of one instant -/
example : normalize "20200101T000000".toUTF8.toList = normalize "2020-01-01T01:00:00+01:00".toUTF8.toList ∧
    normalize "2019-12-31T19:00:00.000-05:00".toUTF8.toList = normalize "2020-01-01T00:00:00Z".toUTF8.toList := by
  simp only [ByteArray.toList_eq_data]
  decide +kernel

/-- UTC fields in the range the fixed-width layout can hold -/
structure InRange (u : UTC) : Prop where
  y0 : 0 ≤ u.year
  y1 : u.year < 10000
  mo : u.month < 100
  d : u.day < 100
  h : u.hour < 100
  mi : u.min < 100
  s : u.sec < 100
  ns : u.nanos < 10 ^ 9

/-- chronological order of UTC wall-clock fields -/
def FieldsLt (u v : UTC) : Prop :=
  u.year < v.year ∨ (u.year = v.year ∧ (u.month < v.month ∨ (u.month = v.month ∧ (u.day < v.day ∨ (u.day = v.day ∧
  (u.hour < v.hour ∨ (u.hour = v.hour ∧ (u.min < v.min ∨ (u.min = v.min ∧ (u.sec < v.sec ∨ (u.sec = v.sec ∧
  u.nanos < v.nanos)))))))))))

/-- **normalised_sort_is_chronological** — for UTC years 0000–9999 the output layout is order
preserving: if the fields of u precede those of v then the string of u sorts (bytewise) before
the string of v.  Year/month/day/hour/minute/second are fixed-width zero-padded; the fraction
is variable-width but '+' < '.' < digits makes "…:05+00:00" < "…:05.5+00:00" < "…:05.55+00:00".
(That the field order is the order of instants is calendar arithmetic of package time: it is
checked on generated pairs by the search layer, not proved.  Outside years 0–9999 the property
fails on the real code: "-0001-…" and "10000-…".) -/
theorem normalised_sort_is_chronological (u v : UTC) (hu : InRange u) (hv : InRange v) (h : FieldsLt u v) :
    formatCodes u < formatCodes v := by
  unfold formatCodes
  rw [fmtYear_of_range hu.y0 hu.y1, fmtYear_of_range hv.y0 hv.y1]
  simp only [List.append_assoc]
  have h0 := hu.y0
  have h1 := hv.y1
  -- one line per field, most significant first: either the field is smaller, which decides the
  -- comparison of the padded strings, or it is equal and the rest of `FieldsLt` goes to the next line
  refine lex_field (h.imp (fun h => pad4_lt (by omega) (by omega)) (And.imp (fun e => by rw [e]) fun h => ?_)) rfl
  -- month (after the separator), day, hour, minute
  refine List.append_left_lt (pad2_field hv.mo _ (h.imp_right (And.imp_right fun h => ?_)))
  refine pad2_field hv.d _ (h.imp_right (And.imp_right fun h => ?_))
  refine pad2_field hv.h _ (h.imp_right (And.imp_right fun h => ?_))
  refine pad2_field hv.mi _ (h.imp_right (And.imp_right fun h => ?_))
  -- second, then the fraction
  exact lex_field (h.imp (fun h => pad2_lt h hv.s) (And.imp (fun e => by rw [e]) fun h => fracPart_lt h hv.ns)) rfl

/-- outside the year range the layout is not order preserving: year −1 prints as "-0001…" which
does not have the fixed width, and year 10000 prints five digits and sorts before 9999 -/
theorem year_10000_sorts_first :
    formatCodes { year := 10000, month := 1, day := 1, hour := 0, min := 0, sec := 0, nanos := 0 } <
    formatCodes { year := 9999, month := 12, day := 31, hour := 23, min := 59, sec := 59, nanos := 0 } := by
  decide +kernel

/-- **replace_latest_wins** — under DUPE_REPLACE the comparison stored for a (benchmark, series)
point is the (trial, test) contribution addressed to it whose normalised experiment date no other
contribution exceeds, for every builder state, table and map iteration order. -/
theorem replace_latest_wins (env : Env) (ho : StrictOrder env.lt) (it : Iter) (b : Builder) (t : TKey)
    (sk : Bytes × Bytes) (hne : (contribs env it b t).filter (fun c => c.key = sk) ≠ []) :
    ∃ c ∈ (contribs env it b t).filter (fun c => c.key = sk),
      alookup sk ((contribs env it b t).foldl (step env .replace) {}).cells = some (fresh c) ∧
      ∀ c' ∈ (contribs env it b t).filter (fun c => c.key = sk), env.lt c.date c'.date = false := by
  rw [cells_lookup_foldl]
  generalize (contribs env it b t).filter (fun c => c.key = sk) = F at *
  cases F with
  | nil => exact absurd rfl hne
  | cons c0 F =>
    exact ⟨latest env.lt (·.date) c0 F, latest_mem _ _ c0 F, replace_fold env F c0, latest_max ho _ c0 F⟩

/-- **combine_concatenates** — under DUPE_COMBINE the numerator of a point is the concatenation
of the numerators of all contributions addressed to it (in visiting order) and the denominator is
`combineCells` folded over their optional denominators: a missing baseline counts as empty
(the code after commit 54a57f9). -/
theorem combine_concatenates (env : Env) (it : Iter) (b : Builder) (t : TKey) (sk : Bytes × Bytes)
    (c0 : Contrib) (F : List Contrib) (hF : (contribs env it b t).filter (fun c => c.key = sk) = c0 :: F) :
    ∃ d, alookup sk ((contribs env it b t).foldl (step env .combine) {}).cells =
      some { num := (c0 :: F).flatMap (·.num), den := (F.map (·.den)).foldl combineDen c0.den, date := d } := by
  rw [cells_lookup_foldl, hF]
  exact ⟨_, combine_fold env F (fresh c0)⟩

/-- **cells_iteration_order_independent** — DUPE_REPLACE, ANY builder state (not only reachable
ones): for any two map iteration orders every (benchmark, series) cell of the table ends up the
same, provided duplicates of a point have distinct normalised experiment dates.  (For reachable
states `series_order_independent` says more; this one needs no invariant of the builder.) -/
theorem cells_iteration_order_independent (env : Env) (ho : StrictOrder env.lt) (it1 it2 : Iter)
    (hv1 : it1.Valid) (hv2 : it2.Valid) (b : Builder) (t : TKey)
    (hdist : ∀ x ∈ contribs env Iter.id b t, ∀ y ∈ contribs env Iter.id b t,
      x.key = y.key → x.date = y.date → x = y)
    (sk : Bytes × Bytes) :
    alookup sk ((contribs env it1 b t).foldl (step env .replace) {}).cells =
    alookup sk ((contribs env it2 b t).foldl (step env .replace) {}).cells := by
  rw [cells_lookup_foldl, cells_lookup_foldl]
  have p1 := contribs_perm env it1 hv1 b t
  have p2 := contribs_perm env it2 hv2 b t
  have p : ((contribs env it1 b t).filter (fun c => c.key = sk)).Perm ((contribs env it2 b t).filter (fun c => c.key = sk)) :=
    (p1.trans p2.symm).filter _
  apply replace_fold_perm env ho p
  intro x hx y hy hd
  have hx' := List.mem_filter.mp hx
  have hy' := List.mem_filter.mp hy
  have kx : x.key = sk := by simpa using hx'.2
  have ky : y.key = sk := by simpa using hy'.2
  exact hdist x (p1.mem_iff.mp hx'.1) y (p1.mem_iff.mp hy'.1) (kx.trans ky.symm) hd

/-- **series_order_independent** — the comparison series depend only on the *set* of results:
for any two insertion orders `evs1 ~ evs2` of the projected measurements, both duplicate policies,
and any two map iteration orders (of the tables, of each table's trials, of each trial's tests —
arbitrary permutations), `AllComparisonSeries` returns the same value: the same error outcome,
the same tables in the same order, and per table the same Benchmarks, Series, HashPairs and the same
points with the same date and the same numerator / denominator *multisets* (`TableOut` holds the
samples sorted by bit pattern).  Hypothesis: the well-formedness `Spec.Series.WF` (W1–W5, W3c for
combine) — each clause excludes a shape on which the real code IS order dependent (notes/C18.md);
`TotalOrder env.le` holds for Go's string order (`bytesLe_totalOrder`). -/
theorem series_order_independent (env : Env) (ho : TotalOrder env.le) (o : Opts) (pol : Policy)
    (evs1 evs2 : List Ev) (hp : evs1.Perm evs2) (hwf : Spec.Series.WF env o pol evs1 = true)
    (it1 it2 : Iter) (hv1 : it1.Valid) (hv2 : it2.Valid) :
    allSeries env pol it1 (build o evs1) = allSeries env pol it2 (build o evs2) := by
  have hw := WFp_of_WF hwf
  unfold allSeries
  rw [datesOk_congr env o pol hp hw, sortTableKeys_congr env ho o pol hp hw it1 it2 hv1 hv2]
  split
  · congr 1
    apply List.map_congr_left
    intro t _
    exact tableOut_congr env ho o pol hp hw it1 it2 hv1 hv2 t
  · rfl

/-- the same, for results added in any order (a result contributes one measurement per unit) -/
theorem series_order_independent_results (env : Env) (ho : TotalOrder env.le) (o : Opts) (pol : Policy)
    (rs1 rs2 : List (List Ev)) (hp : rs1.Perm rs2) (hwf : Spec.Series.WF env o pol rs1.flatten = true)
    (it1 it2 : Iter) (hv1 : it1.Valid) (hv2 : it2.Valid) :
    allSeries env pol it1 (build o rs1.flatten) = allSeries env pol it2 (build o rs2.flatten) :=
  series_order_independent env ho o pol _ _ hp.flatten hwf it1 it2 hv1 hv2

/-- a non-trivial well-formed instance: the F10 shape (experiment 1 has a numerator only,
experiment 2 numerator and baseline, same series point) under both policies' common clauses -/
example :
    let env : Env := { norm := Series.Date.normalize, le := bytesLe }
    let o : Opts := { num := "num".toUTF8.toList, den := "den".toUTF8.toList }
    let mk (role exp : String) (v : UInt64) : Ev :=
      { unit := "sec".toUTF8.toList, table := [], bench := "Foo".toUTF8.toList, exp := exp.toUTF8.toList,
        ser := "2020-02-02T00:00:00Z".toUTF8.toList, cmp := role.toUTF8.toList, nh := "abc".toUTF8.toList,
        dh := "def".toUTF8.toList, val := v }
    Spec.Series.WF env o .replace
      [mk "num" "2020-01-01T00:00:00Z" 1, mk "num" "20200102T000000" 2, mk "den" "20200102T000000" 3] = true := by
  simp only [ByteArray.toList_eq_data]
  decide +kernel

/-- the Benchmarks and Series axes of a table do not depend on the map iteration order -/
theorem axes_order_independent (env : Env) (ho : TotalOrder env.le) (it1 it2 : Iter)
    (hv1 : it1.Valid) (hv2 : it2.Valid) (pol : Policy) (b : Builder) (t : TKey) :
    (tableOut env pol it1 b t).benches = (tableOut env pol it2 b t).benches ∧
    (tableOut env pol it1 b t).series = (tableOut env pol it2 b t).series := by
  constructor
  · apply sortSet_ext env ho
    intro a
    simp only [List.mem_map, mem_iter_trials hv1, mem_iter_trials hv2]
  · apply sortSet_ext env ho
    intro a
    have p := (contribs_perm env it1 hv1 b t).trans (contribs_perm env it2 hv2 b t).symm
    exact (p.map _).mem_iff

example : Iter.id.Valid := ⟨fun _ => List.Perm.refl _, fun _ => List.Perm.refl _, fun _ => List.Perm.refl _⟩
example : Iter.rev.Valid := ⟨fun l => List.reverse_perm l, fun l => List.reverse_perm l, fun l => List.reverse_perm l⟩

/-- the environment the driver runs (Go string order) satisfies the order hypotheses above -/
example (norm : Bytes → Option Bytes) : TotalOrder ({ norm := norm, le := bytesLe } : Env).le := bytesLe_totalOrder
example (norm : Bytes → Option Bytes) : StrictOrder ({ norm := norm, le := bytesLe } : Env).lt :=
  strictOrder_of_total _ bytesLe_totalOrder

/-- **cells_hold_exactly_matching_measurements** — after `Add`ing any sequence of measurements,
the numerator cell of (unit, table, benchmark, experiment, numerator hash) holds exactly the values
of the measurements whose unit, table keys, benchmark, experiment, role and hash match — no more,
no fewer, in insertion order — and the baseline cell of (unit, table, benchmark, experiment)
exactly the denominator-role measurements of that trial together with the denominator hash of the
first of them (`Spec.Series.trialBase`, the definition the specification uses). -/
theorem cells_hold_exactly_matching_measurements (o : Opts) (evs : List Ev) (k : TrialKey) (h : Bytes) :
    (alookup (k, h) (build o evs).tests =
      (match evs.filter (fun e => !e.isDen o && e.isNum o && decide ((k, h) = (e.trial, e.nh))) with
       | [] => none
       | l => some (l.map (·.val)))) ∧
    alookup k (build o evs).base = Spec.Series.trialBase o evs k := by
  constructor
  · exact tests_exact o evs (k, h)
  · exact base_exact o evs k

/-- **cells_insertion_order_independent** — the multiset of values of every numerator cell and of
every baseline cell does not depend on the order in which the measurements were added.
(The two bookkeeping fields that *are* insertion-order dependent on ill-formed data — the baseline
hash (first denominator wins, W2) and hashToOrder (last cell-creating numerator wins, W1) — are what
`series_order_independent` needs the well-formedness hypothesis for.) -/
theorem cells_insertion_order_independent (o : Opts) (evs1 evs2 : List Ev) (hp : evs1.Perm evs2) :
    (∀ key, (alookup key (build o evs1).tests).map sortBits = (alookup key (build o evs2).tests).map sortBits) ∧
    (∀ k, (alookup k (build o evs1).base).map (fun b => sortBits b.2) =
          (alookup k (build o evs2).base).map (fun b => sortBits b.2)) :=
  ⟨tests_perm o hp, fun k => by rw [base_exact, base_exact]; exact (trialBase_perm o hp k).1⟩

end C18
